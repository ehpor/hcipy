import HcipyVerif.Model.Mirror
import HcipyVerif.Lemmas.ModeBasis

/-! Helper lemmas for the mirror half of C14: the cache invariant and its preservation. -/
set_option linter.unusedSectionVars false

namespace HcipyVerif.Mirror
open HcipyVerif.ModeBasis HcipyVerif.ListFacts
variable {K : Type} [Zero K] [Add K] [Mul K] [DecidableEq K]

/-- The cache invariant.
* `cache`: whatever actuator vector the cache claims to belong to, the cached surface array
  holds the linear combination for *that* vector (with the current influence functions);
* `surf_lt`, `outs_lt`: handles point into the heap of surface arrays;
* `outs_ne`: **no array the caller holds is the cached array** — the clause the repair
  (pending_fixes/D22f) establishes, and the one `Old.readAlias` breaks. -/
structure Inv (m : Mirror K) : Prop where
  cache : ∀ a, m.cached = some a → surface m = matvec m.infl a
  surf_lt : m.surf < m.sheap.length
  outs_lt : ∀ h ∈ m.outs, h < m.sheap.length
  outs_ne : ∀ h ∈ m.outs, h ≠ m.surf

theorem inv_init (infl : List (List K)) (n : Nat) : Inv (init infl n) :=
  ⟨by intro a h; simp [init] at h, by simp [init], by simp [init], by simp [init]⟩

theorem spec_recompute (m : Mirror K) : spec (recompute m) = spec m := rfl
theorem acts_recompute (m : Mirror K) : acts (recompute m) = acts m := rfl

theorem surface_recompute (m : Mirror K) : surface (recompute m) = matvec m.infl (acts m) := by
  simp only [surface, recompute]
  exact getD_append_length _ _ _

theorem recompute_inv (m : Mirror K) (h : Inv m) : Inv (recompute m) := by
  refine ⟨?_, ?_, ?_, ?_⟩
  · intro a ha
    rw [surface_recompute]
    simp only [recompute, Option.some.injEq] at ha
    subst ha; rfl
  · simp [recompute]
  · intro x hx
    have := h.outs_lt x hx
    simp only [recompute, List.length_append, List.length_cons, List.length_nil]
    omega
  · intro x hx
    have := h.outs_lt x hx
    simp only [recompute]
    omega

theorem spec_handCopy (m : Mirror K) : spec (handCopy m).1 = spec m := rfl
theorem handCopy_snd (m : Mirror K) : (handCopy m).2 = surface m := rfl

theorem surface_handCopy (m : Mirror K) (h : m.surf < m.sheap.length) :
    surface (handCopy m).1 = surface m := by
  simp only [surface, handCopy]
  exact List.getD_append _ _ _ _ h

theorem handCopy_inv (m : Mirror K) (h : Inv m) : Inv (handCopy m).1 := by
  refine ⟨?_, ?_, ?_, ?_⟩
  · intro a ha
    rw [surface_handCopy m h.surf_lt]
    exact h.cache a ha
  · have := h.surf_lt
    simp only [handCopy, List.length_append, List.length_cons, List.length_nil]
    omega
  · intro x hx
    simp only [handCopy, List.mem_append, List.mem_singleton] at hx
    simp only [handCopy, List.length_append, List.length_cons, List.length_nil]
    rcases hx with hx | rfl
    · have := h.outs_lt x hx; omega
    · omega
  · intro x hx
    simp only [handCopy, List.mem_append, List.mem_singleton] at hx
    simp only [handCopy]
    rcases hx with hx | rfl
    · exact h.outs_ne x hx
    · have := h.surf_lt; omega

theorem spec_editOut (m : Mirror K) (k i : Nat) (v : K) : spec (editOut m k i v) = spec m := by
  unfold editOut; split <;> rfl

/-- An in-place edit of an array the caller received leaves the cached surface alone — because
that array is never the cached one (`outs_ne`). -/
theorem surface_editOut (m : Mirror K) (h : Inv m) (k i : Nat) (v : K) :
    surface (editOut m k i v) = surface m := by
  unfold editOut
  split
  · next x hx =>
    simp [surface, List.getD_eq_getElem?_getD, h.outs_ne x (List.mem_of_getElem? hx)]
  · rfl

theorem editOut_inv (m : Mirror K) (h : Inv m) (k i : Nat) (v : K) : Inv (editOut m k i v) := by
  have hs := surface_editOut m h k i v
  unfold editOut at hs ⊢
  split
  · next x hx =>
    rw [hx] at hs
    refine ⟨?_, ?_, ?_, ?_⟩
    · intro a ha; rw [hs]; exact h.cache a ha
    · simpa using h.surf_lt
    · intro y hy; simpa using h.outs_lt y hy
    · exact h.outs_ne
  · exact h

theorem read_fst_spec (m : Mirror K) : spec (read m).1 = spec m := by
  unfold read; split <;> rfl

theorem read_snd (m : Mirror K) (h : Inv m) : (read m).2 = matvec m.infl (acts m) := by
  unfold read
  split
  · next hc => rw [handCopy_snd]; exact h.cache _ hc
  · rw [handCopy_snd, surface_recompute]

theorem read_inv (m : Mirror K) (h : Inv m) : Inv (read m).1 := by
  unfold read
  split
  · exact handCopy_inv m h
  · exact handCopy_inv _ (recompute_inv m h)

/-- what a read returns depends on the actuators and influence functions alone -/
theorem read_snd_congr (m m' : Mirror K) (h : Inv m) (h' : Inv m') (e : spec m = spec m') :
    (read m).2 = (read m').2 := by
  rw [read_snd m h, read_snd m' h']
  exact congrArg (fun s : Spec K => matvec s.infl s.acts) e

/-- every read-out through the `surface` property (`opd`, `phase_for`, `forward`, `backward`)
post-processes `IF · actuators` -/
theorem readOut_snd {β : Type} (g : List K → β) (m : Mirror K) (h : Inv m) :
    (readOut g m).2 = g (matvec m.infl (acts m)) := congrArg g (read_snd m h)

/-- … and so does a second one, taken in the state the first one leaves -/
theorem readOut_snd_read {β : Type} (g : List K → β) (m : Mirror K) (h : Inv m) :
    (readOut g (read m).1).2 = g (matvec m.infl (acts m)) :=
  (congrArg g (read_snd_congr _ m (read_inv m h) h (read_fst_spec m))).trans (readOut_snd g m h)

theorem step_inv (m : Mirror K) (op : Op K) (h : Inv m) : Inv (step m op).1 := by
  -- `Inv` does not speak of the actuator heap and `cur`
  have keep (hp : List (List K)) (c : Nat) : Inv { m with heap := hp, cur := c } :=
    ⟨h.cache, h.surf_lt, h.outs_lt, h.outs_ne⟩
  cases op with
  | read => exact read_inv m h
  | editSurface k i v => exact editOut_inv m h k i v
  | setInfl i n => exact ⟨nofun, h.surf_lt, h.outs_lt, h.outs_ne⟩
  | reassign j => simp only [step]; split <;> [exact keep _ _; exact h]
  | _ => exact keep _ _

theorem step_spec (m : Mirror K) (op : Op K) (h : Inv m) :
    spec (step m op).1 = ((spec m).step op).1 ∧ (step m op).2 = ((spec m).step op).2 := by
  cases op with
  | read => exact ⟨read_fst_spec m, congrArg some (read_snd m h)⟩
  | editSurface k i v => exact ⟨spec_editOut m k i v, rfl⟩
  -- on the actuator side the two machines take the same step
  | reassign j =>
    simp only [step, Spec.step, spec]
    by_cases hj : j < m.heap.length <;> simp [hj]
  | _ => exact ⟨rfl, rfl⟩

/-- The cached mirror and the cache-free specification run in lock step: the invariant is kept, `spec` of the state
follows `Spec.step`, and the reads agree. -/
theorem run_sim (m : Mirror K) (ops : List (Op K)) (h : Inv m) :
    Inv (run m ops).1 ∧ spec (run m ops).1 = (spec m).after ops ∧ (run m ops).2 = (spec m).run ops := by
  induction ops generalizing m with
  | nil => exact ⟨h, rfl, rfl⟩
  | cons op rest ih =>
    obtain ⟨h1, h2⟩ := step_spec m op h
    simp only [run, Spec.after, Spec.run, ← h1, ← h2]
    exact ⟨(ih _ (step_inv m op h)).1, (ih _ (step_inv m op h)).2.1, congrArg _ (ih _ (step_inv m op h)).2.2⟩

theorem run_inv (m : Mirror K) (ops : List (Op K)) (h : Inv m) : Inv (run m ops).1 := (run_sim m ops h).1

end HcipyVerif.Mirror
