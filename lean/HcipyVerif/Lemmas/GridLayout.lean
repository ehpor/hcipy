import HcipyVerif.Model.GridLayout
import HcipyVerif.Lemmas.GridList
import Mathlib.Tactic.Ring

namespace HcipyVerif.Grid

/-- every element lies at a non-negative offset (a valid view) -/
def LArr.Valid (a : LArr) : Prop := ∀ k, k < a.len → 0 ≤ (a.start : Int) + (k : Int) * a.stride

theorem LArr.values_eq {a : LArr} {v : List Rat} (hl : a.len = v.length) (hg : ∀ k, k < v.length → a.get k = v.getD k 0) :
    a.values = v := by
  refine List.ext_getElem (by rw [values, List.length_map, List.length_range, hl]) fun k _ hk => ?_
  simp only [values, List.getElem_map, List.getElem_range, hg k hk, List.getD_eq_getElem?_getD, List.getElem?_eq_getElem hk,
    Option.getD_some]

theorem LArr.values_ofList (v : List Rat) : (LArr.ofList v).values = v :=
  LArr.values_eq rfl fun k _ => by simp only [get, ofList, Nat.cast_zero, mul_one, zero_add, Int.toNat_natCast]

theorem LArr.valid_ofList (v : List Rat) : (LArr.ofList v).Valid := by
  intro k _; simp only [LArr.ofList]; omega

theorem LArr.values_rev (a : LArr) (hv : a.Valid) : a.rev.values = a.values.reverse := by
  rw [values, values, reverse_map_range]
  refine List.map_congr_left fun k hk => ?_
  have hk : k < a.len := List.mem_range.mp hk
  simp only [LArr.get, LArr.rev]
  rw [Int.toNat_of_nonneg (hv (a.len - 1) (Nat.sub_lt (Nat.zero_lt_of_lt hk) Nat.one_pos)),
    Nat.cast_sub (Nat.le_sub_one_of_lt hk)]
  congr 2
  ring

theorem interleave_cons (x : Rat) (xs : List Rat) : interleave (x :: xs) = x :: 7 :: interleave xs := rfl

theorem interleave_getD (v : List Rat) (j : Nat) (hj : j < v.length) : (interleave v).getD (2 * j) 0 = v.getD j 0 := by
  induction v generalizing j with
  | nil => cases hj
  | cons x xs ih =>
    cases j with
    | zero => rfl
    | succ j => exact ih j (Nat.lt_of_succ_lt_succ hj)

theorem interleave_length (v : List Rat) : (interleave v).length = 2 * v.length := by
  induction v with
  | nil => rfl
  | cons x xs ih => exact congrArg (· + 2) ih

theorem LArr.values_make (m : Nat) (v : List Rat) : (LArr.make m v).values = v := by
  unfold LArr.make
  split
  · rw [LArr.values_rev _ (LArr.valid_ofList _), LArr.values_ofList, List.reverse_reverse]
  · refine LArr.values_eq (by simp only [step, ofList, interleave_length]; omega) fun k hk => ?_
    have e : ((0 : Nat) : Int) + (k : Int) * (1 * ((2 : Nat) : Int)) = ((2 * k : Nat) : Int) := by push_cast; ring
    simp only [get, step, ofList]
    rw [e, Int.toNat_natCast, interleave_getD v k hk]
  · refine LArr.values_eq (Nat.add_sub_cancel ..) fun k hk => ?_
    have e : ((((0 : Nat) : Int) + ((1 : Nat) : Int) * 1).toNat : Int) + (k : Int) * 1 = ((k + 1 : Nat) : Int) := by
      simp only [Nat.cast_zero, Nat.cast_one, mul_one, zero_add, Int.toNat_one, Nat.cast_add]; ring
    simp only [get, drop, ofList]
    rw [e, Int.toNat_natCast]
    rfl
  · exact LArr.values_ofList v

theorem map_values_zipWith_make (modes : List Nat) (arrays : List (List Rat)) (h : modes.length = arrays.length) :
    (List.zipWith LArr.make modes arrays).map LArr.values = arrays := by
  rw [List.map_zipWith, List.zipWith_comm]
  exact zipWith_right_id arrays modes (Nat.le_of_eq h.symm) fun m _ v => LArr.values_make m v

end HcipyVerif.Grid
