import HcipyVerif.Lemmas.ZernikeIndex
import Mathlib.Analysis.Real.Sqrt
import Mathlib.Algebra.Order.Floor.Ring
import Mathlib.Tactic.Positivity

/-! `roundSqrt` and `Nat.sqrt` decide as the floors of the code's `sqrt(2i-1) + 0.5` and `(sqrt(8i+1) - 1)/2` do, with a
margin: every real `y` near enough to the exact value has the same floor, so a small relative error of the floating-point
evaluation does not change the decision. -/

namespace HcipyVerif.Zernike

/-- every `y` within `δ` of a value `v` that lies `δ` inside `[N, N + 1]` floors to `N` -/
theorem floor_eq_of_near {y v δ : ℝ} {N : ℕ} (hy : |y - v| < δ) (h1 : (N : ℝ) + δ ≤ v) (h2 : v + δ ≤ N + 1) :
    ⌊y⌋₊ = N := by
  obtain ⟨hy1, hy2⟩ := abs_lt.mp hy
  rw [Nat.floor_eq_iff (by linarith [Nat.cast_nonneg (α := ℝ) N])]
  constructor <;> linarith

/-- the margin `1 / D` as an atom `ε` with the linear facts `linarith` needs about it: `ε D = 1`, `0 ≤ ε`, `ε² ≤ ε` -/
theorem exists_margin {D : ℝ} (hD : 1 ≤ D) : ∃ ε : ℝ, 1 / D = ε ∧ ε * D = 1 ∧ 0 ≤ ε ∧ ε ≤ 1 ∧ ε * ε ≤ ε := by
  have h0 : 0 ≤ 1 / D := div_nonneg zero_le_one (zero_le_one.trans hD)
  have hmul : 1 / D * D = 1 := one_div_mul_cancel (zero_lt_one.trans_le hD).ne'
  have hle : 1 / D ≤ 1 := (le_mul_of_one_le_right h0 hD).trans_eq hmul
  exact ⟨_, rfl, hmul, h0, hle, mul_le_of_le_one_left h0 hle⟩

/-- `j² - j + 1 ≤ k ≤ j² + j` (`j = roundSqrt k`) puts `√k` in `[j - ½ + ε, j + ½ - ε]`, `ε = 1 / (8j + 4)`: square the ends,
using `ε (8j + 4) = 1` -/
theorem roundSqrt_floor_robust (k : ℕ) (hk : 1 ≤ k) (y : ℝ)
    (hy : |y - (√(k : ℝ) + 1 / 2)| < 1 / (8 * (roundSqrt k : ℝ) + 4)) : ⌊y⌋₊ = roundSqrt k := by
  obtain ⟨h0, h1, h2⟩ := roundSqrt_spec k hk
  generalize roundSqrt k = j at *
  have hj1 : (1 : ℝ) ≤ j := by exact_mod_cast h0
  have hlo : (j : ℝ) * j + 1 ≤ (k : ℝ) + j := by exact_mod_cast h1
  have hhi : (k : ℝ) ≤ (j : ℝ) * j + j := by exact_mod_cast h2
  clear h0 h1 h2 hk
  obtain ⟨ε, hε, hmul, hε0, hεle, hε1⟩ := exists_margin (D := 8 * (j : ℝ) + 4) (by linarith)
  rw [hε] at hy
  exact floor_eq_of_near hy (sub_le_iff_le_add.mp (Real.le_sqrt_of_sq_le (by linarith)))
    (le_sub_iff_add_le.mp (le_sub_iff_add_le.mp
      ((Real.sqrt_le_left (by linarith)).mpr (by linarith [mul_self_nonneg ε]))))

/-- the exact value is within every margin of itself -/
theorem roundSqrt_le_sqrt (k : ℕ) (hk : 1 ≤ k) : (roundSqrt k : ℝ) ≤ √(k : ℝ) + 1 / 2 := by
  rw [← roundSqrt_floor_robust k hk (√(k : ℝ) + 1 / 2) (by rw [sub_self, abs_zero]; positivity)]
  exact Nat.floor_le (by positivity)

theorem rel_error_lt_margin {v w B c d : ℝ} (hw0 : 0 ≤ w) (hwv : w ≤ v) (hvB : v ≤ B) (hc : 0 ≤ c) (hd : 0 < d)
    (hB : B * (c * B + d) < 2 ^ 52) : v / 2 ^ 52 < 1 / (c * w + d) := by
  have hv0 : 0 ≤ v := hw0.trans hwv
  rw [div_lt_div_iff₀ (by positivity) (by positivity), one_mul]
  refine lt_of_le_of_lt (mul_le_mul hvB ?_ (by positivity) (hv0.trans hvB)) hB
  have := mul_le_mul_of_nonneg_left (hwv.trans hvB) hc
  linarith

theorem ansiN_le_sqrt (i : ℕ) : 2 * ((ansiToZernike i).1 : ℝ) + 1 ≤ √((8 * i + 1 : ℕ) : ℝ) := by
  refine le_trans ?_ Real.nat_sqrt_le_real_sqrt
  have hs : 0 < Nat.sqrt (8 * i + 1) := Nat.sqrt_pos.mpr (by omega)
  unfold ansiToZernike
  generalize Nat.sqrt (8 * i + 1) = s at *
  exact_mod_cast (by omega : 2 * ((s - 1) / 2) + 1 ≤ s)

end HcipyVerif.Zernike
