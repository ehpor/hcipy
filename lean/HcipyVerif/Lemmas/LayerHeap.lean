import HcipyVerif.Lemmas.Layer
import HcipyVerif.Model.LayerHeap

/-! Helper lemmas for the heap model of C15: the heap layer simulates the value-level layer as long as the two
handles point to different cells (which every `deepcopy` establishes). -/
namespace HcipyVerif.Layer
variable {σ ω : Type}

/-- the value-level meaning of a pointer operation -/
def Ptr.val (A : Access σ ω) (L : σ) : Ptr → σ
  | .rngFromOrig => A.setRng L (A.orig L)
  | .origFromRng => A.setOrig L (A.rng L)
  | .rngFresh => L

structure Access.Lawful (A : Access σ ω) : Prop where
  rng_setRng : ∀ L r, A.rng (A.setRng L r) = r
  orig_setOrig : ∀ L r, A.orig (A.setOrig L r) = r
  rng_setOrig : ∀ L r, A.rng (A.setOrig L r) = A.rng L
  orig_setRng : ∀ L r, A.orig (A.setRng L r) = A.orig L
  setRng_setRng : ∀ L a b, A.setRng (A.setRng L a) b = A.setRng L b
  setOrig_setOrig : ∀ L a b, A.setOrig (A.setOrig L a) b = A.setOrig L b
  setRng_setOrig : ∀ L a b, A.setRng (A.setOrig L a) b = A.setOrig (A.setRng L b) a
  setRng_self : ∀ L, A.setRng L (A.rng L) = L
  setOrig_self : ∀ L, A.setOrig L (A.orig L) = L
  /-- the value-level step performs the copies itself (on values) -/
  step_ptr : ∀ L o, A.step ((A.ptr L o).foldl (Ptr.val A) L) o = A.step L o
  /-- apart from those copies the step leaves the original generator alone -/
  orig_step : ∀ L o, A.orig (A.step L o) = A.orig ((A.ptr L o).foldl (Ptr.val A) L)

def HL.Valid (H : HL σ) : Prop := H.rngH < H.cells.length ∧ H.origH < H.cells.length

def HL.WF (H : HL σ) : Prop := H.Valid ∧ H.rngH ≠ H.origH

/-- cell `c` is somebody else's: in the heap and not one of the layer's two -/
def HL.Sep (c : Nat) (H : HL σ) : Prop := c < H.cells.length ∧ c ≠ H.rngH ∧ c ≠ H.origH

theorem HL.view_rng (A : Access σ ω) (hA : A.Lawful) (H : HL σ) : A.rng (H.view A) = H.get H.rngH := by
  simp [HL.view, hA.rng_setOrig, hA.rng_setRng]

theorem HL.view_orig (A : Access σ ω) (hA : A.Lawful) (H : HL σ) : A.orig (H.view A) = H.get H.origH := by
  simp [HL.view, hA.orig_setOrig]

theorem HL.repoint_spec (A : Access σ ω) (hA : A.Lawful) (H : HL σ) (hv : H.Valid) (p : Ptr) :
    (H.repoint p).view A = p.val A (H.view A) ∧ (H.repoint p).Valid ∧
    (H.repoint p).rngH ≠ (H.repoint p).origH ∧ (∀ c, HL.Sep c H → HL.Sep c (H.repoint p)) := by
  obtain ⟨h1, h2⟩ := hv
  -- every pointer operation makes a new last cell and points one handle to it; the other handle stays below it
  have key : ∀ (x : Rng) (r o : Nat), (r = H.cells.length ∧ o = H.origH ∨ r = H.rngH ∧ o = H.cells.length) →
      HL.Valid (⟨H.cells ++ [x], r, o, H.body⟩ : HL σ) ∧ r ≠ o ∧
      ∀ c, HL.Sep c H → HL.Sep c (⟨H.cells ++ [x], r, o, H.body⟩ : HL σ) := by
    intro x r o h
    simp only [HL.Valid, HL.Sep, List.length_append, List.length_singleton]
    exact ⟨by omega, by omega, fun c hc => by omega⟩
  cases p
  · refine ⟨?_, key _ _ _ (.inl ⟨rfl, rfl⟩)⟩
    simp only [HL.view, HL.repoint, Ptr.val, HL.get, ListFacts.getD_append_length, List.getD_append _ _ _ _ h2]
    rw [hA.orig_setOrig, hA.setRng_setOrig, hA.setRng_setRng]
  · refine ⟨?_, key _ _ _ (.inr ⟨rfl, rfl⟩)⟩
    simp only [HL.view, HL.repoint, Ptr.val, HL.get, ListFacts.getD_append_length, List.getD_append _ _ _ _ h1]
    rw [hA.rng_setOrig, hA.rng_setRng, hA.setOrig_setOrig]
  · refine ⟨?_, key _ _ _ (.inl ⟨rfl, rfl⟩)⟩
    simp only [HL.view, HL.repoint, Ptr.val, HL.get, ListFacts.getD_append_length, List.getD_append _ _ _ _ h2]

theorem HL.repoints_spec (A : Access σ ω) (hA : A.Lawful) (ps : List Ptr) (H : HL σ) (hv : H.Valid) :
    (ps.foldl HL.repoint H).view A = ps.foldl (Ptr.val A) (H.view A) ∧ (ps.foldl HL.repoint H).Valid ∧
    ((H.rngH ≠ H.origH ∨ ps ≠ []) → (ps.foldl HL.repoint H).rngH ≠ (ps.foldl HL.repoint H).origH) ∧
    (∀ c, HL.Sep c H → HL.Sep c (ps.foldl HL.repoint H)) := by
  induction ps generalizing H with
  | nil => exact ⟨rfl, hv, fun h => h.resolve_right fun h => h rfl, fun c h => h⟩
  | cons p ps ih =>
    obtain ⟨e1, v1, d1, s1⟩ := HL.repoint_spec A hA H hv p
    obtain ⟨e2, v2, d2, s2⟩ := ih (H.repoint p) v1
    exact ⟨by rw [List.foldl_cons, e2, e1]; rfl, v2, fun _ => d2 (Or.inl d1), fun c h => s2 c (s1 c h)⟩

/-- Simulation of one step. Distinct handles are needed only if the step does not begin with a pointer operation: that
one allocates a cell for one of them (so a constructor, which ends with `reset()`, may start from equal handles). -/
theorem HL.step_view (A : Access σ ω) (hA : A.Lawful) (H : HL σ) (o : ω) (hv : H.Valid)
    (hd : H.rngH ≠ H.origH ∨ A.ptr (H.view A) o ≠ []) :
    (H.step A o).WF ∧ (H.step A o).view A = A.step (H.view A) o ∧ ∀ c, HL.Sep c H → HL.Sep c (H.step A o) := by
  obtain ⟨e, v, d, s⟩ := HL.repoints_spec A hA (A.ptr (H.view A) o) H hv
  have d := d hd
  generalize hH1 : (A.ptr (H.view A) o).foldl HL.repoint H = H1 at e v d s
  have hL' : A.step (H1.view A) o = A.step (H.view A) o := by rw [e, hA.step_ptr]
  have horig : A.orig (A.step (H.view A) o) = H1.get H1.origH := by
    rw [hA.orig_step, ← e, HL.view_orig A hA]
  have hstep : H.step A o = { H1 with cells := H1.cells.set H1.rngH (A.rng (A.step (H.view A) o)),
                                       body := A.step (H.view A) o } := by
    simp only [HL.step, HL.stepWith, hH1, hL']
  rw [hstep]
  generalize A.step (H.view A) o = L' at horig
  refine ⟨⟨⟨by simpa using v.1, by simpa using v.2⟩, d⟩, ?_, ?_⟩
  · have g1 : (H1.cells.set H1.rngH (A.rng L')).getD H1.rngH ⟨0, 0⟩ = A.rng L' := by
      simp [List.getD_eq_getElem?_getD, v.1]
    have g2 : (H1.cells.set H1.rngH (A.rng L')).getD H1.origH ⟨0, 0⟩ = H1.get H1.origH := by
      simp [HL.get, List.getD_eq_getElem?_getD, d]
    show A.setOrig (A.setRng L' ((H1.cells.set H1.rngH (A.rng L')).getD H1.rngH ⟨0, 0⟩))
      ((H1.cells.set H1.rngH (A.rng L')).getD H1.origH ⟨0, 0⟩) = L'
    rw [g1, g2, ← horig, hA.setRng_self, hA.setOrig_self]
  · intro c hc
    obtain ⟨c1, c2, c3⟩ := s c hc
    exact ⟨by simpa using c1, c2, c3⟩

theorem HL.foreignDraw_view (A : Access σ ω) (H : HL σ) (c n : Nat) (hc : c ≠ H.rngH ∧ c ≠ H.origH) :
    (H.foreignDraw c n).view A = H.view A := by
  have g : ∀ i, c ≠ i → (H.cells.set c ((H.get c).draw n)).getD i ⟨0, 0⟩ = H.get i := by
    intro i hi; simp [HL.get, List.getD_eq_getElem?_getD, hi]
  have g1 := g _ hc.1
  have g2 := g _ hc.2
  simp only [HL.get] at g1 g2
  simp only [HL.view, HL.foreignDraw, HL.get, g1, g2]

def HOp.owns : List (HOp ω) → List ω
  | [] => []
  | .own o :: h => o :: HOp.owns h
  | .foreign _ _ :: h => HOp.owns h

theorem HL.run_view (A : Access σ ω) (hA : A.Lawful) (h : List ω) (H : HL σ) (hw : H.WF) :
    (H.run A h).view A = h.foldl A.step (H.view A) ∧ (H.run A h).WF :=
  List.foldl_rel (r := fun H v => H.view A = v ∧ H.WF) ⟨rfl, hw⟩ fun o _ H _ hr =>
    let ⟨w, e, _⟩ := HL.step_view A hA H o hr.2.1 (Or.inl hr.2.2)
    ⟨hr.1 ▸ e, w⟩

/-- If on the value level the operation `o` after the history `h₁` leaves the state `f` of the state before it, the heap
layer seen through its handles continues from `f` of its view (`o` a plain reset, `f` the fresh layer with the current
parameters: replay). -/
theorem HL.run_step_run_view (A : Access σ ω) (hA : A.Lawful) (H : HL σ) (hw : H.WF) (o : ω) (h₁ h : List ω)
    (f : σ → σ) (hf : A.step (h₁.foldl A.step (H.view A)) o = f (h₁.foldl A.step (H.view A))) :
    (((H.run A h₁).step A o).run A h).view A = h.foldl A.step (f ((H.run A h₁).view A)) := by
  obtain ⟨e, w⟩ := HL.run_view A hA h₁ H hw
  exact (HL.run_view A hA (o :: h) _ w).1.trans (by rw [List.foldl_cons, e, hf])

theorem HL.runH_view (A : Access σ ω) (hA : A.Lawful) (c : Nat) (h : List (HOp ω)) (H : HL σ) (hw : H.WF)
    (hs : H.Sep c) (hc : ∀ o ∈ h, ∀ c' n, o = HOp.foreign c' n → c' = c) :
    (H.runH A h).view A = (HOp.owns h).foldl A.step (H.view A) ∧ (H.runH A h).WF ∧ (H.runH A h).Sep c := by
  induction h generalizing H with
  | nil => exact ⟨rfl, hw, hs⟩
  | cons o h ih =>
    have hc' : ∀ o ∈ h, ∀ c' n, o = HOp.foreign c' n → c' = c := fun o ho => hc o (by simp [ho])
    cases o with
    | own o =>
      obtain ⟨w, e, s⟩ := HL.step_view A hA H o hw.1 (Or.inl hw.2)
      have := ih (H.step A o) w (s c hs) hc'
      simp only [HL.runH, List.foldl_cons, HL.stepH, HOp.owns] at this ⊢
      rw [this.1, e]; exact ⟨rfl, this.2⟩
    | foreign c' n =>
      obtain rfl : c' = c := hc _ (by simp) c' n rfl
      have e := HL.foreignDraw_view A H c' n ⟨hs.2.1, hs.2.2⟩
      have hw' : (H.foreignDraw c' n).WF := by simpa [HL.WF, HL.Valid, HL.foreignDraw] using hw
      have hs' : (H.foreignDraw c' n).Sep c' := by simpa [HL.Sep, HL.foreignDraw] using hs
      have := ih (H.foreignDraw c' n) hw' hs' hc'
      simp only [HL.runH, List.foldl_cons, HL.stepH, HOp.owns] at this ⊢
      rw [this.1, e]; exact ⟨rfl, this.2⟩

theorem finAccess_lawful : finAccess.Lawful where
  rng_setRng _ _ := rfl
  orig_setOrig _ _ := rfl
  rng_setOrig _ _ := rfl
  orig_setRng _ _ := rfl
  setRng_setRng _ _ _ := rfl
  setOrig_setOrig _ _ _ := rfl
  setRng_setOrig _ _ _ := rfl
  setRng_self _ := rfl
  setOrig_self _ := rfl
  step_ptr C o := by
    rcases C with ⟨b, v, c⟩
    rcases o with (t | i | _ | _ | _) | _
    · rfl
    · cases i <;> rfl
    · rfl
    · rfl
    · rfl
    · cases c <;> cases v <;> rfl
  orig_step C o := by
    rcases C with ⟨b, v, c⟩
    rcases o with (t | i | _ | _ | _) | _
    · rfl
    · cases i <;> rfl
    · rfl
    · rfl
    · rfl
    · cases c <;> cases v <;> rfl

theorem infAccess_lawful : infAccess.Lawful where
  rng_setRng _ _ := rfl
  orig_setOrig _ _ := rfl
  rng_setOrig _ _ := rfl
  orig_setRng _ _ := rfl
  setRng_setRng _ _ _ := rfl
  setOrig_setOrig _ _ _ := rfl
  setRng_setOrig _ _ _ := rfl
  setRng_self _ := rfl
  setOrig_self _ := rfl
  step_ptr L o := by
    cases o with
    | reset i => cases i <;> rfl
    | _ => rfl
  orig_step L o := by
    cases o with
    | reset i => cases i <;> rfl
    | evolve t => exact (L.step_evolve_params t).2.2.2.2.1
    | _ => rfl

theorem FinC.reset_false_eq_fresh (C : FinC) :
    C.step (.op (.reset false)) = FinC.fresh C.base.nx C.base.ny C.base.vel C.base.par C.base.orig := rfl

theorem FinC.step_ident (C : FinC) (o : COp) (h : o ≠ .op (.reset true)) :
    (AnyL.fin (C.step o).base).ident = (AnyL.fin C.base).ident := by
  rcases C with ⟨b, v, ca⟩
  rcases o with (t | i | _ | _ | _) | _
  · rfl
  · cases i
    · exact ((AnyL.fin b).reset_keeps false).2 rfl
    · exact absurd rfl h
  · rfl
  · rfl
  · rfl
  · cases ca <;> cases v <;> rfl

theorem FinC.run_ident (C : FinC) (h : List COp) (hh : ∀ o ∈ h, o ≠ .op (.reset true)) :
    (AnyL.fin (C.run h).base).ident = (AnyL.fin C.base).ident :=
  foldl_keeps FinC.step (fun C => (AnyL.fin C.base).ident) _ FinC.step_ident h C hh

theorem FinC.run_reset (nx ny : Nat) (vel : V2) (par : Par) (g : Rng) (h : List COp)
    (hh : ∀ o ∈ h, o ≠ .op (.reset true)) :
    ((FinC.fresh nx ny vel par g).run h).step (.op (.reset false))
      = FinC.fresh nx ny ((FinC.fresh nx ny vel par g).run h).base.vel ((FinC.fresh nx ny vel par g).run h).base.par g := by
  have hk := (FinC.fresh nx ny vel par g).run_ident h hh
  generalize (FinC.fresh nx ny vel par g).run h = C at hk ⊢
  exact congrArg (fun i : Ident => FinC.fresh i.nx i.ny C.base.vel C.base.par i.orig) hk

/-- the realisation is the one of `g`: the original generator is in state `g` and a present `_noise` was drawn from `g`
with the current parameters (no condition on the cache: it may be stale) -/
def FinC.Live (C : FinC) (g : Rng) : Prop :=
  C.base.orig = g ∧ (C.valid = true → C.base.noise = g ∧ C.base.noisePar = C.base.par)

theorem FinC.fresh_live (nx ny : Nat) (vel : V2) (par : Par) (g : Rng) : (FinC.fresh nx ny vel par g).Live g :=
  ⟨rfl, fun _ => ⟨rfl, rfl⟩⟩

/-- a reset or a lazy re-draw takes the noise from the original generator with the current parameters, a setter drops
it, nothing else touches it -/
theorem FinC.step_live (C : FinC) (o : COp) (g : Rng) (hl : C.Live g) (h : o ≠ .op (.reset true)) :
    (C.step o).Live g := by
  rcases C with ⟨b, v, ca⟩
  rcases o with (t | i | _ | _ | _) | _
  · exact hl
  · cases i
    · exact ⟨hl.1, fun _ => ⟨hl.1, rfl⟩⟩
    · exact absurd rfl h
  · exact ⟨hl.1, nofun⟩
  · exact ⟨hl.1, nofun⟩
  · exact hl
  · cases ca with
    | some _ => exact hl
    | none => cases v with
      | true => exact ⟨hl.1, fun _ => hl.2 rfl⟩
      | false => exact ⟨hl.1, fun _ => ⟨hl.1, rfl⟩⟩

theorem FinC.run_live (C : FinC) (h : List COp) (g : Rng) (hl : C.Live g) (hh : ∀ o ∈ h, o ≠ .op (.reset true)) :
    (C.run h).Live g :=
  List.foldlRecOn (motive := (FinC.Live · g)) h FinC.step hl fun s hs o ho => s.step_live o g hs (hh o ho)

theorem FinC.shown_after_evolve (C : FinC) (g : Rng) (t : Rat) (hl : C.Live g) :
    (C.step (.op (.evolve t))).shown = (g, C.base.par, (C.base.vel.1 * t, C.base.vel.2 * t)) := by
  rcases C with ⟨b, v, ca⟩
  obtain ⟨h1, h2⟩ := hl
  simp only at h1 h2
  cases v
  · simp [FinC.step, FinC.shown, FinC.read, FinL.redraw, FinL.makeNoise, FinL.screen, FinL.evolve, h1]
  · obtain ⟨h3, h4⟩ := h2 rfl
    simp [FinC.step, FinC.shown, FinC.read, FinL.screen, FinL.evolve, h3, h4]

end HcipyVerif.Layer
