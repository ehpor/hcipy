import HcipyVerif.Lemmas.FftIndex
import HcipyVerif.Model.FftState
import HcipyVerif.Model.FftMulti

/-!
# The internal array is fully overwritten before it is read

`coreState_eq_core`: whatever the previous contents of the persistent internal array, the FFT core
of `forward`/`backward` computes what the stateless model `core` computes — results of one
transform object do not depend on its call history.  `runOwn_eq_map`: in a population of objects
with per-object arrays every call has its stateless value.
-/

namespace HcipyVerif.Fft

variable {C : Type} [CommRing C]

theorem loadArray_eq_pad (N M : ℕ) (buf f : ℕ → C) (p : ℕ) (hp : p < M) :
    loadArray N M buf f p = pad N M f p := by
  unfold loadArray pad
  by_cases h : N = M
  · subst h
    have h0 : padStart N N = 0 := by unfold padStart; omega
    simp [overwriteAll, hp, h0]
  · rw [if_neg h]
    unfold writeWindow zeroFill
    by_cases hw : padStart N M ≤ p ∧ p < padStart N M + N
    · rw [if_pos hw, if_pos hw]
    · rw [if_neg hw, if_neg hw, if_pos hp]

/-- **History independence of the FFT core**: for every previous content `buf` of the internal
array, `forward`/`backward` read exactly the freshly padded input. -/
theorem coreState_eq_core (b : Bool) (N M Mo : ℕ) (hM : 0 < M) (ker : ℤ → C)
    (buf f : ℕ → C) (k : ℕ) :
    coreState b N M Mo ker buf f k = core b N M Mo ker f k := by
  cases b
  · simp only [coreState, core, Bool.false_eq_true, if_false]
    unfold crop
    exact dft_congr M ker _ _ (fun p hp => loadArray_eq_pad N M buf f p hp) _
  · simp only [coreState, core, if_true]
    unfold crop fftshift
    apply dft_congr
    intro p _
    unfold ifftshift
    exact loadArray_eq_pad N M buf f _ (Nat.mod_lt _ hM)

set_option linter.unusedVariables false in
theorem coreState_history_independent (b : Bool) (N M Mo : ℕ) (hM : 0 < M) (hNM : N ≤ M)
    (ker : ℤ → C) (buf₁ buf₂ f : ℕ → C) (k : ℕ) :
    coreState b N M Mo ker buf₁ f k = coreState b N M Mo ker buf₂ f k := by
  rw [coreState_eq_core b N M Mo hM, coreState_eq_core b N M Mo hM]

/-- every object has a non-empty internal array -/
def PopOk (cfg : ℕ → ObjCfg) : Prop := ∀ i, 0 < (cfg i).M

theorem callResult_eq_fresh (cfg : ℕ → ObjCfg) (h : PopOk cfg) (ker : Bool → ℕ → ℤ → C)
    (bufs : Bufs C) (c : MCall C) : callResult cfg ker bufs c = callFresh cfg ker c := by
  funext k
  unfold callResult callFresh
  exact coreState_eq_core _ _ _ _ (h c.obj) _ _ _ k

theorem runOwn_eq_map (cfg : ℕ → ObjCfg) (h : PopOk cfg) (ker : Bool → ℕ → ℤ → C)
    (cs : List (MCall C)) (bufs : Bufs C) : runOwn cfg ker bufs cs = cs.map (callFresh cfg ker) := by
  fun_induction runOwn cfg ker bufs cs <;>
    simp only [List.map_cons, List.map_nil, callResult_eq_fresh cfg h, *]

end HcipyVerif.Fft
