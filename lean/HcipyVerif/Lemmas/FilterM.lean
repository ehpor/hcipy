import Mathlib.Data.Complex.Basic
import HcipyVerif.Lemmas.FftIndex
import HcipyVerif.Model.FilterM

/-!
# FourierFilter with a matrix-valued transfer function: `backward` is the adjoint of `forward`

`filterMX` / `filterMXM` (`Model/FilterM.lean`, run by the driver) are the filter
`Pᴴ·F⁻¹·(D·(F·P·x))` on vector and on matrix-valued fields.  The synthesis `Pᴴ·F⁻¹` is `c⁻¹` times
the adjoint of the analysis `F·P` (`fmSynthesisX_adjoint`); beyond that, adjointness of the filter
needs only that the normalisation `c` of `F⁻¹ = c⁻¹·Fᴴ` is real.
-/

namespace HcipyVerif.Fft
open Finset
open scoped ComplexConjugate

/-- `field_conjugate_transpose` -/
def fmCtr {τ : Type} (D : ℕ → τ → τ → ℂ) : ℕ → τ → τ → ℂ := fun r a b => conj (D r b a)

theorem fmCtrX_eq (D : ℕ → Bool → Bool → ℂ) : fmCtrX (starRingEnd ℂ) D = fmCtr D := rfl

/-- `crop ∘ ifftn = c⁻¹ · (fftn ∘ pad)ᴴ` -/
theorem fmSynthesisX_adjoint (n M : ℕ) (P F : ℕ → ℕ → ℂ) (c : ℂ) (y g : ℕ → ℂ) :
    ∑ i ∈ range n, conj (y i) * fmSynthesisX n M P F (starRingEnd ℂ) c⁻¹ g i
      = c⁻¹ * ∑ r ∈ range M, conj (fmAnalysisX n M P F y r) * g r := by
  simp only [fmSynthesisX, fmAnalysisX, sumRange_eq, map_sum, map_mul, Finset.mul_sum,
    Finset.sum_mul]
  rw [Finset.sum_comm]
  conv_lhs => arg 2; ext q; rw [Finset.sum_comm]
  rw [Finset.sum_comm]
  refine Finset.sum_congr rfl fun r _ => Finset.sum_congr rfl fun q _ =>
    Finset.sum_congr rfl fun i _ => by ring

theorem filterMX_adjoint (n M : ℕ) (P F : ℕ → ℕ → ℂ) (c : ℂ) (hc : conj c = c)
    (D : ℕ → Bool → Bool → ℂ) (x y : Bool → ℕ → ℂ) :
    ∑ a, ∑ i ∈ range n, conj (y a i) * filterMX n M P F (starRingEnd ℂ) c⁻¹ D x a i
      = ∑ a, ∑ i ∈ range n,
          conj (filterMX n M P F (starRingEnd ℂ) c⁻¹ (fmCtrX (starRingEnd ℂ) D) y a i) * x a i := by
  -- the same with the synthesis on the conjugated side
  have h : ∀ (z : ℕ → ℂ) g, ∑ i ∈ range n, conj (fmSynthesisX n M P F (starRingEnd ℂ) c⁻¹ g i) * z i
      = c⁻¹ * ∑ r ∈ range M, fmAnalysisX n M P F z r * conj (g r) := fun z g => by
    have := congrArg conj (fmSynthesisX_adjoint n M P F c z g)
    simpa only [map_sum, map_mul, Complex.conj_conj, map_inv₀, hc, mul_comm] using this
  -- both sides are `c⁻¹ · Σ_r (F P y)ᴴ · D r · (F P x)`, the two components written out
  simp only [filterMX, fmSynthesisX_adjoint, h, fmCtrX, Fintype.sum_bool, map_add, map_mul,
    Complex.conj_conj, ← mul_add, ← Finset.sum_add_distrib]
  exact congrArg _ (Finset.sum_congr rfl fun r _ => by ring)

theorem filterMX_point (cinv : ℂ) (D : ℕ → Bool → Bool → ℂ) (x : Bool → ℕ → ℂ) (a : Bool) :
    filterMX 1 1 (fun _ _ => 1) (fun _ _ => 1) (starRingEnd ℂ) cinv D x a 0
      = cinv * (D 0 a false * x false 0 + D 0 a true * x true 0) := by
  simp only [filterMX, fmSynthesisX, fmAnalysisX, sumRange, zero_add, map_one, one_mul]

end HcipyVerif.Fft
