import HcipyVerif.Gen.Retarder
import Mathlib.Data.Complex.Basic
import Mathlib.Tactic.Ring
import Mathlib.Tactic.LinearCombination

/-!
# The generated Laurent polynomials of the retarder, the polariser and the beam splitter, in hcipy's own form

With `C = (t + t⁻¹)/2 = cos θ` and `S = (t⁻¹ − t)·i/2 = sin θ` the matrices identified from the running code
(`Gen/Retarder.lean`) are `[[C², CS], [CS, S²]]` (polariser, beam-splitter port 1), `[[S², −CS], [−CS, C²]]` (port 2) and
`[[C²p + S²p⁻¹, CS(p − p⁻¹)x⁻¹], [CS(p − p⁻¹)x, S²p + C²p⁻¹]]` (retarder; `backward` is the same with `p ↔ p⁻¹`, `retB_eq`).  Only `t·t⁻¹ = 1` is used,
so the theorems of `Properties/C08.lean` about these matrices reduce to `C² + S² = 1`.
-/
namespace HcipyVerif.C08
open Complex HcipyVerif.Gen.Retarder

/-- `cos θ` from `t = e^{iθ}` and `ti = e^{−iθ}`. -/
noncomputable def cosP (t ti : ℂ) : ℂ := (t + ti) / 2

/-- `sin θ` from `t = e^{iθ}` and `ti = e^{−iθ}`. -/
noncomputable def sinP (t ti : ℂ) : ℂ := (ti - t) * I / 2

theorem cosP_sq_add_sinP_sq {t ti : ℂ} (h : t * ti = 1) : cosP t ti ^ 2 + sinP t ti ^ 2 = 1 := by
  unfold cosP sinP
  linear_combination h + ((ti - t) ^ 2 / 4) * I_sq

theorem conj_cosP {t : ℂ} (ht : (starRingEnd ℂ) t = t⁻¹) : (starRingEnd ℂ) (cosP t t⁻¹) = cosP t t⁻¹ := by
  unfold cosP
  rw [map_div₀, map_add, map_inv₀, ht, inv_inv, map_ofNat, add_comm]

theorem conj_sinP {t : ℂ} (ht : (starRingEnd ℂ) t = t⁻¹) : (starRingEnd ℂ) (sinP t t⁻¹) = sinP t t⁻¹ := by
  unfold sinP
  rw [map_div₀, map_mul, map_sub, map_inv₀, ht, inv_inv, map_ofNat, conj_I]
  ring

/-- `cos (θ − α) = cos θ cos α + sin θ sin α`. -/
theorem cosP_sub {t ti u ui : ℂ} : (t * ui + ti * u) / 2 = cosP t ti * cosP u ui + sinP t ti * sinP u ui := by
  unfold cosP sinP
  linear_combination (-((ti - t) * (ui - u) / 4)) * I_sq

theorem sinP_eq_div_I (u ui : ℂ) : (u - ui) / (2 * I) = sinP u ui := by
  unfold sinP
  rw [div_eq_iff (mul_ne_zero two_ne_zero I_ne_zero)]
  linear_combination (-(ui - u)) * I_sq

/-- The retarder is `p P + p⁻¹ (1 − P)` with `P` the polariser on its axis (at circularity `x`), as polynomials: `1 − P` has the
diagonal of `P` exchanged and its off-diagonal entries negated. -/
theorem ret_pol (t ti p pi x xi : ℂ) :
    ret11 t ti p pi x xi = p * pol11 t ti + pi * pol22 t ti ∧ ret12 t ti p pi x xi = (p - pi) * pol12 t ti * xi ∧
    ret21 t ti p pi x xi = (p - pi) * pol21 t ti * x ∧ ret22 t ti p pi x xi = p * pol22 t ti + pi * pol11 t ti := by
  unfold ret11 ret12 ret21 ret22 pol11 pol12 pol21 pol22
  exact ⟨by ring, by ring, by ring, by ring⟩

section
variable {t ti : ℂ} (h : t * ti = 1)
include h

theorem pol_eq :
    pol11 t ti = cosP t ti ^ 2 ∧ pol12 t ti = cosP t ti * sinP t ti ∧
    pol21 t ti = cosP t ti * sinP t ti ∧ pol22 t ti = sinP t ti ^ 2 := by
  unfold pol11 pol12 pol21 pol22 cosP sinP
  exact ⟨by linear_combination (-1 / 2) * h, by ring, by ring,
    by linear_combination (-1 / 2) * h - ((ti - t) ^ 2 / 4) * I_sq⟩

theorem pbs2_eq :
    pbs211 t ti = sinP t ti ^ 2 ∧ pbs212 t ti = -(cosP t ti * sinP t ti) ∧
    pbs221 t ti = -(cosP t ti * sinP t ti) ∧ pbs222 t ti = cosP t ti ^ 2 := by
  -- port 2 is `1 − P`: the diagonal of the polariser exchanged, its off-diagonal entries negated
  obtain ⟨q11, q12, q21, q22⟩ := pol_eq h
  refine ⟨q22, ?_, ?_, q11⟩
  · rw [← q12]; unfold pbs212 pol12; ring
  · rw [← q21]; unfold pbs221 pol21; ring

theorem ret_eq (p pi x xi : ℂ) :
    ret11 t ti p pi x xi = cosP t ti ^ 2 * p + sinP t ti ^ 2 * pi ∧
    ret12 t ti p pi x xi = cosP t ti * sinP t ti * (p - pi) * xi ∧
    ret21 t ti p pi x xi = cosP t ti * sinP t ti * (p - pi) * x ∧
    ret22 t ti p pi x xi = sinP t ti ^ 2 * p + cosP t ti ^ 2 * pi := by
  obtain ⟨e11, e12, e21, e22⟩ := ret_pol t ti p pi x xi
  obtain ⟨q11, q12, q21, q22⟩ := pol_eq h
  rw [e11, e12, e21, e22, q11, q12, q21, q22]
  exact ⟨by ring, by ring, by ring, by ring⟩

end

theorem retB_eq (t ti p pi x xi : ℂ) :
    retB11 t ti p pi x xi = ret11 t ti pi p x xi ∧ retB12 t ti p pi x xi = ret12 t ti pi p x xi ∧
    retB21 t ti p pi x xi = ret21 t ti pi p x xi ∧ retB22 t ti p pi x xi = ret22 t ti pi p x xi := by
  unfold retB11 retB12 retB21 retB22 ret11 ret12 ret21 ret22
  exact ⟨by ring, by ring, by ring, by ring⟩

theorem mk_mul_mk_conj {c s : ℝ} (h : c ^ 2 + s ^ 2 = 1) : (⟨c, s⟩ : ℂ) * ⟨c, -s⟩ = 1 := by
  apply Complex.ext <;> simp only [mul_re, mul_im, one_re, one_im]
  · linear_combination h
  · ring

theorem unit_circle (c s : ℝ) (h : c ^ 2 + s ^ 2 = 1) :
    (⟨c, s⟩ : ℂ) ≠ 0 ∧ (⟨c, s⟩ : ℂ)⁻¹ = ⟨c, -s⟩ ∧ (starRingEnd ℂ) (⟨c, s⟩ : ℂ) = (⟨c, s⟩ : ℂ)⁻¹ :=
  have hm := mk_mul_mk_conj h
  have hinv := inv_eq_of_mul_eq_one_right hm
  ⟨left_ne_zero_of_mul_eq_one hm, hinv, hinv.symm⟩

theorem cosP_mk (c s : ℝ) : cosP ⟨c, s⟩ ⟨c, -s⟩ = c := by
  apply Complex.ext <;> simp [cosP]

theorem sinP_mk (c s : ℝ) : sinP ⟨c, s⟩ ⟨c, -s⟩ = s := by
  apply Complex.ext <;> simp [sinP]

end HcipyVerif.C08
