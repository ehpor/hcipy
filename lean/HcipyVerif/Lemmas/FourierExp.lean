import Mathlib.Analysis.SpecialFunctions.Complex.Log
import Mathlib.Tactic.Ring
import Mathlib.Tactic.LinearCombination
import HcipyVerif.Lemmas.FftIndex

/-! `Complex.exp` satisfies every hypothesis the Fourier theorems put on the characters `T`, `E`:
`expT t = exp(2πi·t)` and `expE r = exp(i·r)` are characters, conjugation negates the argument,
`expT` is `1` on the integers and primitive. -/

namespace HcipyVerif.Fft
open scoped ComplexConjugate

section witness
open Complex

/-- `T t = exp(2πi·t)` -/
noncomputable def expT (t : ℝ) : ℂ := Complex.exp (2 * Real.pi * t * I)
/-- `E r = exp(i·r)` -/
noncomputable def expE (r : ℝ) : ℂ := Complex.exp (r * I)

theorem expT_eq_expE (t : ℝ) : expT t = expE (2 * Real.pi * t) := by
  unfold expT expE
  congr 1
  push_cast
  ring

theorem expE_isChar : IsChar expE where
  add a b := by
    unfold expE
    rw [← Complex.exp_add]
    congr 1
    push_cast
    ring
  zero := by simp [expE]

theorem expT_isChar : IsChar expT where
  add a b := by rw [expT_eq_expE, mul_add, expE_isChar.add, ← expT_eq_expE, ← expT_eq_expE]
  zero := by rw [expT_eq_expE, mul_zero, expE_isChar.zero]

theorem expE_conj (a : ℝ) : conj (expE a) = expE (-a) := by
  unfold expE
  rw [← Complex.exp_conj]
  congr 1
  simp only [map_mul, Complex.conj_I, Complex.conj_ofReal, Complex.ofReal_neg]
  ring

theorem expT_conj (a : ℝ) : conj (expT a) = expT (-a) := by
  rw [expT_eq_expE, expE_conj, expT_eq_expE, mul_neg]

theorem expT_period (n : ℤ) : expT (n : ℝ) = 1 := by
  unfold expT
  have : (2 * (Real.pi : ℂ) * ((n : ℝ) : ℂ) * I) = (n : ℂ) * (2 * Real.pi * I) := by
    push_cast; ring
  rw [this, Complex.exp_int_mul_two_pi_mul_I]

theorem expT_fracPart (t : ℚ) : expT ((fracPart t : ℚ) : ℝ) = expT ((t : ℚ) : ℝ) := by
  unfold fracPart
  have h : (((t - (t.floor : ℚ)) : ℚ) : ℝ) = ((t : ℚ) : ℝ) + (((-t.floor : ℤ)) : ℝ) := by
    push_cast
    ring
  rw [h, expT_isChar.add, expT_period, mul_one]

theorem expT_prim (M : ℕ) (hM : (M : ℝ) ≠ 0) (d : ℤ) (h : expT ((d : ℝ) / (M : ℝ)) = 1) :
    (M : ℤ) ∣ d := by
  obtain ⟨n, hn⟩ := Complex.exp_eq_one_iff.mp h
  have h2 : (2 * (Real.pi : ℂ) * I) ≠ 0 := by simp [Real.pi_ne_zero, Complex.I_ne_zero]
  have h3 : (((d : ℝ) / (M : ℝ) : ℝ) : ℂ) = ((n : ℝ) : ℂ) :=
    mul_left_cancel₀ h2 (by push_cast at hn ⊢; linear_combination hn)
  have h4 := (div_eq_iff hM).mp (Complex.ofReal_injective h3)
  exact ⟨n, by exact_mod_cast h4.trans (mul_comm _ _)⟩

end witness

end HcipyVerif.Fft
