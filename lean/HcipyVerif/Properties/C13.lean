import HcipyVerif.Lemmas.ZernikeIndex
import HcipyVerif.Lemmas.ZernikeIndexReal
import HcipyVerif.Lemmas.ZernikeMoment
import HcipyVerif.Lemmas.ZernikeTrig
import HcipyVerif.Lemmas.ZernikeIntegral
import HcipyVerif.Lemmas.ZernikeRadialGen
import HcipyVerif.Lemmas.ZernikeRadialReal
import HcipyVerif.Lemmas.ZernikeArr
import HcipyVerif.Model.ZernikeGrid

/-!
# C13 — Zernike modes match their definition for every index and every point

Model: `HcipyVerif/Model/Zernike.lean` (the code of `hcipy/mode_basis/zernike.py`, which has the repairs D9 and D10;
the behaviour before them is kept as `radialEvalOld`, `memoModeSeparatedOld`).

* Index maps (unbounded in the index): `noll_valid`, `noll_left_inverse`, `noll_right_inverse`,
  `noll_injective`, `zernikeToNoll_closed_form`, `zernikeToNoll_none_iff`, ordering
  `noll_order_block/_n/_absm/_sign`; the same for ANSI.  The float square roots of the code: `noll_order_float_robust/_safe`,
  `ansi_order_float_robust/_safe`, `tonoll_window_start_float_robust` (the model's integer decision is the floor of every
  real within an explicit margin of the code's expression).
* Values, **every radial order**, every rational point: `radial_matches_definition`, `reduced_matches_definition`,
  `radial_at_zero`, `mode_at_centre`, `radial_poly_eval`, `radial_at_zero_pos`; every real point: `azimuthal_all_real`,
  `cisPow_all_real`, `zernikeR_eq_model_all_real`, `mode_cartesian_all_real`, `inside_cartesian_all_real`; table bounded by the
  property (`n ≤ 20`): `radial_table`, `radial_matches_definition_table`; `radial_orthonormal` (stated for `n ≤ 20`, proved for
  every order); `normalisation_unit`,
  `mode_cartesian_eq_polar`, `inside_cartesian_eq_polar`.
* Orthonormality as integrals (Mathlib interval integrals; the bounds `n ≤ 20` in the statements are not used:
  `zernikeR_orthonormal` in `Lemmas/ZernikeMoment.lean` is for every order): `pint01_is_integral`,
  `pint01_is_weighted_integral`, `azimuthal_cos_cos/_sin_sin/_cos_sin`,
  `zernikeR_eq_model`, `zernike_orthonormal_disc`, `zernike_orthonormal_noll`; stated on the
  executed definitions: `azimuthal_orthonormal_model`, `radial_orthonormal_integral_model`, `zernike_orthonormal_disc_model`.
* Cache (every request history): per point `cache_irrelevant`, `cache_irrelevant_after_any_history`,
  `cache_irrelevant_order`; at array level with references and in-place writes (`Model/ZernikeArr.lean`)
  `acache_irrelevant`, `acache_entries_stay_fresh`, `acache_irrelevant_after_any_history`, `acache_irrelevant_order`, layouts
  `separated_layout`, `separated_length`, `unstructured_layout`.
* `make_zernike_basis`: `basis_mode_index`, `basis_length`, `basis_modes_distinct`, `basis_columns`, `basis_cache_irrelevant`,
  `basis_column_index`; Field generators on several grids: `generators_any_grid`, `generators_shared_same_grid`.
* `Old.*`: refutations of code that is no longer in /repo (D9, D10, D130, late binding) — documentation, not evidence.
-/

namespace HcipyVerif.C13
open HcipyVerif.Zernike Finset

/-! ## Noll index map: bijection `{i ≥ 1} ↔ {valid (n, m)}` -/

/-- `noll_to_zernike` yields a valid pair for every Noll index. -/
theorem noll_valid (i : Nat) (hi : 1 ≤ i) : valid (nollToZernike i).1 (nollToZernike i).2 = true := by
  obtain ⟨n, a, rfl, h1, h2⟩ := exists_noll_row i hi
  have e := nollAbsM_row h1 h2
  rw [valid_iff, nollToZernike_natAbs, show (nollToZernike (tri n + a)).1 = n from nollN_row h1 h2]
  omega

theorem noll_injective (i i' : Nat) (hi : 1 ≤ i) (hi' : 1 ≤ i') (h : nollToZernike i = nollToZernike i') :
    i = i' := nollToZernike_injective hi hi' h

/-- `zernike_to_noll ∘ noll_to_zernike = id`: the brute-force search of the code finds exactly `i`. -/
theorem noll_left_inverse (i : Nat) (hi : 1 ≤ i) :
    zernikeToNoll (nollToZernike i).1 (nollToZernike i).2 = some i := zernikeToNoll_eq_some hi rfl

/-- closed form of `zernike_to_noll` on valid pairs -/
theorem zernikeToNoll_closed_form (n : Nat) (m : Int) (hv : valid n m = true) :
    zernikeToNoll n m = some (nollIndex n m) :=
  zernikeToNoll_eq_some (nollToZernike_nollIndex hv).1 (nollToZernike_nollIndex hv).2

/-- `noll_to_zernike ∘ zernike_to_noll = id` on valid pairs (in particular the search never fails there). -/
theorem noll_right_inverse (n : Nat) (m : Int) (hv : valid n m = true) :
    ∃ i, 1 ≤ i ∧ zernikeToNoll n m = some i ∧ nollToZernike i = (n, m) :=
  ⟨nollIndex n m, (nollToZernike_nollIndex hv).1, zernikeToNoll_closed_form n m hv, (nollToZernike_nollIndex hv).2⟩

/-- the search fails (the code raises) exactly on the invalid pairs -/
theorem zernikeToNoll_none_iff (n : Nat) (m : Int) : zernikeToNoll n m = none ↔ valid n m = false := by
  rw [Option.eq_none_iff_forall_ne_some, ← Bool.not_eq_true]
  refine ⟨fun h hv => h _ (zernikeToNoll_closed_form n m hv), fun h i hs => h ?_⟩
  obtain ⟨hz, hj, _⟩ := searchNoll_some hs
  have hv := noll_valid i (by omega)
  rwa [hz] at hv

/-! ### documented ordering of the Noll indices -/

/-- order `n` occupies exactly the indices `n(n+1)/2 < i ≤ (n+1)(n+2)/2` -/
theorem noll_order_block (n i : Nat) (hi : 1 ≤ i) :
    (nollToZernike i).1 = n ↔ n * (n + 1) / 2 + 1 ≤ i ∧ i ≤ n * (n + 1) / 2 + n + 1 := by
  constructor
  · intro h; subst h; exact nollN_block i hi
  · intro ⟨a, b⟩; exact nollN_eq_of_block a b

/-- the radial order is non-decreasing in the Noll index -/
theorem noll_order_n (i i' : Nat) (hi : 1 ≤ i) (h : i ≤ i') : (nollToZernike i).1 ≤ (nollToZernike i').1 :=
  tri_block_mono (nollN_block i hi).1 h (nollN_block i' (by omega)).2

/-- within one radial order `|m|` is non-decreasing in the Noll index -/
theorem noll_order_absm (i i' : Nat) (hi : 1 ≤ i) (h : i ≤ i') (hn : (nollToZernike i).1 = (nollToZernike i').1) :
    (nollToZernike i).2.natAbs ≤ (nollToZernike i').2.natAbs := by
  obtain ⟨n, a, rfl, h1, h2⟩ := exists_noll_row i hi
  obtain ⟨n', a', rfl, h1', h2'⟩ := exists_noll_row i' (by omega)
  have e := nollAbsM_row h1 h2
  have e' := nollAbsM_row h1' h2'
  obtain rfl : n = n' := (nollN_row h1 h2).symm.trans (hn.trans (nollN_row h1' h2'))
  rw [nollToZernike_natAbs, nollToZernike_natAbs]
  omega

/-- even Noll index ↔ cosine mode (`m > 0`), odd Noll index ↔ sine mode (`m < 0`) -/
theorem noll_order_sign (i : Nat) :
    (0 < (nollToZernike i).2 → i % 2 = 0) ∧ ((nollToZernike i).2 < 0 → i % 2 = 1) ∧
    (i % 2 = 0 → 0 ≤ (nollToZernike i).2) ∧ (i % 2 = 1 → (nollToZernike i).2 ≤ 0) := by
  unfold nollToZernike
  simp only
  split <;> omega

/-! ## ANSI index map: bijection `{i ≥ 0} ↔ {valid (n, m)}` -/

theorem ansi_valid (i : Nat) : valid (ansiToZernike i).1 (ansiToZernike i).2 = true := by
  obtain ⟨n, j, rfl, h⟩ := exists_ansi_row i
  rw [ansiToZernike_row h, valid_iff]
  omega

/-- `zernike_to_ansi ∘ ansi_to_zernike = id` -/
theorem ansi_left_inverse (i : Nat) : zernikeToAnsi (ansiToZernike i).1 (ansiToZernike i).2 = i := by
  obtain ⟨n, j, rfl, h⟩ := exists_ansi_row i
  rw [ansiToZernike_row h]
  exact zernikeToAnsi_eq n j

/-- `ansi_to_zernike ∘ zernike_to_ansi = id` on valid pairs -/
theorem ansi_right_inverse (n : Nat) (m : Int) (hv : valid n m = true) :
    ∃ i : Nat, zernikeToAnsi n m = i ∧ ansiToZernike i = (n, m) := by
  obtain ⟨hv1, hv2⟩ := valid_iff.mp hv
  obtain ⟨j, rfl, hj⟩ : ∃ j : Nat, m = 2 * (j : Int) - n ∧ j ≤ n := ⟨((m + n) / 2).toNat, by omega⟩
  exact ⟨tri n + j, zernikeToAnsi_eq n j, ansiToZernike_row hj⟩

theorem ansi_injective (i i' : Nat) (h : ansiToZernike i = ansiToZernike i') : i = i' :=
  Int.ofNat_inj.mp (by rw [← ansi_left_inverse i, h, ansi_left_inverse])

/-- order `n` occupies exactly the ANSI indices `n(n+1)/2 ≤ i ≤ n(n+1)/2 + n` -/
theorem ansi_order_block (n i : Nat) :
    (ansiToZernike i).1 = n ↔ n * (n + 1) / 2 ≤ i ∧ i ≤ n * (n + 1) / 2 + n := by
  constructor
  · intro h; subst h; exact ansi_block i
  · intro ⟨a, b⟩; exact ansiN_eq_of_block a b

theorem ansi_order_n (i i' : Nat) (h : i ≤ i') : (ansiToZernike i).1 ≤ (ansiToZernike i').1 :=
  tri_block_mono (o := 0) (ansi_block i).1 h (ansi_block i').2

/-- within one radial order `m` increases in steps of two with the ANSI index -/
theorem ansi_order_m (i i' : Nat) (hn : (ansiToZernike i).1 = (ansiToZernike i').1) :
    (ansiToZernike i').2 - (ansiToZernike i).2 = 2 * ((i' : Int) - i) := by
  rw [ansiM_eq i', ansiM_eq i, hn]; ring

/-! ## The float square roots of the index maps

The code computes `n = int(sqrt(2*i - 1) + 0.5) - 1` (Noll) and `n = int((sqrt(8*i + 1) - 1) / 2)` (ANSI) in double
precision; the model decides with exact integer arithmetic (`roundSqrt`, `Nat.sqrt`).  The theorems below say that the
model's integer is the floor of the *real* value of the code's expression **and of every real number within an explicit
margin of it** — so a floating-point evaluation whose error stays below the margin takes the same decision.  The
`_float_safe` forms instantiate the margin for a relative error of `2⁻⁵²` (two correctly rounded operations); what is
assumed is only that `math.sqrt`, `+`, `-`, `/` are correctly rounded (IEEE 754). -/

/-- Noll: every real `y` within `1/(8·round(√k)+4)` of `√k + ½` (`k = 2i-1`) floors to the model's `roundSqrt k` -/
theorem noll_order_float_robust (i : Nat) (hi : 1 ≤ i) (y : ℝ)
    (hy : |y - (√((2 * i - 1 : ℕ) : ℝ) + 1 / 2)| < 1 / (8 * (roundSqrt (2 * i - 1) : ℝ) + 4)) :
    ⌊y⌋₊ - 1 = (nollToZernike i).1 := by
  show ⌊y⌋₊ - 1 = nollN i
  unfold nollN
  rw [roundSqrt_floor_robust (2 * i - 1) (by omega) y hy]

/-- Noll, double precision: for every index `i` with `2i-1 < 2⁴⁸` (`i ≤ 1.4·10¹⁴`) and every `y` with relative error at most
`2⁻⁵²` from `√(2i-1) + ½`, `int(y) - 1` is the radial order of the model -/
theorem noll_order_float_safe (i : Nat) (hi : 1 ≤ i) (hb : 2 * i - 1 < 2 ^ 48) (y : ℝ)
    (hy : |y - (√((2 * i - 1 : ℕ) : ℝ) + 1 / 2)| ≤ (√((2 * i - 1 : ℕ) : ℝ) + 1 / 2) / 2 ^ 52) :
    ⌊y⌋₊ - 1 = (nollToZernike i).1 := by
  have hk : 1 ≤ 2 * i - 1 := by omega
  refine noll_order_float_robust i hi y (lt_of_le_of_lt hy ?_)
  have hs : √((2 * i - 1 : ℕ) : ℝ) ≤ 2 ^ 24 :=
    Real.sqrt_le_iff.mpr ⟨by positivity, by exact_mod_cast hb.le⟩
  exact rel_error_lt_margin (B := 2 ^ 24 + 1 / 2) (by positivity) (roundSqrt_le_sqrt (2 * i - 1) hk) (by linarith)
    (by norm_num) (by norm_num) (by norm_num)

/-- ANSI: every real `y` within `1/(2n+3)` of `(√(8i+1) - 1)/2` floors to the model's `n` — provided `y` is exact when
`8i+1` is a perfect square (the first index of every row; `sqrt` of a perfect square, `- 1` and `/ 2` are exact in binary
floating point), where the real value is itself an integer and there is no margin below -/
theorem ansi_order_float_robust (i : Nat) (y : ℝ)
    (hexact : ∀ t : ℕ, t * t = 8 * i + 1 → y = ((t : ℝ) - 1) / 2)
    (hy : |y - (√((8 * i + 1 : ℕ) : ℝ) - 1) / 2| < 1 / (2 * ((ansiToZernike i).1 : ℝ) + 3)) :
    ⌊y⌋₊ = (ansiToZernike i).1 := by
  obtain ⟨hT1, hT2⟩ := ansi_block i
  have hnT := (two_tri (ansiToZernike i).1).symm
  generalize (ansiToZernike i).1 = n at *
  generalize tri n = T at *
  by_cases hex : i = T
  · have ht : (2 * n + 1) * (2 * n + 1) = 8 * i + 1 := by linear_combination 4 * hnT + 8 * hex.symm
    rw [hexact (2 * n + 1) ht]
    push_cast
    rw [show ((2 * (n : ℝ) + 1) - 1) / 2 = (n : ℝ) by ring, Nat.floor_natCast]
  · have hnTr : (n : ℝ) * (n + 1) = 2 * T := by exact_mod_cast hnT
    have hlo : (T : ℝ) + 1 ≤ i := by exact_mod_cast (show T + 1 ≤ i by omega)
    have hhi : (i : ℝ) ≤ T + n := by exact_mod_cast hT2
    have hn0 : (0 : ℝ) ≤ n := Nat.cast_nonneg n
    clear hexact hnT hT1 hT2 hex
    obtain ⟨ε, hε, hmul, hε0, hεle, hε1⟩ := exists_margin (D := 2 * (n : ℝ) + 3) (by linarith)
    rw [hε, show ((8 * i + 1 : ℕ) : ℝ) = 8 * (i : ℝ) + 1 by push_cast; ring] at hy
    -- off the first index of the row `(2n+1)² + 8 ≤ 8i + 1 ≤ (2n+3)² - 8`, which puts `√(8i+1)` in `[2n+1+2ε, 2n+3-2ε]`
    have hA : 2 * (n : ℝ) + 1 + 2 * ε ≤ √(8 * (i : ℝ) + 1) := Real.le_sqrt_of_sq_le (by linarith)
    have hB : √(8 * (i : ℝ) + 1) ≤ 2 * (n : ℝ) + 3 - 2 * ε :=
      (Real.sqrt_le_left (by linarith)).mpr (by linarith [mul_self_nonneg ε])
    exact floor_eq_of_near hy (by linarith) (by linarith)

/-- ANSI, double precision: `8i+1 < 2⁵⁰` (`i ≤ 1.4·10¹⁴`), error at most `√(8i+1)·2⁻⁵²` -/
theorem ansi_order_float_safe (i : Nat) (hb : 8 * i + 1 < 2 ^ 50) (y : ℝ)
    (hexact : ∀ t : ℕ, t * t = 8 * i + 1 → y = ((t : ℝ) - 1) / 2)
    (hy : |y - (√((8 * i + 1 : ℕ) : ℝ) - 1) / 2| ≤ √((8 * i + 1 : ℕ) : ℝ) / 2 ^ 52) :
    ⌊y⌋₊ = (ansiToZernike i).1 := by
  apply ansi_order_float_robust i y hexact
  refine lt_of_le_of_lt hy ?_
  have hs : √((8 * i + 1 : ℕ) : ℝ) ≤ 2 ^ 25 :=
    Real.sqrt_le_iff.mpr ⟨by positivity, by exact_mod_cast hb.le⟩
  exact rel_error_lt_margin (B := 2 ^ 25) (Nat.cast_nonneg _) (by linarith [ansiN_le_sqrt i]) hs
    (by norm_num) (by norm_num) (by norm_num)

/-- `zernike_to_noll` starts its search at `int(((n + 0.5)**2 + 1) / 2) + 1`: the real value is `n(n+1)/2 + 5/8`, so for every
`y` within `3/8` of it the search of the code (same window length) is the model's `zernikeToNoll`, whose start is the first Noll
index `n(n+1)/2 + 1` of row `n` -/
theorem tonoll_window_start_float_robust (n : Nat) (m : Int) (y : ℝ)
    (hy : |y - (((n : ℝ) + 1 / 2) ^ 2 + 1) / 2| < 3 / 8) :
    searchNoll n m (⌊y⌋₊ + 1) ((n + 1) * (n + 2) / 2 + 1) = zernikeToNoll n m := by
  have key : ⌊y⌋₊ = tri n := by
    have htr : 2 * (tri n : ℝ) = (n : ℝ) * (n + 1) := by exact_mod_cast two_tri n
    -- the centre of the window is `tri n + 5/8`
    rw [show (((n : ℝ) + 1 / 2) ^ 2 + 1) / 2 = tri n + 5 / 8 by linear_combination -htr / 2] at hy
    exact floor_eq_of_near hy (by linarith) (by linarith)
  rw [key]
  rfl

/-- the hypotheses are satisfiable: the exact values themselves (`i = 3`: `√5 + ½`; `√25 = 5`, `y = 2`) -/
example : |(√((2 * 3 - 1 : ℕ) : ℝ) + 1 / 2) - (√((2 * 3 - 1 : ℕ) : ℝ) + 1 / 2)| ≤ (√((2 * 3 - 1 : ℕ) : ℝ) + 1 / 2) / 2 ^ 52 := by
  rw [sub_self, abs_zero]; positivity
example : ∃ y : ℝ, (∀ t : ℕ, t * t = 8 * 3 + 1 → y = ((t : ℝ) - 1) / 2) ∧
    |y - (√((8 * 3 + 1 : ℕ) : ℝ) - 1) / 2| ≤ √((8 * 3 + 1 : ℕ) : ℝ) / 2 ^ 52 := by
  have h5 : √((8 * 3 + 1 : ℕ) : ℝ) = 5 := by
    rw [show ((8 * 3 + 1 : ℕ) : ℝ) = 5 ^ 2 by norm_num]; exact Real.sqrt_sq (by norm_num)
  refine ⟨2, ?_, ?_⟩
  · intro t ht
    obtain rfl : t = 5 := Nat.mul_self_inj.mp ht
    norm_num
  · rw [h5]; norm_num

/-! ## Radial polynomial: the q-recursion equals the factorial definition -/

/-- For every order (unbounded) and every point, the symbolic recursion `radialPoly` evaluates to what
the code computes pointwise (`radialEval`): it suffices to compare polynomials. -/
theorem radial_poly_eval (n m : Nat) (r : Rat) : peval (radialPoly n m) r = radialEval n m r :=
  peval_radialPoly n m r

/-- Table bounded by the property (`n ≤ 20`, 121 pairs `(n, |m|)`): recursion = definition, as
polynomials with exact rational coefficients. -/
theorem radial_table :
    ((pairs 20).all fun (n, m) => radialPoly n m == radialDef n m) = true := by decide +kernel

theorem radial_poly_eq_def_table (n m : Nat) (hn : n ≤ 20) (hm : m ≤ n) (hpar : (n - m) % 2 = 0) :
    radialPoly n m = radialDef n m := by
  simpa using List.all_eq_true.mp radial_table (n, m) ((mem_pairs 20 n m).mpr ⟨hn, hm, hpar⟩)

/-- **The polynomial identity, every radial order** (no table, no bound): the coefficient list the q-recursion of the code produces
(`radialPoly`, driver op `C13 poly`, compared with the real recursion run on a symbolic argument) *is* the coefficient list of the factorial
definition (`radialDef`, driver op `C13 defpoly`) — equality of lists of exact rationals, not only of values.  Proof
(`Lemmas/ZernikeRadialReal.lean`): both lists have length `n + 1`, they agree at every rational point by induction along the recursion, and a
polynomial over `ℚ` is determined by its values. `radial_table` / `radial_poly_eq_def_table` are an independent kernel evaluation for `n ≤ 20`. -/
theorem radial_poly_eq_def (n m : Nat) (hm : m ≤ n) (hpar : (n - m) % 2 = 0) : radialPoly n m = radialDef n m :=
  radialPoly_eq_radialDef n m hm hpar

/-- both coefficient lists have exactly `n + 1` entries (degree `n`, no trailing padding) -/
theorem radial_poly_length (n m : Nat) (hm : m ≤ n) (hpar : (n - m) % 2 = 0) :
    (radialPoly n m).length = n + 1 ∧ (radialDef n m).length = n + 1 :=
  ⟨length_radialPoly n m hm hpar, length_radialDef n m⟩

/-- **Every radial order** (no table, no bound): `zernike_radial(n, m, r)` equals
`Σ_k (-1)^k (n-k)! / (k! ((n+m)/2-k)! ((n-m)/2-k)!) r^(n-2k)` for every valid `(n, m)` and **every** rational `r`, the
centre `r = 0` included.  Proved by induction along the q-recursion (`Lemmas/ZernikeRadialGen.lean`): the factorial
coefficients satisfy the three-term recurrence with the code's `h1, h2, h3`, a rational-function identity. -/
theorem radial_matches_definition (n m : Nat) (hm : m ≤ n) (hpar : (n - m) % 2 = 0) (r : Rat) :
    radialEval n m r = ∑ k ∈ range ((n - m) / 2 + 1),
      ((-1) ^ k * ((n - k).factorial : Rat) /
        ((k.factorial : Rat) * (((n + m) / 2 - k).factorial : Rat) * (((n - m) / 2 - k).factorial : Rat))) *
          r ^ (n - 2 * k) := radialEval_eq_sum n m hm hpar r

/-- the reduced polynomial `S_n^{n-2k}(t) = R_n^{n-2k}(r)/r^{n-2k}`, `t = r²`, which the repaired code evaluates and caches
under `('rad_reduced', n, n-2k)`: factorial form, every order, every rational `t` -/
theorem reduced_matches_definition (n k : Nat) (hk : 2 * k ≤ n) (t : Rat) :
    reducedEval n t k = ∑ j ∈ range (k + 1),
      ((-1 : Rat) ^ j * ((n - j).factorial : Rat) /
        ((j.factorial : Rat) * ((n - k - j).factorial : Rat) * ((k - j).factorial : Rat))) * t ^ (k - j) :=
  reducedEval_eq_PP n t k hk

/-- independent cross-check of the induction on the range the property names (`n ≤ 20`): the coefficient lists agree
(`radial_table`), hence the values -/
theorem radial_matches_definition_table (n m : Nat) (hn : n ≤ 20) (hm : m ≤ n) (hpar : (n - m) % 2 = 0) (r : Rat) :
    radialEval n m r = peval (radialDef n m) r := by
  rw [← peval_radialPoly, radial_poly_eq_def_table n m hn hm hpar]

/-- at the centre every mode with `m ≠ 0` vanishes — for every radial order -/
theorem radial_at_zero_pos (n m : Nat) (hm : 0 < m) : radialEval n m 0 = 0 := by
  unfold radialEval
  rw [zero_pow (by omega), zero_mul]

theorem radial_at_zero_table :
    ((List.range 11).all fun j => radialEval (2 * j) 0 0 == (-1 : Rat) ^ j) = true := by decide +kernel

/-- **Value at the exact centre, every radial order** (no table, no bound): `0` for `m > 0`, `(-1)^(n/2)` for `m = 0` — what
the repaired code returns; the unrepaired code returns NaN for `n - m ≥ 4`, see `Old.radial_nan_at_centre`.  From the
factorial form of the reduced polynomial at `t = 0` (`reducedEval_zero`); `radial_at_zero_table` is an independent
evaluation for `n ≤ 20`. -/
theorem radial_at_zero (n m : Nat) (hm : m ≤ n) (hpar : (n - m) % 2 = 0) :
    radialEval n m 0 = if m = 0 then (-1 : Rat) ^ (n / 2) else 0 := by
  by_cases h0 : m = 0
  · subst h0
    rw [if_pos rfl]
    obtain ⟨k, rfl⟩ : ∃ k, n = 2 * k := ⟨n / 2, by omega⟩
    unfold radialEval
    rw [Nat.sub_zero, Nat.mul_div_cancel_left k two_pos, pow_zero, one_mul, mul_zero, reducedEval_zero]
  · rw [if_neg h0]; exact radial_at_zero_pos n m (by omega)

/-- the complete mode at the centre of the aperture, whatever the direction `(c, s)` reported there — every order -/
theorem mode_at_centre (n : Nat) (m : Int) (D c s : Rat) (hv : valid n m = true) :
    modeQ n m D 0 c s = if m = 0 then (-1 : Rat) ^ (n / 2) else 0 := by
  obtain ⟨hv1, hv2⟩ := valid_iff.mp hv
  unfold modeQ
  rw [mul_zero, zero_div, radial_at_zero n m.natAbs hv1 hv2]
  obtain rfl | h0 := eq_or_ne m 0
  · simp [azimQ]
  · rw [if_neg (Int.natAbs_ne_zero.mpr h0), if_neg h0, zero_mul]

/-! ## The unit circle and the rim of the aperture (`r = D/2` exactly)

`R_n^m(1) = 1` for **every** order, from the recursion the code runs (`h1 + h2 + h3 = 1`, `Lemmas/ZernikeRadialGen.lean`), hence the
value of every uncut mode on the rim is its azimuthal factor alone; and the cut-off mask `(2 r) < D` is strict: the aperture
is the **open** disc, a grid point exactly on the rim is outside. -/

/-- the cached reduced polynomial `S_n^{n-2k}` at `t = 1`, every order -/
theorem reduced_at_one (n k : Nat) (hk : 2 * k ≤ n) : reducedEval n 1 k = 1 :=
  match k, hk with
  | 0, _ => rfl
  | 1, _ => by simp [reducedEval]
  | k + 2, h => by
    have a := reduced_at_one n k (by omega)
    have b := reduced_at_one n (k + 1) (by omega)
    obtain ⟨d, hd⟩ : ∃ d, n = 2 * k + 4 + d := ⟨n - (2 * k + 4), by omega⟩
    rw [reducedEval_add_two n k d hd, a, b]
    linear_combination h_sum_one n k d hd

/-- **`zernike_radial(n, m, 1) = 1` for every valid `(n, m)`** (no table, no bound) -/
theorem radial_at_one (n m : Nat) (hm : m ≤ n) (hpar : (n - m) % 2 = 0) : radialEval n m 1 = 1 := by
  unfold radialEval
  rw [one_pow, one_mul, one_mul, reduced_at_one n _ (by omega)]

/-- the coefficient list the recursion produces sums to one -/
theorem radial_poly_at_one (n m : Nat) (hm : m ≤ n) (hpar : (n - m) % 2 = 0) : peval (radialPoly n m) 1 = 1 := by
  rw [radial_poly_eval, radial_at_one n m hm hpar]

/-- … hence so do the factorial coefficients of the definition (the classical identity
`Σ_k (-1)^k (n-k)! / (k! ((n+m)/2-k)! ((n-m)/2-k)!) = 1`), obtained here *from the code's recursion* through
`radial_matches_definition` -/
theorem radial_definition_at_one (n m : Nat) (hm : m ≤ n) (hpar : (n - m) % 2 = 0) :
    radialEval n m 1 = 1 ∧
    ∑ k ∈ range ((n - m) / 2 + 1),
      ((-1) ^ k * ((n - k).factorial : Rat) /
        ((k.factorial : Rat) * (((n + m) / 2 - k).factorial : Rat) * (((n - m) / 2 - k).factorial : Rat))) = 1 := by
  refine ⟨radial_at_one n m hm hpar, ?_⟩
  simpa only [one_pow, mul_one] using (radial_matches_definition n m hm hpar 1).symm.trans (radial_at_one n m hm hpar)

/-- **The uncut mode on the rim** `r = D/2` (any diameter `D ≠ 0`, any direction): the radial factor is one, the value is
the azimuthal factor (times the normalisation, kept outside `modeQ`) -/
theorem mode_on_rim (n : Nat) (m : Int) (hv : valid n m = true) (D c s : Rat) (hD : D ≠ 0) :
    modeQ n m D (D / 2) c s = azimQ m c s := by
  obtain ⟨hv1, hv2⟩ := valid_iff.mp hv
  unfold modeQ
  have e : 2 * (D / 2) / D = 1 := by field_simp
  rw [e, radial_at_one n m.natAbs hv1 hv2, one_mul]

/-- the mask of the code is `(2 r) < D` … -/
theorem inside_iff (D r : Rat) : inside D r = true ↔ 2 * r < D := by
  unfold inside; exact decide_eq_true_iff

/-- … so a point exactly on the rim is **outside** (open disc), whatever `D` … -/
theorem rim_is_outside (D : Rat) : inside D (D / 2) = false := by
  rw [Bool.eq_false_iff, Ne, inside_iff, show 2 * (D / 2) = D by ring]
  exact _root_.lt_irrefl D

/-- … every mode with `radial_cutoff=True` is exactly `0` there, … -/
theorem mode_cut_on_rim (n : Nat) (m : Int) (D c s : Rat) : modeQCut n m D (D / 2) c s true = 0 := by
  unfold modeQCut
  rw [rim_is_outside]; rfl

/-- … and with `radial_cutoff=False` it is the azimuthal factor. -/
theorem mode_uncut_on_rim (n : Nat) (m : Int) (hv : valid n m = true) (D c s : Rat) (hD : D ≠ 0) :
    modeQCut n m D (D / 2) c s false = azimQ m c s :=
  mode_on_rim n m hv D c s hD

/-- the cut-off mode in closed form: zero exactly on `D ≤ 2r` (rim included), the plain mode on `2r < D` -/
theorem mode_cut_closed_form (n : Nat) (m : Int) (D r c s : Rat) (cutoff : Bool) :
    modeQCut n m D r c s cutoff = if cutoff = true ∧ D ≤ 2 * r then 0 else modeQ n m D r c s := by
  unfold modeQCut inside
  cases cutoff
  · simp
  · by_cases h : 2 * r < D
    · simp [h]
    · simp [h, not_lt.mp h]

/-- Cartesian points exactly on the rim (`4(x² + y²) = D²`, e.g. `(3, 4)·D/10`): outside for the exact decision the driver
uses for Cartesian grids, the cut mode is `0`, and the uncut mode is the azimuthal factor at the direction `(2x/D, 2y/D)`. -/
theorem rim_cartesian (n : Nat) (m : Int) (hv : valid n m = true) (D x y : Rat) (hD : D ≠ 0)
    (hrim : 4 * (x * x + y * y) = D * D) :
    insideXY D x y = false ∧ modeQXYCut n m D x y true = 0 ∧
      modeQXYCut n m D x y false = azimQ m (2 * x / D) (2 * y / D) := by
  obtain ⟨hv1, hv2⟩ := valid_iff.mp hv
  have hin : insideXY D x y = false := by
    unfold insideXY
    rw [decide_eq_false_iff_not, hrim]; exact _root_.lt_irrefl _
  refine ⟨hin, ?_, ?_⟩
  · unfold modeQXYCut; rw [hin]; rfl
  · have e : 2 * x / D * (2 * x / D) + 2 * y / D * (2 * y / D) = 1 := by
      field_simp
      linear_combination hrim
    show modeQXY n m D x y = _
    rw [modeQXY_eq, e, reduced_at_one n _ (by omega), one_mul]

/-- real evaluation agrees with rational evaluation at rational points -/
theorem pevalR_at_rational (p : Poly) (r : Rat) : pevalR p (r : ℝ) = ((peval p r : Rat) : ℝ) := by
  induction p with
  | nil => simp
  | cons a p ih => rw [pevalR_cons, peval_cons, ih]; push_cast; ring

/-- over `ℝ`: the polynomial produced by the recursion takes the value one at one (used with `zernikeR_eq_model_all_real`:
on the unit circle the real mode is `√(n+1)·√2^{[m≠0]}·azimQ m (cos θ) (sin θ)`) -/
theorem radial_real_at_one (n m : Nat) (hm : m ≤ n) (hpar : (n - m) % 2 = 0) : pevalR (radialPoly n m) 1 = 1 := by
  rw [← Rat.cast_one (α := ℝ), pevalR_at_rational, radial_poly_at_one n m hm hpar]

/-- The unrepaired recurrence (division by `r²`) computes the same value away from the centre … -/
theorem Old.radial_agrees_off_centre (n k : Nat) (r : Rat) (hr : r ≠ 0) (hk : 2 * k ≤ n) :
    radialEvalOld n r k = some (radialEval n (n - 2 * k) r) := by
  rw [radialEvalOld_eq n r hr k hk]
  unfold radialEval
  have : (n - (n - 2 * k)) / 2 = k := by omega
  rw [this]

/-- … and is NaN at the centre for every mode with `n - |m| ≥ 4` (defect D9). -/
theorem Old.radial_nan_at_centre (n k : Nat) : radialEvalOld n 0 (k + 2) = none := by
  simp only [radialEvalOld]
  split <;> simp

theorem Old.radial_counterexample : radialEvalOld 4 0 2 = none ∧ radialEval 4 0 0 = 1 := by decide +kernel

/-! ## Orthonormality and normalisation -/

set_option linter.unusedVariables false in
/-- `∫₀¹ R_n^m(r) R_{n'}^m(r) r dr = δ_{nn'} / (2(n+1))`, computed exactly on the coefficients of the
product polynomial (`pmul` is the polynomial product: `peval_pmul`; `pshift 1` multiplies by `r`;
`pint01` integrates term by term), for all valid pairs with `n, n' ≤ 20`.  Proved through the integral it stands for: the
moments of the factorial formula against the monomials below its degree vanish, for every order (`Lemmas/ZernikeMoment.lean`); the bound is not used. -/
theorem radial_orthonormal (n n' m : Nat) (hn : n ≤ 20) (hn' : n' ≤ 20) (hm : m ≤ n) (hm' : m ≤ n')
    (hpar : (n - m) % 2 = 0) (hpar' : (n' - m) % 2 = 0) :
    pint01 (pshift 1 (pmul (radialPoly n m) (radialPoly n' m))) = if n = n' then 1 / (2 * ((n : Rat) + 1)) else 0 :=
  pint01_radialPoly_mul n n' m hm hm' hpar hpar'

/-- `pmul`/`pshift` really are product and multiplication by `r` under evaluation -/
theorem radial_product_eval (n n' m : Nat) (r : Rat) :
    peval (pshift 1 (pmul (radialPoly n m) (radialPoly n' m))) r = r * (radialEval n m r * radialEval n' m r) := by
  rw [peval_pshift, peval_pmul, peval_radialPoly, peval_radialPoly]; ring

/-- With the radial integral `1/(2(n+1))` and the azimuthal mean `(1/π)∫₀^{2π} a(θ)² dθ` of
`a = 1` (`m = 0`: 2) or `cos mθ`, `sin mθ` (`m ≠ 0`: 1), the squared normalisation
`(n+1)·(2 if m ≠ 0)` makes the mode have unit mean square over the unit disc.  (This statement is the arithmetic only: the
azimuthal means enter as the numbers 2 and 1; as integrals they are `azimuthal_orthonormal_model`.) -/
theorem normalisation_unit (n : Nat) (m : Int) :
    normSq n m * (1 / (2 * ((n : Rat) + 1))) * (if m = 0 then 2 else 1) = 1 := by
  unfold normSq
  split <;> field_simp

/-! ## Polar and Cartesian grids see the same mode -/

/-- Bridge for a device of the *harness*, not for a code path: `zernike()` always converts the grid to polar coordinates
(`hypot`, `arctan2`).  To evaluate the model exactly at Cartesian points with rational coordinates the driver uses
`modeQXY` (no square root, no arctangent); this theorem says that it is the polar formula `modeQ` — the model of the
code — at `(x, y) = (r c, r s)`. -/
theorem mode_cartesian_eq_polar (n : Nat) (m : Int) (D r c s : Rat) (hcs : c ^ 2 + s ^ 2 = 1) :
    modeQXY n m D (r * c) (r * s) = modeQ n m D r c s := by
  unfold modeQ radialEval
  rw [modeQXY_eq, show 2 * (r * c) / D = 2 * r / D * c by ring, show 2 * (r * s) / D = 2 * r / D * s by ring,
    show 2 * r / D * c * (2 * r / D * c) + 2 * r / D * s * (2 * r / D * s) = 2 * r / D * (2 * r / D) by
      linear_combination (2 * r / D) * (2 * r / D) * hcs, azimQ_scale]
  ring

/-- what the driver computes at `Rat` is the restriction of the real instance to rational `(c, s)`
(the definition uses only `+`, `-`, `*`, `0`, `1`, which the cast preserves) -/
theorem azimuthal_rat_restricts_real (m : Int) (c s : Rat) : ((azimQ m c s : Rat) : ℝ) = azimQ m (c : ℝ) (s : ℝ) := by
  unfold azimQ
  obtain ⟨a, b⟩ := cisPow_cast c s m.natAbs
  split
  · simp
  · split
    · exact a
    · exact b

/-- **Cartesian grid points, real polar coordinates.** `zernike()` converts a Cartesian grid with `hypot` / `arctan2`; the
radius of a grid point with rational coordinates is in general irrational, so `mode_cartesian_eq_polar` (rational `r, c, s`)
does not reach it.  This does: for every rational point `(x, y)` and **every real** `r, θ` with `(x, y) = (r cos θ, r sin θ)`, the
value the driver computes for that point (`modeQXY`, exact rational arithmetic) is the polar formula of the code — recursion
polynomial at `2r/D` times the azimuthal factor at `θ` (`azimQ` at `ℝ`, i.e. `cos mθ` / `sin|m|θ` / `1` by `azimuthal_all_real`). -/
theorem mode_cartesian_all_real (n : Nat) (m : Int) (D x y : Rat) (r θ : ℝ)
    (hx : (x : ℝ) = r * Real.cos θ) (hy : (y : ℝ) = r * Real.sin θ) :
    ((modeQXY n m D x y : Rat) : ℝ) =
      pevalR (radialPoly n m.natAbs) (2 * r / (D : ℝ)) * azimQ m (Real.cos θ) (Real.sin θ) := by
  set ρ : ℝ := 2 * r / (D : ℝ) with hρ
  have hX : ((2 * x / D : Rat) : ℝ) = ρ * Real.cos θ := by push_cast; rw [hx, hρ]; ring
  have hY : ((2 * y / D : Rat) : ℝ) = ρ * Real.sin θ := by push_cast; rw [hy, hρ]; ring
  have ht : ((2 * x / D * (2 * x / D) + 2 * y / D * (2 * y / D) : Rat) : ℝ) = ρ * ρ := by
    rw [Rat.cast_add, Rat.cast_mul, Rat.cast_mul, hX, hY]
    linear_combination (ρ * ρ) * Real.cos_sq_add_sin_sq θ
  unfold radialPoly
  rw [pevalR_pshift, pevalR_pspread, ← ht, pevalR_at_rational, peval_reducedPoly, modeQXY_eq, Rat.cast_mul,
    azimuthal_rat_restricts_real, hX, hY, azimQ_scale]
  ring

/-- … and the exact rim decision of the driver is `2r < D` for that real radius -/
theorem inside_cartesian_all_real (D x y : Rat) (r θ : ℝ) (hx : (x : ℝ) = r * Real.cos θ) (hy : (y : ℝ) = r * Real.sin θ)
    (hr : 0 ≤ r) (hD : 0 < D) : insideXY D x y = true ↔ 2 * r < (D : ℝ) := by
  unfold insideXY
  have e : ((4 * (x * x + y * y) : Rat) : ℝ) = (2 * r) * (2 * r) := by
    push_cast; rw [hx, hy]
    linear_combination (4 * r * r) * Real.cos_sq_add_sin_sq θ
  rw [decide_eq_true_iff, ← Rat.cast_lt (K := ℝ), e, Rat.cast_mul]
  exact (mul_self_lt_mul_self_iff (by positivity) (by exact_mod_cast hD.le)).symm

theorem inside_cartesian_eq_polar (D r c s : Rat) (hcs : c ^ 2 + s ^ 2 = 1) (hr : 0 ≤ r) (hD : 0 < D) :
    insideXY D (r * c) (r * s) = inside D r := by
  unfold insideXY inside
  rw [decide_eq_decide, show 4 * (r * c * (r * c) + r * s * (r * s)) = (2 * r) * (2 * r) by linear_combination (4 * r * r) * hcs]
  exact (mul_self_lt_mul_self_iff (by positivity) hD.le).symm

/-- `(c + i s)^k` has modulus one on the unit circle, and obeys the angle-addition law: the azimuthal factor
is `cos kθ`, `sin kθ` for `(c, s) = (cos θ, sin θ)` -/
theorem azimuthal_unit (c s : Rat) (hcs : c ^ 2 + s ^ 2 = 1) (k : Nat) :
    (cisPow c s k).1 ^ 2 + (cisPow c s k).2 ^ 2 = 1 := by
  rw [cisPow_normSq, hcs, one_pow]

theorem azimuthal_angle_addition (c s : Rat) (j k : Nat) : cisPow c s (j + k) =
    ((cisPow c s j).1 * (cisPow c s k).1 - (cisPow c s j).2 * (cisPow c s k).2,
     (cisPow c s j).1 * (cisPow c s k).2 + (cisPow c s j).2 * (cisPow c s k).1) := by
  induction k with
  | zero => simp [cisPow]
  | succ k ih =>
    rw [← Nat.add_assoc]
    simp only [cisPow, ih, Prod.mk.injEq]
    constructor <;> ring

/-- **The azimuthal clause for every real direction.** `azimQ` is scalar-polymorphic; the driver executes it at
`Rat`. The *same definition* instantiated at `ℝ` is, for every real `θ` and every integer `m`, the code's
`zernike_azimuthal(m, θ)` without its `√2`: `cos(mθ)` (`m > 0`), `sin(|m|θ) = sin(-mθ)` (`m < 0`), `1` (`m = 0`). -/
theorem azimuthal_all_real (m : Int) (θ : ℝ) :
    azimQ m (Real.cos θ) (Real.sin θ) = if m = 0 then 1 else if 0 < m then Real.cos (m * θ) else Real.sin (-m * θ) := by
  have e : ((m.natAbs : ℕ) : ℝ) = |(m : ℝ)| := by rw [Nat.cast_natAbs, Int.cast_abs]
  unfold azimQ
  rw [cisPow_cos_sin, e]
  split
  · rfl
  · split
    next h => rw [abs_of_pos (by exact_mod_cast h)]
    next h => rw [abs_of_nonpos (by exact_mod_cast not_lt.mp h)]

/-- De Moivre for the executable `cisPow`, every real `θ`, every power -/
theorem cisPow_all_real (θ : ℝ) (k : Nat) :
    cisPow (Real.cos θ) (Real.sin θ) k = (Real.cos (k * θ), Real.sin (k * θ)) := cisPow_cos_sin θ k

/-- over `ℝ`: for a direction `θ` with rational cosine and sine the model's azimuthal factor is
`cos(mθ)` (`m > 0`), `sin(|m|θ)` (`m < 0`), `1` (`m = 0`) -/
theorem azimuthal_is_cos_sin (m : Int) (c s : Rat) (θ : ℝ) (hc : (c : ℝ) = Real.cos θ) (hs : (s : ℝ) = Real.sin θ) :
    ((azimQ m c s : Rat) : ℝ) = if m = 0 then 1 else if 0 < m then Real.cos (m * θ) else Real.sin (-m * θ) := by
  rw [azimuthal_rat_restricts_real, hc, hs, azimuthal_all_real]

/-- **The value clause of C13.** For every valid `(n, m)` (every order), every rational radius `r`
(the centre included), every diameter and every direction `θ` with rational cosine and sine, the value the
repaired code computes is `√(n+1)·√2^{[m≠0]}` (`normSq`, kept symbolic) times
`R_n^{|m|}(2r/D) · {cos mθ, sin |m|θ, 1}` with `R` given by the factorial formula. -/
theorem mode_matches_definition (n : Nat) (m : Int) (hv : valid n m = true) (D r c s : Rat) (θ : ℝ)
    (hc : (c : ℝ) = Real.cos θ) (hs : (s : ℝ) = Real.sin θ) :
    ((modeQ n m D r c s : Rat) : ℝ) =
      (∑ k ∈ range ((n - m.natAbs) / 2 + 1),
        ((-1) ^ k * ((n - k).factorial : ℝ) /
          ((k.factorial : ℝ) * (((n + m.natAbs) / 2 - k).factorial : ℝ) * (((n - m.natAbs) / 2 - k).factorial : ℝ))) *
            ((2 * r / D : Rat) : ℝ) ^ (n - 2 * k)) *
      (if m = 0 then 1 else if 0 < m then Real.cos (m * θ) else Real.sin (-m * θ)) := by
  obtain ⟨hv1, hv2⟩ := valid_iff.mp hv
  unfold modeQ
  -- the sum is `radialR` at the cast point
  rw [Rat.cast_mul, azimuthal_is_cos_sin m c s θ hc hs, ← peval_radialPoly, ← pevalR_at_rational,
    pevalR_radialPoly_eq_radialR n _ hv1 hv2]
  rfl

/-! ## The optional cache -/

/-- Whatever list of requests (any modes, any order, repeated, with and without cut-off) is evaluated
against one initially empty cache, every result is the plain uncached value. -/
theorem cache_irrelevant (D r cs sn : Rat) (reqs : List Req) :
    runMemo D r cs sn reqs [] = reqs.map fun q => modeQCut q.n q.m D r cs sn q.cutoff :=
  runMemo_spec D r cs sn reqs [] (cacheValid_nil _ _ _)

/-- the answers to `reqs` do not depend on what was requested before -/
theorem cache_irrelevant_after_any_history (D r cs sn : Rat) (before reqs : List Req) :
    runMemo D r cs sn (before ++ reqs) [] = runMemo D r cs sn before [] ++ runMemo D r cs sn reqs [] := by
  rw [cache_irrelevant, cache_irrelevant, cache_irrelevant, List.map_append]

/-- re-ordering the requests re-orders the answers and changes nothing else -/
theorem cache_irrelevant_order (D r cs sn : Rat) (reqs reqs' : List Req) (h : reqs.Perm reqs') :
    (runMemo D r cs sn reqs []).Perm (runMemo D r cs sn reqs' []) := by
  rw [cache_irrelevant, cache_irrelevant]; exact h.map _

/-- The unrepaired separated-polar branch masks the cached radial array in place (defect D10): after
`zernike(3, 1, cutoff=True)` the request `zernike(3, 1, cutoff=False)` returns 0 outside the aperture
instead of `20·√8`. -/
theorem Old.cache_counterexample :
    runMemoSeparatedOld 1 1 1 0 [⟨3, 1, true⟩, ⟨3, 1, false⟩] [] = [0, 0] ∧
    runMemo 1 1 1 0 [⟨3, 1, true⟩, ⟨3, 1, false⟩] [] = [0, 20] := by decide +kernel

/-! ## The optional cache at array level: references, in-place operations (`Model/ZernikeArr.lean`)

The per-point model above cannot express an in-place operation on an array that *is* a cache entry.  In the
array-level model a cache slot holds a reference into a heap of arrays, `z_r *= mask` is a heap write, and the
unrepaired separated-polar branch (`old = true`) is a program of the same language whose counterexample is
`Old.acache_counterexample`.  The theorems below are about `old = false` (the code as it is in /repo); the driver op
`C13 amemo` runs `runA` and the harness compares results, the keys added per request, which slots hold floats,
every stored array, and that no stored array ever changes, with the real `zernike(…, cache=…)` state by state. -/

/-- **Cache clause, array level.** On a separated polar grid (any axes) or an unstructured grid (one direction per
radius), whatever list of requests is evaluated against one initially empty cache, every returned array is the
plain uncached array in the code's layout. -/
theorem acache_irrelevant (D : Rat) (g : AGrid) (hg : g.WF) (reqs : List Req) :
    resultsA false D g reqs = reqs.map (plainA D g) :=
  (runA_spec D g hg reqs {} (AValid.empty _ _)).1

/-- **No cache entry is ever spoiled.** After every request of every history, every cache slot — a float or a
reference shared with whoever else holds it — still reads as exactly the array a fresh evaluation would store under
that key (`plainArr`: `R_n^m(ρ)`, `S_n^m(ρ²)`, `cos mθ`/`sin|m|θ` on the axis the key lives on), and every stored
reference is live. This is the invariant that the in-place masking of D10 breaks. -/
theorem acache_entries_stay_fresh (D : Rat) (g : AGrid) (hg : g.WF) (reqs : List Req) :
    ∀ r ∈ runA false D g reqs {}, ∀ k v, r.2.getC k = some v →
      WfVal r.2.heap v ∧ r.2.heap.read (klen (g.rho D) g.dirs k) v = plainArr (g.rho D) g.dirs k :=
  fun r hr => (runA_spec D g hg reqs {} (AValid.empty _ _)).2 r hr

/-- the answers do not depend on what was requested before, array level -/
theorem acache_irrelevant_after_any_history (D : Rat) (g : AGrid) (hg : g.WF) (before reqs : List Req) :
    resultsA false D g (before ++ reqs) = resultsA false D g before ++ resultsA false D g reqs := by
  rw [acache_irrelevant D g hg, acache_irrelevant D g hg, acache_irrelevant D g hg, List.map_append]

/-- re-ordering the requests re-orders the returned arrays and changes nothing else -/
theorem acache_irrelevant_order (D : Rat) (g : AGrid) (hg : g.WF) (reqs reqs' : List Req) (h : reqs.Perm reqs') :
    (resultsA false D g reqs).Perm (resultsA false D g reqs') := by
  rw [acache_irrelevant D g hg, acache_irrelevant D g hg]; exact h.map _

/-- **Separated-polar layout** (`np.outer(z_theta, z_r).flatten()`, `R` fastest): for any request history against one
cache, the `j`-th returned Field has at flat index `iθ·nr + ir` the value of the mode at `(R[ir], Θ[iθ])`. -/
theorem separated_layout (D : Rat) (R : Arr) (dirs : List (Rat × Rat)) (reqs : List Req) (j iθ ir : Nat)
    (hj : j < reqs.length) (hθ : iθ < dirs.length) (hr : ir < R.length) :
    (resultsA false D (.sep R dirs) reqs)[j]?.bind (·[iθ * R.length + ir]?) =
      some (modeQCut reqs[j].n reqs[j].m D R[ir] dirs[iθ].1 dirs[iθ].2 reqs[j].cutoff) := by
  rw [acache_irrelevant D (.sep R dirs) trivial, List.getElem?_map, List.getElem?_eq_getElem hj]
  exact ListFacts.flatMap_map_getElem? _ dirs R hθ hr

/-- … and it has `nθ·nr` entries (also for `m = 0`, where the azimuthal factor is the scalar `1`: D10b) -/
theorem separated_length (D : Rat) (R : Arr) (dirs : List (Rat × Rat)) (reqs : List Req) :
    ∀ z ∈ resultsA false D (.sep R dirs) reqs, z.length = dirs.length * R.length := by
  rw [acache_irrelevant D (.sep R dirs) trivial, List.forall_mem_map]
  intro q _
  simp only [plainA, List.length_flatMap, List.length_map, List.map_const', List.sum_replicate, smul_eq_mul]

/-- unstructured layout: point `i` of the Field is the mode at point `i` -/
theorem unstructured_layout (D : Rat) (rs : Arr) (dirs : List (Rat × Rat)) (hl : rs.length = dirs.length) (reqs : List Req)
    (j i : Nat) (hj : j < reqs.length) (hi : i < rs.length) :
    (resultsA false D (.pts rs dirs) reqs)[j]?.bind (·[i]?) =
      some (modeQCut reqs[j].n reqs[j].m D rs[i] (dirs[i]'(hl ▸ hi)).1 (dirs[i]'(hl ▸ hi)).2 reqs[j].cutoff) := by
  rw [acache_irrelevant D (.pts rs dirs) hl]
  simp [List.getElem?_map, List.getElem?_eq_getElem hj, plainA, hi, hl ▸ hi]

/-- The unrepaired separated-polar branch `z_r *= mask` (defect D10) in the same language: the write goes through the
reference that the cache also holds, so after `zernike(3, 1, cutoff=True)` the request `zernike(3, 1, cutoff=False)`
returns 0 outside the aperture instead of `20` (`·√8`) — while the repaired program returns the plain value. -/
theorem Old.acache_counterexample :
    resultsA true 1 (.sep [1] [(1, 0)]) [⟨3, 1, true⟩, ⟨3, 1, false⟩] = [[0], [0]] ∧
    resultsA false 1 (.sep [1] [(1, 0)]) [⟨3, 1, true⟩, ⟨3, 1, false⟩] = [[0], [20]] := by decide +kernel

/-- and the cached radial array itself is spoiled (the invariant of `acache_entries_stay_fresh` fails for `old`) -/
theorem Old.acache_entry_spoiled :
    ((runA true 1 (.sep [1] [(1, 0)]) [⟨3, 1, true⟩] {}).map fun r => (r.2.getC (.rad 3 1)).map (r.2.heap.read 1)) = [some [0]] ∧
    plainArr [2] [(1, 0)] (.rad 3 1) = [20] := by decide +kernel

section Integrals
open Real

/-! ## Orthonormality over the unit disc as integrals -/

/-- Coefficient integration is the interval integral: for every coefficient list `p` (rational
coefficients, evaluated at real points) `∫₀¹ p(x) dx = pint01 p`. -/
theorem pint01_is_integral (p : Poly) : ∫ x in (0:ℝ)..1, pevalR p x = (pint01 p : ℝ) := integral_pevalR p

/-- the same with the area weight `r`: `∫₀¹ p(r) r dr = pint01 (r·p)` -/
theorem pint01_is_weighted_integral (p : Poly) :
    ∫ r in (0:ℝ)..1, pevalR p r * r = (pint01 (pshift 1 p) : ℝ) := by
  rw [← integral_pevalR]
  congr 1; funext r
  rw [pevalR_pshift]; ring

/-- for every order the polynomial computed by the recursion is, as a real function of a **real** argument, the factorial
definition (the two coefficient lists are equal: `radial_poly_eq_def`) -/
theorem radial_real_matches_definition (n m : Nat) (hm : m ≤ n) (hpar : (n - m) % 2 = 0) (x : ℝ) :
    pevalR (radialPoly n m) x = radialR n m x := pevalR_radialPoly_eq_radialR n m hm hpar x

/-! ### azimuthal orthogonality on `[0, 2π]` (every integer order) -/

/-- the executed `cisPow` at `(cos θ, sin θ)` (what `azimQ` reads for `m > 0`): its real parts are orthogonal on `[0, 2π]`,
squared norm `π` — every pair of positive orders (the mathematics is `integral_cos_mul_cos_phase` in `Lemmas/ZernikeIntegral.lean`) -/
theorem azimuthal_cos_cos (a b : ℕ) (ha : 0 < a) (hb : 0 < b) :
    ∫ θ in (0:ℝ)..(2 * π), (cisPow (cos θ) (sin θ) a).1 * (cisPow (cos θ) (sin θ) b).1 = if a = b then π else 0 := by
  have h := integral_cos_mul_cos_phase a b 0 0
  simp only [add_zero, sub_self, cos_zero, mul_one, Int.cast_natCast, if_neg (show ¬ ((a : ℤ) + b = 0) by omega),
    sub_eq_zero, Nat.cast_inj] at h
  simp_rw [cisPow_cos_sin, h]
  split <;> ring

/-- … its imaginary parts (what `azimQ` reads for `m < 0`) likewise -/
theorem azimuthal_sin_sin (a b : ℕ) (ha : 0 < a) (hb : 0 < b) :
    ∫ θ in (0:ℝ)..(2 * π), (cisPow (cos θ) (sin θ) a).2 * (cisPow (cos θ) (sin θ) b).2 = if a = b then π else 0 := by
  have h := integral_cos_mul_cos_phase a b (-(π / 2)) (-(π / 2))
  simp only [← sub_eq_add_neg, cos_sub_pi_div_two, sub_self, cos_zero, mul_one, Int.cast_natCast,
    if_neg (show ¬ ((a : ℤ) + b = 0) by omega), sub_eq_zero, Nat.cast_inj] at h
  simp_rw [cisPow_cos_sin, h]
  split <;> ring

/-- … and a real part is orthogonal to every imaginary part (cosine modes vs sine modes), all orders -/
theorem azimuthal_cos_sin (a b : ℕ) :
    ∫ θ in (0:ℝ)..(2 * π), (cisPow (cos θ) (sin θ) a).1 * (cisPow (cos θ) (sin θ) b).2 = 0 := by
  have h := integral_cos_mul_cos_phase a b 0 (-(π / 2))
  simp only [← sub_eq_add_neg, cos_sub_pi_div_two, add_zero, zero_sub, neg_neg, cos_pi_div_two, cos_neg, mul_zero,
    ite_self, zero_div, Int.cast_natCast] at h
  simp_rw [cisPow_cos_sin, h]

/-- `zernike_azimuthal(m, θ)` (`azimR`, with its `√2`) is `√2^{[m≠0]}` times the executable `azimQ` at
`(cos θ, sin θ)` — for **every real** `θ` (no rationality hypothesis) -/
theorem azimR_eq_model_all_real (m : ℤ) (θ : ℝ) :
    azimR m θ = (if m = 0 then 1 else √2) * azimQ m (cos θ) (sin θ) := by
  rw [azimuthal_all_real m θ]
  unfold azimR
  split
  · simp
  · split
    · rfl
    · push_cast; rfl

/-- the real azimuthal factor is the one of the executable model (times `√2` for `m ≠ 0`) -/
theorem azimR_eq_model (m : ℤ) (c s : Rat) (θ : ℝ) (hc : (c : ℝ) = cos θ) (hs : (s : ℝ) = sin θ) :
    azimR m θ = (if m = 0 then 1 else √2) * ((azimQ m c s : Rat) : ℝ) := by
  rw [azimR_eq_model_all_real, azimuthal_rat_restricts_real, hc, hs]

/-- **The value clause for every real point.** For valid `(n, m)` of every order, every real normalised radius `x = 2r/D`
and every real azimuth `θ`, the definition `zernikeR` (`√(n+1)` · factorial-formula radial polynomial · `√2 cos mθ` /
`√2 sin|m|θ` / `1`) is `√(n+1)·√2^{[m≠0]}` times [the radial polynomial the recursion produces (`radialPoly`, whose
evaluation at rational points is `radialEval`, what the driver runs: `radial_poly_eval`, `pevalR_at_rational`), evaluated
at `x`] times [the executable `azimQ` instantiated at `ℝ`]. -/
theorem zernikeR_eq_model_all_real (n : Nat) (m : ℤ) (hv : valid n m = true) (x θ : ℝ) :
    zernikeR n m x θ = √((n : ℝ) + 1) * (if m = 0 then 1 else √2) *
      (pevalR (radialPoly n m.natAbs) x * azimQ m (cos θ) (sin θ)) := by
  obtain ⟨hv1, hv2⟩ := valid_iff.mp hv
  unfold zernikeR
  rw [azimR_eq_model_all_real m θ, ← radial_real_matches_definition n m.natAbs hv1 hv2]
  ring

/-- the real mode `zernikeR` is what the executable model computes: `√(n+1)·√2^{[m≠0]}·modeQ` -/
theorem zernikeR_eq_model (n : Nat) (m : ℤ) (hv : valid n m = true) (D r c s : Rat) (θ : ℝ)
    (hc : (c : ℝ) = cos θ) (hs : (s : ℝ) = sin θ) :
    zernikeR n m ((2 * r / D : Rat) : ℝ) θ = √((n : ℝ) + 1) * (if m = 0 then 1 else √2) * ((modeQ n m D r c s : Rat) : ℝ) := by
  unfold modeQ
  rw [zernikeR_eq_model_all_real n m hv, pevalR_at_rational, peval_radialPoly, Rat.cast_mul,
    azimuthal_rat_restricts_real, hc, hs]

set_option linter.unusedVariables false in
/-- **Orthonormality over the unit disc** (polar coordinates, area element `r dθ dr`): for all valid
`(n, m)`, `(n', m')` with `n, n' ≤ 20`,
`∫₀¹ ∫₀^{2π} Z_n^m(r, θ) Z_{n'}^{m'}(r, θ) r dθ dr = π δ_{nn'} δ_{mm'}` (it holds for every order: `zernikeR_orthonormal`). -/
theorem zernike_orthonormal_disc (n n' : Nat) (m m' : ℤ) (hn : n ≤ 20) (hn' : n' ≤ 20)
    (hv : valid n m = true) (hv' : valid n' m' = true) :
    ∫ r in (0:ℝ)..1, ∫ θ in (0:ℝ)..(2 * π), zernikeR n m r θ * zernikeR n' m' r θ * r
      = if n = n' ∧ m = m' then π else 0 :=
  zernikeR_orthonormal n n' m m' hv hv'

set_option linter.unusedVariables false in
/-- the same for the first 231 modes in Noll numbering: `⟨Z_j, Z_k⟩ = π δ_{jk}` for `1 ≤ j, k ≤ 231` -/
theorem zernike_orthonormal_noll (j k : Nat) (hj : 1 ≤ j) (hk : 1 ≤ k) (hj' : j ≤ 231) (hk' : k ≤ 231) :
    ∫ r in (0:ℝ)..1, ∫ θ in (0:ℝ)..(2 * π),
        zernikeR (nollToZernike j).1 (nollToZernike j).2 r θ * zernikeR (nollToZernike k).1 (nollToZernike k).2 r θ * r
      = if j = k then π else 0 := by
  rw [zernikeR_orthonormal _ _ _ _ (noll_valid j hj) (noll_valid k hk)]
  exact if_congr ⟨fun h => noll_injective j k hj hk (Prod.ext h.1 h.2), fun h => h ▸ ⟨rfl, rfl⟩⟩ rfl rfl

/-! ### the same three statements about what the driver executes

`radialPoly` (coefficient list of the q-recursion: driver op `C13 poly`, compared with the real recursion run on a symbolic
argument) and `azimQ` (driver op `C13 mode`) are the executed definitions; `pevalR` reads a coefficient list at a real
argument. No specification function (`radialR`, `azimR`, `zernikeR`) occurs in these statements. -/

/-- azimuthal factors of the executable model, `√2^{[m≠0]} · azimQ m (cos θ) (sin θ)`: orthogonal on `[0, 2π]`, squared norm `2π` -/
theorem azimuthal_orthonormal_model (m m' : ℤ) :
    ∫ θ in (0:ℝ)..(2 * π), ((if m = 0 then 1 else √2) * azimQ m (cos θ) (sin θ)) *
        ((if m' = 0 then 1 else √2) * azimQ m' (cos θ) (sin θ)) = if m = m' then 2 * π else 0 := by
  simp_rw [← azimR_eq_model_all_real]
  exact integral_azimR_mul m m'

set_option linter.unusedVariables false in
/-- `∫₀¹ R_n^m(r) R_{n'}^m(r) r dr = δ_{nn'} / (2(n+1))` for the polynomials the recursion produces, `n, n' ≤ 20` (it holds for
every order: `integral_radialR_mul`) -/
theorem radial_orthonormal_integral_model (n n' m : Nat) (hn : n ≤ 20) (hn' : n' ≤ 20) (hm : m ≤ n) (hm' : m ≤ n')
    (hpar : (n - m) % 2 = 0) (hpar' : (n' - m) % 2 = 0) :
    ∫ r in (0:ℝ)..1, pevalR (radialPoly n m) r * pevalR (radialPoly n' m) r * r =
      if n = n' then 1 / (2 * ((n : ℝ) + 1)) else 0 := by
  simp_rw [radial_real_matches_definition n m hm hpar, radial_real_matches_definition n' m hm' hpar']
  exact integral_radialR_mul n n' m hm hm' hpar hpar'

/-- **Orthonormality over the unit disc of the modes as the model computes them**: normalisation × recursion polynomial ×
`azimQ`, for all valid `(n, m)`, `(n', m')` with `n, n' ≤ 20` -/
theorem zernike_orthonormal_disc_model (n n' : Nat) (m m' : ℤ) (hn : n ≤ 20) (hn' : n' ≤ 20)
    (hv : valid n m = true) (hv' : valid n' m' = true) :
    ∫ r in (0:ℝ)..1, ∫ θ in (0:ℝ)..(2 * π),
        (√((n : ℝ) + 1) * (if m = 0 then 1 else √2) * (pevalR (radialPoly n m.natAbs) r * azimQ m (cos θ) (sin θ))) *
        (√((n' : ℝ) + 1) * (if m' = 0 then 1 else √2) * (pevalR (radialPoly n' m'.natAbs) r * azimQ m' (cos θ) (sin θ))) * r
      = if n = n' ∧ m = m' then π else 0 := by
  simp_rw [← zernikeR_eq_model_all_real n m hv, ← zernikeR_eq_model_all_real n' m' hv']
  exact zernike_orthonormal_disc n n' m m' hn hn' hv hv'

end Integrals

/-! ## `make_zernike_basis`: element `j` is mode `starting_mode + j` -/

/-- the `j`-th mode (or Field generator) of the basis is the mode of index `starting_mode + j` -/
theorem basis_mode_index (ansi : Bool) (start num j : Nat) (hj : j < num) :
    (basisModes ansi start num)[j]? =
      some (if ansi then ansiToZernike (start + j) else nollToZernike (start + j)) := by
  unfold basisModes
  simp [hj]

theorem basis_length (ansi : Bool) (start num : Nat) : (basisModes ansi start num).length = num := by
  simp [basisModes]

/-- the modes of a basis are pairwise different (Noll numbering starts at 1) -/
theorem basis_modes_distinct (ansi : Bool) (start num : Nat) (hs : ansi = false → 1 ≤ start) :
    (basisModes ansi start num).Nodup := by
  unfold basisModes
  refine (List.nodup_range).map_on ?_
  intro a _ b _ h
  cases ansi with
  | true => simp only [if_true] at h; have := ansi_injective _ _ h; omega
  | false =>
    have h1 := hs rfl
    simp only [Bool.false_eq_true, if_false] at h
    have := noll_injective _ _ (by omega) (by omega) h
    omega

/-- **Columns of `make_zernike_basis(num, D, grid, starting_mode, ansi, radial_cutoff, use_cache)`**: on a separated polar or
unstructured grid, with the shared cache or without, column `j` is the plain mode of index `starting_mode + j` in the
code's layout (`basisA` runs the list comprehension of the code on the array-level cache model). -/
theorem basis_columns (ansi : Bool) (start num : Nat) (D : Rat) (g : AGrid) (hg : g.WF) (cutoff useCache : Bool) :
    basisA ansi start num D g cutoff useCache =
      (basisModes ansi start num).map fun nm => plainA D g ⟨nm.1, nm.2, cutoff⟩ := by
  unfold basisA basisReqs
  cases useCache
  · simp only [Bool.false_eq_true, if_false, List.map_map]
    apply List.map_congr_left
    intro nm _
    exact (modeA_spec D g hg _ {} (AValid.empty _ _)).1
  · simp only [if_true]
    rw [acache_irrelevant D g hg, List.map_map]
    rfl

/-- `use_cache` does not change the basis -/
theorem basis_cache_irrelevant (ansi : Bool) (start num : Nat) (D : Rat) (g : AGrid) (hg : g.WF) (cutoff : Bool) :
    basisA ansi start num D g cutoff true = basisA ansi start num D g cutoff false := by
  rw [basis_columns ansi start num D g hg, basis_columns ansi start num D g hg]

/-- column `j` by index -/
theorem basis_column_index (ansi : Bool) (start num : Nat) (D : Rat) (g : AGrid) (hg : g.WF) (cutoff useCache : Bool)
    (j : Nat) (hj : j < num) :
    (basisA ansi start num D g cutoff useCache)[j]? =
      some (plainA D g ⟨(if ansi then ansiToZernike (start + j) else nollToZernike (start + j)).1,
        (if ansi then ansiToZernike (start + j) else nollToZernike (start + j)).2, cutoff⟩) := by
  rw [basis_columns ansi start num D g hg, List.getElem?_map, basis_mode_index ansi start num j hj]
  rfl

section BasisIntegrals
open Real

set_option linter.unusedVariables false in
/-- the first 231 modes in ANSI numbering (indices `0 … 230`, radial orders `≤ 20`): `⟨Z_j, Z_k⟩ = π δ_{jk}`, stated on the
executed index map -/
theorem zernike_orthonormal_ansi (j k : Nat) (hj : j ≤ 230) (hk : k ≤ 230) :
    ∫ r in (0:ℝ)..1, ∫ θ in (0:ℝ)..(2 * π),
        zernikeR (ansiToZernike j).1 (ansiToZernike j).2 r θ * zernikeR (ansiToZernike k).1 (ansiToZernike k).2 r θ * r
      = if j = k then π else 0 := by
  rw [zernikeR_orthonormal _ _ _ _ (ansi_valid j) (ansi_valid k)]
  exact if_congr ⟨fun h => ansi_injective j k (Prod.ext h.1 h.2), fun h => h ▸ ⟨rfl, rfl⟩⟩ rfl rfl

/-- **`make_zernike_basis` is an orthonormal family** (both numberings, any `starting_mode`, any number of modes inside the
table of the property: Noll indices `1 … 231`, ANSI indices `0 … 230`): elements `j` and `k` of the executed mode list
`basisModes` — as the model computes them, normalisation `√(n+1)·√2^{[m≠0]}` × recursion polynomial × `azimQ` — have inner
product `π δ_{jk}` over the unit disc (area `π`: unit mean square, zero mean product).  The proof does not use the bound `hb`:
valid and pairwise different modes (`basis_modes_distinct`) are orthonormal for every order (`zernikeR_orthonormal`). -/
theorem basis_orthonormal (ansi : Bool) (start num j k : Nat) (hs : ansi = false → 1 ≤ start)
    (hb : start + num ≤ (if ansi then 231 else 232)) (hj : j < num) (hk : k < num) (a b : Nat × Int)
    (ha : (basisModes ansi start num)[j]? = some a) (hb' : (basisModes ansi start num)[k]? = some b) :
    ∫ r in (0:ℝ)..1, ∫ θ in (0:ℝ)..(2 * π),
        (√((a.1 : ℝ) + 1) * (if a.2 = 0 then 1 else √2) * (pevalR (radialPoly a.1 a.2.natAbs) r * azimQ a.2 (cos θ) (sin θ))) *
        (√((b.1 : ℝ) + 1) * (if b.2 = 0 then 1 else √2) * (pevalR (radialPoly b.1 b.2.natAbs) r * azimQ b.2 (cos θ) (sin θ))) * r
      = if j = k then π else 0 := by
  have hval : ∀ i c, i < num → (basisModes ansi start num)[i]? = some c → valid c.1 c.2 = true := by
    intro i c hi hc
    rw [basis_mode_index ansi start num i hi, Option.some.injEq] at hc
    subst hc
    cases ansi
    · exact noll_valid _ (by have := hs rfl; omega)
    · exact ansi_valid _
  simp_rw [← zernikeR_eq_model_all_real _ _ (hval j a hj ha), ← zernikeR_eq_model_all_real _ _ (hval k b hk hb')]
  rw [zernikeR_orthonormal _ _ _ _ (hval j a hj ha) (hval k b hk hb')]
  have e := List.getElem?_inj (i := j) (j := k) (by rwa [basis_length]) (basis_modes_distinct ansi start num hs)
  rw [ha, hb', Option.some.injEq, Prod.ext_iff] at e
  exact if_congr e rfl rfl

end BasisIntegrals

/-- **Field generators can be evaluated on any grids in any order** (`grid=None` forms; the code builds them without a
cache): whatever sequence of calls `gens[j](grid_k)` on whatever well-formed grids, every call returns the plain mode on the
grid it was handed. -/
theorem generators_any_grid (D : Rat) : ∀ (calls : List (AGrid × Req)) (st : AState), (∀ c ∈ calls, c.1.WF) →
    runGensA false D calls st = calls.map fun c => plainA D c.1 c.2
  | [], _, _ => rfl
  | (g, q) :: rest, st, h => by
    simp only [runGensA, List.map_cons, Bool.false_eq_true, if_false]
    congr 1
    · exact (modeA_spec D g (h _ List.mem_cons_self) q {} (AValid.empty _ _)).1
    · exact generators_any_grid D rest _ (fun c hc => h c (List.mem_cons_of_mem _ hc))

/-- generators sharing one cache are still right as long as they are all called on the same grid … -/
theorem generators_shared_same_grid (D : Rat) (g : AGrid) (hg : g.WF) (reqs : List Req) :
    runGensA true D (reqs.map fun q => (g, q)) {} = reqs.map (plainA D g) := by
  rw [← acache_irrelevant D g hg]
  unfold resultsA
  generalize ({} : AState) = st
  induction reqs generalizing st with
  | nil => rfl
  | cons q qs ih => simp only [List.map_cons, runGensA, runA, if_true]; rw [ih]

/-- … but not on a second grid (defect D130, `make_zernike_basis(num, D, grid=None)` with the default `use_cache=True` handed
one dictionary to all generators): the second grid silently gets the values of the first. -/
theorem Old.generators_shared_cache_counterexample :
    runGensA true 1 [(.pts [1/4] [(1, 0)], ⟨1, 1, false⟩), (.pts [1/2] [(1, 0)], ⟨1, 1, false⟩)] {} = [[1/2], [1/2]] ∧
    runGensA false 1 [(.pts [1/4] [(1, 0)], ⟨1, 1, false⟩), (.pts [1/2] [(1, 0)], ⟨1, 1, false⟩)] {} = [[1/2], [1]] := by
  decide +kernel

/-- closures that bind the loop variable late all evaluate the last index (seeded defect class):
already for two modes the first generator is wrong -/
theorem Old.basis_late_binding_counterexample :
    basisModesLateBinding false 1 2 = [(1, 1), (1, 1)] ∧ basisModes false 1 2 = [(0, 0), (1, 1)] := by
  decide +kernel

/-! ## Scale invariance and the grid as an object with a history

The property is `Z(r/D)`: a common factor of the coordinates and of `D` (any unit of length: 2^-520 … 2^520 in the harness) changes
nothing — stated on the executed definitions `modeQ / modeQCut / modeQXY / modeQXYCut / modesXY / modesPolar` (`C13 mode`).  After the
in-place grid operations (`C13 gop`, `GOp.xy`) the modes are the modes at the *current* points. -/

/-- polar points: `zernike(n, m, k D)` at radius `k r` is `zernike(n, m, D)` at radius `r` (any `k ≠ 0`, any `D`) -/
theorem mode_scale_invariant (n : Nat) (m : Int) (D r c s k : Rat) (hk : k ≠ 0) :
    modeQ n m (k * D) (k * r) c s = modeQ n m D r c s := by
  unfold modeQ
  rw [norm_coord_scale r D k hk]

/-- the aperture mask `(2 r) < D` is invariant under a positive common factor -/
theorem inside_scale_invariant (D r k : Rat) (hk : 0 < k) : inside (k * D) (k * r) = inside D r := by
  unfold inside
  rw [show 2 * (k * r) = k * (2 * r) by ring]
  exact decide_eq_decide.mpr (mul_lt_mul_iff_of_pos_left hk)

/-- … hence the mode with the cut-off too -/
theorem mode_cut_scale_invariant (n : Nat) (m : Int) (D r c s k : Rat) (hk : 0 < k) (cutoff : Bool) :
    modeQCut n m (k * D) (k * r) c s cutoff = modeQCut n m D r c s cutoff := by
  unfold modeQCut
  rw [inside_scale_invariant D r k hk, mode_scale_invariant n m D r c s k hk.ne']

/-- Cartesian points: the exact rim decision is invariant under any common factor `k ≠ 0` (it only sees squares) … -/
theorem inside_cartesian_scale_invariant (D x y k : Rat) (hk : k ≠ 0) : insideXY (k * D) (k * x) (k * y) = insideXY D x y := by
  unfold insideXY
  rw [show 4 * (k * x * (k * x) + k * y * (k * y)) = (k * k) * (4 * (x * x + y * y)) by ring,
    show k * D * (k * D) = (k * k) * (D * D) by ring]
  exact decide_eq_decide.mpr (mul_lt_mul_iff_of_pos_left (mul_self_pos.mpr hk))

/-- … and so is the mode value, with or without the cut-off -/
theorem mode_cartesian_scale_invariant (n : Nat) (m : Int) (D x y k : Rat) (hk : k ≠ 0) (cutoff : Bool) :
    modeQXYCut n m (k * D) (k * x) (k * y) cutoff = modeQXYCut n m D x y cutoff := by
  unfold modeQXYCut modeQXY
  simp only [inside_cartesian_scale_invariant D x y k hk, norm_coord_scale x D k hk, norm_coord_scale y D k hk]

/-- a whole Cartesian grid scaled (`grid.scale(k)`, `GOp.scale k k`) together with `D` -/
theorem grid_scale_invariant (n : Nat) (m : Int) (D k : Rat) (hk : k ≠ 0) (cutoff : Bool) (p : List (Rat × Rat)) :
    modesXY n m (k * D) cutoff ((GOp.scale k k).xy p) = modesXY n m D cutoff p := by
  simp only [modesXY, GOp.xy, List.map_map]
  apply List.map_congr_left
  intro q _
  exact mode_cartesian_scale_invariant n m D q.1 q.2 k hk cutoff

/-- a whole polar grid scaled together with `D` (positive factor) -/
theorem grid_polar_scale_invariant (n : Nat) (m : Int) (D k : Rat) (hk : 0 < k) (cutoff : Bool) (p : List (Rat × Rat × Rat)) :
    ((GOp.scale k k).polar p).map (modesPolar n m (k * D) cutoff) = some (modesPolar n m D cutoff p) := by
  simp only [GOp.polar, if_true, Option.map_some, modesPolar, List.map_map]
  congr 1
  apply List.map_congr_left
  intro q _
  exact mode_cut_scale_invariant n m D q.1 q.2.1 q.2.2 k hk cutoff

/-- `grid.reverse()`: the values come in the reversed order — value `j` belongs to the *current* point `j` -/
theorem grid_reverse_values (n : Nat) (m : Int) (D : Rat) (cutoff : Bool) (p : List (Rat × Rat)) :
    modesXY n m D cutoff (GOp.reverse.xy p) = (modesXY n m D cutoff p).reverse := by
  simp only [modesXY, GOp.xy, List.map_reverse]

theorem grid_polar_reverse_values (n : Nat) (m : Int) (D : Rat) (cutoff : Bool) (p : List (Rat × Rat × Rat)) :
    (GOp.reverse.polar p).map (modesPolar n m D cutoff) = some (modesPolar n m D cutoff p).reverse := by
  simp only [GOp.polar, Option.map_some, modesPolar, List.map_reverse]

/-- no operation changes the number of points, after any history -/
theorem grid_history_length (ops : List GOp) (p : List (Rat × Rat)) : (runOpsXY ops p).length = p.length := by
  unfold runOpsXY
  induction ops generalizing p with
  | nil => rfl
  | cons o ops ih =>
    rw [List.foldl_cons, ih]
    cases o <;> simp [GOp.xy]

/-- after any history the field has one value per current point -/
theorem grid_history_modes_length (ops : List GOp) (n : Nat) (m : Int) (D : Rat) (cutoff : Bool) (p : List (Rat × Rat)) :
    (modesXY n m D cutoff (runOpsXY ops p)).length = p.length := by
  unfold modesXY
  rw [List.length_map, grid_history_length]

/-- a history is evaluated step by step: the modes after `ops ++ [o]` are the modes on `o` applied to the points after `ops`
(no state other than the current points enters) -/
theorem grid_history_step (ops : List GOp) (o : GOp) (p : List (Rat × Rat)) :
    runOpsXY (ops ++ [o]) p = o.xy (runOpsXY ops p) := by
  unfold runOpsXY
  rw [List.foldl_append]; rfl

/-- rotating the grid (`grid.rotate`, exact direction `(c, s)`, `c² + s² = 1`) leaves the rim decision … -/
theorem inside_rotation_invariant (D x y c s : Rat) (hcs : c * c + s * s = 1) :
    insideXY D (c * x - s * y) (s * x + c * y) = insideXY D x y := by
  unfold insideXY
  rw [rot_norm c s x y hcs]

/-- … and every rotationally symmetric mode (`m = 0`: piston, defocus, spherical, …) unchanged, point by point -/
theorem grid_rotation_m0 (n : Nat) (D c s : Rat) (hcs : c * c + s * s = 1) (cutoff : Bool) (p : List (Rat × Rat)) :
    modesXY n 0 D cutoff ((GOp.rotate c s).xy p) = modesXY n 0 D cutoff p := by
  simp only [modesXY, GOp.xy, List.map_map]
  apply List.map_congr_left
  intro q _
  simp only [Function.comp, modeQXYCut, modeQXY, inside_rotation_invariant D q.1 q.2 c s hcs, rot_norm_scaled c s q.1 q.2 D hcs, if_true]

example : ∃ k : Rat, 0 < k ∧ k ≠ 0 ∧ k * 3 = 3 / 2 ^ 52 := ⟨1 / 2 ^ 52, by positivity, by positivity, by ring⟩
example : ∃ c s : Rat, c * c + s * s = 1 ∧ c ≠ 1 := ⟨3 / 5, 4 / 5, by norm_num, by norm_num⟩

example : valid 4 (-2) = true := by decide
example : ∃ D x y : Rat, D ≠ 0 ∧ 4 * (x * x + y * y) = D * D ∧ x ≠ 0 ∧ y ≠ 0 := ⟨10, 3, 4, by norm_num, by norm_num, by norm_num, by norm_num⟩
example : (false = false → 1 ≤ 1) ∧ 1 + 231 ≤ (if false then 231 else 232) ∧ 0 + 231 ≤ (if true then 231 else 232) := by decide
example : (AGrid.pts [0, 1/2] [(1, 0), (3/5, 4/5)]).WF ∧ (AGrid.sep [0, 1/2, 1] [(1, 0)]).WF := ⟨rfl, trivial⟩
example : ∃ c s : Rat, c ^ 2 + s ^ 2 = 1 ∧ c ≠ 0 ∧ s ≠ 0 := ⟨3 / 5, 4 / 5, by norm_num, by norm_num, by norm_num⟩
example : (4 - 0) % 2 = 0 ∧ 0 ≤ 4 ∧ 4 ≤ 20 := by decide
example : valid 20 (-20) = true ∧ (nollToZernike 231).1 = 20 := by decide +kernel
example : ∃ (c s : Rat) (θ : ℝ), (c : ℝ) = Real.cos θ ∧ (s : ℝ) = Real.sin θ := ⟨1, 0, 0, by simp, by simp⟩
example : ∃ (x y : Rat) (r θ : ℝ), (x : ℝ) = r * Real.cos θ ∧ (y : ℝ) = r * Real.sin θ ∧ 0 ≤ r :=
  ⟨1 / 2, 0, 1 / 2, 0, by simp, by simp, by norm_num⟩

end HcipyVerif.C13
