import HcipyVerif.Lemmas.ModeBasis
import HcipyVerif.Lemmas.Lstsq
import HcipyVerif.Lemmas.GaussJordan
import Mathlib.Tactic.LinearCombination
import HcipyVerif.Lemmas.Mirror
import HcipyVerif.Lemmas.SliceSegment
import HcipyVerif.Lemmas.FormalPhase

/-!
# C14 — Mode bases behave identically in every storage form; mirrors track actuators

Model: `HcipyVerif.ModeBasis` (storage forms `dense` = list of rows, `sparse` = list of stored
CSC columns; constructors `fromDense / fromCSC / fromFields / fromSparseRows`; operations
`linComb`, `getItem`, `add`, `sparsify`, `densify`) and `HcipyVerif.Mirror` (heap of actuator
arrays with handles, heap of surface arrays with the handles the caller received,
value-compared private-copy surface cache, reads hand out copies).  The shared denotation is
`toDense : Basis K → List (List K)` together with `npix`, `nmodes`.

The basis theorems hold over every commutative semiring / additive monoid `K` (in particular
ℚ, ℝ, ℂ, and the Gaussian rationals the driver executes with); the least-squares theorem over an
ordered field (real case) and over ℂ; the mirror theorems over any scalar type with decidable
equality — no algebraic law is needed for them at all.

Hypotheses (satisfiability `example`s at the end): `WF b` — the shapes NumPy/SciPy guarantee
(row lengths, stored row indices below `npix`).
-/
set_option linter.unusedVariables false

namespace HcipyVerif.C14
open HcipyVerif.ModeBasis HcipyVerif.Mirror

section basis
variable {K : Type} [CommSemiring K]

/-- **All four constructors denote the same matrix.**  If a dense array, a CSC triple
(`cscEntry` = sum of the stored values of column `j` with row index `i`, duplicates and explicit
zeros allowed), a list of fields and a list of sparse row vectors all describe the same entries
`f i j` on the `npix × nmodes` box, the four resulting mode bases have one and the same dense
table, number of points and number of modes. -/
theorem forms_same_map (npix nmodes : Nat) (f : Nat → Nat → K)
    (rows : List (List K)) (hr : WF (fromDense npix nmodes rows))
    (hrf : ∀ i j, i < npix → j < nmodes → rowsEntry rows i j = f i j)
    (indptr indices : List Nat) (data : List K) (hlen : indices.length = data.length)
    (hptr : ∀ j, j < nmodes → indptr.getD j 0 ≤ indptr.getD (j + 1) 0 ∧ indptr.getD (j + 1) 0 ≤ data.length)
    (hcf : ∀ i j, i < npix → j < nmodes → cscEntry indptr indices data i j = f i j)
    (fields : List (List K)) (hfl : fields.length = nmodes)
    (hff : ∀ i j, i < npix → j < nmodes → (fields.getD j []).getD i 0 = f i j)
    (srows : List (SCol K)) (hsl : srows.length = nmodes)
    (hsf : ∀ i j, i < npix → j < nmodes → colEntry (srows.getD j []) i = f i j) :
    toDense (fromDense npix nmodes rows) = table npix nmodes f ∧
    toDense (fromCSC npix nmodes indptr indices data) = table npix nmodes f ∧
    toDense (fromFields npix fields) = table npix nmodes f ∧
    toDense (fromSparseRows npix srows) = table npix nmodes f ∧
    (fromFields npix fields).nmodes = nmodes ∧ (fromSparseRows npix srows).nmodes = nmodes := by
  have tab := fun (b : Basis K) => toDense_eq_table b npix nmodes f
  refine ⟨tab _ rfl rfl hrf, tab _ rfl rfl ?_, tab _ rfl hfl ?_, tab _ rfl hsl hsf, hfl, hsl⟩
  · intro i j hi hj
    rw [ent_fromCSC npix nmodes indptr indices data i j hj]
    exact hcf i j hi hj
  · intro i j hi hj
    rw [ent_fromFields npix fields i j hi (hfl ▸ hj)]
    exact hff i j hi hj

/-- **`linear_combination` is the matrix–vector product of the dense table, in every storage
form** (dense: row-wise dot products; sparse: per-column accumulation of the stored entries). -/
theorem lc_eq_matvec (b : Basis K) (hb : WF b) (c : List K) :
    linComb b c = matvec (toDense b) c := linComb_eq b hb c

/-- Hence bases that denote the same matrix have the same linear combinations. -/
theorem lc_storage_independent (a b : Basis K) (ha : WF a) (hb : WF b)
    (h : toDense a = toDense b) (c : List K) : linComb a c = linComb b c := by
  rw [lc_eq_matvec a ha, lc_eq_matvec b hb, h]

/-- **Single-mode access commutes with `toDense`**: an integer index (Python-normalised,
negative indices count from the end) returns column `j` of the dense table as a vector, or
`IndexError` — in either storage form. -/
theorem getitem_commutes (b : Basis K) (k : Int) :
    getItem b (.int k) = match normIndex b.nmodes k with
      | some j => .ok (.mode ((toDense b).map (·.getD j 0)))
      | none => .error .index := by
  rw [getItem_int]
  cases h : normIndex b.nmodes k with
  | none => rfl
  | some j => simp only; rw [column_eq b j (normIndex_lt _ _ _ h)]

/-- **Slicing / index lists / masks commute with `toDense`**: every index expression other
than a scalar returns a `ModeBasis` (never a bare mode, whatever the number of selected
columns) in the storage form of the source, whose dense table consists of the selected columns
of the source's dense table; errors of the index expression are passed through. -/
theorem slice_commutes (b : Basis K) (hb : WF b) (ix : Index) (hix : ∀ k, ix ≠ .int k) :
    (∀ idx, selIdx b.nmodes ix = .ok idx →
      ∃ r, getItem b ix = .ok (.basis r) ∧ WF r ∧ r.npix = b.npix ∧ r.nmodes = idx.length ∧
        r.isSparse = b.isSparse ∧ toDense r = pickCols (toDense b) idx) ∧
    (∀ e, selIdx b.nmodes ix = .error e → getItem b ix = .error e) := by
  rw [getItem_multi b ix hix]
  constructor
  · intro idx h
    rw [h]
    exact ⟨_, rfl, WF_selectCols b hb idx, selectCols_npix b idx, selectCols_nmodes b idx,
      selectCols_isSparse b idx, toDense_selectCols b hb idx⟩
  · intro e h; rw [h]

/-- **`__getitem__` does not depend on the storage form**: two well-formed bases denoting the
same matrix answer every index expression with the same kind of result (mode / basis / error)
and the same values. -/
theorem getitem_storage_independent (a b : Basis K) (ha : WF a) (hb : WF b) (h : Same a b)
    (ix : Index) : (getItem a ix).map Item.den = (getItem b ix).map Item.den := by
  obtain ⟨h1, h2, h3⟩ := h
  by_cases hix : ∃ k, ix = .int k
  · obtain ⟨k, rfl⟩ := hix
    rw [getitem_commutes, getitem_commutes, h2, h3]
  · have hix' : ∀ k, ix ≠ .int k := fun k hk => hix ⟨k, hk⟩
    rw [getItem_multi a ix hix', getItem_multi b ix hix', h2]
    cases selIdx b.nmodes ix with
    | error e => rfl
    | ok idx =>
      simp only [Except.map, Item.den]
      rw [selectCols_npix, selectCols_npix, selectCols_nmodes, selectCols_nmodes,
        toDense_selectCols a ha, toDense_selectCols b hb, h1, h3]

/-- **The length of a range is exact**: for every start, stop and non-zero step, `k` is below
`len(range(s, e, st))` exactly when `s + k·st` lies strictly before `e` in the direction of the
step — so `rangeList s e st` enumerates, in order, precisely the set
`{ s + k·st | k ∈ ℕ, s + k·st before e }` and nothing else. -/
theorem slice_count_exact (s e st : Int) (hst : st ≠ 0) (k : Nat) :
    k < rangeLen s e st ↔ (0 < st → s + k * st < e) ∧ (st < 0 → e < s + k * st) := by
  rcases lt_or_gt_of_ne hst with hneg | hpos
  · rw [rangeLen_neg s e st hneg, lt_rangeLen_of_pos _ _ _ (by omega), mul_neg]
    constructor
    · intro h; exact ⟨fun h' => by omega, fun _ => by omega⟩
    · intro h; have := h.2 hneg; omega
  · rw [lt_rangeLen_of_pos s e st hpos]
    exact ⟨fun h => ⟨fun _ => h, fun h' => by omega⟩, fun h => h.1 hpos⟩

/-- **`slice.indices(n)` keeps every selected position inside `[0, n)`** for all arguments
(negative, out of range, missing, negative steps): the `toNat` in `rangeList` loses nothing and
`selectCols` never reads outside the matrix. -/
theorem slice_indices_inbounds (n : Nat) (a b c : Option Int) (s e st : Int)
    (h : sliceIndices n a b c = some (s, e, st)) (k : Nat) (hk : k < rangeLen s e st) :
    0 ≤ s + k * st ∧ s + k * st < n := by
  obtain ⟨-, hst, hpos, hneg⟩ := sliceIndices_some n a b c s e st h
  have hr := (slice_count_exact s e st hst k).mp hk
  have hk0 : (0 : Int) ≤ k := Int.natCast_nonneg k
  rcases lt_or_gt_of_ne hst with h' | h'
  · have := hneg h'
    have := hr.2 h'
    have : (k : Int) * st ≤ 0 := Int.mul_nonpos_of_nonneg_of_nonpos hk0 h'.le
    omega
  · have := hpos h'
    have := hr.1 h'
    have : 0 ≤ (k : Int) * st := Int.mul_nonneg hk0 h'.le
    omega

/-- **The positions a slice selects are exactly `{start + k·step}` of the normalised triple**, for
all arguments: `sliceIdx` fails iff the step is zero (`ValueError`); otherwise, with
`(s, e, st) = slice(a, b, c).indices(n)`, the list has one entry per `k` with `s + k·st` strictly
before `e`, the `k`-th entry *is* `s + k·st` (as an integer — no truncation), and it is a valid
column index. -/
theorem sliceIdx_is_range (n : Nat) (a b c : Option Int) :
    (sliceIdx n a b c = none ↔ c.getD 1 = 0) ∧
    ∀ s e st, sliceIndices n a b c = some (s, e, st) →
      ∃ l, sliceIdx n a b c = some l ∧ l.length = rangeLen s e st ∧
        (∀ k : Nat, k < l.length ↔ (0 < st → s + k * st < e) ∧ (st < 0 → e < s + k * st)) ∧
        ∀ k (hk : k < l.length), ((l[k] : Nat) : Int) = s + k * st ∧ l[k] < n := by
  constructor
  · unfold sliceIdx sliceIndices
    by_cases h0 : c.getD 1 = 0 <;> simp [h0]
  · intro s e st h
    have hst := (sliceIndices_some n a b c s e st h).2.1
    have hl : (rangeList s e st).length = rangeLen s e st := by simp [rangeList]
    refine ⟨rangeList s e st, by simp [sliceIdx, h], hl, fun k => hl ▸ slice_count_exact s e st hst k,
      fun k hk => ?_⟩
    have hb := slice_indices_inbounds n a b c s e st h k (hl ▸ hk)
    simp only [rangeList, List.getElem_map, List.getElem_range]
    exact ⟨Int.toNat_of_nonneg hb.1, by omega⟩

/-- the normalised triple exists for every non-zero step: e.g. `slice(None, None, -1).indices(3) = (2, -1, -1)` -/
example : sliceIndices 3 none none (some (-1)) = some (2, -1, -1) ∧ sliceIdx 3 none none (some (-1)) = some [2, 1, 0] := by
  decide

/-- A window `k : k+1` selects exactly column `k` … -/
theorem sliceIdx_window (n k : Nat) (hk : k < n) :
    sliceIdx n (some (k : Int)) (some ((k : Int) + 1)) none = some [k] := by
  have h1 : ¬ ((k : Int) < 0) := by omega
  have h2 : ¬ ((k : Int) + 1 < 0) := by omega
  have h3 : ¬ ((k : Int) > (n : Int)) := by omega
  have h4 : ¬ ((k : Int) + 1 > (n : Int)) := by omega
  simp [sliceIdx, sliceIndices, rangeList, rangeLen, h1, h2, h3, h4]

/-- … and the code as pinned (D22) answered it with a bare mode on **every** sparse basis,
while every dense basis answers with a one-mode `ModeBasis`: the two storage forms of one and
the same matrix disagree in the kind of the result. -/
theorem getItemOld_window_disagrees (n m k : Nat) (hk : k < m) (cols : List (SCol K)) (rows : List (List K)) :
    (∃ v, getItemOld (.sparse n m cols) (.slice (some k) (some (k + 1)) none) = .ok (.mode v)) ∧
    (∃ r, getItemOld (.dense n m rows) (.slice (some k) (some (k + 1)) none) = .ok (.basis r)) := by
  constructor
  · refine ⟨column (.sparse n m cols) k, ?_⟩
    simp [getItemOld, selIdx, Basis.nmodes, sliceIdx_window m k hk]
  · refine ⟨selectCols (.dense n m rows) [k], ?_⟩
    simp [getItemOld, selIdx, Basis.nmodes, sliceIdx_window m k hk]

/-- The repaired `__getitem__` answers the same window with a one-mode basis in both forms. -/
theorem getItem_window (b : Basis K) (k : Nat) (hk : k < b.nmodes) :
    getItem b (.slice (some k) (some (k + 1)) none) = .ok (.basis (selectCols b [k])) := by
  simp [getItem, selIdx, sliceIdx_window b.nmodes k hk]

/-! ### The constructor dispatch

`fromInput` is the decision `ModeBasis.__init__` takes on the Python object it is given (the
driver builds every basis through it; the harness only describes the object: ndarray, sparse
matrix of a given format, list or tuple of vectors / sparse matrices). -/

/-- a two-dimensional `ndarray` is taken as the dense transformation matrix -/
theorem fromInput_ndarray (n m : Nat) (rows : List (List K)) :
    fromInput (.ndarray n m rows) = some (fromDense n m rows) := rfl

/-- a CSC sparse matrix is taken over as the sparse transformation matrix -/
theorem fromInput_csc (n m : Nat) (ip ix : List Nat) (d : List K) :
    fromInput (.spmat .csc n m ip ix d) = some (fromCSC n m ip ix d) := rfl

/-- a non-empty list or tuple of vectors of one length is `fromFields` (`np.stack(…, axis=-1)`) -/
theorem fromInput_fields (t : Bool) (npix : Nat) (vs : List (List K)) (hne : vs ≠ [])
    (h : ∀ v ∈ vs, v.length = npix) :
    fromInput (.seq t (vs.map Mode.vec)) = some (fromFields npix vs) := by
  match vs, hne with
  | v :: rest, _ =>
    have hv : v.length = npix := h v (by simp)
    have := allVec_map npix (v :: rest) h
    simp only [List.map_cons] at this ⊢
    simp only [fromInput, hv, this, Option.map_some]

/-- a non-empty list or tuple of sparse row vectors `(1, npix)` is `fromSparseRows`
(`vstack(…).T.tocsc()`) -/
theorem fromInput_rows (t : Bool) (npix : Nat) (es : List (SCol K)) (hne : es ≠ []) :
    fromInput (.seq t (es.map (Mode.sp 1 npix))) = some (fromSparseRows npix es) := by
  match es, hne with
  | e :: rest, _ =>
    have := allRow_map npix (e :: rest)
    simp only [List.map_cons] at this ⊢
    simp only [fromInput, this, Option.map_some]

/-- lists and tuples are treated alike -/
theorem fromInput_tuple_eq_list (items : List (Mode K)) :
    fromInput (.seq true items) = fromInput (.seq false items) := by
  match items with
  | [] => rfl
  | .vec _ :: _ => rfl
  | .sp .. :: _ => rfl

/-- an empty list, and a list that mixes vectors and sparse matrices, is rejected (`ValueError`
from `np.stack`) -/
theorem fromInput_rejects (t : Bool) (v : List K) (nr nc : Nat) (e : SCol K) (l l' : List (Mode K)) :
    fromInput (.seq t ([] : List (Mode K))) = none ∧
    fromInput (.seq t (.vec v :: (l ++ .sp nr nc e :: l'))) = none ∧
    fromInput (.seq t (.sp nr nc e :: (l ++ .vec v :: l'))) = none := by
  refine ⟨rfl, ?_, ?_⟩
  · have := allVec_sp v.length nr nc e (.vec v :: l) l'
    simp only [List.cons_append] at this
    simp only [fromInput, this, Option.map_none]
  · have := allRow_vec nc v (.sp nr nc e :: l) l'
    simp only [List.cons_append] at this
    simp only [fromInput, this, Option.map_none]

/-- **Every input form, through the dispatch, denotes the same matrix.**  If an ndarray, a CSC
triple, a CSR triple, COO triples, a list of vectors and a tuple of sparse row vectors all
describe the entries `f i j` of an `npix × nmodes` matrix (`nmodes > 0` for the two list forms),
`fromInput` accepts each of them and the resulting bases have the same dense table and shape. -/
theorem input_forms_same_map (npix nmodes : Nat) (hm : 0 < nmodes) (f : Nat → Nat → K)
    (rows : List (List K)) (hr : WF (fromDense npix nmodes rows))
    (hrf : ∀ i j, i < npix → j < nmodes → rowsEntry rows i j = f i j)
    (indptr indices : List Nat) (data : List K) (hlen : indices.length = data.length)
    (hptr : ∀ j, j < nmodes → indptr.getD j 0 ≤ indptr.getD (j + 1) 0 ∧ indptr.getD (j + 1) 0 ≤ data.length)
    (hcf : ∀ i j, i < npix → j < nmodes → cscEntry indptr indices data i j = f i j)
    (rptr rind : List Nat) (rdata : List K) (hrlen : rind.length = rdata.length)
    (hrptr : ∀ i, i < npix → rptr.getD i 0 ≤ rptr.getD (i + 1) 0 ∧ rptr.getD (i + 1) 0 ≤ rdata.length)
    (hrcf : ∀ i j, i < npix → j < nmodes → cscEntry rptr rind rdata j i = f i j)
    (crow ccol : List Nat) (cdata : List K)
    (hcoo : ∀ i j, i < npix → j < nmodes → cooEntry crow ccol cdata i j = f i j)
    (fields : List (List K)) (hfl : fields.length = nmodes) (hfn : ∀ v ∈ fields, v.length = npix)
    (hff : ∀ i j, i < npix → j < nmodes → (fields.getD j []).getD i 0 = f i j)
    (srows : List (SCol K)) (hsl : srows.length = nmodes)
    (hsf : ∀ i j, i < npix → j < nmodes → colEntry (srows.getD j []) i = f i j) :
    ∀ inp ∈ [Input.ndarray npix nmodes rows, .spmat .csc npix nmodes indptr indices data,
        .spmat .csr npix nmodes rptr rind rdata, .spmat .coo npix nmodes crow ccol cdata,
        .seq false (fields.map Mode.vec), .seq true (srows.map (Mode.sp 1 npix))],
      ∃ b, fromInput inp = some b ∧ toDense b = table npix nmodes f ∧ b.npix = npix ∧ b.nmodes = nmodes := by
  obtain ⟨h1, h2, h3, h4, h5, h6⟩ := forms_same_map npix nmodes f rows hr hrf indptr indices data hlen hptr hcf
    fields hfl hff srows hsl hsf
  have tab := fun (b : Basis K) => toDense_eq_table b npix nmodes f
  intro inp hinp
  simp only [List.mem_cons, List.mem_nil_iff, or_false] at hinp
  rcases hinp with rfl | rfl | rfl | rfl | rfl | rfl
  · exact ⟨_, rfl, h1, rfl, rfl⟩
  · exact ⟨_, rfl, h2, rfl, rfl⟩
  · refine ⟨_, rfl, tab _ rfl rfl ?_, rfl, rfl⟩
    intro i j hi hj
    rw [ent_transposeRows npix nmodes _ i j hj,
      colEntry_splitCSC npix rptr rind rdata j i hi]
    exact hrcf i j hi hj
  · refine ⟨_, rfl, tab _ rfl rfl ?_, rfl, rfl⟩
    intro i j hi hj
    rw [ent_cooCols npix nmodes crow ccol cdata i j hj]
    exact hcoo i j hi hj
  · exact ⟨_, fromInput_fields false npix fields (List.ne_nil_of_length_pos (hfl ▸ hm)) hfn, h3, rfl, h5⟩
  · exact ⟨_, fromInput_rows true npix srows (List.ne_nil_of_length_pos (hsl ▸ hm)), h4, rfl, h6⟩

/-- **Bridge from the driver to the hypotheses of the basis theorems.**  `Input.valid` is the
check the driver evaluates on every `new` request (shapes of the ndarray, lengths and index
ranges of the arrays of a sparse matrix — what NumPy/SciPy guarantee for the object); whatever
`fromInput` builds from a valid input is well-formed.  Together with the `WF r` conclusions of
`slice_commutes`, `add_is_hconcat`, `extend_is_hconcat`, `append_is_hconcat` and
`sparse_dense_roundtrip` this makes `WF` hold for every basis the driver ever holds in a
register, i.e. for every basis the harness compares with the running code. -/
theorem fromInput_WF (inp : Input K) (hv : inp.valid = true) (b : Basis K)
    (hb : fromInput inp = some b) : WF b := by
  match inp with
  | .ndarray n m rows =>
    obtain rfl := Option.some.inj hb
    simp only [Input.valid, Bool.and_eq_true, beq_iff_eq, List.all_eq_true] at hv
    exact hv
  | .spmat .csc n m p q d =>
    obtain rfl := Option.some.inj hb
    simp only [Input.valid, Bool.and_eq_true, beq_iff_eq, List.all_eq_true, decide_eq_true_eq] at hv
    exact WF_fromCSC n m p q d hv.1.2
  | .spmat .csr n m p q d =>
    obtain rfl := Option.some.inj hb
    have := WF_transposeRows m (splitCSC n p q d)
    rwa [splitCSC_length] at this
  | .spmat .coo n m p q d =>
    obtain rfl := Option.some.inj hb
    simp only [Input.valid, Bool.and_eq_true, beq_iff_eq, List.all_eq_true, decide_eq_true_eq] at hv
    exact WF_cooCols n m p q d hv.1.2
  | .seq _ [] => cases hb
  | .seq _ (.vec v :: rest) =>
    obtain ⟨vs, _, rfl⟩ := Option.map_eq_some_iff.mp hb
    exact WF_fromFields _ _
  | .seq _ (.sp nr nc e :: rest) =>
    obtain ⟨es, h, rfl⟩ := Option.map_eq_some_iff.mp hb
    rw [Input.valid, (allRow_eq_some nc _ es).mp h] at hv
    refine WF_fromSparseRows nc es fun c hc p hp => ?_
    have := List.all_eq_true.mp hv _ (List.mem_map_of_mem hc)
    exact of_decide_eq_true (List.all_eq_true.mp this p hp)

/-- the validity check is satisfiable by every input form (and rejects a CSC triple whose row
index exceeds the grid) -/
example : (Input.ndarray 2 1 [[(1 : Int)], [2]]).valid = true ∧
    (Input.spmat .csc 2 2 [0, 1, 3] [1, 0, 0] [(5 : Int), 0, 7]).valid = true ∧
    (Input.spmat .csr 2 2 [0, 2, 3] [0, 1, 1] [(5 : Int), 0, 7]).valid = true ∧
    (Input.spmat .coo 2 2 [1, 1, 0] [0, 0, 1] [(5 : Int), 2, 7]).valid = true ∧
    (Input.seq true [.sp 1 3 [(2, (4 : Int))], .sp 1 3 []]).valid = true ∧
    (Input.spmat .csc 2 1 [0, 1] [2] [(5 : Int)]).valid = false := by decide

variable [DecidableEq K]

/-- **`a + b` is horizontal concatenation**: for bases over the same grid the sum exists, has
`a.nmodes + b.nmodes` modes, is sparse exactly when one operand is, and its dense table is the
row-wise concatenation of the two tables — for all four storage combinations. -/
theorem add_is_hconcat (a b : Basis K) (ha : WF a) (hb : WF b) (h : a.npix = b.npix) :
    ∃ r, add a b = some r ∧ WF r ∧ r.npix = a.npix ∧ r.nmodes = a.nmodes + b.nmodes ∧
      r.isSparse = (a.isSparse || b.isSparse) ∧
      toDense r = List.zipWith (· ++ ·) (toDense a) (toDense b) := by
  have ha' := WF_sparsify a ha
  have hb' := WF_sparsify b hb
  have ta := toDense_sparsify a
  have tb := toDense_sparsify b
  rcases a with ⟨n, m, ra⟩ | ⟨n, m, ca⟩ <;> rcases b with ⟨n', m', rb⟩ | ⟨n', m', cb⟩ <;>
    (simp only [Basis.npix] at h; subst h)
  · -- both dense: `np.concatenate` of the rows
    obtain ⟨hW, hT⟩ := hstack_rows n m m' ra rb ha hb
    exact ⟨_, by simp [add, Basis.npix], hW, rfl, rfl, rfl, hT⟩
  -- otherwise `__add__` converts both to CSC and `hstack`s the columns
  all_goals
    rw [← ta, ← tb]
    obtain ⟨hW, hT⟩ := hstack_cols _ _ _ _ _ ha' hb'
    exact ⟨_, by simp [add, sparsify, Basis.npix], hW, rfl, rfl, rfl, hT⟩

/-- **In-place concatenation** (`extend`, `append`) glues the new columns to the right as well,
keeping the storage form of the basis that is extended. -/
theorem extend_is_hconcat (a b : Basis K) (ha : WF a) (hb : WF b) (h : a.npix = b.npix) :
    ∃ r, extend a b = some r ∧ WF r ∧ r.npix = a.npix ∧ r.nmodes = a.nmodes + b.nmodes ∧
      r.isSparse = a.isSparse ∧
      toDense r = List.zipWith (· ++ ·) (toDense a) (toDense b) := by
  cases a with
  | sparse n m ca =>
    rw [extend_sparse_eq_add]
    exact add_is_hconcat (.sparse n m ca) b ha hb h
  | dense n m ra =>
    have := add_is_hconcat (.dense n m ra) _ ha (WF_toDense b) h
    rwa [toDense_dense _ _ _ (WF_toDense b), ← extend_dense_eq_add] at this

theorem append_is_hconcat (a : Basis K) (ha : WF a) (v : List K) (hv : v.length = a.npix) :
    ∃ r, append a v = some r ∧ WF r ∧ r.npix = a.npix ∧ r.nmodes = a.nmodes + 1 ∧
      r.isSparse = a.isSparse ∧
      toDense r = List.zipWith (· ++ ·) (toDense a) (v.map fun x => [x]) := by
  unfold append
  simp only [hv, ne_eq, not_true_eq_false, if_false]
  have hW : WF (.dense a.npix 1 (v.map fun x => [x])) := by
    refine ⟨by simp [hv], ?_⟩
    intro r hr; simp at hr; obtain ⟨x, _, rfl⟩ := hr; rfl
  have := extend_is_hconcat a _ ha hW rfl
  rwa [toDense_dense _ _ _ hW] at this

/-- Bases over grids of different size cannot be added (`ValueError`). -/
theorem add_shape_mismatch (a b : Basis K) (h : a.npix ≠ b.npix) : add a b = none := by
  simp [add, h]

/-- **Sparse ↔ dense round trip**: `to_sparse` (dropping zeros) and `to_dense` keep the dense
table, the shape and well-formedness, produce the requested storage form, and converting a
dense basis to sparse and back returns the identical dense basis. -/
theorem sparse_dense_roundtrip (b : Basis K) (hb : WF b) :
    toDense (sparsify b) = toDense b ∧ toDense (densify b) = toDense b ∧
    (sparsify b).isSparse = true ∧ (densify b).isSparse = false ∧
    WF (sparsify b) ∧ WF (densify b) ∧
    toDense (densify (sparsify b)) = toDense b ∧ toDense (sparsify (densify b)) = toDense b ∧
    (b.isSparse = false → densify (sparsify b) = b) := by
  refine ⟨toDense_sparsify b, toDense_densify b, sparsify_isSparse b, densify_isSparse b,
    WF_sparsify b hb, WF_densify b hb, ?_, ?_, ?_⟩
  · rw [toDense_densify, toDense_sparsify]
  · rw [toDense_sparsify, toDense_densify]
  · intro hs
    cases b with
    | sparse n m cols => simp [Basis.isSparse] at hs
    | dense n m rows =>
      exact congrArg (Basis.dense n m) ((toDense_sparsify _).trans (toDense_dense n m rows hb))

end basis

section lstsq

/-- **Least squares recovers the coefficients of linearly independent modes** — real scalars
(any ordered field), any storage form.  If the linear-combination map of the basis is injective
on coefficient vectors, then every minimiser `x` of `‖A x − A c‖²` is `c`. -/
theorem lstsq_recovers {R : Type} [Field R] [LinearOrder R] [IsStrictOrderedRing R]
    (b : Basis R) (hb : WF b)
    (hind : ∀ x y : List R, x.length = b.nmodes → y.length = b.nmodes → linComb b x = linComb b y → x = y)
    (c x : List R) (hc : c.length = b.nmodes) (hx : x.length = b.nmodes)
    (hmin : ∀ y : List R, y.length = b.nmodes →
      resid (fun z => z * z) (linComb b x) (linComb b c) ≤ resid (fun z => z * z) (linComb b y) (linComb b c)) :
    x = c :=
  lstsq_recovers_gen (.real R) (linComb b)
    (fun x y => by rw [linComb_length b hb, linComb_length b hb]) b.nmodes hind c x hc hx hmin

/-- The same over ℂ with the squared modulus `|z|²`. -/
theorem lstsq_recovers_complex (b : Basis ℂ) (hb : WF b)
    (hind : ∀ x y : List ℂ, x.length = b.nmodes → y.length = b.nmodes → linComb b x = linComb b y → x = y)
    (c x : List ℂ) (hc : c.length = b.nmodes) (hx : x.length = b.nmodes)
    (hmin : ∀ y : List ℂ, y.length = b.nmodes →
      resid Complex.normSq (linComb b x) (linComb b c) ≤ resid Complex.normSq (linComb b y) (linComb b c)) :
    x = c :=
  lstsq_recovers_gen .complex (linComb b)
    (fun x y => by rw [linComb_length b hb, linComb_length b hb]) b.nmodes hind c x hc hx hmin

theorem certified_iff {K : Type} [Zero K] [Add K] [Sub K] [Mul K] [DecidableEq K] (conj : K → K)
    (b : Basis K) (x y : List K) :
    certified conj b x y = true ↔ (∀ t ∈ normalResidual conj b x y, t = 0) ∧ x.length = b.nmodes := by
  simp [certified]

/-- **A certified answer of the model is a least-squares solution** — real scalars.  The driver
answers `lstsq` with `x` only when `certified conj b x y` evaluates to `true` on the output of the
Gauss–Jordan model `ModeBasis.lstsq` (exact check of `Aᴴ (A x − y) = 0` and of the length); that
executed predicate is the hypothesis here.  Conclusion: `x` minimises `‖A z − y‖²` over all
coefficient vectors, in every storage form. -/
theorem normal_eq_minimises {R : Type} [Field R] [LinearOrder R] [IsStrictOrderedRing R]
    (b : Basis R) (hb : WF b) (x y : List R) (hy : y.length = b.npix)
    (h : certified id b x y = true) :
    ∀ z : List R, z.length = b.nmodes →
      resid (fun t => t * t) (linComb b x) y ≤ resid (fun t => t * t) (linComb b z) y := by
  exact fun z _ => normal_eq_minimises_gen (.real R) b hb x y hy ((certified_iff id b x y).mp h).1 z

/-- The same over ℂ (`conj` = complex conjugation, squared modulus). -/
theorem normal_eq_minimises_complex [DecidableEq ℂ] (b : Basis ℂ) (hb : WF b) (x y : List ℂ)
    (hy : y.length = b.npix) (h : certified (starRingEnd ℂ) b x y = true) :
    ∀ z : List ℂ, z.length = b.nmodes →
      resid Complex.normSq (linComb b x) y ≤ resid Complex.normSq (linComb b z) y := by
  exact fun z _ => normal_eq_minimises_gen .complex b hb x y hy ((certified_iff _ b x y).mp h).1 z

/-- **Hence the model's certified `coefficients_for` reproduces the coefficients of independent
modes**: what the driver prints for `y = A·c` (it passed `certified`) is `c`.  This is
`lstsq_recovers` with its minimiser hypothesis discharged for the model. -/
theorem lstsq_certified_recovers {R : Type} [Field R] [LinearOrder R] [IsStrictOrderedRing R]
    (b : Basis R) (hb : WF b)
    (hind : ∀ x y : List R, x.length = b.nmodes → y.length = b.nmodes → linComb b x = linComb b y → x = y)
    (c x : List R) (hc : c.length = b.nmodes)
    (h : certified id b x (linComb b c) = true) : x = c :=
  lstsq_recovers b hb hind c x hc ((certified_iff id b x _).mp h).2 fun z hz =>
    normal_eq_minimises b hb x (linComb b c) (linComb_length b hb c) h z hz

theorem lstsq_certified_recovers_complex [DecidableEq ℂ] (b : Basis ℂ) (hb : WF b)
    (hind : ∀ x y : List ℂ, x.length = b.nmodes → y.length = b.nmodes → linComb b x = linComb b y → x = y)
    (c x : List ℂ) (hc : c.length = b.nmodes)
    (h : certified (starRingEnd ℂ) b x (linComb b c) = true) : x = c :=
  lstsq_recovers_complex b hb hind c x hc ((certified_iff (starRingEnd ℂ) b x _).mp h).2 fun z hz =>
    normal_eq_minimises_complex b hb x (linComb b c) (linComb_length b hb c) h z hz

/-- **The executable least-squares model is sound**: whatever `ModeBasis.lstsq` (normal
equations solved by Gauss–Jordan elimination with pivot search, on lists — the function the
driver runs for `C14 lstsq`) returns passes the certificate: it has one coefficient per mode and
solves `Aᴴ (A x − y) = 0` exactly.  Any field, any `conj`, every storage form, every right-hand
side of the right length; no hypothesis on the rank (dependent modes make `lstsq` answer `none`
or a particular solution, never a wrong one).  The driver's run-time evaluation of `certified`
therefore never fails (`err internal` is unreachable). -/
theorem lstsq_sound {K : Type} [Field K] [DecidableEq K] (conj : K → K) (b : Basis K)
    (x y : List K) (hy : y.length = b.npix) (h : lstsq conj b y = some x) :
    certified conj b x y = true := by
  rw [lstsq_eq] at h
  obtain ⟨hx, hsol⟩ := gaussJordan_sound b.nmodes _ x (normalRows_length conj b y)
    (normalRows_row conj b y) h
  refine (certified_iff conj b x y).mpr ⟨?_, hx⟩
  rw [normalResidual_fn conj b x y hy]
  intro t ht
  obtain ⟨j, hj, rfl⟩ := List.mem_map.mp ht
  have := (normalRows_sol conj b y x hx (-1)).mp hsol j (List.mem_range.mp hj)
  simp only [mul_sub, Finset.sum_sub_distrib]
  linear_combination this

/-- **The model's `coefficients_for` returns a least-squares solution** — real scalars: no
certificate, no hypothesis about the answer; `x` is what `lstsq` computed. -/
theorem lstsq_minimises {R : Type} [Field R] [LinearOrder R] [IsStrictOrderedRing R]
    (b : Basis R) (hb : WF b) (x y : List R) (hy : y.length = b.npix) (h : lstsq id b y = some x) :
    ∀ z : List R, z.length = b.nmodes →
      resid (fun t => t * t) (linComb b x) y ≤ resid (fun t => t * t) (linComb b z) y :=
  normal_eq_minimises b hb x y hy (lstsq_sound id b x y hy h)

theorem lstsq_minimises_complex [DecidableEq ℂ] (b : Basis ℂ) (hb : WF b) (x y : List ℂ)
    (hy : y.length = b.npix) (h : lstsq (starRingEnd ℂ) b y = some x) :
    ∀ z : List ℂ, z.length = b.nmodes →
      resid Complex.normSq (linComb b x) y ≤ resid Complex.normSq (linComb b z) y :=
  normal_eq_minimises_complex b hb x y hy (lstsq_sound _ b x y hy h)

/-- **… and reproduces the coefficients of any combination of linearly independent modes**
(the least-squares clause of the property, for the executed model): if `lstsq` answers `x` for
`y = A·c`, then `x = c`. -/
theorem lstsq_model_recovers {R : Type} [Field R] [LinearOrder R] [IsStrictOrderedRing R]
    (b : Basis R) (hb : WF b)
    (hind : ∀ x y : List R, x.length = b.nmodes → y.length = b.nmodes → linComb b x = linComb b y → x = y)
    (c x : List R) (hc : c.length = b.nmodes) (h : lstsq id b (linComb b c) = some x) : x = c :=
  lstsq_certified_recovers b hb hind c x hc (lstsq_sound id b x _ (linComb_length b hb c) h)

theorem lstsq_model_recovers_complex [DecidableEq ℂ] (b : Basis ℂ) (hb : WF b)
    (hind : ∀ x y : List ℂ, x.length = b.nmodes → y.length = b.nmodes → linComb b x = linComb b y → x = y)
    (c x : List ℂ) (hc : c.length = b.nmodes) (h : lstsq (starRingEnd ℂ) b (linComb b c) = some x) :
    x = c :=
  lstsq_certified_recovers_complex b hb hind c x hc (lstsq_sound _ b x _ (linComb_length b hb c) h)

/-- **The model's `coefficients_for` always answers for linearly independent modes** (it never
reports "dependent modes", the driver's `err rank`, for them) — real scalars, every right-hand
side.  A failed pivot search would exhibit `z ≠ 0` with `Aᴴ A z = 0`, hence `A z = 0`. -/
theorem lstsq_complete {R : Type} [Field R] [LinearOrder R] [IsStrictOrderedRing R]
    (b : Basis R) (hb : WF b)
    (hind : ∀ x y : List R, x.length = b.nmodes → y.length = b.nmodes → linComb b x = linComb b y → x = y)
    (y : List R) (hy : y.length = b.npix) : ∃ x, lstsq id b y = some x :=
  lstsq_complete_gen (.real R) b hb hind y

theorem lstsq_complete_complex [DecidableEq ℂ] (b : Basis ℂ) (hb : WF b)
    (hind : ∀ x y : List ℂ, x.length = b.nmodes → y.length = b.nmodes → linComb b x = linComb b y → x = y)
    (y : List ℂ) (hy : y.length = b.npix) : ∃ x, lstsq (starRingEnd ℂ) b y = some x :=
  lstsq_complete_gen .complex b hb hind y

/-- **The least-squares clause of the property, for the executed model, without any
hypothesis about the answer**: for linearly independent modes, `coefficients_for(A·c)` of the
model *is* `c` — in every storage form (dense or sparse `b`), real scalars. -/
theorem lstsq_total {R : Type} [Field R] [LinearOrder R] [IsStrictOrderedRing R]
    (b : Basis R) (hb : WF b)
    (hind : ∀ x y : List R, x.length = b.nmodes → y.length = b.nmodes → linComb b x = linComb b y → x = y)
    (c : List R) (hc : c.length = b.nmodes) : lstsq id b (linComb b c) = some c := by
  obtain ⟨x, hx⟩ := lstsq_complete b hb hind (linComb b c) (linComb_length b hb c)
  rw [hx, lstsq_model_recovers b hb hind c x hc hx]

/-- the same over ℂ -/
theorem lstsq_total_complex [DecidableEq ℂ] (b : Basis ℂ) (hb : WF b)
    (hind : ∀ x y : List ℂ, x.length = b.nmodes → y.length = b.nmodes → linComb b x = linComb b y → x = y)
    (c : List ℂ) (hc : c.length = b.nmodes) : lstsq (starRingEnd ℂ) b (linComb b c) = some c := by
  obtain ⟨x, hx⟩ := lstsq_complete_complex b hb hind (linComb b c) (linComb_length b hb c)
  rw [hx, lstsq_model_recovers_complex b hb hind c x hc hx]

/-- **An answer of the model certifies independence** (any field, any `conj`): if `lstsq`
answers for some right-hand side, the linear-combination map is injective.  This is the bridge
from the executed model to the hypothesis `hind` of the theorems above: the harness only compares
`coefficients_for` where the model answered. -/
theorem lstsq_some_independent {K : Type} [Field K] [DecidableEq K] (conj : K → K) (b : Basis K)
    (hb : WF b) (x y : List K) (h : lstsq conj b y = some x) :
    ∀ v₁ v₂ : List K, v₁.length = b.nmodes → v₂.length = b.nmodes →
      linComb b v₁ = linComb b v₂ → v₁ = v₂ := by
  -- `A (v₁ − v₂) = 0` makes `(v₁ − v₂, 0)` a solution of the homogeneous normal equations
  intro v₁ v₂ h₁ h₂ hlc
  rw [lstsq_eq] at h
  have hdl : (List.zipWith (· - ·) v₁ v₂).length = b.nmodes := by simp [h₁, h₂]
  have hdj := getD_zipWith_sub v₁ v₂ (h₁.trans h₂.symm)
  have hrow := List.map_inj_left.mp ((linComb_fn b hb v₁).symm.trans (hlc.trans (linComb_fn b hb v₂)))
  have hAd : ∀ i ∈ Finset.range b.npix,
      ∑ j ∈ Finset.range b.nmodes, ent b i j * (List.zipWith (· - ·) v₁ v₂).getD j 0 = 0 := by
    intro i hi
    have := hrow i (List.mem_range.mpr (Finset.mem_range.mp hi))
    simp only [hdj, mul_sub, Finset.sum_sub_distrib]
    rw [this, sub_self]
  have hs : ∀ r ∈ normalRows conj b y, dot r (List.zipWith (· - ·) v₁ v₂ ++ [0]) = 0 :=
    (normalRows_sol conj b y _ hdl 0).mpr fun j _ => by
      rw [mul_zero, add_zero]
      exact Finset.sum_eq_zero fun i hi => by rw [hAd i hi, mul_zero]
  have hd0 := gaussJordan_unique b.nmodes _ x (normalRows_length conj b y) (normalRows_row conj b y)
    h _ hdl hs
  refine eq_of_zipWith_sub_zero v₁ v₂ (h₁.trans h₂.symm) fun z hz => ?_
  obtain ⟨j, hj, rfl⟩ := exists_getD_of_mem _ 0 z hz
  exact hd0 j (hdl ▸ hj)

/-- **The model answers exactly for the independent bases** — real scalars, every right-hand
side of the right length: "`lstsq` answers" is a decision procedure for "the modes are linearly
independent". -/
theorem lstsq_answers_iff_independent {R : Type} [Field R] [LinearOrder R] [IsStrictOrderedRing R]
    (b : Basis R) (hb : WF b) (y : List R) (hy : y.length = b.npix) :
    (∃ x, lstsq id b y = some x) ↔
    (∀ v₁ v₂ : List R, v₁.length = b.nmodes → v₂.length = b.nmodes →
      linComb b v₁ = linComb b v₂ → v₁ = v₂) :=
  ⟨fun ⟨x, h⟩ => lstsq_some_independent id b hb x y h, fun hind => lstsq_complete b hb hind y hy⟩

/-- **Whatever the model answers for `A·c` is `c`** — no independence hypothesis, no
certificate: the hypothesis is only that `lstsq` answered (which it does exactly for independent
modes).  Real scalars; any storage form. -/
theorem lstsq_answer_exact {R : Type} [Field R] [LinearOrder R] [IsStrictOrderedRing R]
    (b : Basis R) (hb : WF b) (c x : List R) (hc : c.length = b.nmodes)
    (h : lstsq id b (linComb b c) = some x) : x = c :=
  lstsq_model_recovers b hb (lstsq_some_independent id b hb x _ h) c x hc h

theorem lstsq_answer_exact_complex [DecidableEq ℂ] (b : Basis ℂ) (hb : WF b) (c x : List ℂ)
    (hc : c.length = b.nmodes) (h : lstsq (starRingEnd ℂ) b (linComb b c) = some x) : x = c :=
  lstsq_model_recovers_complex b hb (lstsq_some_independent _ b hb x _ h) c x hc h

/-- **`coefficients_for` does not depend on the storage form**: bases that denote the same
matrix give the same answer (the same coefficients, or the same "dependent modes" failure) of the
executable least-squares model, for every right-hand side and every scalar type. -/
theorem coefficients_storage_independent {K : Type} [AddCommMonoid K] [Sub K] [Mul K] [Div K]
    [DecidableEq K] (conj : K → K) (a b : Basis K) (h : Same a b) (y : List K) :
    lstsq conj a y = lstsq conj b y := by
  have hcols : (List.range a.nmodes).map (column a) = (List.range b.nmodes).map (column b) := by
    rw [← h.2.1]
    exact List.map_congr_left fun j hj => by
      rw [column_eq a j (List.mem_range.mp hj), column_eq b j (h.2.1 ▸ List.mem_range.mp hj), h.2.2]
  -- the adjoint rows are the conjugated columns
  have hadj : adjRows conj a = adjRows conj b :=
    List.map_map.symm.trans ((congrArg (List.map (List.map conj)) hcols).trans List.map_map)
  unfold lstsq
  simp only [hcols, hadj]
  rw [h.2.1]

/-- **One linear map, one behaviour** (the property's first sentence in one statement).  Two
well-formed bases that denote the same matrix — e.g. the six bases of `input_forms_same_map` —
agree in every observable: all linear combinations, every index expression (kind of result,
values, errors), `to_sparse`/`to_dense`, least-squares coefficients for every right-hand side,
and their concatenations with bases that again denote the same matrix denote the same matrix. -/
theorem same_map_same_behaviour {K : Type} [Field K] [DecidableEq K] (a b : Basis K)
    (ha : WF a) (hb : WF b) (h : Same a b) :
    (∀ c, linComb a c = linComb b c) ∧
    (∀ ix, (getItem a ix).map Item.den = (getItem b ix).map Item.den) ∧
    toDense (sparsify a) = toDense (sparsify b) ∧ toDense (densify a) = toDense (densify b) ∧
    (∀ (conj : K → K) y, lstsq conj a y = lstsq conj b y) ∧
    (∀ a' b', WF a' → WF b' → Same a' b' → a.npix = a'.npix →
      ∃ r r', add a a' = some r ∧ add b b' = some r' ∧ Same r r') := by
  refine ⟨lc_storage_independent a b ha hb h.2.2, getitem_storage_independent a b ha hb h, ?_, ?_,
    fun conj y => coefficients_storage_independent conj a b h y, ?_⟩
  · rw [toDense_sparsify, toDense_sparsify, h.2.2]
  · rw [toDense_densify, toDense_densify, h.2.2]
  · intro a' b' ha' hb' h' hn
    obtain ⟨r, e1, _, n1, m1, _, t1⟩ := add_is_hconcat a a' ha ha' hn
    obtain ⟨r', e2, _, n2, m2, _, t2⟩ := add_is_hconcat b b' hb hb' (by rw [← h.1, ← h'.1, hn])
    refine ⟨r, r', e1, e2, ?_, ?_, ?_⟩
    · rw [n1, n2, h.1]
    · rw [m1, m2, h.2.1, h'.2.1]
    · rw [t1, t2, h.2.2, h'.2.2]

/-- … in particular for any two valid constructor inputs that denote one matrix. -/
theorem inputs_same_map_same_behaviour {K : Type} [Field K] [DecidableEq K] (i₁ i₂ : Input K)
    (v₁ : i₁.valid = true) (v₂ : i₂.valid = true) (a b : Basis K)
    (h₁ : fromInput i₁ = some a) (h₂ : fromInput i₂ = some b) (h : Same a b) :
    (∀ c, linComb a c = linComb b c) ∧
    (∀ ix, (getItem a ix).map Item.den = (getItem b ix).map Item.den) ∧
    (∀ (conj : K → K) y, lstsq conj a y = lstsq conj b y) := by
  obtain ⟨p1, p2, _, _, p5, _⟩ :=
    same_map_same_behaviour a b (fromInput_WF i₁ v₁ a h₁) (fromInput_WF i₂ v₂ b h₂) h
  exact ⟨p1, p2, p5⟩

/-- the certificate is satisfiable: `x = [2]` solves the normal equations of `A = [[1],[1]]`,
`y = [1,3]` (and is not an exact solution of `A x = y`) -/
example : certified id (fromDense 2 1 [[(1 : ℚ)], [1]]) [2] [1, 3] = true := by decide +kernel

/-- … and it is what the model computes (the hypothesis `lstsq … = some x` of `lstsq_sound`,
`lstsq_minimises` is satisfiable; dependent modes answer `none`) -/
example : lstsq id (fromDense 2 1 [[(1 : ℚ)], [1]]) [1, 3] = some [2] ∧
    lstsq id (fromDense 2 2 [[(1 : ℚ), 2], [2, 4]]) [1, 3] = none := by decide +kernel

end lstsq

section mirror
variable {K : Type} [Zero K] [Add K] [Mul K] [DecidableEq K]

/-- The cache invariant holds for a new mirror and is preserved by every operation, hence along
every history: (i) whatever actuator vector the cache claims to belong to, the cached surface
array holds `IF · that vector`; (ii) no array a caller received from `dm.surface` is the cached
array object (so in-place edits of returned surfaces cannot reach the cache). -/
theorem mirror_cache_invariant (infl : List (List K)) (n : Nat) (ops : List (Op K)) :
    Inv (run (init infl n) ops).1 :=
  run_inv _ ops (inv_init infl n)

/-- **The reported surface always equals `IF · current actuators`.**  For EVERY history of
assignments of new arrays, re-assignments of arrays handed out earlier, in-place edits of any
actuator array ever handed out (the one the mirror holds or a released one), **in-place edits of
any surface array a read ever returned** (`Op.editSurface`), `flatten`, `random` and new
influence functions, with reads anywhere in between, the sequence of surfaces returned by the
cached mirror (`read` = the property as repaired by pending_fixes/D22f: a copy is handed out) is
exactly the sequence returned by the cache-free specification, which evaluates
`matvec infl (current actuator array)` at every read and ignores what callers do to arrays they
received.  For the property as pinned this is false: `old_readAlias_corrupts_cache`. -/
theorem mirror_surface_inv (infl : List (List K)) (n : Nat) (ops : List (Op K)) :
    (run (init infl n) ops).2 = (spec (init infl n)).run ops :=
  (run_sim _ ops (inv_init infl n)).2.2

/-- Pointwise form: in any state reached by any history, a read returns `IF · actuators` and
changes neither the actuators, nor the heap, nor the influence functions. -/
theorem mirror_read_ideal (infl : List (List K)) (n : Nat) (ops : List (Op K)) :
    let m := (run (init infl n) ops).1
    (read m).2 = matvec m.infl (acts m) ∧ spec (read m).1 = spec m :=
  ⟨read_snd _ (mirror_cache_invariant infl n ops), read_fst_spec _⟩

/-- **The driver's lockstep is sound**: the specification state the driver steps alongside the
cached mirror (`Spec.step` per operation, answered by `C14 mirror ideal` and compared with
`dm.influence_functions.linear_combination(dm.actuators)` of the running code) is, after every
history, the projection `spec` of the cached mirror's state — actuator heap, current handle and
influence functions never depend on the cache or on surface arrays. -/
theorem mirror_spec_lockstep (infl : List (List K)) (n : Nat) (ops : List (Op K)) :
    spec (run (init infl n) ops).1 = (spec (init infl n)).after ops :=
  (run_sim _ ops (inv_init infl n)).2.1

/-- **`opd` is twice `IF · actuators`** in every reachable state (the read-out the driver
executes for `C14 mirror opd`), and as far as the mirror's state is concerned it is a read of
`surface` — so every history with `opd` read-outs is covered by `mirror_surface_inv`. -/
theorem mirror_opd_ideal (infl : List (List K)) (n : Nat) (ops : List (Op K)) :
    let m := (run (init infl n) ops).1
    (readOpd m).2 = (spec m).opd ∧ (readOpd m).1 = (read m).1 :=
  ⟨readOut_snd double _ (mirror_cache_invariant infl n ops), rfl⟩

/-- **Every read-out that goes through the `surface` property sees `IF · actuators`**: `opd`,
`phase_for`, `forward`, `backward` evaluate `self.surface` once and post-process the array (`g`);
in any reachable state the result is `g (IF · current actuators)` and the state change is that
of a read.  (`g` for `opd` is executed by the driver; the transcendental `g` of the other three
is compared numerically by the harness.) -/
theorem mirror_readout_ideal {β : Type} (g : List K → β) (infl : List (List K)) (n : Nat)
    (ops : List (Op K)) :
    let m := (run (init infl n) ops).1
    (readOut g m).2 = g (matvec m.infl (acts m)) ∧ (readOut g m).1 = (read m).1 :=
  ⟨readOut_snd g _ (mirror_cache_invariant infl n ops), rfl⟩

/-- **Returned surfaces are the caller's own**: in any reachable state, an in-place edit of any
array that any earlier read returned changes neither the cached surface array nor what the next
read returns. -/
theorem mirror_returned_surface_private (infl : List (List K)) (n : Nat) (ops : List (Op K))
    (k i : Nat) (v : K) :
    let m := (run (init infl n) ops).1
    surface (editOut m k i v) = surface m ∧
    (read (editOut m k i v)).2 = (read m).2 := by
  intro m
  have hm : Inv m := mirror_cache_invariant infl n ops
  exact ⟨surface_editOut m hm k i v,
    read_snd_congr _ m (editOut_inv m hm k i v) hm (spec_editOut m k i v)⟩

/-- **The surface is a function of the current actuator vector only** (what seeded regression C14-9
violates).  Take any two histories whatsoever — on the same mirror or on two different mirror
objects, with any values commanded and withdrawn on the way, any number of reads in between.  If
they end with the same influence functions and the same current actuator values, the two
mirrors report the same surface.  No algebraic law of the scalar is used, so this holds verbatim
for scalar domains with a non-number (`Ext`, IEEE NaN): a NaN that has been withdrawn leaves no
trace. -/
theorem surface_history_free (infl₁ infl₂ : List (List K)) (n₁ n₂ : Nat) (ops₁ ops₂ : List (Op K)) :
    let m₁ := (run (init infl₁ n₁) ops₁).1
    let m₂ := (run (init infl₂ n₂) ops₂).1
    m₁.infl = m₂.infl → acts m₁ = acts m₂ → (read m₁).2 = (read m₂).2 := by
  intro m₁ m₂ hi ha
  rw [read_snd _ (mirror_cache_invariant infl₁ n₁ ops₁), read_snd _ (mirror_cache_invariant infl₂ n₂ ops₂), hi, ha]

/-- … in particular the surface of a mirror with any past equals the surface of a **fresh mirror**
that is given the same influence functions and the same actuator vector (the comparison the
harness makes on the running code after every step of an extreme history). -/
theorem surface_eq_fresh_mirror (infl : List (List K)) (n : Nat) (ops : List (Op K)) :
    let m := (run (init infl n) ops).1
    (run (init m.infl m.nmodes) [.assign (acts m), .read]).2 = [(read m).2] := by
  intro m
  have fresh : ∀ (i : List (List K)) (k : Nat) (a : List K),
      (spec (init i k)).run [.assign a, .read] = [matvec i a] := by
    intro i k a
    simp [Spec.run, Spec.step, Spec.acts, spec, init]
  rw [mirror_surface_inv, read_snd _ (mirror_cache_invariant infl n ops), fresh]

/-- the same statements hold over rationals extended by a non-number -/
example (infl : List (List (Ext Rat))) (n : Nat) (ops : List (Op (Ext Rat))) :
    let m := (run (init infl n) ops).1
    (run (init m.infl m.nmodes) [.assign (acts m), .read]).2 = [(read m).2] :=
  surface_eq_fresh_mirror infl n ops

theorem acts_edit_cur (m : Mirror K) (i : Nat) (v : K) :
    acts (step m (.edit m.cur i v)).1 = (acts m).set i v := by
  show (m.heap.modify m.cur fun a => a.set i v).getD m.cur [] = (m.heap.getD m.cur []).set i v
  by_cases h : m.cur < m.heap.length
  · simp [List.getD_eq_getElem?_getD, h]
  · have h' : m.heap.length ≤ m.cur := Nat.le_of_not_lt h
    simp [List.getD_eq_getElem?_getD, List.getElem?_eq_none h']

theorem cur_edit (m : Mirror K) (h i : Nat) (v : K) : (step m (.edit h i v)).1.cur = m.cur := rfl

theorem acts_setSegment (m : Mirror K) (nseg id : Nat) (p t tl : K) :
    acts (setSegment m nseg id p t tl) =
      (((acts m).set id p).set (id + nseg) t).set (id + 2 * nseg) tl := by
  unfold setSegment
  have h1 := acts_edit_cur m id p
  have h2 := acts_edit_cur (step m (.edit m.cur id p)).1 (id + nseg) t
  rw [cur_edit] at h2
  have h3 := acts_edit_cur (step (step m (.edit m.cur id p)).1 (.edit m.cur (id + nseg) t)).1 (id + 2 * nseg) tl
  rw [cur_edit, cur_edit] at h3
  rw [h3, h2, h1]

/-- **`get_segment_actuators` returns what `set_segment_actuators` stored, and no other segment
moves**, for a mirror of `nseg` segments (actuator vector `[pistons, tips, tilts]` of length
`3·nseg`) in any state; the mirror keeps holding the same array object, its influence functions
are untouched.  (As three in-place edits the operation is covered by `mirror_surface_inv`: the next
read returns `IF ·` the new vector.) -/
theorem segment_roundtrip (m : Mirror K) (nseg id : Nat) (p t tl : K) (hid : id < nseg)
    (hlen : (acts m).length = 3 * nseg) :
    getSegment (setSegment m nseg id p t tl) nseg id = (p, t, tl) ∧
    (∀ j, j < nseg → j ≠ id → getSegment (setSegment m nseg id p t tl) nseg j = getSegment m nseg j) ∧
    (setSegment m nseg id p t tl).cur = m.cur ∧ (setSegment m nseg id p t tl).infl = m.infl := by
  -- the written slots `id + a·nseg` lie inside the vector, and `id + a·nseg = j + b·nseg` only for `a = b`, `id = j`
  unfold getSegment
  simp only [acts_setSegment, List.getD_eq_getElem?_getD]
  refine ⟨?_, fun j hj hne => ?_, rfl, rfl⟩
  · simp (disch := omega) only [List.getElem?_set_ne]
    simp (disch := simp only [List.length_set, hlen]; omega) only [List.getElem?_set_self, Option.getD_some]
  · simp (disch := omega) only [List.getElem?_set_ne]

/-- the hypotheses of `segment_roundtrip` are satisfiable: a new mirror of two segments -/
example : (1 : Nat) < 2 ∧ (acts (init [[(1 : Int), 0, 0, 0, 0, 0]] 6)).length = 3 * 2 := by decide

end mirror

section phases
variable {K : Type} [Field K] [DecidableEq K]

/-- **Closed form of the tip / tilt influence function of a segment** (the executed `tiltMode`, which
the driver compares with the matrix `SegmentedDeformableMirror` builds): for an indicator segment
(`s_i ∈ {0, 1}`) that covers `k` of the `N` grid points, `0 < k < N` as numbers of the field, the
mode is `s_i · (c_i − c̄)` with `c̄ = (Σ_{i ∈ segment} c_i) / k` the mean coordinate over the segment.
Hence, by `mirror_surface_inv`, the surface of a segment under `(piston, tip, tilt) = (p, t, u)` is
the plane `p + t·(x − x̄) + u·(y − ȳ)` on its support and zero elsewhere — exact in rationals. -/
theorem segment_tilt_mode_closed_form (s c : List K) (hs : ∀ a ∈ s, a * a = a)
    (hlen : c.length = s.length) (hN : (s.length : K) ≠ 0) (hk : s.sum ≠ 0)
    (hkN : s.sum ≠ (s.length : K)) :
    tiltMode s c =
      List.zipWith (fun si ci => si * (ci - (List.zipWith (· * ·) s c).sum / s.sum)) s c := by
  unfold tiltMode mean
  have hlen1 : (List.zipWith (· * ·) s c).length = s.length := by simp [hlen]
  have hlen2 : (List.zipWith (· * ·) (List.zipWith (· * ·) s c) s).length = s.length := by simp [hlen]
  rw [map_sq_ind s hs]
  dsimp only
  rw [sum_zipWith_mul_ind s c hs, hlen1, hlen2]
  generalize (s.length : K) = N at hN hkN ⊢
  generalize (List.zipWith (· * ·) s c).sum = S
  generalize s.sum = k at hk hkN ⊢
  -- numerator and denominator of `β` both carry the factor `1 − k/N`, so `β = (S/N) / (k/N) = S/k`
  have h1 : 1 - k / N ≠ 0 := sub_ne_zero.mpr fun h => hkN ((div_eq_one_iff_eq hN).mp h.symm)
  rw [← mul_one_sub, ← one_sub_mul, if_neg (mul_ne_zero (div_ne_zero hk hN) h1), mul_comm (k / N),
    mul_div_mul_left _ _ h1, div_div_div_cancel_right₀ hN]
  -- `s` occurs twice on the left: one `zipWith` over `(s, c)`
  rw [List.zipWith_zipWith_left, List.zipWith3_same_mid]
  exact congrArg (List.zipWith · s c) (funext fun si => funext fun ci => by ring)

/-- the hypotheses are satisfiable: a segment of two of three points, and the closed form evaluated -/
example : tiltMode [(1 : ℚ), 1, 0] [0, 2, 7] = [-1, 1, 0] ∧
    (∀ a ∈ [(1 : ℚ), 1, 0], a * a = a) ∧ (([(1 : ℚ), 1, 0].length : ℚ) ≠ 0) ∧
    ([(1 : ℚ), 1, 0].sum ≠ 0) ∧ ([(1 : ℚ), 1, 0].sum ≠ (([(1 : ℚ), 1, 0].length : ℚ))) := by
  decide +kernel

/-- **`phase_for`, `forward` and `backward` see `IF · actuators`** in every reachable state: the
phase is `2π · (2 · IF·a / λ)` and the reflected field is the incoming one times `exp(±2πi ·` that
`)` — stated about the definitions the driver executes for `C14 mirror phase / forward / backward`. -/
theorem mirror_phase_ideal (infl : List (List K)) (n : Nat) (ops : List (Op K)) (wl : K)
    (e : List (PVal K)) :
    let m := (run (init infl n) ops).1
    (readPhase wl m).2 = phaseTurns wl (matvec m.infl (acts m)) ∧
    (forward wl e m).2 = applyPhase e (phaseTurns wl (matvec m.infl (acts m))) ∧
    (backward wl e m).2 = applyPhaseConj e (phaseTurns wl (matvec m.infl (acts m))) :=
  have h := mirror_cache_invariant infl n ops
  ⟨readOut_snd _ _ h, readOut_snd _ _ h, readOut_snd _ _ h⟩

/-- **`backward ∘ forward = id`** on the executed definitions, in every reachable state of the
mirror and for every field on the mirror's grid: propagating a wavefront through the mirror and
back returns it unchanged (the second evaluation of `surface` — a cache hit or not — yields the
same array), and **`forward` conserves the power** `Σ|E|²` (any squared modulus `nsq`). -/
theorem mirror_backward_forward_id (infl : List (List K)) (n : Nat) (ops : List (Op K)) (wl : K)
    (e : List (PVal K)) (nsq : K → K) :
    let m := (run (init infl n) ops).1
    e.length = m.infl.length →
    (backward wl (forward wl e m).2 (forward wl e m).1).2 = e ∧
    power nsq (forward wl e m).2 = power nsq e ∧
    power nsq (backward wl e m).2 = power nsq e := by
  intro m hlen
  have h := mirror_cache_invariant infl n ops
  have hl : e.length = (phaseTurns wl (matvec m.infl (acts m))).length := by
    simp [phaseTurns, double, matvec, hlen]
  refine ⟨?_, ?_, ?_⟩
  · rw [forward, readOut_snd _ m h]
    exact (readOut_snd_read _ m h).trans (applyPhaseConj_applyPhase e _ hl)
  · rw [forward, readOut_snd _ m h]
    exact power_zipWith_amp nsq _ e _ hl
  · rw [backward, readOut_snd _ m h]
    exact power_zipWith_amp nsq _ e _ hl

/-- the hypothesis of `mirror_backward_forward_id` is satisfiable: a one-pixel field on a one-pixel mirror -/
example : ([⟨(1 : ℚ), 0⟩] : List (PVal ℚ)).length = (run (init [[(1 : ℚ)]] 1) []).1.infl.length := rfl

end phases

/-- **What the formal phases mean.**  Reading a formal field value `(E, c)` as the complex number
`E · exp(2πi·c)` (`PVal.den`), the executed `applyPhase` *is* the multiplication by `exp(2πi·d)` the
code performs (`wf.electric_field *= exp(2i·k·surface)`, `d = 2·surface/λ` turns), `applyPhaseConj`
the multiplication by the conjugate factor, and for real phases the modulus of every pixel — hence
the power — is unchanged. -/
theorem formal_phase_semantics (e : List (PVal ℂ)) (d : List ℂ) :
    (applyPhase e d).map PVal.den =
      List.zipWith (fun x t => x.den * Complex.exp (2 * Real.pi * t * Complex.I)) e d ∧
    (applyPhaseConj e d).map PVal.den =
      List.zipWith (fun x t => x.den * Complex.exp (-(2 * Real.pi * t * Complex.I))) e d ∧
    ∀ (amp : ℂ) (c : ℝ), ‖PVal.den ⟨amp, (c : ℂ)⟩‖ = ‖amp‖ := by
  refine ⟨?_, ?_, norm_den⟩
  · rw [applyPhase, List.map_zipWith]
    congr 1
    funext x t
    exact den_add _ _ _
  · rw [applyPhaseConj, List.map_zipWith]
    congr 1
    funext x t
    rw [sub_eq_add_neg, den_add, mul_neg, neg_mul]

/-! ### An incrementally updated surface is not history free (seeded regression C14-9) -/
section Bad
open HcipyVerif.Mirror.Bad

/-- **`surface += IF·(actuators − cached)` keeps a withdrawn NaN for ever.**  Ten actuators, one
pixel that sees all of them; the surface is read, actuator 3 is set (in place) to the non-number,
the surface is read, the actuator is set back to 2 — or the mirror is flattened — and the surface
is read again.  The incrementally updated surface still is `nan`; the specification, and the
executed `read`, answer `2` (resp. `0`).  The same history with the finite value `7` in place of
`nan` gives the right answers also incrementally — over exact numbers the update is harmless,
which is why the harness has to command non-finite and out-of-scale values to see it. -/
theorem bad_incremental_not_history_free :
    runWith (readIncremental 10) (init [List.replicate 10 (Ext.fin (1 : Int))] 10)
        [.read, .edit 0 3 .nan, .read, .edit 0 3 (.fin 2), .read] = [[.fin 0], [.nan], [.nan]] ∧
    (run (init [List.replicate 10 (Ext.fin (1 : Int))] 10)
        [.read, .edit 0 3 .nan, .read, .edit 0 3 (.fin 2), .read]).2 = [[.fin 0], [.nan], [.fin 2]] ∧
    runWith (readIncremental 10) (init [List.replicate 10 (Ext.fin (1 : Int))] 10)
        [.read, .edit 0 3 .nan, .read, .flatten, .read] = [[.fin 0], [.nan], [.nan]] ∧
    (run (init [List.replicate 10 (Ext.fin (1 : Int))] 10)
        [.read, .edit 0 3 .nan, .read, .flatten, .read]).2 = [[.fin 0], [.nan], [.fin 0]] ∧
    runWith (readIncremental 10) (init [List.replicate 10 (Ext.fin (1 : Int))] 10)
        [.read, .edit 0 3 (.fin 7), .read, .edit 0 3 (.fin 2), .read] = [[.fin 0], [.fin 7], [.fin 2]] := by
  decide +kernel

/-- **Over exact numbers the incremental update is invisible**: for any commutative ring, any `ratio`
and any state satisfying the cache invariant, `readIncremental` returns exactly `IF · actuators` —
what `read` returns.  So no model over `ℚ` alone, and no history of values on which floating point
is exact, can tell the seeded code from the original; the counterexample above needs the
non-number, the harness needs NaN / inf or values many orders of magnitude apart. -/
theorem bad_incremental_exact_over_rings {R : Type} [CommRing R] [DecidableEq R] (ratio : Nat)
    (m : Mirror R) (h : Inv m) :
    (readIncremental ratio m).2 = matvec m.infl (acts m) ∧ (readIncremental ratio m).2 = (read m).2 := by
  have key : (readIncremental ratio m).2 = matvec m.infl (acts m) := by
    -- cache hit; incremental update of the surface cached for `c`; recomputation
    fun_cases readIncremental ratio m with
    | case1 hc => rw [handCopy_snd, h.cache _ hc]
    | case2 c hc _ h2 =>
      rw [handCopy_snd]
      show (m.sheap ++ [_]).getD m.sheap.length [] = _
      rw [ListFacts.getD_append_length, h.cache c hc]
      exact matvec_sub_add m.infl (acts m) c h2.1
    | case3 | case4 => rw [handCopy_snd, surface_recompute]
  exact ⟨key, by rw [key, read_snd m h]⟩

/-- the hypothesis is satisfiable: every reachable state satisfies the invariant (`mirror_cache_invariant`) -/
example : Inv (run (init [[(1 : Int), 2]] 2) [.assign [3, 4], .read]).1 := mirror_cache_invariant _ _ _

end Bad

/-! ### The two classic broken caches are really broken -/

/-- Copy dropped (`_actuators_for_cached_surface = self.actuators`): after an in-place edit the
comparison compares the array with itself and the stale surface is returned. -/
theorem readByRef_stale :
    runWith readByRef (init [[(1 : Int)]] 1) [.read, .edit 0 0 5, .read] = [[0], [0]] ∧
    (spec (init [[(1 : Int)]] 1)).run [.read, .edit 0 0 5, .read] = [[0], [5]] := by decide

/-- Cache compared by object identity: same defect. -/
theorem readByIdentity_stale :
    runWith readByIdentity (init [[(1 : Int)]] 1) [.read, .edit 0 0 5, .read] = [[0], [0]] ∧
    (spec (init [[(1 : Int)]] 1)).run [.read, .edit 0 0 5, .read] = [[0], [5]] := by decide

/-! ### Old: the `surface` property as pinned (before pending_fixes/D22f) hands out its cache -/
section Old
open HcipyVerif.Mirror.Old

/-- **Defect D22f (replayed on the real `DeformableMirror`, see reports/C14.md).**  With
`return self._surface` the caller holds the cached array itself: `dm.actuators = [1];
s = dm.surface; s[0] = 5; dm.surface` answers `[5]` although the actuators still say `[1]` —
the cache-free specification (and the repaired `read`) answer `[1]`. -/
theorem old_readAlias_corrupts_cache :
    runWith readAlias (init [[(1 : Int)]] 1) [.assign [1], .read, .editSurface 0 0 5, .read] = [[1], [5]] ∧
    (spec (init [[(1 : Int)]] 1)).run [.assign [1], .read, .editSurface 0 0 5, .read] = [[1], [1]] ∧
    (run (init [[(1 : Int)]] 1) [.assign [1], .read, .editSurface 0 0 5, .read]).2 = [[1], [1]] := by decide

/-- … and the invariant clause that fails is exactly `outs_ne`: after one aliasing read the
caller holds the cached array. -/
theorem old_readAlias_breaks_outs_ne :
    let m := (readAlias (init [[(1 : Int)]] 1)).1
    ∃ h ∈ m.outs, h = m.surf := by decide

end Old

/-! ### Satisfiability of the hypotheses -/

example : WF (fromDense 2 2 [[(1 : Int), 0], [0, 2]]) :=
  fromInput_WF (.ndarray 2 2 _) (by decide) _ rfl

example : WF (fromSparseRows 2 [[(0, (1 : Int))], [(1, 2)]]) :=
  fromInput_WF (.seq true [.sp 1 2 [(0, 1)], .sp 1 2 [(1, 2)]]) (by decide) _ rfl

/-- independent modes exist: the identity basis -/
example : ∀ x y : List ℚ, x.length = 1 → y.length = 1 →
    linComb (fromDense 1 1 [[(1 : ℚ)]]) x = linComb (fromDense 1 1 [[(1 : ℚ)]]) y → x = y :=
  lstsq_some_independent id _ (fromInput_WF (.ndarray 1 1 _) (by decide) _ rfl) [1] [1]
    (by decide +kernel)

end HcipyVerif.C14
