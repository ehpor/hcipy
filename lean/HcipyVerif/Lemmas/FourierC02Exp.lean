import HcipyVerif.Lemmas.FourierC02
import HcipyVerif.Lemmas.FourierC02N
import HcipyVerif.Lemmas.FourierExp

/-! The full-grid inverse of `Lemmas/FourierC02.lean` for the FFT pipelines with `Complex.exp`, on
one axis and on two. -/

namespace HcipyVerif.Fft
theorem fastBackward_fastForward (g : Cfg ℝ ℂ) (wOut : ℂ) (hMo : g.Mo = g.M) (hN : g.N ≤ g.M)
    (hcons : g.dT * (g.M : ℝ) * g.δ = 1) (hw : wOut * (g.M : ℂ) * g.w = 1)
    (f : ℕ → ℂ) (j : ℕ) (hj : j < g.N) :
    fastBackward expT expE g (fastForward expT expE g f) j = f j := by
  have hMo' : g.Mo ≤ g.M := le_of_eq hMo
  rw [fastBackward_eq_sumBackward expT_isChar expE_isChar expT_period g hN hMo' hcons wOut hw _ j hj,
    sumBackward_congr g wOut _ (sumForward expT expE g f) fun k hk =>
      fastForward_eq_sumForward expT_isChar expE_isChar expT_period g hN hMo' hcons f k hk]
  exact full_grid_inverse_sum g wOut expT_isChar expE_isChar expT_period
    (expT_prim g.M (natCast_M_ne_zero g hcons)) hMo hN hcons hw f j hj

/-- The backward pipeline along `x` commutes with the forward pipeline along `y`. -/
theorem fastBackward2_fastForward2 (gy gx : Cfg ℝ ℂ) (woy wox : ℂ) (hemu : gy.emu = gx.emu)
    (hMoy : gy.Mo = gy.M) (hNy : gy.N ≤ gy.M) (hcy : gy.dT * (gy.M : ℝ) * gy.δ = 1)
    (hwy : woy * (gy.M : ℂ) * gy.w = 1)
    (hMox : gx.Mo = gx.M) (hNx : gx.N ≤ gx.M) (hcx : gx.dT * (gx.M : ℝ) * gx.δ = 1)
    (hwx : wox * (gx.M : ℂ) * gx.w = 1)
    (f : ℕ → ℕ → ℂ) (jy jx : ℕ) (hjy : jy < gy.N) (hjx : jx < gx.N) :
    fastBackward2 expT expE gy gx (fastForward2 expT expE gy gx f) jy jx = f jy jx := by
  rw [fastBackward2_eq_iter expT_isChar expE_isChar gy gx hemu]
  show fastBackward expT expE gy (fun ky => fastBackward expT expE gx
    (fun kx => fastForward2 expT expE gy gx f ky kx) jx) jy = _
  simp only [fastForward2_eq_iter expT_isChar expE_isChar gy gx hemu, fastForward2Iter,
    FinLin.comm (fastBackward_finLin gx jx) (fastForward_finLin gy _),
    fastBackward_fastForward gx wox hMox hNx hcx hwx _ jx hjx]
  exact fastBackward_fastForward gy woy hMoy hNy hcy hwy (fun iy => f iy jx) jy hjy

end HcipyVerif.Fft
