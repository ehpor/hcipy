import HcipyVerif.Lemmas.CoronagraphToFn

/-!
# The multi-scale construction on the exact design

A level's term is `B ((F E) ∘ M_i)` once `M_i` vanishes outside the level's support, so the terms add up to
`B ((F E) ∘ Σ M_i)` (`msSum_exact`), and the constructor's masks add up to the mask (`msMasksAux_exact`, `expMasks_sum`).
-/
namespace HcipyVerif.Coronagraph
open Matrix
section Ring
variable {K : Type} [CommRing K] {d n : ℕ}

def VanishesOff (S : Vector Bool d) (g : Fin d → K) : Prop := ∀ p : Fin d, S[p] = false → g p = 0

/-- The masks the constructor must arrive at. -/
def expMasks (m : Fin d → K) : (Fin d → K) → List (Vector Bool d × Vector K d) → List (Fin d → K)
  | _, [] => []
  | u, [_] => [m * u]
  | u, sp :: sp' :: sps => (m * (u - toFn sp.2)) :: expMasks m (toFn sp.2) (sp' :: sps)

theorem expMasks_sum (m u : Fin d → K) (sps : List (Vector Bool d × Vector K d)) (h : sps ≠ []) :
    (expMasks m u sps).sum = m * u := by
  fun_induction expMasks m u sps with
  | case1 u => exact absurd rfl h
  | case2 u sp => exact List.sum_singleton
  | case3 u sp sp' sps ih => rw [List.sum_cons, ih (List.cons_ne_nil _ _)]; ring

/-- `u` is the window of the previous level, all ones before level 0. -/
theorem expMasks_vanish [BEq K] [LawfulBEq K] (m : Fin d → K) (sps : List (Vector Bool d × Vector K d))
    (u : Vector K d) (h : nestedOK u sps = true) :
    List.Forall₂ (fun sp g => VanishesOff sp.1 g) sps (expMasks m (toFn u) sps) := by
  fun_induction nestedOK u sps with
  | case1 u => exact .nil
  | case2 u sp sps ih =>
    simp only [Bool.and_eq_true, List.all_eq_true, List.mem_finRange, true_implies, Bool.or_eq_true,
      beq_iff_eq] at h
    have hp : ∀ p : Fin d, sp.1[p] = false → toFn u p = 0 ∧ toFn sp.2 p = 0 := fun p hp =>
      (h.1 p).resolve_left (by rw [hp]; exact Bool.false_ne_true)
    cases sps with
    | nil => exact .cons (fun p hs => by show m p * toFn u p = 0; rw [(hp p hs).1, mul_zero]) .nil
    | cons sp' sps =>
      exact .cons (fun p hs => by
        show m p * (toFn u p - toFn sp.2 p) = 0
        rw [(hp p hs).1, (hp p hs).2, sub_zero, mul_zero]) (ih h.2)

theorem toFn2_idMat : toFn2 (idMat K d) = 1 := by
  unfold idMat
  rw [toFn2_ofFn]
  funext p q
  rw [of_apply, toFn_ofFn, one_apply]

theorem toFn_subCorrections_id (Ms : List (Vector K d)) : ∀ (acc : Vector K d),
    toFn (subCorrections acc (List.replicate Ms.length (idMat K d)) Ms) = toFn acc - (Ms.map toFn).sum := by
  induction Ms with
  | nil => intro acc; exact (sub_zero _).symm
  | cons M Ms ih =>
    intro acc
    rw [List.length_cons, List.replicate_succ, subCorrections_cons, ih, toFn_ofFn, toFn2_idMat, one_mulVec,
      List.map_cons, List.sum_cons, sub_sub]

theorem toFn_msMask_exact (m : Vector K d) (F : Vector (Vector K n) d) (B : Vector (Vector K d) n)
    (sp : Vector Bool d × Vector K d) (last : Bool) (prev : List (Vector K d)) :
    toFn (msMask (exactLevel m F B prev.length sp) last prev) =
      (if last then toFn m else toFn m * (1 - toFn sp.2)) - (prev.map toFn).sum := by
  show toFn (subCorrections (if last then m else Vector.ofFn (toFn m * (1 - toFn sp.2)))
    (List.replicate prev.length (idMat K d)) prev) = _
  rw [toFn_subCorrections_id]
  cases last
  · rw [if_neg Bool.false_ne_true, if_neg Bool.false_ne_true, toFn_ofFn]
  · rfl

/-- The masks so far add up to `m (1 − u)`, `u` the previous window: the next is `m (1 − w) − m (1 − u) = m (u − w)`,
the last `m − m (1 − u) = m u`. -/
theorem msMasksAux_exact (m : Vector K d) (F : Vector (Vector K n) d) (B : Vector (Vector K d) n)
    (sps : List (Vector Bool d × Vector K d)) (prev : List (Vector K d)) (u : Fin d → K)
    (hsum : (prev.map toFn).sum = toFn m * (1 - u)) :
    (msMasksAux prev (exactLevelsFrom m F B prev.length sps)).map toFn =
      prev.map toFn ++ expMasks (toFn m) u sps := by
  fun_induction expMasks (toFn m) u sps generalizing prev with
  | case1 u => exact (List.append_nil _).symm
  | case2 u sp =>
    show (prev ++ [msMask (exactLevel m F B prev.length sp) true prev]).map toFn = _
    rw [List.map_append, List.map_singleton, toFn_msMask_exact, hsum, if_pos rfl]
    congr 2
    ring
  | case3 u sp sp' sps ih =>
    have hmask : toFn (msMask (exactLevel m F B prev.length sp) false prev) = toFn m * (u - toFn sp.2) := by
      rw [toFn_msMask_exact, hsum, if_neg Bool.false_ne_true]
      ring
    have := ih (prev ++ [msMask (exactLevel m F B prev.length sp) false prev]) (by
      rw [List.map_append, List.sum_append, hsum, List.map_singleton, List.sum_singleton, hmask]
      ring)
    rw [List.length_append, List.length_singleton] at this
    refine this.trans ?_
    rw [List.map_append, List.map_singleton, hmask, List.append_assoc]
    rfl

theorem msMasks_exact (m : Vector K d) (F : Vector (Vector K n) d) (B : Vector (Vector K d) n)
    (sps : List (Vector Bool d × Vector K d)) :
    (msMasks (exactLevels m F B sps)).map toFn = expMasks (toFn m) 1 sps :=
  msMasksAux_exact m F B sps [] 1 (by rw [sub_self, mul_zero]; rfl)

/-- Where the support holds, both restrictions are the identity; elsewhere the mask is zero. -/
theorem toFn_msTerm_exact (m : Vector K d) (F : Vector (Vector K n) d) (B : Vector (Vector K d) n) (i : ℕ)
    (sp : Vector Bool d × Vector K d) (M : Vector K d) (E : Vector K n) (hM : VanishesOff sp.1 (toFn M)) :
    toFn (msTerm (exactLevel m F B i sp) M E) = toFn2 B *ᵥ (toFn2 F *ᵥ toFn E * toFn M) := by
  rw [toFn_msTerm]
  show toFn2 (restrictCols B sp.1) *ᵥ (toFn2 (restrictRows F sp.1) *ᵥ toFn E * toFn M) = _
  unfold restrictCols restrictRows
  rw [toFn2_ofFn, toFn2_ofFn]
  funext r
  simp only [mulVec, dotProduct, of_apply, toFn_ofFn, Pi.mul_apply]
  refine Finset.sum_congr rfl fun p _ => ?_
  cases hs : sp.1[p]
  · simp only [hM p hs, mul_zero]
  · rfl

theorem msSum_exact (m : Vector K d) (F : Vector (Vector K n) d) (B : Vector (Vector K d) n) (E : Vector K n)
    (sps : List (Vector Bool d × Vector K d)) (i : ℕ) (Ms : List (Vector K d))
    (h : List.Forall₂ (fun sp M => VanishesOff sp.1 (toFn M)) sps Ms) :
    toFn (msSum (exactLevelsFrom m F B i sps) Ms E) = toFn2 B *ᵥ (toFn2 F *ᵥ toFn E * (Ms.map toFn).sum) := by
  induction h generalizing i with
  | nil =>
    show toFn (zeroVec K n) = _
    rw [toFn_zeroVec, List.map_nil, List.sum_nil, mul_zero, mulVec_zero]
  | cons hM _ ih =>
    rw [List.map_cons, List.sum_cons, mul_add, mulVec_add, ← ih (i + 1), ← toFn_msTerm_exact m F B i _ _ E hM]
    exact toFn_msSum_cons _ _ _ _ E

/-- `cj` is the identity for `forward`, the conjugation for `backward`. -/
theorem msSum_map_exact [BEq K] [LawfulBEq K] (cj : K →+* K) (m : Vector K d) (F : Vector (Vector K n) d)
    (B : Vector (Vector K d) n) (sps : List (Vector Bool d × Vector K d)) (hne : sps ≠ [])
    (hok : nestedOK (onesVec K d) sps = true) (Ms : List (Vector K d))
    (hMs : Ms.map toFn = (expMasks (toFn m) 1 sps).map (cj ∘ ·)) (E : Vector K n) :
    toFn (msSum (exactLevels m F B sps) Ms E) = toFn2 B *ᵥ (toFn2 F *ᵥ toFn E * cj ∘ toFn m) := by
  have hN := expMasks_vanish (toFn m) sps (onesVec K d) hok
  rw [toFn_onesVec] at hN
  have hv : List.Forall₂ (fun sp M => VanishesOff sp.1 (toFn M)) sps Ms := by
    rw [← List.forall₂_map_right_iff, hMs, List.forall₂_map_right_iff]
    exact hN.imp fun _ _ h p hp => by
      show cj _ = 0
      rw [h p hp, map_zero]
  have hsum : (Ms.map toFn).sum = cj ∘ toFn m := by
    rw [hMs]
    have := map_list_sum (cj.toAddMonoidHom.compLeft (Fin d)) (expMasks (toFn m) 1 sps)
    rw [expMasks_sum _ _ _ hne, mul_one] at this
    exact this.symm
  exact (msSum_exact m F B E sps 0 Ms hv).trans (by rw [hsum])

theorem msForward_some (ls : List (MSLevel K d n)) (s E : Vector K n) :
    msForward ls (some s) E = Vector.ofFn (toFn (msForward ls none E) * toFn s) := rfl

theorem msBackward_some (cj : K → K) (ls : List (MSLevel K d n)) (s y : Vector K n) :
    msBackward cj ls (some s) y = msBackward cj ls none (Vector.ofFn (toFn y * cj ∘ toFn s)) := rfl

end Ring
end HcipyVerif.Coronagraph
