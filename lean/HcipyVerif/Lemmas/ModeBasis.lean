import HcipyVerif.Model.ModeBasis
import HcipyVerif.Lemmas.ListFacts
import Mathlib.Algebra.BigOperators.Group.List.Basic
import Mathlib.Algebra.Ring.Defs
import Mathlib.Data.Option.Basic

/-! The storage forms of `Model/ModeBasis.lean` through their entries function `ent`: a basis whose
entries are `f` on the box has the dense table `table n m f` (`toDense_eq_table`), so each constructor
and operation needs only its entry formula (`ent_*`) and its well-formedness (`WF_*`). -/
set_option linter.unusedSectionVars false

namespace HcipyVerif.ModeBasis
open HcipyVerif.ListFacts
variable {K : Type}

theorem getD_map_range_ge {α} (n : Nat) (f : Nat → α) (d : α) (i : Nat) (h : n ≤ i) :
    ((List.range n).map f).getD i d = d := by
  simp [List.getD_eq_getElem?_getD, h]

theorem exists_getD_of_mem {α} (l : List α) (d x : α) (h : x ∈ l) :
    ∃ i, i < l.length ∧ l.getD i d = x := by
  obtain ⟨i, hi, rfl⟩ := List.getElem_of_mem h
  exact ⟨i, hi, by rw [List.getD_eq_getElem?_getD, List.getElem?_eq_getElem hi]; rfl⟩

section
variable [Zero K]

theorem table_length (n m : Nat) (f : Nat → Nat → K) : (table n m f).length = n := by
  simp [table]

theorem rowsEntry_table (n m : Nat) (f : Nat → Nat → K) (i j : Nat) (hi : i < n) (hj : j < m) :
    rowsEntry (table n m f) i j = f i j := by
  unfold rowsEntry table
  rw [getD_map_range _ hi, getD_map_range _ hj]

theorem length_of_mem_table (n m : Nat) (f : Nat → Nat → K) : ∀ r ∈ table n m f, r.length = m := by
  intro r hr
  obtain ⟨i, _, rfl⟩ := List.mem_map.mp hr
  rw [List.length_map, List.length_range]

theorem rows_eq_table (n m : Nat) (rows : List (List K)) (h1 : rows.length = n)
    (h2 : ∀ r ∈ rows, r.length = m) : table n m (rowsEntry rows) = rows := by
  apply List.ext_getElem
  · simp [table, h1]
  · intro i hi hi'
    simp [table] at hi ⊢
    have hr : rows[i].length = m := h2 _ (List.getElem_mem hi')
    apply List.ext_getElem
    · simp [hr]
    · intro j hj hj'
      simp at hj
      simp [rowsEntry, List.getD_eq_getElem?_getD, hi', hj']
end

section
variable [AddCommMonoid K]

theorem colEntry_nil (i : Nat) : colEntry ([] : SCol K) i = 0 := by simp [colEntry]

theorem colEntry_cons (p : Nat × K) (c : SCol K) (i : Nat) :
    colEntry (p :: c) i = (if p.1 = i then p.2 else 0) + colEntry c i := by
  unfold colEntry
  by_cases h : p.1 = i <;> simp [h]

theorem colEntry_append (c d : SCol K) (i : Nat) :
    colEntry (c ++ d) i = colEntry c i + colEntry d i := by
  simp [colEntry, List.filter_append, List.sum_append]

/-- `eliminate_zeros` keeps every entry -/
theorem colEntry_filter_ne_zero [DecidableEq K] (c : SCol K) (i : Nat) :
    colEntry (c.filter fun p => p.2 ≠ 0) i = colEntry c i := by
  induction c with
  | nil => rfl
  | cons p c ih =>
    rw [List.filter_cons, colEntry_cons]
    by_cases h0 : p.2 = 0
    · rw [if_neg (by simpa using h0), ih, h0, ite_self, zero_add]
    · rw [if_pos (by simpa using h0), colEntry_cons, ih]

theorem colEntry_map_const (l : SCol K) (i' i : Nat) :
    colEntry (l.map fun p => (i', p.2)) i = if i' = i then (l.map (·.2)).sum else 0 := by
  induction l with
  | nil => simp [colEntry]
  | cons p l ih =>
    rw [List.map_cons, colEntry_cons, ih]
    by_cases h : i' = i <;> simp [h]

theorem colEntry_flatMap_range (N : Nat) (F : Nat → SCol K) (i : Nat) :
    colEntry ((List.range N).flatMap fun i' => (F i').map fun p => (i', p.2)) i =
      if i < N then ((F i).map (·.2)).sum else 0 := by
  induction N with
  | zero => simp [colEntry]
  | succ N ih =>
    rw [List.range_succ, List.flatMap_append, colEntry_append, ih, List.flatMap_singleton,
      colEntry_map_const]
    rcases Nat.lt_trichotomy i N with h | rfl | h
    · rw [if_pos h, if_neg (by omega), if_pos (by omega), add_zero]
    · rw [if_neg (Nat.lt_irrefl _), if_pos rfl, if_pos (Nat.lt_succ_self _), zero_add]
    · rw [if_neg (by omega), if_neg (by omega), if_neg (by omega), add_zero]

theorem colEntry_map_range (e : Nat → K) (n i : Nat) :
    colEntry ((List.range n).map fun t => (t, e t)) i = if i < n then e i else 0 := by
  have := colEntry_flatMap_range n (fun t => [(t, e t)]) i
  simpa [List.map_eq_flatMap] using this

theorem colEntry_compressCol [DecidableEq K] (rows : List (List K)) (i j : Nat) :
    colEntry (compressCol rows j) i = rowsEntry rows i j := by
  unfold compressCol
  rw [colEntry_filter_ne_zero, colEntry_map_range (fun t => rowsEntry rows t j)]
  by_cases h : i < rows.length
  · simp [h]
  · simp [h, rowsEntry, List.getD_eq_getElem?_getD]
theorem toDense_dense (n m : Nat) (rows : List (List K)) (h : WF (.dense n m rows)) :
    toDense (.dense n m rows) = rows := by
  unfold toDense
  simp only [Basis.npix, Basis.nmodes]
  exact rows_eq_table n m rows h.1 h.2

theorem toDense_length (b : Basis K) : (toDense b).length = b.npix := by
  simp [toDense, table]

theorem rowsEntry_toDense (b : Basis K) (i j : Nat) (hi : i < b.npix) (hj : j < b.nmodes) :
    rowsEntry (toDense b) i j = ent b i j := rowsEntry_table _ _ _ _ _ hi hj

theorem ent_sparse_ge (n m : Nat) (cols : List (SCol K)) (hc : cols.length = m) (i j : Nat) (hj : m ≤ j) :
    ent (.sparse n m cols) i j = 0 := by
  show colEntry (cols.getD j []) i = 0
  rw [List.getD_eq_default cols [] (hc ▸ hj), colEntry_nil]

theorem WF_table (n m : Nat) (f : Nat → Nat → K) : WF (.dense n m (table n m f)) :=
  ⟨table_length n m f, length_of_mem_table n m f⟩

theorem WF_toDense (b : Basis K) : WF (.dense b.npix b.nmodes (toDense b)) := WF_table _ _ _

/-! Every sparse basis the model builds lists its columns as `(List.range m).map F`; its entries
and its well-formedness are read off `F`. -/

theorem ent_sparse_range (n m : Nat) (F : Nat → SCol K) (i j : Nat) (hj : j < m) :
    ent (.sparse n m ((List.range m).map F)) i j = colEntry (F j) i :=
  congrArg (colEntry · i) (getD_map_range F hj [])

theorem WF_sparse_range (n m : Nat) (F : Nat → SCol K) (h : ∀ j, j < m → ∀ p ∈ F j, p.1 < n) :
    WF (.sparse n m ((List.range m).map F)) := by
  refine ⟨by rw [List.length_map, List.length_range], fun c hc => ?_⟩
  obtain ⟨j, hj, rfl⟩ := List.mem_map.mp hc
  exact h j (List.mem_range.mp hj)

theorem column_eq (b : Basis K) (j : Nat) (hj : j < b.nmodes) :
    column b j = (toDense b).map (·.getD j 0) := by
  unfold column toDense table
  rw [List.map_map]
  apply List.map_congr_left
  intro i hi
  simp only [Function.comp]
  rw [getD_map_range _ hj]

end

section
variable [CommSemiring K]

theorem linComb_eq (b : Basis K) (hb : WF b) (c : List K) :
    linComb b c = matvec (toDense b) c := by
  cases b with
  | dense n m rows => rw [toDense_dense n m rows hb]; rfl
  | sparse n m cols =>
    obtain ⟨hc, _⟩ := hb
    simp only [linComb, matvec, toDense, table, Basis.npix, Basis.nmodes, List.map_map]
    apply List.map_congr_left
    intro i _
    simp only [Function.comp, dot, ent]
    congr 1
    have : (List.range m).map (fun j => colEntry (cols.getD j []) i) = cols.map (colEntry · i) := by
      rw [map_eq_range_map_getD cols [] (colEntry · i), hc]
    rw [this, List.zipWith_map_left]
end

section
variable [AddCommMonoid K]

/-- two bases denote the same matrix -/
def Same (a b : Basis K) : Prop := a.npix = b.npix ∧ a.nmodes = b.nmodes ∧ toDense a = toDense b

theorem table_congr (n m : Nat) (f g : Nat → Nat → K) (h : ∀ i j, i < n → j < m → f i j = g i j) :
    table n m f = table n m g := by
  unfold table
  apply List.map_congr_left; intro i hi
  apply List.map_congr_left; intro j hj
  exact h i j (List.mem_range.mp hi) (List.mem_range.mp hj)

theorem toDense_eq_table (b : Basis K) (n m : Nat) (f : Nat → Nat → K) (h1 : b.npix = n)
    (h2 : b.nmodes = m) (h : ∀ i j, i < n → j < m → ent b i j = f i j) :
    toDense b = table n m f := by
  subst h1 h2
  exact table_congr _ _ _ _ h

variable [DecidableEq K]

theorem sparsify_npix (b : Basis K) : (sparsify b).npix = b.npix := by cases b <;> rfl
theorem sparsify_nmodes (b : Basis K) : (sparsify b).nmodes = b.nmodes := by cases b <;> rfl
theorem sparsify_isSparse (b : Basis K) : (sparsify b).isSparse = true := by cases b <;> rfl
theorem densify_npix (b : Basis K) : (densify b).npix = b.npix := by cases b <;> rfl
theorem densify_nmodes (b : Basis K) : (densify b).nmodes = b.nmodes := by cases b <;> rfl
theorem densify_isSparse (b : Basis K) : (densify b).isSparse = false := by cases b <;> rfl

theorem ent_sparsify (b : Basis K) (i j : Nat) (hj : j < b.nmodes) : ent (sparsify b) i j = ent b i j := by
  cases b with
  | sparse n m cols => rfl
  | dense n m rows => exact (ent_sparse_range n m _ i j hj).trans (colEntry_compressCol rows i j)

theorem WF_sparsify (b : Basis K) (hb : WF b) : WF (sparsify b) := by
  cases b with
  | sparse n m cols => exact hb
  | dense n m rows =>
    refine WF_sparse_range n m _ fun j _ p hp => ?_
    obtain ⟨t, ht, rfl⟩ := List.mem_map.mp (List.mem_of_mem_filter hp)
    exact hb.1 ▸ List.mem_range.mp ht

theorem toDense_sparsify (b : Basis K) : toDense (sparsify b) = toDense b :=
  toDense_eq_table _ _ _ (ent b) (sparsify_npix b) (sparsify_nmodes b) fun i j _ hj =>
    ent_sparsify b i j hj

theorem toDense_densify (b : Basis K) : toDense (densify b) = toDense b := by
  cases b with
  | dense n m rows => rfl
  | sparse n m cols =>
    simp only [densify]
    exact toDense_dense n m _ (WF_toDense (.sparse n m cols))

theorem WF_densify (b : Basis K) (hb : WF b) : WF (densify b) := by
  cases b with
  | dense n m rows => exact hb
  | sparse n m cols => exact WF_toDense (.sparse n m cols)

end

section
variable [AddCommMonoid K]

theorem table_append (n m m' : Nat) (f g : Nat → Nat → K) :
    table n (m + m') (fun i j => if j < m then f i j else g i (j - m))
      = List.zipWith (· ++ ·) (table n m f) (table n m' g) := by
  unfold table
  rw [List.zipWith_map_left, List.zipWith_map_right, List.zipWith_self]
  apply List.map_congr_left
  intro i _
  rw [List.range_add, List.map_append, List.map_map]
  congr 1
  · apply List.map_congr_left; intro j hj; simp at hj; simp [hj]
  · apply List.map_congr_left; intro j hj; simp

variable [DecidableEq K]

/-- `np.concatenate(axis=-1)` on the rows: well-formed dense rows are tables, and tables concatenate
to a table -/
theorem hstack_rows (n m m' : Nat) (ra rb : List (List K)) (ha : WF (.dense n m ra))
    (hb : WF (.dense n m' rb)) :
    WF (.dense n (m + m') (List.zipWith (· ++ ·) ra rb)) ∧
    toDense (.dense n (m + m') (List.zipWith (· ++ ·) ra rb)) =
      List.zipWith (· ++ ·) (toDense (.dense n m ra)) (toDense (.dense n m' rb)) := by
  have hW : WF (.dense n (m + m') (List.zipWith (· ++ ·) ra rb)) := by
    rw [← rows_eq_table n m ra ha.1 ha.2, ← rows_eq_table n m' rb hb.1 hb.2, ← table_append]
    exact WF_table _ _ _
  exact ⟨hW, by rw [toDense_dense _ _ _ hW, toDense_dense _ _ _ ha, toDense_dense _ _ _ hb]⟩

/-- `scipy.sparse.hstack` on the stored columns -/
theorem hstack_cols (n m m' : Nat) (ca cb : List (SCol K)) (ha : WF (.sparse n m ca))
    (hb : WF (.sparse n m' cb)) :
    WF (.sparse n (m + m') (ca ++ cb)) ∧
    toDense (.sparse n (m + m') (ca ++ cb)) =
      List.zipWith (· ++ ·) (toDense (.sparse n m ca)) (toDense (.sparse n m' cb)) := by
  refine ⟨⟨by rw [List.length_append, ha.1, hb.1],
    fun c hc => (List.mem_append.mp hc).elim (ha.2 c) (hb.2 c)⟩, ?_⟩
  refine (toDense_eq_table _ n (m + m') _ rfl rfl fun i j _ _ => ?_).trans (table_append n m m' _ _)
  show colEntry ((ca ++ cb).getD j []) i =
    if j < m then colEntry (ca.getD j []) i else colEntry (cb.getD (j - m) []) i
  split_ifs with hj
  · rw [List.getD_append _ _ _ _ (ha.1 ▸ hj)]
  · rw [List.getD_append_right _ _ _ _ (ha.1 ▸ Nat.le_of_not_lt hj), ha.1]

end

section
variable [AddCommMonoid K]

/-- numpy's `T[..., idx]` on the dense table -/
def pickCols (rows : List (List K)) (idx : List Nat) : List (List K) :=
  rows.map fun r => idx.map fun j => r.getD j 0

theorem selectCols_npix (b : Basis K) (idx : List Nat) : (selectCols b idx).npix = b.npix := by
  cases b <;> rfl
theorem selectCols_nmodes (b : Basis K) (idx : List Nat) : (selectCols b idx).nmodes = idx.length := by
  cases b <;> rfl
theorem selectCols_isSparse (b : Basis K) (idx : List Nat) : (selectCols b idx).isSparse = b.isSparse := by
  cases b <;> rfl

theorem WF_selectCols (b : Basis K) (hb : WF b) (idx : List Nat) : WF (selectCols b idx) := by
  cases b with
  | dense n m rows =>
    refine ⟨by simp [hb.1], ?_⟩
    intro r hr; simp at hr; obtain ⟨r', _, rfl⟩ := hr; simp
  | sparse n m cols =>
    refine ⟨List.length_map _, fun c hc p hp => ?_⟩
    obtain ⟨j, _, rfl⟩ := List.mem_map.mp hc
    by_cases hj : j < cols.length
    · exact hb.2 _ (getD_mem cols [] _ hj) p hp
    · rw [List.getD_eq_default cols [] (Nat.le_of_not_lt hj)] at hp
      cases hp

theorem toDense_selectCols (b : Basis K) (hb : WF b) (idx : List Nat) :
    toDense (selectCols b idx) = pickCols (toDense b) idx := by
  cases b with
  | dense n m rows =>
    rw [toDense_dense n m rows hb]
    exact toDense_dense n idx.length _ (WF_selectCols (.dense n m rows) hb idx)
  | sparse n m cols =>
    rw [toDense_eq_table (selectCols (.sparse n m cols) idx) n idx.length
      (fun i t => ent (.sparse n m cols) i (idx.getD t 0)) rfl rfl
      fun i t _ ht => congrArg (colEntry · i) (getD_map_lt _ ht 0 [])]
    unfold pickCols toDense table
    rw [List.map_map]
    apply List.map_congr_left
    intro i _
    simp only [Function.comp]
    conv_rhs => rw [map_eq_range_map_getD idx 0]
    apply List.map_congr_left
    intro t _
    by_cases hj : idx.getD t 0 < m
    · exact (getD_map_range _ hj _).symm
    · rw [ent_sparse_ge n m cols hb.1 i _ (Nat.le_of_not_lt hj)]
      exact (getD_map_range_ge _ _ _ _ (Nat.le_of_not_lt hj)).symm

/-- what an item denotes, independent of the storage form -/
inductive ItemDen (K : Type) where
  | mode (v : List K)
  | basis (npix nmodes : Nat) (rows : List (List K))

def Item.den : Item K → ItemDen K
  | .mode v => .mode v
  | .basis b => .basis b.npix b.nmodes (toDense b)

theorem getItem_int (b : Basis K) (k : Int) :
    getItem b (.int k) = match normIndex b.nmodes k with
      | some j => .ok (.mode (column b j))
      | none => .error .index := by
  unfold getItem selIdx
  cases h : normIndex b.nmodes k <;> simp [h]

theorem getItem_multi (b : Basis K) (ix : Index) (h : ∀ k, ix ≠ .int k) :
    getItem b ix = match selIdx b.nmodes ix with
      | .ok idx => .ok (.basis (selectCols b idx))
      | .error e => .error e := by
  unfold getItem
  cases hs : selIdx b.nmodes ix with
  | error e => rfl
  | ok idx => cases ix <;> simp_all

theorem normIndex_lt (n : Nat) (k : Int) (j : Nat) (h : normIndex n k = some j) : j < n := by
  revert h
  fun_cases normIndex n k <;> simp <;> omega

theorem ent_fromFields (npix : Nat) (modes : List (List K)) (i j : Nat) (hi : i < npix) (hj : j < modes.length) :
    ent (fromFields npix modes) i j = (modes.getD j []).getD i 0 := by
  simp only [fromFields, ent]
  exact rowsEntry_table _ _ _ _ _ hi hj

theorem WF_fromFields (npix : Nat) (modes : List (List K)) : WF (fromFields npix modes) :=
  WF_table _ _ _

theorem WF_fromSparseRows (npix : Nat) (modes : List (SCol K)) (h : ∀ c ∈ modes, ∀ p ∈ c, p.1 < npix) :
    WF (fromSparseRows npix modes) := ⟨rfl, h⟩

/-- the stored entries `lo … lo+len-1` of a flat (index, value) array, evaluated at row `i` -/
def segEntry (l : List (Nat × K)) (lo len i : Nat) : K :=
  ((List.range len).map fun t => if (l.getD (lo + t) (0, 0)).1 = i then (l.getD (lo + t) (0, 0)).2 else 0).sum

/-- no hypothesis on the range: a position beyond the end of `l` reads the default `(0, 0)`, which adds `0` -/
theorem colEntry_drop_take (l : List (Nat × K)) (lo len i : Nat) :
    colEntry ((l.drop lo).take len) i = segEntry l lo len i := by
  -- from the end of the window, as `segEntry` sums: one more position reads `l[lo + len]?`
  induction len with
  | zero => simp [colEntry, segEntry]
  | succ len ih =>
    unfold segEntry at ih ⊢
    rw [List.take_add_one, colEntry_append, ih, List.sum_range_succ, List.getElem?_drop,
      List.getD_eq_getElem?_getD]
    congr 1
    cases l[lo + len]? with
    | none => exact (ite_self 0).symm
    | some p => exact (colEntry_cons p [] i).trans (add_zero _)

/-- CSC semantics: entry `(i, j)` is the sum of the stored values of column `j`
(`indptr[j] ≤ k < indptr[j+1]`) whose row index is `i`. -/
def cscEntry (indptr indices : List Nat) (data : List K) (i j : Nat) : K :=
  segEntry (indices.zip data) (indptr.getD j 0) (indptr.getD (j + 1) 0 - indptr.getD j 0) i

theorem splitCSC_length (m : Nat) (indptr indices : List Nat) (data : List K) :
    (splitCSC m indptr indices data).length = m := by
  rw [splitCSC, List.length_map, List.length_range]

/-- column `j` cut out of a flat CSC triple (or row `j` out of a CSR triple), whatever the pointers -/
theorem colEntry_splitCSC (m : Nat) (indptr indices : List Nat) (data : List K) (i j : Nat) (hj : j < m) :
    colEntry ((splitCSC m indptr indices data).getD j []) i = cscEntry indptr indices data i j := by
  unfold splitCSC
  rw [getD_map_range _ hj]
  exact colEntry_drop_take _ _ _ _

theorem ent_fromCSC (npix nmodes : Nat) (indptr indices : List Nat) (data : List K) (i j : Nat)
    (hj : j < nmodes) :
    ent (fromCSC npix nmodes indptr indices data) i j = cscEntry indptr indices data i j :=
  colEntry_splitCSC nmodes indptr indices data i j hj

theorem WF_fromCSC (npix nmodes : Nat) (indptr indices : List Nat) (data : List K)
    (hidx : ∀ r ∈ indices, r < npix) : WF (fromCSC npix nmodes indptr indices data) :=
  WF_sparse_range npix nmodes _ fun _ _ _ hp =>
    hidx _ (List.of_mem_zip (List.mem_of_mem_drop (List.mem_of_mem_take hp))).1

end

section
variable [AddCommMonoid K] [DecidableEq K]

theorem extend_sparse_eq_add (n m : Nat) (ca : List (SCol K)) (b : Basis K) :
    extend (.sparse n m ca) b = add (.sparse n m ca) b := by
  cases b <;> rfl

theorem extend_dense_eq_add (n m : Nat) (ra : List (List K)) (b : Basis K) :
    extend (.dense n m ra) b = add (.dense n m ra) (.dense b.npix b.nmodes (toDense b)) := rfl

end

theorem allVec_map (n : Nat) (vs : List (List K)) (h : ∀ v ∈ vs, v.length = n) :
    allVec n (vs.map Mode.vec) = some vs := by
  induction vs with
  | nil => rfl
  | cons v vs ih =>
    have hv : v.length = n := h v (by simp)
    simp [allVec, hv, ih (fun w hw => h w (by simp [hw]))]

theorem allRow_eq_some (n : Nat) (items : List (Mode K)) (es : List (SCol K)) :
    allRow n items = some es ↔ items = es.map (Mode.sp 1 n) := by
  induction items generalizing es with
  | nil => cases es <;> simp [allRow]
  | cons a items ih =>
    cases a with
    | vec v => cases es <;> simp [allRow]
    | sp nr nc e =>
      cases es with
      | nil => simp [allRow]
      | cons e' es => simp [allRow, ih, and_assoc, eq_comm, and_comm, and_left_comm]

theorem allRow_map (n : Nat) (es : List (SCol K)) :
    allRow n (es.map (Mode.sp 1 n)) = some es := (allRow_eq_some n _ es).mpr rfl

theorem allVec_sp (n nr nc : Nat) (e : SCol K) (l l' : List (Mode K)) :
    allVec n (l ++ .sp nr nc e :: l') = none := by
  induction l with
  | nil => rfl
  | cons a l ih =>
    cases a with
    | vec v => simp only [List.cons_append, allVec]; split <;> simp [ih]
    | sp => rfl

theorem allRow_vec (n : Nat) (v : List K) (l l' : List (Mode K)) :
    allRow n (l ++ .vec v :: l') = none := by
  rw [Option.eq_none_iff_forall_ne_some]
  intro es h
  have : Mode.vec v ∈ es.map (Mode.sp 1 n) := by rw [← (allRow_eq_some n _ es).mp h]; simp
  simp at this

section
variable [AddCommMonoid K]

/-- a row index beyond the stored rows reads the empty row on both sides -/
theorem ent_transposeRows (n m : Nat) (rows : List (SCol K)) (i j : Nat) (hj : j < m) :
    ent (.sparse n m (transposeRows m rows)) i j = colEntry (rows.getD i []) j := by
  rw [transposeRows, ent_sparse_range n m _ i j hj,
    colEntry_flatMap_range rows.length (fun i' => (rows.getD i' []).filter fun p => p.1 == j) i]
  split_ifs with hi
  · rfl
  · rw [List.getD_eq_default _ _ (Nat.le_of_not_lt hi)]
    rfl

/-- entry `(i, j)` of a COO matrix: the sum of the values stored for that cell -/
def cooEntry (row col : List Nat) (data : List K) (i j : Nat) : K :=
  (((col.zip (row.zip data)).filter fun t => t.1 == j && t.2.1 == i).map (·.2.2)).sum

theorem ent_cooCols (n m : Nat) (row col : List Nat) (data : List K) (i j : Nat) (hj : j < m) :
    ent (.sparse n m (cooCols m row col data)) i j = cooEntry row col data i j := by
  rw [cooCols, ent_sparse_range n m _ i j hj]
  unfold colEntry cooEntry
  rw [List.filter_map, List.map_map, List.filter_filter]
  congr 2
  apply List.filter_congr
  intro t _
  exact Bool.and_comm _ _

theorem WF_transposeRows (m : Nat) (rows : List (SCol K)) :
    WF (.sparse rows.length m (transposeRows m rows)) :=
  WF_sparse_range _ m _ fun j _ p hp => by
    obtain ⟨i, hi, hp⟩ := List.mem_flatMap.mp hp
    obtain ⟨q, _, rfl⟩ := List.mem_map.mp hp
    exact List.mem_range.mp hi

theorem WF_cooCols (n m : Nat) (row col : List Nat) (data : List K) (h : ∀ r ∈ row, r < n) :
    WF (.sparse n m (cooCols m row col data)) :=
  WF_sparse_range n m _ fun j _ p hp => by
    obtain ⟨t, ht, rfl⟩ := List.mem_map.mp hp
    exact h _ (List.of_mem_zip (List.of_mem_zip (List.mem_of_mem_filter ht)).2).1

end

end HcipyVerif.ModeBasis
