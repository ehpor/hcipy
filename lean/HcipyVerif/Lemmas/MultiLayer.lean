import HcipyVerif.Model.MultiLayer
import HcipyVerif.Lemmas.Layer
import Mathlib.Data.List.Sort

/-! Helper lemmas for the `MultiLayerAtmosphere` model (C15). -/
namespace HcipyVerif.Layer

def Desc (l : List (Nat × Rat)) : Prop := l.Pairwise (fun a b => b.2 ≤ a.2)

theorem insDesc_eq (x : Nat × Rat) : ∀ l, insDesc x l = l.orderedInsert (fun a b => b.2 ≤ a.2) x
  | [] => rfl
  | y :: ys => by rw [insDesc, List.orderedInsert_cons, insDesc_eq x ys]

theorem sortDesc_eq (l : List (Nat × Rat)) : sortDesc l = l.insertionSort (fun a b => b.2 ≤ a.2) :=
  congrArg (List.foldr · [] l) (funext₂ insDesc_eq)

theorem sortDesc_perm (l : List (Nat × Rat)) : (sortDesc l).Perm l := sortDesc_eq l ▸ List.perm_insertionSort _ l

theorem sortDesc_desc (l : List (Nat × Rat)) : Desc (sortDesc l) :=
  have : Std.Total fun a b : Nat × Rat => b.2 ≤ a.2 := ⟨fun a b => le_total b.2 a.2⟩
  have : IsTrans _ fun a b : Nat × Rat => b.2 ≤ a.2 := ⟨fun _ _ _ h₁ h₂ => le_trans h₂ h₁⟩
  sortDesc_eq l ▸ List.pairwise_insertionSort _ l

/-- `enumerate(heights)` is core's `zipIdx`, index first -/
theorem indexedFrom_eq : ∀ (hs : List Rat) (k : Nat), indexedFrom k hs = (hs.zipIdx k).map Prod.swap
  | [], _ => rfl
  | _ :: r, k => congrArg (_ :: ·) (indexedFrom_eq r (k + 1))

theorem sorted_entry (hs : List Rat) (x : Nat × Rat) (hx : x ∈ sortDesc (indexed hs)) : hs.getD x.1 0 = x.2 := by
  have hx := (sortDesc_perm _).mem_iff.1 hx
  rw [indexed, indexedFrom_eq] at hx
  obtain ⟨y, hy, rfl⟩ := List.mem_map.1 hx
  show hs.getD y.2 0 = y.1
  rw [List.getD_eq_getElem?_getD, List.mem_zipIdx_iff_getElem?.1 hy]; rfl

theorem sortDesc_heights (hs : List Rat) : ((sortDesc (indexed hs)).map Prod.snd).Perm hs :=
  ((sortDesc_perm (indexed hs)).map Prod.snd).trans
    (.of_eq (by rw [indexed, indexedFrom_eq, List.map_map]; exact List.zipIdx_map_fst 0 hs))

theorem mem_sortDesc_indexed {hs : List Rat} {z : Nat × Rat} (hz : z ∈ sortDesc (indexed hs)) : z.2 ∈ hs :=
  (sortDesc_heights hs).mem_iff.1 (List.mem_map_of_mem hz)

theorem layerOrder_prop (c : Prop) [Decidable c] (d : Rat) (es : List El) :
    layerOrder ((if c then [El.prop d] else []) ++ es) = layerOrder es := by split <;> rfl

theorem layerOrder_elementsOf (s : Bool) : ∀ l, layerOrder (elementsOf s l) = l.map Prod.fst
  | [] => rfl
  | [x] => by
    rw [elementsOf]
    exact congrArg (x.1 :: ·) ((congrArg layerOrder (List.append_nil _).symm).trans (layerOrder_prop _ _ []))
  | x :: y :: r => by
    rw [elementsOf]
    exact congrArg (x.1 :: ·) ((layerOrder_prop _ _ _).trans (layerOrder_elementsOf s (y :: r)))

theorem elementsOf_false : ∀ l, elementsOf false l = l.map (fun x => El.layer x.1)
  | [] => rfl
  | [x] => by simp [elementsOf]
  | x :: y :: r => by simp [elementsOf, elementsOf_false (y :: r)]

theorem propSum_elementsOf : ∀ (r : List (Nat × Rat)) (x : Nat × Rat), (∀ z ∈ x :: r, 0 ≤ z.2) →
    propSum (elementsOf true (x :: r)) = x.2
  | [], x, h => by
    have hx : 0 ≤ x.2 := h x (List.mem_cons_self ..)
    by_cases hp : 0 < x.2
    · simp [elementsOf, propSum, El.dist, hp]
    · have : x.2 = 0 := le_antisymm (not_lt.1 hp) hx
      simp [elementsOf, propSum, El.dist, this]
  | y :: r, x, h => by
    have ih := propSum_elementsOf r y (fun z hz => h z (List.mem_cons_of_mem _ hz))
    simp only [elementsOf, if_true, List.singleton_append, propSum, El.dist, ih]
    ring

theorem dist_nonneg_elementsOf (s : Bool) : ∀ l, Desc l → (∀ z ∈ l, 0 ≤ z.2) → ∀ e ∈ elementsOf s l, 0 ≤ e.dist
  | [], _, _, e, he => by simp [elementsOf] at he
  | [x], _, h0, e, he => by
    simp only [elementsOf, List.mem_cons] at he
    rcases he with rfl | he
    · simp [El.dist]
    · split at he
      · simp at he; subst he; exact h0 x (List.mem_cons_self ..)
      · simp at he
  | x :: y :: r, hd, h0, e, he => by
    have hxy : y.2 ≤ x.2 := (List.pairwise_cons.1 hd).1 y (List.mem_cons_self ..)
    have ih := dist_nonneg_elementsOf s (y :: r) (List.pairwise_cons.1 hd).2 (fun z hz => h0 z (List.mem_cons_of_mem _ hz))
    simp only [elementsOf, List.mem_cons, List.mem_append] at he
    rcases he with rfl | he | he
    · simp [El.dist]
    · split at he
      · simp at he; subst he; exact sub_nonneg.2 hxy
      · simp at he
    · exact ih e he

/-- either a rebuild is pending or the element list is the one of the current heights and flag -/
def Atm.Inv (A : Atm) : Prop := A.dirty = true ∨ A.elements = buildElements A.scint A.heights

def AOp.isSetHeight : AOp → Bool
  | .setHeight _ _ => true
  | _ => false

theorem Atm.new_inv (hs : List Rat) (s : Bool) : (Atm.new hs s).Inv := Or.inr rfl

theorem Atm.step_inv (A : Atm) (o : AOp) (ho : o.isSetHeight = false) (hi : A.Inv) : (A.step o).Inv := by
  cases o with
  | setLayers hs => exact Or.inl rfl
  | setScint b =>
    by_cases hb : b = A.scint
    · subst hb; simpa [Atm.Inv, Atm.step] using hi
    · exact Or.inl (by simp [Atm.step, hb])
  | setHeight j h => cases ho
  | propagate =>
    show (if A.dirty then A.calc else A).Inv
    split
    · exact Or.inr rfl
    · exact hi
  | recalc => exact Or.inr rfl

theorem Atm.run_inv (h : List AOp) (A : Atm) (hh : ∀ o ∈ h, o.isSetHeight = false) (hi : A.Inv) : (A.run h).Inv :=
  List.foldlRecOn (motive := Atm.Inv) h Atm.step hi fun s hs o ho => s.step_inv o (hh o ho) hs

def MOp.isIndep : MOp → Bool
  | .direct _ o => o.isIndep
  | _ => false

def MOp.isSet : MOp → Bool
  | .direct _ o => o.isSet
  | .setCn2 _ => true
  | .setL0 _ => true
  | _ => false

theorem AnyL.evolve?_eq_step (a a' : AnyL) (t : Rat) (h : a.evolve? t = some a') : a' = a.step (.evolve t) := by
  cases a with
  | fin L => simp [AnyL.evolve?] at h; subst h; rfl
  | inf L =>
    simp only [AnyL.evolve?, Option.map_eq_some_iff] at h
    obtain ⟨L', h1, h2⟩ := h
    subst h2
    simp [AnyL.step, InfL.step, h1]

section keeps
-- `π` is `AnyL.ident` or `AnyL.vp`
variable {β : Type} (π : AnyL → β)

theorem evolveAll_keeps (t : Rat) (h : ∀ a, π (a.step (.evolve t)) = π a) (l : List AnyL) :
    (evolveAll t l).1.map π = l.map π := by
  fun_induction evolveAll t l with
  | case1 => rfl
  | case2 => rfl
  | case3 a r a' ha ih => rw [List.map_cons, List.map_cons, ih, AnyL.evolve?_eq_step a a' t ha, h]

theorem modifyAt_keeps {α : Type} (π : α → β) (f : α → α) (h : ∀ a, π (f a) = π a) (j : Nat) (l : List α) :
    (modifyAt f j l).map π = l.map π := by
  fun_induction modifyAt f j l with
  | case1 => rfl
  | case2 a r => rw [List.map_cons, List.map_cons, h]
  | case3 j a r ih => rw [List.map_cons, List.map_cons, ih]

theorem map_keeps {α : Type} (π : α → β) (f : α → α) (h : ∀ a, π (f a) = π a) (l : List α) :
    (l.map f).map π = l.map π := by
  rw [List.map_map]; exact List.map_congr_left fun a _ => h a

end keeps

theorem modifyAt_getElem? {α : Type} (f : α → α) (j : Nat) (l : List α) : (modifyAt f j l)[j]? = l[j]?.map f := by
  fun_induction modifyAt f j l with
  | case1 => rfl
  | case2 => rfl
  | case3 j a r ih => exact ih

theorem mem_modifyAt {α : Type} (f : α → α) (j : Nat) (l : List α) (b : α) (h : b ∈ modifyAt f j l) :
    b ∈ l ∨ ∃ a ∈ l, b = f a := by
  fun_induction modifyAt f j l with
  | case1 => exact Or.inl h
  | case2 a r =>
    rcases List.mem_cons.1 h with rfl | h
    · exact Or.inr ⟨a, List.mem_cons_self .., rfl⟩
    · exact Or.inl (List.mem_cons_of_mem _ h)
  | case3 j a r ih =>
    rcases List.mem_cons.1 h with rfl | h
    · exact Or.inl (List.mem_cons_self ..)
    · rcases ih h with h | ⟨c, hc, rfl⟩
      · exact Or.inl (List.mem_cons_of_mem _ h)
      · exact Or.inr ⟨c, List.mem_cons_of_mem _ hc, rfl⟩

theorem MLA.step_idents (A : MLA) (o : MOp) (h : o.isIndep = false) :
    (A.step o).layers.map AnyL.ident = A.layers.map AnyL.ident := by
  cases o with
  | evolve t => exact evolveAll_keeps _ t (fun a => a.step_ident _ rfl) _
  | reset | setCn2 _ | setL0 _ => exact map_keeps _ _ (fun a => a.step_ident _ rfl) _
  | direct j o => exact modifyAt_keeps _ _ (fun a => a.step_ident o h) j _

theorem MLA.run_idents (h : List MOp) (A : MLA) (hh : ∀ o ∈ h, o.isIndep = false) :
    (A.run h).layers.map AnyL.ident = A.layers.map AnyL.ident :=
  foldl_keeps MLA.step (·.layers.map AnyL.ident) _ MLA.step_idents h A hh

theorem MLA.step_vp (A : MLA) (o : MOp) (h : o.isSet = false) :
    (A.step o).layers.map AnyL.vp = A.layers.map AnyL.vp := by
  cases o with
  | evolve t => exact evolveAll_keeps _ t (fun a => a.step_vp _ rfl) _
  | reset => exact map_keeps _ _ (fun a => a.step_vp _ rfl) _
  | direct j o => exact modifyAt_keeps _ _ (fun a => a.step_vp o h) j _
  | _ => cases h

theorem MLA.run_vp (h : List MOp) (A : MLA) (hh : ∀ o ∈ h, o.isSet = false) :
    (A.run h).layers.map AnyL.vp = A.layers.map AnyL.vp :=
  foldl_keeps MLA.step (·.layers.map AnyL.vp) _ MLA.step_vp h A hh

theorem AnyL.reset_eq (a : AnyL) : a.step (.reset false) = AnyL.ofIdent a.ident a.vel a.par := by
  cases a <;> rfl

theorem MLA.reset_eq (A : MLA) : A.reset = MLA.ofIdents (A.layers.map AnyL.ident) A.layers := by
  unfold MLA.reset MLA.ofIdents
  rw [List.zipWith_map_left, List.zipWith_self]
  exact congrArg (MLA.mk · 0) (List.map_congr_left fun a _ => a.reset_eq)

theorem totalCn2_map (k : Rat) (f : AnyL → AnyL) (hf : ∀ a, (f a).par.cn2 = a.par.cn2 * k) :
    ∀ l : List AnyL, totalCn2 (l.map f) = totalCn2 l * k
  | [] => by simp [totalCn2]
  | a :: r => by simp [totalCn2, totalCn2_map k f hf r, hf a]; ring

theorem AnyL.setCn2_par (a : AnyL) (c : Rat) : (a.step (.setCn2 c)).par.cn2 = c ∧ (a.step (.setCn2 c)).par.L0 = a.par.L0 := by
  cases a <;> simp [AnyL.step, FinL.step, InfL.step, FinL.setCn2, InfL.setCn2, AnyL.par]

/-- `atm.phase_for(λ)` is the sum of the achromatic screens, over `λ` -/
theorem atmPhase_eq {K : Type} [Field K] (l : K) : ∀ as : List K, atmPhase l as = as.sum / l
  | [] => (zero_div l).symm
  | a :: r => by rw [atmPhase, phaseFor, atmPhase_eq l r, List.sum_cons, add_div]

theorem AnyL.ofIdent_new (s : Spec) (v : V2) (p : Par) :
    AnyL.ofIdent (AnyL.new s).ident v p = AnyL.new { s with vel := v, par := p } := by
  cases hs : s.isInf <;> simp [AnyL.new, AnyL.ofIdent, AnyL.ident, hs] <;> rfl

theorem AnyL.new_vp (s : Spec) : (AnyL.new s).vp = (s.vel, s.par) := by
  cases hs : s.isInf <;> simp [AnyL.new, AnyL.vp, AnyL.vel, AnyL.par, hs] <;> exact ⟨rfl, rfl⟩

theorem ofIdents_new (specs : List Spec) (cur : List AnyL) :
    MLA.ofIdents ((specs.map AnyL.new).map AnyL.ident) cur = MLA.new (currentSpecs specs cur) := by
  simp only [MLA.ofIdents, MLA.new, currentSpecs, List.map_map, List.zipWith_map_left, List.map_zipWith,
    Function.comp_apply, AnyL.ofIdent_new]

theorem currentSpecs_of_vp (specs : List Spec) (cur : List AnyL)
    (h : cur.map AnyL.vp = (specs.map AnyL.new).map AnyL.vp) : currentSpecs specs cur = specs := by
  have e : currentSpecs specs cur
      = List.zipWith (fun (s : Spec) (vp : V2 × Par) => { s with vel := vp.1, par := vp.2 }) specs (cur.map AnyL.vp) := by
    rw [List.zipWith_map_right]; rfl
  rw [e, h, List.map_map, List.zipWith_map_right, List.zipWith_self]
  exact (List.map_congr_left fun s _ => by rw [Function.comp, AnyL.new_vp]).trans (List.map_id' _)

theorem AnyL.reset_t (a : AnyL) (b : Bool) : (a.step (.reset b)).t = 0 := by
  cases a <;> rfl

theorem AnyL.new_t (s : Spec) : (AnyL.new s).t = 0 := by
  unfold AnyL.new
  split <;> rfl

/-- a time the layer does not refuse: any time for a finite layer, a time not before its own for an infinite layer -/
def AnyL.accepts (t : Rat) : AnyL → Prop
  | .fin _ => True
  | .inf L => L.t ≤ t

theorem AnyL.accepts_of_le (a : AnyL) (t : Rat) (h : a.t ≤ t) : a.accepts t := by
  cases a with
  | fin L => trivial
  | inf L => exact h

theorem AnyL.evolve?_accepts (a : AnyL) (t : Rat) (h : a.accepts t) :
    a.evolve? t = some (a.step (.evolve t)) ∧ (a.step (.evolve t)).t = t := by
  cases a with
  | fin L => exact ⟨rfl, rfl⟩
  | inf L =>
    have : ¬ t < L.t := not_lt.2 h
    constructor
    · simp [AnyL.evolve?, AnyL.step, InfL.step, InfL.evolve, this]
    · simp [AnyL.step, InfL.step, InfL.evolve, this, AnyL.t]
      rfl

theorem evolveAll_accepts (t : Rat) : ∀ l : List AnyL, (∀ a ∈ l, a.accepts t) →
    evolveAll t l = (l.map (·.step (.evolve t)), true)
  | [], _ => rfl
  | a :: r, h => by
    have h1 := (a.evolve?_accepts t (h a (List.mem_cons_self ..))).1
    have ih := evolveAll_accepts t r (fun b hb => h b (List.mem_cons_of_mem _ hb))
    unfold evolveAll
    rw [h1]
    simp [ih]

theorem MLA.step_evolve_accepts (A : MLA) (t : Rat) (ht : ∀ a ∈ A.layers, a.accepts t) :
    A.step (.evolve t) = { layers := A.layers.map (·.step (.evolve t)), t := t } ∧
    ∀ a ∈ (A.step (.evolve t)).layers, a.t = t := by
  have e : A.step (.evolve t) = { layers := A.layers.map (·.step (.evolve t)), t := t } := by
    rw [MLA.step, MLA.evolve, evolveAll_accepts t A.layers ht]; rfl
  refine ⟨e, fun a ha => ?_⟩
  rw [e] at ha
  obtain ⟨b, hb, rfl⟩ := List.mem_map.1 ha
  exact (b.evolve?_accepts t (ht b hb)).2

end HcipyVerif.Layer
