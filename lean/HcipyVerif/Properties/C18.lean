import HcipyVerif.Lemmas.Cramer
import Mathlib.Algebra.Order.Field.Rat

/-!
# C18 — Resampling is exact where it must be: interpolation and binning

Theorems about the models of `hcipy.interpolation` (`Model/Interp.lean`) and of
`subsample_field` / `evaluate_supersampled` (`Model/Binning.lean`), for every dimension, every
per-axis knot list, every simplex, every binning factor and tensor shape, over an arbitrary
(linearly ordered, where order matters) field `K`.  The models are tied to the code by the C18
correspondence (harness/props/c18.py); SciPy's choice of Delaunay simplex and of the k-d tree
tie-break are library behaviour: the theorems hold for *whatever* simplex contains the point and
for *whichever* minimiser is returned.

Hypotheses (each has a satisfiability `example` at the end):
`StrictMono ax` — knots strictly increasing *or* strictly decreasing, independently per axis (what
SciPy accepts and the real code passes on unchanged); `InDomain axes p` — `p` between the first
and last knot of every axis, in either order; `ZeroMean D ds` — the dither vectors add up to zero (true of the symmetric
dithers `make_uniform_grid(n, 1)`, see `dithers1_sum_zero`).
-/
set_option linter.unusedSectionVars false

namespace HcipyVerif.Interp
open HcipyVerif.Binning

variable {K : Type} [Field K] [LinearOrder K] [IsStrictOrderedRing K]

/-! ## linear interpolation -/

/-- **1-D linear interpolation is exact on affine functions**, inside and outside the cell. -/
theorem lerp_affine_exact (a b A c x : K) (h : a ≠ b) :
    lerp a b (A + c * a) (A + c * b) x = A + c * x :=
  lerp_affine a b A c x h

/-- **… and hits the samples** at both ends of the cell, for arbitrary sample values. -/
theorem lerp_hits_samples (a b va vb : K) (h : a ≠ b) :
    lerp a b va vb a = va ∧ lerp a b va vb b = vb :=
  ⟨lerp_left a b va vb, lerp_right a b va vb h⟩

/-- `sampleAffine` really is the affine function evaluated on the tensor grid in C order. -/
theorem sampleAffine_eq_map (axes : List (List K)) (c0 : K) (cs : List K)
    (hc : cs.length = axes.length) :
    sampleAffine axes c0 cs = (tensorPts axes).map (affine c0 cs) := by
  induction cs, axes, hc using length_eq_induction generalizing c0 with
  | nil => simp [sampleAffine, tensorPts, affine_nil]
  | cons c cs ax rest hc ih =>
    simp only [sampleAffine, tensorPts, List.map_flatMap, List.map_map]
    congr 1
    funext t
    rw [ih]
    apply List.map_congr_left
    intro q _
    simp [affine_cons]

/-- **Multilinear interpolation (tensor product, any number of axes, any strictly increasing
per-axis knots) is exact on affine functions** at every point of the domain — and, with
`fill_value=None` (`ext = true`), also outside it.  `sampleAffine axes c0 cs` is the C-order
array of `c0 + Σ c_k x_k` on the grid. -/
theorem multilinear_affine_exact (ext : Bool) (axes : List (List K)) (c0 : K) (cs p : List K)
    (hc : cs.length = axes.length) (hp : p.length = axes.length)
    (hax : ∀ ax ∈ axes, 2 ≤ ax.length ∧ StrictMono ax)
    (hin : ext = true ∨ InDomain axes p) :
    interpFlat ext axes (sampleAffine axes c0 cs) p = some (affine c0 cs p) := by
  induction axes generalizing c0 cs p with
  | nil =>
    rw [List.length_eq_zero_iff.mp hc, List.length_eq_zero_iff.mp hp, affine_nil]
    rfl
  | cons ax rest ih =>
    obtain ⟨c, cs, rfl⟩ := List.exists_cons_of_length_eq_add_one hc
    obtain ⟨x, p, rfl⟩ := List.exists_cons_of_length_eq_add_one hp
    replace hc := Nat.succ.inj hc
    rw [List.forall_mem_cons] at hax
    have hlen : ∀ t, (sampleAffine rest (c0 + c * t) cs).length = size (rest.map List.length) := fun t => by
      rw [sampleAffine_eq_map rest _ cs hc, List.length_map, tensorPts_len]
    have hrec : ∀ t, (fun v => interpFlat ext rest v p) (sampleAffine rest (c0 + c * t) cs)
        = some (affine c0 cs p + c * t) := fun t =>
      (ih (c0 + c * t) cs p hc (Nat.succ.inj hp) hax.2 (hin.imp id And.right)).trans
        (congrArg some (affine_add c0 (c * t) cs p))
    rw [interpFlat, sampleAffine, affine_cons, affine_add]
    exact interpAxis_affine ext _ _ (affine c0 cs p) c x (fun t => sampleAffine rest (c0 + c * t) cs)
      hlen hrec ax hax.1.1 hax.1.2 (hin.imp id And.left)

/-- The same in hcipy's conventions (`make_linear_interpolator_separated` after repair D11):
separated coordinates `[x-axis, y-axis, …]`, field values in hcipy order (x fastest), point
`[x, y, …]`; the wrapper reverses axes and point, the values need no re-ordering. -/
theorem linearSeparated_affine_exact (ext : Bool) (sep : List (List K)) (c0 : K) (c p : List K)
    (hc : c.length = sep.length) (hp : p.length = sep.length)
    (hax : ∀ ax ∈ sep, 2 ≤ ax.length ∧ StrictMono ax)
    (hin : ext = true ∨ InDomain sep.reverse p.reverse) :
    linearSeparated ext sep (sampleAffine sep.reverse c0 c.reverse) p
      = some (affine c0 c.reverse p.reverse) := by
  unfold linearSeparated
  exact multilinear_affine_exact ext sep.reverse c0 c.reverse p.reverse (by simp [hc]) (by simp [hp])
    (fun ax h => hax ax (List.mem_reverse.mp h)) hin

/-- **Linear interpolation reproduces affine functions, in hcipy's own conventions**: the field `f(q) = c0 + c·q`
sampled on the grid (hcipy point order), interpolated at `p = [x, y, …]`, gives `f(p)` — no reversed lists in the
statement. -/
theorem linearSeparated_affine_exact_direct (ext : Bool) (sep : List (List K)) (c0 : K) (c p : List K)
    (hc : c.length = sep.length) (hp : p.length = sep.length)
    (hax : ∀ ax ∈ sep, 2 ≤ ax.length ∧ StrictMono ax)
    (hin : ext = true ∨ InDomain sep.reverse p.reverse) :
    linearSeparated ext sep ((gridPts sep).map (affine c0 c)) p = some (affine c0 c p) := by
  have h1 : (gridPts sep).map (affine c0 c) = sampleAffine sep.reverse c0 c.reverse := by
    rw [sampleAffine_eq_map sep.reverse c0 c.reverse (by simp [hc]), gridPts, List.map_map]
    refine List.map_congr_left fun t ht => ?_
    rw [Function.comp, ← affine_reverse c0 c t.reverse (by simp [tensorPts_length _ _ ht, hc]), List.reverse_reverse]
  rw [h1, linearSeparated_affine_exact ext sep c0 c p hc hp hax hin, affine_reverse c0 c p (by rw [hc, hp])]

/-! ### sample hitting in any dimension -/

/-- one axis, ascending knots, any block size and any inner interpolant that is defined on every block:
at the `i`-th knot the axis returns what the inner interpolant returns on the `i`-th block -/
theorem interpAxis_hits_inc (ext : Bool) (m : Nat) (rec : List K → Option K) :
    ∀ (knots vals : List K) (first : Bool), 2 ≤ knots.length → StrictInc knots →
      (∀ j < knots.length, ∃ w, rec ((vals.drop (j * m)).take m) = some w) →
      ∀ (i : Nat) (hi : i < knots.length),
        interpAxis ext m rec first knots vals knots[i] = rec ((vals.drop (i * m)).take m) := by
  intro knots vals first h2 hs hrec i hi
  generalize hx : knots[i] = x
  -- the branches of `interpAxis`: `x` in the cell `(a, b)` and both blocks interpolated; one of them not; `x` not in
  -- the cell; fewer than two knots
  fun_induction interpAxis ext m rec first knots vals x generalizing i with
  | case1 first a b rest vals x last hc va vb hvb hva =>
    rw [inLo_inc hs.1, inHi_inc hs.1] at hc
    match i, hi, hx with
    | 0, _, hx => rw [← hx, List.getElem_cons_zero, lerp_left, Nat.zero_mul, List.drop_zero, hva]
    | 1, _, hx =>
      rw [← hx, List.getElem_cons_succ, List.getElem_cons_zero, lerp_right a b va vb (ne_of_lt hs.1), Nat.one_mul, hvb]
    | i + 2, hi, hx =>
      -- `knots[i + 2]` lies to the right of `b`, and `b` is not the last knot
      have hi' : i < rest.length := by simpa using hi
      have := knot_gt b rest hs.2 _ (List.getElem_mem hi')
      simp [← hx, not_le.mpr this, last, List.ne_nil_of_length_pos (Nat.zero_lt_of_lt hi')] at hc
  | case2 first a b rest vals x last hc hn =>
    obtain ⟨va, hva⟩ := hrec 0 (by simp)
    obtain ⟨vb, hvb⟩ := hrec 1 (by simp)
    rw [Nat.zero_mul, List.drop_zero] at hva
    rw [Nat.one_mul] at hvb
    exact (hn va vb hva hvb).elim
  | case3 first a b rest vals x last hc ih =>
    rw [inLo_inc hs.1, inHi_inc hs.1] at hc
    match i, hi, hx with
    | 0, _, hx => simp [← hx, le_of_lt hs.1] at hc
    | 1, _, hx => simp [← hx, le_of_lt hs.1] at hc
    | i + 2, hi, hx =>
      have hd : ∀ j, (vals.drop m).drop (j * m) = vals.drop ((j + 1) * m) := fun j => by
        rw [List.drop_drop, Nat.succ_mul, Nat.add_comm]
      have := ih (by simp at hi ⊢; omega) hs.2 (fun j hj => by rw [hd]; exact hrec (j + 1) (Nat.succ_lt_succ hj)) (i + 1)
        (Nat.lt_of_succ_lt_succ hi) hx
      rwa [hd] at this
  | case4 knots _ _ _ hn =>
    match knots, h2 with
    | a :: b :: rest, _ => exact (hn a b rest rfl).elim

theorem interpAxis_hits (ext : Bool) (m : Nat) (rec : List K → Option K) (knots vals : List K) (first : Bool)
    (h2 : 2 ≤ knots.length) (hs : StrictMono knots)
    (hrec : ∀ j < knots.length, ∃ w, rec ((vals.drop (j * m)).take m) = some w) (i : Nat) (hi : i < knots.length) :
    interpAxis ext m rec first knots vals knots[i] = rec ((vals.drop (i * m)).take m) := by
  rcases hs with hs | hs
  · exact interpAxis_hits_inc ext m rec knots vals first h2 hs hrec i hi
  · have := interpAxis_hits_inc ext m rec (knots.map fun t => -t) vals first
    simp only [List.length_map, List.getElem_map] at this
    exact (interpAxis_neg ext m rec knots vals first _ hs).trans (this h2 (strictDec_neg _ hs) hrec i hi)

/-- **1-D: the interpolant returns the sample value at every knot**, for arbitrary values and knots in either
direction: for every pair (knot, value) of the table, interpolating at the knot gives the value (`interpAxis_hits` with
blocks of one sample). -/
theorem interp1_hits_samples (ext : Bool) (knots vals : List K) (first : Bool)
    (h2 : 2 ≤ knots.length) (hv : vals.length = knots.length) (hs : StrictMono knots) :
    ∀ xv ∈ List.zip knots vals,
      interpAxis ext 1 (fun v => v.head?) first knots vals xv.1 = some xv.2 := by
  intro xv hxv
  obtain ⟨i, hi, rfl⟩ := List.getElem_of_mem hxv
  rw [List.length_zip, hv, Nat.min_self] at hi
  have hd : ∀ j, (fun v : List K => v.head?) ((vals.drop (j * 1)).take 1) = vals[j]? := fun j => by
    simp [List.head?_take, List.head?_drop]
  rw [List.getElem_zip]
  exact (interpAxis_hits ext 1 _ knots vals first h2 hs
    (fun j hj => ⟨vals[j]'(hv ▸ hj), (hd j).trans (List.getElem?_eq_getElem _)⟩) i hi).trans
    ((hd i).trans (List.getElem?_eq_getElem _))

/-- … in particular for ascending knots -/
theorem interp1_hits_samples_ascending (ext : Bool) :
    ∀ (knots vals : List K) (first : Bool), 2 ≤ knots.length → vals.length = knots.length →
      StrictInc knots → ∀ xv ∈ List.zip knots vals,
        interpAxis ext 1 (fun v => v.head?) first knots vals xv.1 = some xv.2 :=
  fun knots vals first h2 hv hs => interp1_hits_samples ext knots vals first h2 hv (Or.inl hs)

/-- **N-D: the tensor-product interpolant returns the sample at every grid point**, for arbitrary sample
values: at the grid point with per-axis indices `idx` it returns the value stored at flat index `ravel dims idx`. -/
theorem interpFlat_hits_samples (ext : Bool) : ∀ (axes : List (List K)) (vals : List K) (idx : List Nat),
    (∀ ax ∈ axes, 2 ≤ ax.length ∧ StrictMono ax) → vals.length = size (axes.map List.length) → IdxOk axes idx →
    interpFlat ext axes vals (pointAt axes idx) = vals[ravel (axes.map List.length) idx]? := by
  intro axes vals idx hax hv hok
  induction hok generalizing vals with
  | nil =>
    match vals, hv with
    | [v], _ => rfl
  | @cons ax i rest idx h0 h1 ih =>
    rw [List.forall_mem_cons] at hax
    simp only [List.map_cons, size_cons] at hv
    have hr := ravel_lt_size h1
    -- on the `j`-th block the inner interpolant returns the sample `j * M + ravel … idx`
    have hblk : ∀ j < ax.length,
        interpFlat ext rest ((vals.drop (j * size (rest.map List.length))).take (size (rest.map List.length)))
          (pointAt rest idx) = vals[j * size (rest.map List.length) + ravel (rest.map List.length) idx]? := by
      intro j hj
      have := Nat.mul_le_mul_right (size (rest.map List.length)) hj
      rw [ih _ hax.2 (by rw [List.length_take, List.length_drop, hv]; rw [Nat.succ_mul] at this; omega),
        take_drop_getElem? _ _ _ _ hr]
    simp only [pointAt, interpFlat, List.map_cons, ravel, List.getD_eq_getElem ax 0 h0]
    rw [interpAxis_hits ext _ _ ax vals true hax.1.1 hax.1.2
      (fun j hj => ⟨_, (hblk j hj).trans (List.getElem?_eq_getElem (hv ▸ ListFacts.flat_lt hj hr))⟩) i h0, hblk i h0]

/-- **Linear interpolation on separated / regular grids returns the sample at every sample point** (any dimension,
knots strictly monotone in either direction per axis, arbitrary sample values `f q`, `q` running over the grid in
hcipy order). -/
theorem linearSeparated_hits_samples (ext : Bool) (sep : List (List K)) (f : List K → K)
    (hax : ∀ ax ∈ sep, 2 ≤ ax.length ∧ StrictMono ax) :
    ∀ q ∈ gridPts sep, linearSeparated ext sep ((gridPts sep).map f) q = some (f q) := by
  intro q hq
  obtain ⟨t, ht, rfl⟩ := List.mem_map.mp hq
  obtain ⟨idx, hok, rfl⟩ := mem_tensorPts_pointAt sep.reverse t ht
  unfold linearSeparated
  rw [List.reverse_reverse, interpFlat_hits_samples ext sep.reverse _ idx
    (fun ax ha => hax ax (List.mem_reverse.mp ha)) (by simp [gridPts, tensorPts_len]) hok]
  simp only [gridPts, List.map_map, List.getElem?_map, tensorPts_getElem?_ravel hok,
    Option.map_some, Function.comp]

/-! ## barycentric interpolation -/

/-- **Barycentric interpolation on any simplex (any dimension) is exact on affine functions**:
whatever weights `λ_i` with `Σ λ_i = 1` and `Σ λ_i v_i = p` the triangulation provides,
`Σ λ_i f(v_i) = f(p)`. -/
theorem barycentric_affine_exact (c0 : K) (c lam : List K) (verts : List (List K)) (p : List K)
    (hlen : lam.length = verts.length) (hv : ∀ v ∈ verts, v.length = c.length)
    (hsum : lam.sum = 1) (hcomb : wsum c.length lam verts = p) :
    combine lam (verts.map (affine c0 c)) = affine c0 c p := by
  rw [combine_affine c0 c lam verts hlen hv, hsum, hcomb]; simp [affine]

/-- the hypotheses are satisfiable: `hdet` on the unit triangle; `hsum`, `hcomb` for a triangle
(2-D) and a tetrahedron (3-D) with concrete weights -/
example : (((1 : Rat), (0 : Rat)).1 - ((0 : Rat), (0 : Rat)).1) * (((0 : Rat), (1 : Rat)).2 - ((0 : Rat), (0 : Rat)).2)
    - (((0 : Rat), (1 : Rat)).1 - ((0 : Rat), (0 : Rat)).1) * (((1 : Rat), (0 : Rat)).2 - ((0 : Rat), (0 : Rat)).2) ≠ 0 := by
  norm_num

example : linearTriangle ((0 : Rat), (0 : Rat)) (1, 0) (0, 1) 5 7 11 (1 / 4, 1 / 2) = some (17 / 2) := by
  decide +kernel

example : ([1 / 4, 1 / 4, 1 / 2] : List Rat).sum = 1 ∧
    wsum 2 ([1 / 4, 1 / 4, 1 / 2] : List Rat) [[0, 0], [1, 0], [0, 1]] = [1 / 4, 1 / 2] := by
  decide +kernel

example : ([1 / 2, 1 / 8, 1 / 8, 1 / 4] : List Rat).sum = 1 ∧
    wsum 3 ([1 / 2, 1 / 8, 1 / 8, 1 / 4] : List Rat) [[0, 0, 0], [2, 0, 0], [0, 4, 0], [0, 0, 8]] = [1 / 4, 1 / 2, 2] := by
  decide +kernel

/-! ## barycentric interpolation on a `d`-simplex: the executed functions `baryN`, `linearSimplex`, `hullLoc`
(driver ops `lin-simplex`, `simplex-loc`; the harness hands over the simplex SciPy's Delaunay triangulation found) -/

/-- **Whatever `baryN` returns are barycentric coordinates**, in every dimension: one weight per vertex, all
points of the right dimension, `Σ λ_i = 1` and `Σ λ_i v_i = p`. -/
theorem baryN_sound (verts : List (List K)) (p lam : List K) (h : baryN verts p = some lam) :
    lam.length = verts.length ∧ (∀ v ∈ verts, v.length = p.length) ∧ lam.sum = 1 ∧
      wsum p.length lam verts = p := by
  cases verts with
  | nil => simp [baryN] at h
  | cons v0 rest =>
    simp only [baryN] at h
    split_ifs at h with hc hd hok
    obtain rfl := Option.some.inj h
    simp only [Bool.or_eq_true, decide_eq_true_eq, Bool.not_eq_eq_eq_not, Bool.not_true, not_or, Bool.not_eq_false,
      List.all_eq_true, beq_iff_eq] at hc
    exact ⟨by simp [cramer, edges], hc.2, by simpa using hok.1, hok.2⟩

/-- **The executed interpolant is exact on affine functions, every dimension `d`, every simplex**: whenever
`linearSimplex` answers (it refuses only malformed / degenerate simplices), the answer for the samples of an affine
function is the affine function at `p` — `barycentric_affine_exact` instantiated at the executed definition.
`_partial`: the hypothesis that the function answers.  That it does answer on every non-degenerate simplex, in every
dimension, is `linearSimplex_affine_exact` (`Lemmas/Cramer.lean`, Cramer's rule for the Laplace-expanded determinant of
arbitrary size); its instances `d = 1, 2, 3` follow below. -/
theorem linearSimplex_affine_exact_partial (verts : List (List K)) (c0 : K) (c p : List K) (v : K)
    (hc : c.length = p.length) (h : linearSimplex verts (verts.map (affine c0 c)) p = some v) :
    v = affine c0 c p := by
  simp only [linearSimplex, Option.map_eq_some_iff] at h
  obtain ⟨lam, hl, rfl⟩ := h
  obtain ⟨h1, h2, h3, h4⟩ := baryN_sound verts p lam hl
  exact barycentric_affine_exact c0 c lam verts p h1 (fun w hw => by rw [h2 w hw, hc]) h3 (by rw [hc]; exact h4)

/-- …and for `d = 1, 2, 3` it does answer on **every non-degenerate simplex** (`simplexDet ≠ 0`, the determinant the
driver evaluates), at every point `p` (inside the simplex or not) -/
theorem linearSimplex_affine_exact_d1 (a b x c0 k : K) (hdet : simplexDet [[a], [b]] ≠ 0) :
    linearSimplex [[a], [b]] ([[a], [b]].map (affine c0 [k])) [x] = some (affine c0 [k] [x]) :=
  linearSimplex_affine_exact _ _ c0 [k] [x] rfl rfl (by simp) hdet

theorem linearSimplex_affine_exact_d2 (a1 a2 b1 b2 c1 c2 p1 p2 c0 k1 k2 : K)
    (hdet : simplexDet [[a1, a2], [b1, b2], [c1, c2]] ≠ 0) :
    linearSimplex [[a1, a2], [b1, b2], [c1, c2]] ([[a1, a2], [b1, b2], [c1, c2]].map (affine c0 [k1, k2])) [p1, p2]
      = some (affine c0 [k1, k2] [p1, p2]) :=
  linearSimplex_affine_exact _ _ c0 [k1, k2] [p1, p2] rfl rfl (by simp) hdet

theorem linearSimplex_affine_exact_d3 (a1 a2 a3 b1 b2 b3 c1 c2 c3 e1 e2 e3 p1 p2 p3 c0 k1 k2 k3 : K)
    (hdet : simplexDet [[a1, a2, a3], [b1, b2, b3], [c1, c2, c3], [e1, e2, e3]] ≠ 0) :
    linearSimplex [[a1, a2, a3], [b1, b2, b3], [c1, c2, c3], [e1, e2, e3]]
        ([[a1, a2, a3], [b1, b2, b3], [c1, c2, c3], [e1, e2, e3]].map (affine c0 [k1, k2, k3])) [p1, p2, p3]
      = some (affine c0 [k1, k2, k3] [p1, p2, p3]) :=
  linearSimplex_affine_exact _ _ c0 [k1, k2, k3] [p1, p2, p3] rfl rfl (by simp) hdet

/-- **The executed interpolant returns the vertex values at the vertices** (arbitrary values), `d = 1, 2, 3`:
instances of `linearSimplex_hits_vertex` (every `d`; at a vertex every determinant of Cramer's rule has a zero row, two
equal rows, or is `simplexDet` itself) -/
theorem linearSimplex_hits_vertices_d1 (a b va vb : K) (hdet : simplexDet [[a], [b]] ≠ 0) :
    linearSimplex [[a], [b]] [va, vb] [a] = some va ∧ linearSimplex [[a], [b]] [va, vb] [b] = some vb :=
  have h := linearSimplex_hits_vertex [a] [[b]] [va, vb] rfl (by simp) hdet
  ⟨h 0 (by simp), h 1 (by simp)⟩

theorem linearSimplex_hits_vertices_d2 (a1 a2 b1 b2 c1 c2 va vb vc : K)
    (hdet : simplexDet [[a1, a2], [b1, b2], [c1, c2]] ≠ 0) :
    linearSimplex [[a1, a2], [b1, b2], [c1, c2]] [va, vb, vc] [a1, a2] = some va ∧
    linearSimplex [[a1, a2], [b1, b2], [c1, c2]] [va, vb, vc] [b1, b2] = some vb ∧
    linearSimplex [[a1, a2], [b1, b2], [c1, c2]] [va, vb, vc] [c1, c2] = some vc :=
  have h := linearSimplex_hits_vertex [a1, a2] [[b1, b2], [c1, c2]] [va, vb, vc] rfl (by simp) hdet
  ⟨h 0 (by simp), h 1 (by simp), h 2 (by simp)⟩

theorem linearSimplex_hits_vertices_d3 (a1 a2 a3 b1 b2 b3 c1 c2 c3 e1 e2 e3 va vb vc ve : K)
    (hdet : simplexDet [[a1, a2, a3], [b1, b2, b3], [c1, c2, c3], [e1, e2, e3]] ≠ 0) :
    linearSimplex [[a1, a2, a3], [b1, b2, b3], [c1, c2, c3], [e1, e2, e3]] [va, vb, vc, ve] [a1, a2, a3] = some va ∧
    linearSimplex [[a1, a2, a3], [b1, b2, b3], [c1, c2, c3], [e1, e2, e3]] [va, vb, vc, ve] [b1, b2, b3] = some vb ∧
    linearSimplex [[a1, a2, a3], [b1, b2, b3], [c1, c2, c3], [e1, e2, e3]] [va, vb, vc, ve] [c1, c2, c3] = some vc ∧
    linearSimplex [[a1, a2, a3], [b1, b2, b3], [c1, c2, c3], [e1, e2, e3]] [va, vb, vc, ve] [e1, e2, e3] = some ve :=
  have h := linearSimplex_hits_vertex [a1, a2, a3] [[b1, b2, b3], [c1, c2, c3], [e1, e2, e3]] [va, vb, vc, ve] rfl
    (by simp) hdet
  ⟨h 0 (by simp), h 1 (by simp), h 2 (by simp), h 3 (by simp)⟩

/-- the 2-D model (`bary2` / `linearTriangle`, op `lin-tri`) is the `d = 2` instance of the
general executed function -/
theorem linearTriangle_eq_linearSimplex (a b c p : K × K) (va vb vc : K) :
    linearTriangle a b c va vb vc p = linearSimplex [[a.1, a.2], [b.1, b.2], [c.1, c.2]] [va, vb, vc] [p.1, p.2] := by
  by_cases hdet : (b.1 - a.1) * (c.2 - a.2) - (c.1 - a.1) * (b.2 - a.2) = 0
  · rw [linearSimplex, baryN_of_det_eq_zero _ _ ((simplexDet_triangle a b c).trans hdet)]
    simp [linearTriangle, bary2, hdet]
  · rw [linearSimplex, baryN_eq_some _ _ _ rfl (by simp) (by rwa [simplexDet_triangle])]
    -- both sides are `combine` of three weights with the same denominator
    simp only [linearTriangle, bary2, hdet, if_false, Option.map_some, cramer, edges, vsub, List.map_cons, List.map_nil,
      List.zipWith_cons_cons, List.zipWith_nil_right, List.length_cons, List.length_nil, Nat.zero_add, Nat.reduceAdd,
      range2_eq, List.set, detN_two, List.sum_cons, List.sum_nil, add_zero, Nat.cast_one, Option.some.injEq]
    congr 1
    simp only [List.cons.injEq, and_true]
    refine ⟨?_, ?_, ?_⟩ <;> ring

/-- the executable 2-D instance (`LinearNDInterpolator` on the triangle SciPy picks): exact on
affine functions for every non-degenerate triangle and every point, inside or not -/
theorem linearTriangle_affine_exact (a b c p : K × K) (c0 cx cy : K)
    (hdet : (b.1 - a.1) * (c.2 - a.2) - (c.1 - a.1) * (b.2 - a.2) ≠ 0) :
    linearTriangle a b c (c0 + cx * a.1 + cy * a.2) (c0 + cx * b.1 + cy * b.2)
      (c0 + cx * c.1 + cy * c.2) p = some (c0 + cx * p.1 + cy * p.2) := by
  rw [← simplexDet_triangle] at hdet
  have h := linearSimplex_affine_exact_d2 a.1 a.2 b.1 b.2 c.1 c.2 p.1 p.2 c0 cx cy hdet
  simp only [affine, dot, List.map_cons, List.map_nil, List.zipWith_cons_cons, List.zipWith_nil_right, List.sum_cons,
    List.sum_nil, add_zero, ← add_assoc] at h
  rw [linearTriangle_eq_linearSimplex, h]

/-- and it returns the vertex values at the vertices, for arbitrary values -/
theorem linearTriangle_hits_vertices (a b c : K × K) (va vb vc : K)
    (hdet : (b.1 - a.1) * (c.2 - a.2) - (c.1 - a.1) * (b.2 - a.2) ≠ 0) :
    linearTriangle a b c va vb vc a = some va ∧ linearTriangle a b c va vb vc b = some vb ∧
      linearTriangle a b c va vb vc c = some vc := by
  rw [← simplexDet_triangle] at hdet
  simp only [linearTriangle_eq_linearSimplex]
  exact linearSimplex_hits_vertices_d2 a.1 a.2 b.1 b.2 c.1 c.2 va vb vc hdet

/-- **The exact location test** the known finding `unstructured-linear-hull-boundary` is keyed on: `hullLoc` answers
`boundary` exactly when all barycentric coordinates are `≥ 0` (the point is in the closed simplex) and all vertices
that carry weight belong to one facet of the convex hull (so the point is a convex combination of vertices of that
facet: it lies in the facet — `baryN_zero_on_facet` drops the weightless vertices one at a time). -/
theorem hullLoc_boundary_iff (lam : List K) (ids : List Nat) (facets : List (List Nat)) :
    hullLoc lam ids facets = Loc.boundary ↔
      (∀ l ∈ lam, 0 ≤ l) ∧ ∃ G ∈ facets, ∀ li ∈ List.zip lam ids, li.1 ≠ 0 → li.2 ∈ G := by
  have h : hullLoc lam ids facets = Loc.boundary ↔ inSimplex lam = true ∧
      (facets.any fun G => (List.zip lam ids).all fun li => decide (li.1 = 0) || G.contains li.2) = true := by
    -- both sides depend on `lam`, `ids`, `facets` only through the two tests: four cases
    unfold hullLoc
    cases inSimplex lam <;>
      cases (facets.any fun G => (List.zip lam ids).all fun li => decide (li.1 = 0) || G.contains li.2) <;> decide
  simp only [h, inSimplex, List.all_eq_true, List.any_eq_true, decide_eq_true_eq, Bool.or_eq_true,
    List.contains_iff_mem, or_iff_not_imp_left, ne_eq]

/-- a point strictly inside the simplex (all `λ > 0`) of a triangulation in which no hull facet contains all the
vertices of the simplex is `inside`: a fill value there is a plain violation, never the known finding -/
theorem hullLoc_inside_of_pos (lam : List K) (ids : List Nat) (facets : List (List Nat))
    (hpos : ∀ l ∈ lam, 0 < l) (hf : ∀ G ∈ facets, ∃ li ∈ List.zip lam ids, li.2 ∉ G) :
    hullLoc lam ids facets = Loc.inside := by
  have hnb : hullLoc lam ids facets ≠ Loc.boundary := by
    rw [Ne, hullLoc_boundary_iff]
    rintro ⟨_, G, hG, hp⟩
    obtain ⟨li, hli, hn⟩ := hf G hG
    exact hn (hp li hli (ne_of_gt (hpos li.1 (List.of_mem_zip hli).1)))
  have hin : (lam.all fun l => decide (0 ≤ l)) = true := by
    simp only [List.all_eq_true, decide_eq_true_eq]; exact fun l hl => le_of_lt (hpos l hl)
  unfold hullLoc inSimplex at hnb ⊢
  simp only [hin, Bool.not_true, Bool.false_eq_true, if_false] at hnb ⊢
  split_ifs at hnb ⊢
  · exact absurd rfl hnb
  · rfl

/-- …and a point that `baryN` puts on the facet opposite vertex `i` (`λ_i = 0`) **is** a combination of the other
`d` vertices with the remaining weights (which still add up to one): it lies on that facet's plane; with all
`λ ≥ 0` it lies in the facet itself. -/
theorem baryN_zero_on_facet (verts : List (List K)) (p lam : List K) (i : Nat)
    (h : baryN verts p = some lam) (hi : lam[i]? = some 0) :
    (lam.eraseIdx i).sum = 1 ∧ wsum p.length (lam.eraseIdx i) (verts.eraseIdx i) = p := by
  obtain ⟨h1, h2, h3, h4⟩ := baryN_sound verts p lam h
  exact ⟨by rw [sum_eraseIdx_zero lam i hi, h3], by rw [wsum_eraseIdx_zero p.length lam verts i hi h2 h1, h4]⟩

/-- the hypotheses are satisfiable, and the executed functions compute: a tetrahedron (d = 3), its vertex, a point on a
hull facet, a point inside, a point outside; a degenerate simplex is refused -/
example : simplexDet [[(0 : Rat), 0, 0], [2, 0, 0], [0, 4, 0], [0, 0, 8]] ≠ 0 ∧
    simplexDet [[(0 : Rat)], [3]] ≠ 0 ∧ simplexDet [[(0 : Rat), 0], [1, 0], [0, 1]] ≠ 0 := by
  decide +kernel

example : baryN [[(0 : Rat), 0, 0], [2, 0, 0], [0, 4, 0], [0, 0, 8]] [1 / 4, 1 / 2, 2] = some [1 / 2, 1 / 8, 1 / 8, 1 / 4] ∧
    linearSimplex [[(0 : Rat), 0, 0], [2, 0, 0], [0, 4, 0], [0, 0, 8]] [1, 2, 3, 4] [1 / 4, 1 / 2, 2] = some (17 / 8) ∧
    hullLoc ([1 / 2, 1 / 8, 1 / 8, 1 / 4] : List Rat) [5, 6, 7, 8] [[5, 6, 7], [6, 7, 8]] = Loc.inside ∧
    (baryN [[(0 : Rat), 0, 0], [2, 0, 0], [0, 4, 0], [0, 0, 8]] [1, 2, 0]).map (hullLoc · [5, 6, 7, 8] [[5, 6, 8], [5, 7, 8]]) = some Loc.inside ∧
    (baryN [[(0 : Rat), 0, 0], [2, 0, 0], [0, 4, 0], [0, 0, 8]] [1, 2, 0]).map (hullLoc · [5, 6, 7, 8] [[5, 6, 8], [7, 6, 9]]) = some Loc.boundary ∧
    (baryN [[(0 : Rat), 0, 0], [2, 0, 0], [0, 4, 0], [0, 0, 8]] [2, 0, 0]).map (hullLoc · [5, 6, 7, 8] [[1, 2, 6]]) = some Loc.boundary ∧
    (baryN [[(0 : Rat), 0, 0], [2, 0, 0], [0, 4, 0], [0, 0, 8]] [3, 0, 0]).map (hullLoc · [5, 6, 7, 8] [[5, 6, 7]]) = some Loc.outside ∧
    baryN [[(0 : Rat), 0], [1, 1], [2, 2]] [1, 0] = none := by
  decide +kernel

/-- `hpos`, `hf` of `hullLoc_inside_of_pos` -/
example : (∀ l ∈ ([1 / 2, 1 / 4, 1 / 4] : List Rat), 0 < l) ∧
    ∀ G ∈ [[1, 2], [2, 7]], ∃ li ∈ List.zip ([1 / 2, 1 / 4, 1 / 4] : List Rat) [1, 2, 3], li.2 ∉ G := by
  decide +kernel

example : ∃ lam : List Rat, baryN [[(0 : Rat), 0], [1, 0], [0, 1]] [1 / 2, 1 / 2] = some lam ∧ lam[0]? = some 0 :=
  ⟨[0, 1 / 2, 1 / 2], by decide +kernel, by decide +kernel⟩

/-! ## nearest neighbour -/

/-- **Nearest neighbour returns a minimiser of the squared distance** (scattered points, any
dimension). -/
theorem nearest_returns_closest (pts : List (List K)) (p : List K) (i : Nat)
    (h : nearestUnstructuredIdx pts p = some i) :
    ∃ hi : i < pts.length, ∀ q ∈ pts, dist2 pts[i] p ≤ dist2 q p := by
  obtain ⟨⟨j, d⟩, hr, rfl⟩ := Option.map_eq_some_iff.mp h
  obtain ⟨⟨k, hk, hlt, hd⟩, hmin⟩ := argminFrom_spec p pts 0 j d hr
  obtain rfl : j = k := hk.trans (Nat.zero_add k)
  exact ⟨hlt, fun q hq => hd ▸ hmin q hq⟩

/-- and it is defined whenever there is at least one sample point -/
theorem nearest_defined (pts : List (List K)) (p : List K) (h : pts ≠ []) :
    ∃ i, nearestUnstructuredIdx pts p = some i := by
  unfold nearestUnstructuredIdx
  cases hr : argminFrom p 0 pts with
  | none => exact absurd (argminFrom_eq_none hr) h
  | some r => exact ⟨r.1, rfl⟩

/-- **The set the driver prints is exactly the set of closest samples**: `minimisers` (executed by
the op `near-uns`, compared with what SciPy's k-d tree returns) contains `i` iff `pts[i]` is at
minimal squared distance from `p`. -/
theorem mem_minimisers (pts : List (List K)) (p : List K) (i : Nat) :
    i ∈ minimisers pts p ↔ ∃ hi : i < pts.length, ∀ q ∈ pts, dist2 pts[i] p ≤ dist2 q p := by
  unfold minimisers
  cases hr : argminFrom p 0 pts with
  | none =>
    obtain rfl := argminFrom_eq_none hr
    simp
  | some r =>
    obtain ⟨j, d⟩ := r
    obtain ⟨⟨k, _, hk, hd⟩, hmin⟩ := argminFrom_spec p pts 0 j d hr
    simp only [List.mem_filter, List.mem_range, beq_iff_eq]
    constructor
    · rintro ⟨hi, he⟩
      refine ⟨hi, fun q hq => ?_⟩
      rw [List.getD_eq_getElem pts [] hi] at he
      rw [he]; exact hmin q hq
    · rintro ⟨hi, hall⟩
      refine ⟨hi, ?_⟩
      rw [List.getD_eq_getElem pts [] hi]
      apply le_antisymm
      · rw [← hd]; exact hall _ (List.getElem_mem hk)
      · exact hmin _ (List.getElem_mem hi)

/-- the index `nearestUnstructured` uses is one of them (the first) -/
theorem nearestUnstructuredIdx_mem_minimisers (pts : List (List K)) (p : List K) (i : Nat)
    (h : nearestUnstructuredIdx pts p = some i) : i ∈ minimisers pts p :=
  (mem_minimisers pts p i).mpr (nearest_returns_closest pts p i h)

/-- **value level**: what `nearestUnstructured` returns (executed by `near-uns`, printed after
`first`) is the sample value of a closest point -/
theorem nearestUnstructured_value (pts : List (List K)) (vals : List K) (p : List K) (v : K)
    (h : nearestUnstructured pts vals p = some v) :
    ∃ i, i ∈ minimisers pts p ∧ vals[i]? = some v ∧
      ∃ hi : i < pts.length, ∀ q ∈ pts, dist2 pts[i] p ≤ dist2 q p := by
  unfold nearestUnstructured at h
  cases hi : nearestUnstructuredIdx pts p with
  | none => rw [hi] at h; simp at h
  | some i =>
    rw [hi] at h
    exact ⟨i, nearestUnstructuredIdx_mem_minimisers pts p i hi, h, nearest_returns_closest pts p i hi⟩

/-- and it is defined as soon as there is a sample point and one value per point -/
theorem nearestUnstructured_defined (pts : List (List K)) (vals : List K) (p : List K)
    (h : pts ≠ []) (hl : vals.length = pts.length) : ∃ v, nearestUnstructured pts vals p = some v := by
  obtain ⟨i, hi⟩ := nearest_defined pts p h
  obtain ⟨hlt, _⟩ := nearest_returns_closest pts p i hi
  exact ⟨vals[i]'(by omega), by simp [nearestUnstructured, hi]⟩

/-- nearest neighbour along one *ascending* axis: the knot picked is a closest knot -/
theorem nearestAxis_returns_closest_ascending : ∀ (knots : List K) (x : K) (i : Nat), StrictInc knots →
    nearestAxis knots x = some i →
    ∃ h : i < knots.length, ∀ y ∈ knots, (knots[i] - x) * (knots[i] - x) ≤ (y - x) * (y - x) :=
  fun knots x i hs h => (nearestAxis_near_inc knots x i hs h).closest hs

/-- nearest neighbour along one *descending* axis (SciPy flips it; ties go to the smaller
coordinate): the knot picked is a closest knot — of the negated axis at the negated point, hence of the axis -/
theorem nearestAxis_returns_closest_descending : ∀ (knots : List K) (x : K) (i : Nat), StrictDec knots →
    nearestAxis knots x = some i →
    ∃ h : i < knots.length, ∀ y ∈ knots, (knots[i] - x) * (knots[i] - x) ≤ (y - x) * (y - x) := by
  intro knots x i hs h
  obtain ⟨hi, hmin⟩ := (nearestAxis_near_dec knots x i hs h).closest (strictDec_neg _ hs)
  rw [List.length_map] at hi
  have e : ∀ u : K, (-u - -x) * (-u - -x) = (u - x) * (u - x) := fun u => by ring
  exact ⟨hi, fun y hy => by simpa only [List.getElem_map, e] using hmin (-y) (List.mem_map_of_mem hy)⟩

/-- **Nearest neighbour on separated grids, one axis** (ascending or descending): the knot picked
is a closest knot. -/
theorem nearestAxis_returns_closest (knots : List K) (x : K) (i : Nat) (hs : StrictMono knots)
    (h : nearestAxis knots x = some i) :
    ∃ h : i < knots.length, ∀ y ∈ knots, (knots[i] - x) * (knots[i] - x) ≤ (y - x) * (y - x) := by
  rcases hs with hs | hs
  · exact nearestAxis_returns_closest_ascending knots x i hs h
  · exact nearestAxis_returns_closest_descending knots x i hs h

/-- **Nearest neighbour on separated grids, any dimension**: the grid point assembled from the
per-axis choices is at minimal squared distance among *all* grid points. -/
theorem nearest_separated_returns_closest : ∀ (axes : List (List K)) (p : List K) (idx : List Nat),
    (∀ ax ∈ axes, StrictMono ax) → nearestIdx axes p = some idx →
    ∀ q ∈ tensorPts axes, dist2 (pointAt axes idx) p ≤ dist2 q p := by
  intro axes p idx hs h
  -- of the four branches of `nearestIdx` only `[], []` and "both searches succeed" return `some`
  fun_induction nearestIdx axes p generalizing idx <;> cases h
  · intro q hq
    rw [tensorPts, List.mem_singleton] at hq
    rw [hq]
    exact le_refl _
  · next ax _ x _ i _ h2 h1 ih =>
    rw [List.forall_mem_cons] at hs
    obtain ⟨hi, hmin⟩ := nearestAxis_returns_closest ax x i hs.1 h1
    intro q hq
    simp only [tensorPts, List.mem_flatMap, List.mem_map] at hq
    obtain ⟨t, ht, q', hq', rfl⟩ := hq
    rw [pointAt, dist2_cons, dist2_cons, List.getD_eq_getElem ax 0 hi]
    exact add_le_add (hmin t ht) (ih _ hs.2 h2 q' hq')

/-- **Definedness companion** of `nearest_separated_returns_closest`: inside the sampled domain (per-axis knots
strictly monotone in either direction, at least two of them) the per-axis search succeeds on every axis -/
theorem nearestIdx_defined : ∀ (axes : List (List K)) (p : List K),
    (∀ ax ∈ axes, 2 ≤ ax.length ∧ StrictMono ax) → InDomain axes p → ∃ idx, nearestIdx axes p = some idx := by
  intro axes p hax hin
  -- along the recursion of `InDomain`: no axes; an axis and a coordinate; a shape that is not in the domain
  fun_induction InDomain axes p with
  | case1 => exact ⟨[], rfl⟩
  | case2 ax axes x p ih =>
    rw [List.forall_mem_cons] at hax
    obtain ⟨i, hi⟩ := nearestAxis_defined ax x hax.1.1 hin.1
    obtain ⟨idx, hidx⟩ := ih hax.2 hin.2
    exact ⟨_, by rw [nearestIdx, hi, hidx]⟩
  | case3 => exact hin.elim

/-- **Nearest neighbour on separated grids returns the value at a closest grid point**: whenever the
interpolator built from the samples `f q` (`q` running over the grid in hcipy order) returns a value at `p`, that
value is `f q` for a grid point `q` at minimal distance from `p` among all grid points. -/
theorem nearestSeparated_value (sep : List (List K)) (f : List K → K) (p : List K) (v : K)
    (hs : ∀ ax ∈ sep, StrictMono ax) (h : nearestSeparated sep ((gridPts sep).map f) p = some v) :
    ∃ q ∈ gridPts sep, v = f q ∧ ∀ q' ∈ gridPts sep, dist2 q p ≤ dist2 q' p := by
  cases hi : nearestIdx sep.reverse p.reverse with
  | none => simp [nearestSeparated, hi] at h
  | some idx =>
    rw [nearestSeparated_of_idx sep f p idx hi, Option.some.injEq] at h
    obtain ⟨hok, hlen⟩ := nearestIdx_ok sep.reverse p.reverse idx hi
    rw [List.length_reverse] at hlen
    refine ⟨(pointAt sep.reverse idx).reverse, List.mem_map.mpr ⟨_, pointAt_mem hok, rfl⟩, h.symm, ?_⟩
    intro q' hq'
    obtain ⟨t, ht, rfl⟩ := List.mem_map.mp hq'
    rw [dist2_reverse_left _ p ((tensorPts_length _ _ (pointAt_mem hok)).trans hlen.symm),
      dist2_reverse_left t p ((tensorPts_length _ _ ht).trans hlen.symm)]
    exact nearest_separated_returns_closest sep.reverse p.reverse idx
      (fun ax ha => hs ax (List.mem_reverse.mp ha)) hi t ht

/-- … and it does return a value at every point of the sampled domain -/
theorem nearestSeparated_defined (sep : List (List K)) (f : List K → K) (p : List K)
    (hax : ∀ ax ∈ sep, 2 ≤ ax.length ∧ StrictMono ax) (hin : InDomain sep.reverse p.reverse) :
    ∃ v, nearestSeparated sep ((gridPts sep).map f) p = some v := by
  obtain ⟨idx, hi⟩ := nearestIdx_defined sep.reverse p.reverse (fun ax ha => hax ax (List.mem_reverse.mp ha)) hin
  exact ⟨_, nearestSeparated_of_idx sep f p idx hi⟩

/-! ## binning -/

/-- **`statistic='sum'` conserves the total**, any shape, any factor. -/
theorem bin_sum_conserved (s : Nat) (dims : List Nat) (v : List K) (h : v.length = fineSize s dims) :
    (binND s dims v).sum = v.sum :=
  binND_sum s dims v h

/-- **Weighted mean on non-regular grids conserves the weighted total**: with the binned
weights `W = bin(w)` all non-zero, `Σ_bins mean_k · W_k = Σ v·w`. -/
theorem bin_weighted_mean_conserved (s : Nat) (dims : List Nat) (v w : List K)
    (hv : v.length = fineSize s dims) (hw : w.length = fineSize s dims)
    (hpos : ∀ x ∈ binND s dims w, x ≠ 0) :
    (List.zipWith (· * ·) (binWMean s dims v w) (binND s dims w)).sum
      = (List.zipWith (· * ·) v w).sum := by
  have hvw : (List.zipWith (· * ·) v w).length = fineSize s dims := by simp [hv, hw]
  unfold binWMean
  rw [zipWith_div_mul_cancel _ _ hpos (by rw [binND_length _ _ _ hvw, binND_length _ _ _ hw]), binND_sum _ _ _ hvw]

/-- `hpos` is satisfiable (weights `[1,2,1,3]`, factor 2: binned weights `[3,4]`); without it the
model divides by zero silently: `binWMean 2 [1] [3,5] [1,-1] = [0]` -/
example : (∀ x ∈ binND 2 [2] ([1, 2, 1, 3] : List Rat), x ≠ 0) ∧
    binWMean 2 [1] ([3, 5] : List Rat) [1, -1] = [0] := by
  decide +kernel

/-- **Per-axis factors** (`subsample_field(field, np.array([sx, sy]))`, D180; executed by the driver
op `bins`): `statistic='sum'` conserves the total for any list of factors. -/
theorem bins_sum_conserved (ss dims : List Nat) (hl : ss.length = dims.length) (v : List K)
    (h : v.length = fineSizes ss dims) : (binNDs ss dims v).sum = v.sum :=
  -- `hl` is not needed: where one of the two lists ends, `binNDs` stops binning (`binNDs_sum`)
  have _ := hl
  binNDs_sum ss dims v h

/-- per-axis factors, `statistic='mean'`: the mean is conserved -/
theorem bins_mean_conserved (ss dims : List Nat) (hl : ss.length = dims.length) (v : List K)
    (h : v.length = fineSizes ss dims) :
    (binMeans ss dims v).sum / (size dims : K) = v.sum / (fineSizes ss dims : K) := by
  have : (binMeans ss dims v).sum = (binNDs ss dims v).sum / ((ss.foldr (· * ·) 1 : Nat) : K) := by
    simp only [binMeans, div_eq_mul_inv]
    rw [List.sum_map_mul_right]
    simp
  rw [this, binNDs_sum ss dims v h, fineSizes_eq ss dims hl]
  push_cast
  rw [div_div, mul_comm]

/-- per-axis factors on a non-regular grid (driver op `binws`): the weighted mean conserves the weighted total,
for weights of any size (the only hypothesis on the weights is that no bin has total weight zero: there is no
threshold below which weights count as equal — the seeded `np.allclose` shortcut violates this at small units). -/
theorem bins_weighted_mean_conserved (ss dims : List Nat) (hl : ss.length = dims.length) (v w : List K)
    (hv : v.length = fineSizes ss dims) (hw : w.length = fineSizes ss dims)
    (hpos : ∀ x ∈ binNDs ss dims w, x ≠ 0) :
    (List.zipWith (· * ·) (binWMeans ss dims v w) (binNDs ss dims w)).sum
      = (List.zipWith (· * ·) v w).sum := by
  have hvw : (List.zipWith (· * ·) v w).length = fineSizes ss dims := by simp [hv, hw]
  unfold binWMeans
  rw [zipWith_div_mul_cancel _ _ hpos (by rw [binNDs_length _ _ hl _ hvw, binNDs_length _ _ hl _ hw]),
    binNDs_sum _ _ _ hvw]

example : ([2, 1] : List Nat).length = ([1, 2] : List Nat).length ∧
    (∀ x ∈ binNDs [2, 1] [1, 2] ([1, 2, 1, 3] : List Rat), x ≠ 0) := by
  decide +kernel

/-- **The weighted mean does not depend on the unit of the coordinates**: multiplying all weights by a common factor
`c ≠ 0` (pixel areas in m² instead of in units of (10 µm)²: `c = S^d`) leaves every binned value unchanged — for
weights of any size, every shape, every per-axis factor.  (The seeded `np.allclose(weights, weights[0])` shortcut,
whose absolute tolerance makes the result depend on `c`, contradicts this theorem.) -/
theorem bins_weighted_mean_unit_invariant (ss dims : List Nat) (v w : List K) (c : K) (hc : c ≠ 0) :
    binWMeans ss dims v (w.map (c * ·)) = binWMeans ss dims v w := by
  unfold binWMeans
  rw [zipWith_mul_smul, binNDs_smul, binNDs_smul, zipWith_div_smul c hc]

example : binWMeans [2] [2] ([1, 2, 3, 5] : List Rat) ([1, 3, 1, 1].map ((1 / 1024 : Rat) * ·)) = [7 / 4, 4] := by
  decide +kernel

/-- the binned field has one value per coarse pixel -/
theorem bins_length (ss dims : List Nat) (hl : ss.length = dims.length) (v : List K)
    (h : v.length = fineSizes ss dims) : (binNDs ss dims v).length = size dims :=
  binNDs_length ss dims hl v h

/-- a scalar factor is the per-axis list with that factor repeated (what `np.ones(ndim) * s` makes of it):
the two driver ops `bin` and `bins` run the same function there -/
theorem bins_uniform_eq_bin (s : Nat) (dims : List Nat) (v : List K) :
    binNDs (dims.map fun _ => s) dims v = binND s dims v ∧
    binMeans (dims.map fun _ => s) dims v = binMean s dims v := by
  refine ⟨binNDs_replicate s dims v, ?_⟩
  have hp : (dims.map fun _ => s).foldr (· * ·) 1 = s ^ dims.length := by
    rw [List.map_const', ← List.prod_eq_foldr, List.prod_replicate]
  unfold binMeans binMean
  rw [binNDs_replicate, hp]

/-- **`statistic='mean'` conserves the mean** (regular grids), one common factor. -/
theorem bin_mean_conserved (s : Nat) (dims : List Nat) (v : List K) (h : v.length = fineSize s dims) :
    (binMean s dims v).sum / (size dims : K) = v.sum / (fineSize s dims : K) := by
  rw [← (bins_uniform_eq_bin s dims v).2, ← fineSizes_replicate]
  exact bins_mean_conserved _ dims (by simp) v (by rw [fineSizes_replicate]; exact h)

example : ([2, 3] : List Nat).length = ([3, 2] : List Nat).length ∧
    ([1, 2, 3, 4, 5, 6, 7, 8, 9, 10, 11, 12, 13, 14, 15, 16, 17, 18, 19, 20, 21, 22, 23, 24, 25, 26, 27, 28, 29, 30, 31, 32, 33, 34, 35, 36] : List Rat).length
      = fineSizes [2, 3] [3, 2] := by
  decide

/-- **The index map of binning** (what "conserves" does not say: *which* fine samples a coarse pixel adds up).
Pixel `c` (multi-index, slowest axis first) of the binned array is the sum of the fine samples over the box
`c·s + r`, `r_k < s_k`: `boxSums` is the closed form `Σ_{r_0<s_0} Σ_{r_1<s_1} … v[flatIdx fine (c·s + r)]`
(Model/Binning.lean; itself run by the driver op `binpix` and compared with the pixel the real code returns).
A `binNDs` that permuted or mis-grouped pixels would violate this theorem. -/
theorem bins_pixel (dims ss c : List Nat) (hl : ss.length = dims.length) (hc : InBounds dims c) (v : List K)
    (h : v.length = fineSizes ss dims) :
    (binNDs ss dims v).getD (flatIdx dims c) 0 = boxSums dims ss c (fun f => v.getD f 0) :=
  binNDs_getD dims ss c hl hc v h

/-- the same for one common factor `s` -/
theorem bin_pixel (s : Nat) (dims c : List Nat) (hc : InBounds dims c) (v : List K)
    (h : v.length = fineSize s dims) :
    (binND s dims v).getD (flatIdx dims c) 0 = boxSums dims (dims.map fun _ => s) c (fun f => v.getD f 0) := by
  rw [← binNDs_replicate, binNDs_getD dims _ c (by simp) hc v (by rw [fineSizes_replicate]; exact h)]

/-- two dimensions written out: pixel `(cy, cx)` of the `ny × nx` image is
`Σ_{ry<sy} Σ_{rx<sx} v[(cy·sy + ry)·(nx·sx) + (cx·sx + rx)]` -/
theorem bins_pixel_2d (ny nx sy sx cy cx : Nat) (hy : cy < ny) (hx : cx < nx) (v : List K)
    (h : v.length = ny * sy * (nx * sx)) :
    (binNDs [sy, sx] [ny, nx] v).getD (cy * nx + cx) 0 =
      ((List.range sy).map fun ry => ((List.range sx).map fun rx =>
        v.getD ((cy * sy + ry) * (nx * sx) + (cx * sx + rx)) 0).sum).sum := by
  have := bins_pixel [ny, nx] [sy, sx] [cy, cx] rfl ⟨hy, hx, trivial⟩ v (by simp [fineSizes, h])
  simpa [flatIdx, boxSums, size, fineSizes] using this

example : InBounds [2, 3] [1, 2] ∧ ¬ InBounds [2, 3] [1, 3] := by decide

/-- **Tensor components are binned independently**: binning the stacked components equals
stacking the binned components. -/
theorem bin_tensor_independent (s : Nat) (dims : List Nat) (comps : List (List K))
    (h : ∀ c ∈ comps, c.length = fineSize s dims) :
    binTensor s dims comps.length comps.flatten = (comps.map (binND s dims)).flatten := by
  unfold binTensor
  rw [chunks_flatten_eq _ _ h, List.flatMap_def]

/-- **Tensor components are binned independently — about the reshape the code performs.**  `binTensorL` is the
code's single `reshape` to `tensor_shape + (n_1, s_1, …)` followed by one reduction over the `s` axes (the tensor
axes are unbinned leading axes of the same array; driver op `bintl`).  Binning the stacked components that way
equals stacking the separately binned components, for every tensor shape and per-axis factors.  (The theorem
`bin_tensor_independent` above is about `binTensor`, which is component-wise by definition.) -/
theorem bin_tensor_reshape_independent (ss dims tshape : List Nat) (comps : List (List K))
    (hn : comps.length = size tshape) (h : ∀ c ∈ comps, c.length = fineSizes ss dims) :
    binTensorL ss dims tshape comps.flatten = (comps.map (binNDs ss dims)).flatten := by
  have hlen : comps.flatten.length = size tshape * fineSizes ss dims := by
    rw [List.length_flatten, List.map_congr_left (g := fun _ => fineSizes ss dims) h]
    simp [hn]
  rw [binTensorL_eq ss dims tshape _ hlen, ← hn, chunks_flatten_eq _ _ h, List.flatMap_def]

/-- the same for one common factor and for `statistic='mean'` (regular grids) -/
theorem bin_tensor_reshape_independent_uniform (s : Nat) (dims tshape : List Nat) (comps : List (List K))
    (hn : comps.length = size tshape) (h : ∀ c ∈ comps, c.length = fineSize s dims) :
    binTensorL (dims.map fun _ => s) dims tshape comps.flatten = (comps.map (binND s dims)).flatten ∧
    (binTensorL (dims.map fun _ => s) dims tshape comps.flatten).map (· / ((s ^ dims.length : Nat) : K))
      = (comps.map (binMean s dims)).flatten := by
  rw [bin_tensor_reshape_independent (dims.map fun _ => s) dims tshape comps hn
    fun c hc => (h c hc).trans (fineSizes_replicate s dims).symm, funext (binNDs_replicate s dims)]
  refine ⟨rfl, ?_⟩
  rw [List.map_flatten, List.map_map]
  rfl

example : ([[1, 2, 3, 4], [5, 6, 7, 8]] : List (List Rat)).length = size [2] ∧
    binTensorL [2] [2] [2] ([1, 2, 3, 4, 5, 6, 7, 8] : List Rat) = [3, 7, 11, 15] := by
  decide +kernel

/-! ## supersampling -/

/-- **Supersampled evaluation of an affine function equals its direct evaluation** whenever
the dither vectors add up to zero (in particular for symmetric dithers), for any point, any
per-point cell widths `δ`, any dimension. -/
theorem supersampled_affine_exact [CharZero K] (D : Nat) (c0 : K) (c x δ : List K)
    (ds : List (List K)) (hc : c.length = D) (hx : x.length = D) (hδ : δ.length = D)
    (hds : ds ≠ []) (hz : ZeroMean D ds) :
    superMean (affine c0 c) ds x δ = affine c0 c x := by
  obtain ⟨hlen, hsum⟩ := hz
  have hn : (ds.length : K) ≠ 0 := by
    have : ds.length ≠ 0 := by simpa using hds
    exact_mod_cast this
  have h1 : ∀ d ∈ ds, affine c0 c (dithered x δ d)
      = affine c0 c x + dot (List.zipWith (· * ·) c δ) d := by
    intro d hd
    have hdl := hlen d hd
    simp only [affine, dithered, ← vadd.eq_1]
    rw [dot_vadd c x _ (by rw [hx, hc]) (by simp [hdl, hδ, hc]), dot_zipWith_mul]
    ring
  have hcδ : (List.zipWith (· * ·) c δ).length = D := by simp [hc, hδ]
  unfold superMean
  rw [List.map_congr_left h1, List.sum_map_add, List.map_const', List.sum_replicate, nsmul_eq_mul,
    sum_dot_vsum _ D hcδ ds hlen, hsum, dot_vzero _ D hcδ, add_zero, mul_div_cancel_left₀ _ hn]

/-! ### the dither lists themselves (`make_uniform_grid(oversampling, 1)`): length, count, symmetry, sum, range -/

/-- one dither per sub-pixel along an axis -/
theorem dithers1_length (n : Nat) : (dithers1 n : List K).length = n := by
  rw [dithers1, List.length_map, List.length_range]

/-- **the number of dithered evaluations is `Π n_k`** — the divisor `len(dithers)` of `statistic='mean'` and the
factor by which `'sum'` exceeds the mean, for every per-axis oversampling -/
theorem dithers_count (ns : List Nat) :
    (tensorPts (ns.map dithers1) : List (List K)).length = ns.foldr (· * ·) 1 := by
  rw [tensorPts_len, List.map_map]
  have : (List.length ∘ (dithers1 : Nat → List K)) = id := by
    funext n; simp [dithers1_length]
  rw [this, List.map_id]; rfl

/-- the `j`-th dither along an axis oversampled `n` times -/
theorem dithers1_getElem? (n j : Nat) (hj : j < n) :
    (dithers1 n : List K)[j]? = some (((2 * j + 1 : Nat) : K) / ((2 * n : Nat) : K) - ((1 : Nat) : K) / ((2 : Nat) : K)) := by
  rw [dithers1, List.getElem?_map, List.getElem?_range hj]
  rfl

/-- **the dither offsets are symmetric**: the `j`-th from the left is minus the `j`-th from the right, for every
oversampling factor (so they add up to zero, `dithers1_sum_zero`, and an odd factor has the offset 0 in the middle) -/
theorem dithers1_symmetric [CharZero K] (n j : Nat) (hj : j < n) (d : K) (hd : (dithers1 n : List K)[j]? = some d) :
    (dithers1 n : List K)[n - 1 - j]? = some (-d) := by
  -- with variables for the casts: two fractions whose numerators add up to the denominator add up to one
  have key : ∀ a b c : K, a + b = c → c ≠ 0 → a / c - 1 / 2 = -(b / c - 1 / 2) := fun a b c hs hc => by
    rw [neg_sub, sub_eq_sub_iff_add_eq_add, ← add_div, hs, div_self hc, add_halves]
  rw [dithers1_getElem? n j hj, Option.some.injEq] at hd
  rw [dithers1_getElem? n (n - 1 - j) (by omega), ← hd, Nat.cast_one, Nat.cast_ofNat]
  exact congrArg some (key _ _ _ (by rw [← Nat.cast_add]; congr 1; omega) (Nat.cast_ne_zero.mpr (by omega)))

/-- the dithers `make_uniform_grid(n, 1)` along one axis add up to zero -/
theorem dithers1_sum_zero [CharZero K] (n : Nat) (hn : 0 < n) : (dithers1 n : List K).sum = 0 := by
  -- `hn` is not needed: the empty list sums to zero as well
  have _ := hn
  -- the reversed list is the negated list (`dithers1_symmetric`), so the sum is its own negative
  have hrev : (dithers1 n : List K).reverse = (dithers1 n).map (-·) := by
    rw [dithers1, ← List.map_reverse, List.range_eq_range', List.reverse_range', ← List.range_eq_range', List.map_map,
      List.map_map, Nat.zero_add]
    refine List.map_congr_left fun j hj => ?_
    have hj := List.mem_range.mp hj
    exact Option.some.inj ((dithers1_getElem? n (n - 1 - j) (by omega)).symm.trans
      (dithers1_symmetric n j hj _ (dithers1_getElem? n j hj)))
  exact self_eq_neg.mp (by rw [List.sum_neg, ← hrev, List.sum_reverse])

/-- **every dither stays inside its pixel**: `-1/2 < d < 1/2` -/
theorem dithers1_range (n : Nat) (d : K) (hd : d ∈ (dithers1 n : List K)) : -(1 / 2 : K) < d ∧ d < 1 / 2 := by
  -- a dither is `q - 1/2` for the fraction `q = (2j+1)/(2n)`, which lies strictly between 0 and 1
  have key : ∀ q : K, 0 < q → q < 1 → -(1 / 2) < q - 1 / 2 ∧ q - 1 / 2 < 1 / 2 := fun q h1 h2 =>
    ⟨lt_sub_iff_add_lt.mpr (by rwa [neg_add_cancel]), sub_lt_iff_lt_add.mpr (by rwa [add_halves])⟩
  simp only [dithers1, List.mem_map, List.mem_range] at hd
  obtain ⟨j, hj, rfl⟩ := hd
  have hn : (0 : K) < ((2 * n : Nat) : K) := Nat.cast_pos.mpr (by omega)
  rw [Nat.cast_one, Nat.cast_ofNat]
  exact key _ (div_pos (Nat.cast_pos.mpr (Nat.succ_pos _)) hn) ((div_lt_one hn).mpr (Nat.cast_lt.mpr (by omega)))

example : (dithers1 3 : List Rat) = [-1 / 3, 0, 1 / 3] ∧ (dithers1 2 : List Rat) = [-1 / 4, 1 / 4] ∧
    (tensorPts ([2, 3].map dithers1) : List (List Rat)).length = 6 := by
  decide +kernel

/-- **`make_supersampled_grid` puts its points exactly at the dithered positions**: along every axis of a regular
grid the `dim·n` fine coordinates are, pixel by pixel, the coarse coordinate `zero + i·delta` plus `delta` times the
dither offsets `dithers1 n` — for every oversampling factor `n > 0`.  (So evaluating a generator on the supersampled
grid and binning it back is the same set of evaluations as the dithered sub-grids of `evaluate_supersampled`.) -/
theorem superAxis_eq_dithered [CharZero K] (zero delta : K) (dim n : Nat) (hn : 0 < n) :
    superAxis zero delta dim n =
      (List.range dim).flatMap fun (i : Nat) => (dithers1 n : List K).map fun d => (zero + (i : K) * delta) + d * delta := by
  have hn' : (n : K) ≠ 0 := by exact_mod_cast (Nat.pos_iff_ne_zero.mp hn)
  have key : ∀ i : Nat, ((List.range n).map fun j => i * n + j).map (fun (k : Nat) =>
        (zero - delta / ((2 : Nat) : K) + delta / (n : K) / ((2 : Nat) : K)) + (k : K) * (delta / (n : K)))
      = (dithers1 n : List K).map fun d => (zero + (i : K) * delta) + d * delta := by
    intro i
    unfold dithers1
    rw [List.map_map, List.map_map]
    apply List.map_congr_left
    intro j _
    simp only [Function.comp]
    push_cast
    field_simp
    ring
  unfold superAxis
  rw [range_mul_eq_flatMap, List.map_flatMap]
  simp only [key]

/-- the supersampled axis has `dim·n` points, and the mean of the `n` sub-pixel coordinates of a pixel is the pixel's
own coordinate (binning the supersampled grid gives the grid back) -/
theorem superAxis_length (zero delta : K) (dim n : Nat) : (superAxis zero delta dim n).length = dim * n := by
  simp [superAxis]

example : superAxis (0 : Rat) 1 2 2 = [-1 / 4, 1 / 4, 3 / 4, 5 / 4] ∧
    superAxis (1 : Rat) (-3) 1 3 = [2, 1, 0] := by
  decide +kernel

/-- hcipy's dither set — the tensor product of the per-axis uniform dithers, any oversampling
factors — has zero mean -/
theorem uniform_dithers_zero_mean [CharZero K] (ns : List Nat) (h : ∀ n ∈ ns, 0 < n) :
    ZeroMean ns.length (tensorPts (ns.map dithers1) : List (List K)) := by
  rw [← List.length_map (f := (dithers1 : Nat → List K))]
  exact ⟨tensorPts_length _, vsum_tensorPts_zero _ (List.forall_mem_map.mpr fun n hn => dithers1_sum_zero n (h n hn))⟩

/-- **Supersampled evaluation with hcipy's own dithers is exact on affine functions**: every
dimension, every per-axis oversampling factor, every point and cell widths. -/
theorem supersampled_affine_exact_uniform [CharZero K] (ns : List Nat) (h : ∀ n ∈ ns, 0 < n)
    (c0 : K) (c x δ : List K) (hc : c.length = ns.length) (hx : x.length = ns.length)
    (hδ : δ.length = ns.length) :
    superMean (affine c0 c) (tensorPts (ns.map dithers1)) x δ = affine c0 c x := by
  apply supersampled_affine_exact ns.length c0 c x δ _ hc hx hδ _ (uniform_dithers_zero_mean ns h)
  -- the dither set is not empty: it has `Π n_k > 0` elements
  rw [← List.length_pos_iff, dithers_count]
  exact List.prod_pos h

/-- **`evaluate_supersampled` of an affine generator** (the executable model, separated grid
`sep`, per-axis oversampling `ns`): every output sample is the generator evaluated at the grid
point itself — the cell widths `δ` drop out. -/
theorem evalSupersampled_affine_exact [CharZero K] (sep : List (List K)) (ns : List Nat)
    (h : ∀ n ∈ ns, 0 < n) (c0 : K) (c : List K) (hc : c.length = ns.length)
    (hs : sep.length = ns.length) :
    evalSupersampled (affine c0 c) sep ns =
      (gridPts (sep.map fun ax => List.zip ax (deltas ax))).map fun pt => affine c0 c (pt.map Prod.fst) := by
  unfold evalSupersampled
  apply List.map_congr_left
  intro pt hpt
  have hl := gridPts_length _ pt hpt
  simp only [List.length_map] at hl
  exact supersampled_affine_exact_uniform ns h c0 c _ _ hc (by simp [hl, hs]) (by simp [hl, hs])

/-- **…in the form of the property**: the result is the generator evaluated on the points of the
grid itself, in hcipy order (`deltas_length`: one cell width per point). -/
theorem evalSupersampled_affine_eq_direct [CharZero K] (sep : List (List K)) (ns : List Nat)
    (h : ∀ n ∈ ns, 0 < n) (c0 : K) (c : List K) (hc : c.length = ns.length)
    (hs : sep.length = ns.length) (h2 : ∀ ax ∈ sep, 2 ≤ ax.length) :
    evalSupersampled (affine c0 c) sep ns = (gridPts sep).map (affine c0 c) := by
  rw [evalSupersampled_affine_exact sep ns h c0 c hc hs, ← gridPts_zip_deltas sep h2, List.map_map]
  rfl

/-- the same about the generator the driver op `ss` executes (`poly` with zero quadratic part) -/
theorem evalSupersampled_poly_zero_eq_direct [CharZero K] (sep : List (List K)) (ns : List Nat)
    (h : ∀ n ∈ ns, 0 < n) (c0 : K) (c : List K) (hc : c.length = ns.length)
    (hs : sep.length = ns.length) (h2 : ∀ ax ∈ sep, 2 ≤ ax.length) (n : Nat) :
    evalSupersampled (poly c0 c (List.replicate n 0)) sep ns = (gridPts sep).map (affine c0 c) := by
  rw [poly_zero]; exact evalSupersampled_affine_eq_direct sep ns h c0 c hc hs h2

/-! ## Old: the unrepaired tree (documentation of D11 / D12, not evidence: /repo is repaired and the
harness never sends `old`) -/

/-- D11: with the axes handed over un-reversed, the affine field `1 + 2x + 3y` on
`x = [0,1,2]`, `y = [0,1,3]` is not reproduced at `(3/2, 2)` (12½ instead of 10), and a
non-square grid is refused altogether. -/
theorem Old_linearSeparated_wrong :
    linearSeparatedOld false [[0, 1, 2], [0, 1, 3]] [1, 3, 5, 4, 6, 8, 10, 12, 14] [(3 / 2 : Rat), 2]
      = some (25 / 2) ∧
    linearSeparated false [[0, 1, 2], [0, 1, 3]] [1, 3, 5, 4, 6, 8, 10, 12, 14] [(3 / 2 : Rat), 2]
      = some 10 ∧
    linearSeparatedOld false [[0, 1, 2, 4], [0, 1, 3]] [1, 3, 5, 9, 4, 6, 8, 12, 10, 12, 14, 18] [(1 : Rat), 1]
      = none := by
  decide +kernel

/-- D12: the unrepaired unstructured nearest interpolator returns the `k`-th *source* sample
for the `k`-th evaluation point, which is not the closest sample. -/
theorem Old_nearestUnstructured_wrong :
    nearestUnstructuredOld [[0, 0], [1, 0], [0, 1]] [(10 : Rat), 20, 30] 0 [1, 0] = some 10 ∧
    nearestUnstructured [[0, 0], [1, 0], [0, 1]] [(10 : Rat), 20, 30] [1, 0] = some 20 := by
  decide +kernel

/-! ## non-vacuity of the hypotheses -/

example : StrictInc ([0, 1, 3] : List Rat) ∧ StrictDec ([2, -1] : List Rat) ∧
    InDomain [[0, 1, 3], [(2 : Rat), -1]] [2, 0] := by
  refine ⟨⟨by norm_num, by norm_num, trivial⟩, ⟨by norm_num, trivial⟩,
    ⟨0, 3, rfl, rfl, Or.inl ⟨by norm_num, by norm_num⟩⟩,
    ⟨2, -1, rfl, rfl, Or.inr ⟨by norm_num, by norm_num⟩⟩, trivial⟩

/-- mixed axis directions, concretely: `1 + 2x + 3y` on `x = [0,1,2,4]` ascending, `y = [3,1,0]`
descending, linear and nearest -/
example :
    linearSeparated false [[0, 1, 2, 4], [3, 1, 0]] (sampleAffine [[3, 1, 0], [0, 1, 2, 4]] 1 [3, 2]) [(3 / 2 : Rat), 2]
      = some 10 ∧
    nearestSeparated [[0, 1, 2, 4], [3, 1, 0]] (sampleAffine [[3, 1, 0], [0, 1, 2, 4]] 1 [3, 2]) [(3 / 2 : Rat), 2]
      = some 6 := by
  decide +kernel

example : ZeroMean 2 (tensorPts [dithers1 2, dithers1 3] : List (List Rat)) := by
  constructor
  · decide +kernel
  · decide +kernel

example : evalSupersampled (affine (1 : Rat) [2, 3]) [[0, 1, 2, 4], [0, 1, 3]] [2, 3]
    = (gridPts [[0, 1, 2, 4], [0, 1, 3]]).map (affine 1 [2, 3]) := by decide +kernel

/-! ### the dithered sub-grids keep the coordinate system (seeded class C18-11) -/

/-- **Sub-grids keep the coordinate system**: every grid `evaluate_supersampled` hands to the generator (driver op
`subgrids`, compared with the class and the coordinates of the grids the real generator receives) has the class of
the grid that is supersampled — a polar grid is never relabelled Cartesian — for every per-axis oversampling. -/
theorem subGrids_keep_system (g : SGrid K) (ns : List Nat) : ∀ s ∈ subGrids g ns, s.sys = g.sys := by
  intro s hs
  simp only [subGrids, List.mem_map] at hs
  obtain ⟨d, _, rfl⟩ := hs
  rfl

/-- the `k`-th axis of the sub-grid for the dither `d` is the `k`-th axis of the grid shifted by `d_k` times the local
cell widths (`deltas`), the same `x + d·δ` the value model `evalSupersampled` evaluates at (`dithered`) -/
theorem ditherGrid_axis (g : SGrid K) (d : List K) (k : Nat) (ax : List K) (dk : K)
    (hax : g.sep[k]? = some ax) (hd : d[k]? = some dk) :
    (ditherGrid g d).sep[k]? = some (List.zipWith (fun x w => x + dk * w) ax (deltas ax)) := by
  simp [ditherGrid, List.getElem?_zipWith, hax, hd]

example : ∃ (g : SGrid ℚ) (d : List ℚ) (ax : List ℚ) (dk : ℚ), g.sep[0]? = some ax ∧ d[0]? = some dk :=
  ⟨⟨.polar, [[1, 2], [0, 1]]⟩, [1/4, 0], [1, 2], 1/4, rfl, rfl⟩

end HcipyVerif.Interp
