import HcipyVerif.Lemmas.CoronagraphToFn
import Mathlib.Algebra.Module.LinearMap.Defs
import Mathlib.Tactic.Linarith

/-!
# The operator `x − T (c ∘ (T⁺ x))`

`PerfectCoronagraph.forward` (`T = transformation`, `c = coeffs`) and `LyotCoronagraph.forward` (`T = B`, `T⁺ = F`,
`c = 1 − mask`) evaluate the same expression; `rejectF` is that expression on functions, with Mathlib's
`Matrix.mulVec`. The executable `perfectMat`, `perfectMatrix` refine it through `toFn` / `toFn2`.
-/
namespace HcipyVerif.Coronagraph
open Matrix

section Ring
variable {K : Type} [CommRing K] {m n k : ℕ}

def rejectF (T : Matrix (Fin n) (Fin k) K) (Ti : Matrix (Fin k) (Fin n) K) (c : Fin k → K) (x : Fin n → K) :
    Fin n → K :=
  x - T *ᵥ (c * Ti *ᵥ x)

variable (T : Matrix (Fin n) (Fin k) K) (Ti : Matrix (Fin k) (Fin n) K) (c : Fin k → K)

theorem rejectF_isLinear : IsLinearMap K (rejectF T Ti c) where
  map_add x y := by unfold rejectF; rw [mulVec_add, mul_add, mulVec_add, add_sub_add_comm]
  map_smul a x := by unfold rejectF; rw [mulVec_smul, mul_smul_comm, mulVec_smul, smul_sub]

theorem rejectF_coeffs_zero (x : Fin n → K) : rejectF T Ti 0 x = x := by
  unfold rejectF; rw [zero_mul, mulVec_zero, sub_zero]

theorem rejectF_of_coef_zero (x : Fin n → K) (hx : Ti *ᵥ x = 0) : rejectF T Ti c x = x := by
  unfold rejectF; rw [hx, mul_zero, mulVec_zero, sub_zero]

variable {T Ti}

theorem rejectF_range (h : Ti * T = 1) (b : Fin k → K) : rejectF T Ti c (T *ᵥ b) = T *ᵥ ((1 - c) * b) := by
  unfold rejectF; rw [mulVec_mulVec, h, one_mulVec, ← mulVec_sub, sub_mul, one_mul]

theorem coef_rejectF (h : Ti * T = 1) (E : Fin n → K) : Ti *ᵥ rejectF T Ti 1 E = 0 := by
  unfold rejectF; rw [mulVec_sub, mulVec_mulVec, h, one_mulVec, one_mul, sub_self]

theorem rejectF_idem (h : Ti * T = 1) (E : Fin n → K) :
    rejectF T Ti 1 (rejectF T Ti 1 E) = rejectF T Ti 1 E :=
  rejectF_of_coef_zero T Ti 1 _ (coef_rejectF h E)

theorem toFn_perfectMat (T : Vector (Vector K k) n) (Tinv : Vector (Vector K n) k) (c : Vector K k)
    (E : Vector K n) :
    toFn (perfectMat T Tinv c E) = rejectF (toFn2 T) (toFn2 Tinv) (toFn c) (toFn E) := by
  show toFn (Vector.ofFn (toFn E - toFn (matVec T (Vector.ofFn (toFn c * toFn (matVec Tinv E)))))) = _
  rw [toFn_ofFn, toFn_matVec, toFn_ofFn, toFn_matVec]; rfl

theorem toFn2_perfectMatrix (T : Vector (Vector K k) n) (Tinv : Vector (Vector K n) k) (c : Vector K k) :
    toFn2 (perfectMatrix T Tinv c) = 1 - toFn2 T * (diagonal (toFn c) * toFn2 Tinv) := by
  unfold perfectMatrix
  rw [toFn2_ofFn]
  funext i i'
  rw [of_apply, toFn_ofFn, dot_eq_ip, toFn_ofFn, Matrix.sub_apply, one_apply, mul_apply]
  simp only [diagonal_mul]
  rfl

/-- `T⁺ T = I`: every entry of the defect the driver reports is zero. -/
def LeftInv (T : Vector (Vector K k) n) (Tinv : Vector (Vector K n) k) : Prop :=
  ∀ j l : Fin k, leftInvDefect T Tinv j l = 0

/-- `T⁺ = μ Tᵀ W`. -/
def WAdjoint (T : Vector (Vector K k) n) (Tinv : Vector (Vector K n) k) (w : Vector K n) (mu : K) : Prop :=
  ∀ (j : Fin k) (i : Fin n), adjointDefect T Tinv w mu j i = 0

def NullsModes (T : Vector (Vector K k) n) (Tinv : Vector (Vector K n) k) (c : Vector K k)
    (a x y : Vector K n) (order : ℕ) : Prop :=
  ∀ e ∈ modeExps order, perfectMat T Tinv c (mode a x y e) = zeroVec K n

instance [DecidableEq K] (T : Vector (Vector K k) n) (Tinv : Vector (Vector K n) k) : Decidable (LeftInv T Tinv) := by
  unfold LeftInv; infer_instance

instance [DecidableEq K] (T : Vector (Vector K k) n) (Tinv : Vector (Vector K n) k) (w : Vector K n) (mu : K) :
    Decidable (WAdjoint T Tinv w mu) := by
  unfold WAdjoint; infer_instance

instance [DecidableEq K] (T : Vector (Vector K k) n) (Tinv : Vector (Vector K n) k) (c : Vector K k)
    (a x y : Vector K n) (order : ℕ) : Decidable (NullsModes T Tinv c a x y order) := by
  unfold NullsModes; infer_instance

theorem leftInv_iff (T : Vector (Vector K k) n) (Tinv : Vector (Vector K n) k) :
    LeftInv T Tinv ↔ toFn2 Tinv * toFn2 T = 1 := by
  rw [← Matrix.ext_iff]
  refine forall_congr' fun j => forall_congr' fun l => ?_
  unfold leftInvDefect col
  rw [sub_eq_zero, dot_eq_ip, toFn_ofFn, one_apply, mul_apply]
  rfl

theorem wAdjoint_iff (T : Vector (Vector K k) n) (Tinv : Vector (Vector K n) k) (w : Vector K n) (mu : K) :
    WAdjoint T Tinv w mu ↔ ∀ j i, toFn2 Tinv j i = mu * (toFn2 T i j * toFn w i) :=
  forall_congr' fun _ => forall_congr' fun _ => sub_eq_zero

def pw (w x : Fin n → K) : K := ∑ i, w i * (x i * x i)

theorem powerW_eq (w E : Vector K n) : powerW w E = pw (toFn w) (toFn E) :=
  foldl_eq_sum n fun i => toFn w i * (toFn E i * toFn E i)

end Ring

section Ordered
variable {K : Type} [Field K] [LinearOrder K] [IsStrictOrderedRing K] {n k : ℕ}

/-- Weighted Pythagoras: `E = P E + y` with `y = T T⁺ E` in the range of `T`, and `P E` is
`w`-orthogonal to that range because `T⁺ (P E) = 0` and `T⁺ = μ Tᵀ W`. -/
theorem rejectF_pw_le (T : Matrix (Fin n) (Fin k) K) (Ti : Matrix (Fin k) (Fin n) K) (w : Fin n → K) (mu : K)
    (h : Ti * T = 1) (hadj : ∀ j i, Ti j i = mu * (T i j * w i)) (hmu : 0 < mu) (hw : ∀ i, 0 ≤ w i)
    (E : Fin n → K) : pw w (rejectF T Ti 1 E) ≤ pw w E := by
  have hP := coef_rejectF h E
  have hE : E = rejectF T Ti 1 E + T *ᵥ Ti *ᵥ E := by unfold rejectF; rw [one_mul, sub_add_cancel]
  generalize rejectF T Ti 1 E = P at hP hE
  generalize Ti *ᵥ E = a at hE
  have hcross : mu * ∑ i, w i * ((T *ᵥ a) i * P i) = 0 :=
    calc mu * ∑ i, w i * ((T *ᵥ a) i * P i) = ∑ j, a j * (Ti *ᵥ P) j := by
          simp only [mulVec, dotProduct, Finset.mul_sum, Finset.sum_mul]
          rw [Finset.sum_comm]
          refine Finset.sum_congr rfl fun j _ => Finset.sum_congr rfl fun i _ => ?_
          rw [hadj j i]; ring
      _ = 0 := by simp only [hP, Pi.zero_apply, mul_zero, Finset.sum_const_zero]
  have hcross' : ∑ i, w i * ((T *ᵥ a) i * P i) = 0 := (mul_eq_zero.1 hcross).resolve_left hmu.ne'
  have hsplit : pw w E = pw w P + pw w (T *ᵥ a) + 2 * ∑ i, w i * ((T *ᵥ a) i * P i) := by
    unfold pw
    rw [Finset.mul_sum, ← Finset.sum_add_distrib, ← Finset.sum_add_distrib]
    refine Finset.sum_congr rfl fun i _ => ?_
    rw [hE, Pi.add_apply]; ring
  have hy0 : 0 ≤ pw w (T *ᵥ a) := Finset.sum_nonneg fun i _ => mul_nonneg (hw i) (mul_self_nonneg _)
  rw [hsplit, hcross']
  linarith

end Ordered
end HcipyVerif.Coronagraph
