import HcipyVerif.Lemmas.Cache
import HcipyVerif.Lemmas.CacheDecorator
import HcipyVerif.Lemmas.FftState
import HcipyVerif.Lemmas.WavelengthKey
import Mathlib.Data.Nat.Pairing

/-!
# C05 — optical elements are history-independent: caching is transparent

Model: `HcipyVerif/Model/Cache.lean` (the instance cache of `AgnosticOpticalElement` as it is in
/repo) and `HcipyVerif/Model/CacheDecorator.lean` (the second, independent cache inside the exported
`make_agnostic_optical_element`).  The unrepaired lookup is documentation only
(`Lemmas/CacheOld.lean`, not imported here, not counted).

* `Sound`  — soundness invariant of the cache, `Acc` — accounting invariant (`Lemmas/Cache.lean`).
* `transparent` — for every element whose declared dependencies are truthful (all shipped ones,
  `truthful_of_declared_deps`), every history of forward / backward / both-grids requests,
  `clear_cache()` calls and setters, of any length and beyond any cache size, answers every request
  exactly as a freshly constructed element with the current parameters would.
* `transparent_results` — the same with instance *contents*: the hypothesis "what an instance
  returns is a function of (key, parameter version)" is explicit (`ObservablyPure`), and needed
  (`content_hypothesis_needed`), and discharged for instances that own a memo cell
  (`memo_content_pure`, `transparent_results_memo`: what driver op `reqc` runs).  `truthful_needed`:
  so is `Truthful`.
* `decorator_history_dependent` — `make_agnostic_optical_element` is **not** transparent (open finding);
  `decorator_forward_transparent` — its forward requests are.
* The Fourier objects owned by the instances: memo cells (`FourierFilter`, `ChirpZTransform`,
  `ZoomFastFourierTransform`, MFT) and the scratch buffer (`Fft.loadArray`) are transparent.
-/

namespace HcipyVerif.C05
open HcipyVerif.Cache HcipyVerif.WavelengthKey

def Inv (e : Elem) (s : St) : Prop := Sound e s ∧ Acc e s

theorem inv_init (e : Elem) (ver : Nat) : Inv e (St.init ver) := sound_acc_of_empty e rfl rfl

theorem inv_clear (e : Elem) (s : St) : Inv e s.clear := sound_acc_of_empty e rfl rfl

theorem inv_setParam (e : Elem) (s : St) : Inv e s.setParam := sound_acc_of_empty e rfl rfl

/-- Every shipped element is wavelength dependent (propagators, apodizers, Jones elements, fibre,
vector vortex) or not grid dependent (magnifier): its declared dependencies are truthful. -/
theorem truthful_of_declared_deps (e : Elem) (h : e.wlDep = true ∨ e.gridDep = false) :
    Truthful e :=
  fun ver _ _ _ _ _ _ _ h1 h2 => (fullKey_of_reqKey h ver h1).trans (fullKey_of_reqKey h ver h2).symm

example : ∃ e : Elem, Truthful e ∧ 1 ≤ e.maxN :=
  ⟨⟨true, true, 11, fun _ _ _ => some 1, fun _ _ _ => some 9⟩,
    truthful_of_declared_deps _ (Or.inl rfl), by decide⟩

/-! ## One request -/

/-- **Soundness invariant.** Whatever eviction removes, a request hands out an instance made for
the key this request resolves to and for the current parameter version, and every cached
`(key, instance)` pair stays sound. -/
theorem request_sound {e : Elem} (hT : Truthful e) {s s' : St} {i o : Option GridId}
    {w : Option WlKey} {v : Inst} (hs : Sound e s) (h : getInstanceData e s i o w = .ok (s', v)) :
    fullKey e s.ver i o w = some v.key ∧ v.ver = s.ver ∧ s'.ver = s.ver ∧ Sound e s' := by
  obtain ⟨how, h⟩ := getInstanceData_ok h
  exact getInstanceDataHow_sound hT hs h

/-- **Accounting invariant.** `_num_in_cache` stays the number of distinct live instances and never
exceeds `max_in_cache` (≥ 1). -/
theorem request_accounting {e : Elem} (hmax : 1 ≤ e.maxN) {s s' : St} {i o : Option GridId}
    {w : Option WlKey} {v : Inst} (ha : Acc e s) (h : getInstanceData e s i o w = .ok (s', v)) :
    Acc e s' := by
  obtain ⟨how, h⟩ := getInstanceData_ok h
  exact (getInstanceDataHow_ids hmax ha h).1

/-- `popitem` never meets an empty dict: with the accounting invariant a request can only fail with
the `ValueError` of `_get_cache_keys`, and does so exactly when the request names no grid (grid
dependent element) or no wavelength (wavelength dependent element). -/
theorem request_error_iff {e : Elem} (hmax : 1 ≤ e.maxN) {s : St} (ha : Acc e s)
    (i o : Option GridId) (w : Option WlKey) :
    (reqKey e i o w = none ∧ getInstanceData e s i o w = .error .value) ∨
    (∃ k s' v, reqKey e i o w = some k ∧ getInstanceData e s i o w = .ok (s', v)) := by
  cases h : getInstanceDataHow e s i o w with
  | error err =>
    obtain ⟨rfl, hn⟩ := getInstanceDataHow_error hmax ha h
    exact .inl ⟨hn, by rw [getInstanceData, h]⟩
  | ok r =>
    obtain ⟨k1, _, hk1, _⟩ := (getInstanceDataHow_spec e s i o w).1 _ h
    exact .inr ⟨k1, r.1, r.2.1, hk1, by rw [getInstanceData, h]⟩

theorem step_req_inv {e : Elem} (hT : Truthful e) (hmax : 1 ≤ e.maxN) {s : St} (hi : Inv e s)
    (op : Op) : Inv e (step e s op).1 ∧
      (step e s op).1.ver = (match op with | .set => s.ver + 1 | _ => s.ver) := by
  cases op with
  | clear => exact ⟨inv_clear e s, rfl⟩
  | set => exact ⟨inv_setParam e s, rfl⟩
  | req i o w =>
    obtain ⟨_, hs', ha', hv⟩ := step_req_spec hT hmax hi.1 hi.2 i o w
    exact ⟨⟨hs', ha'⟩, hv⟩

/-- What a freshly constructed element answers: a `ValueError` exactly when the request is
incomplete, otherwise the instance for the resolved key at the current parameters. -/
theorem fresh_spec {e : Elem} (hT : Truthful e) (hmax : 1 ≤ e.maxN) (ver : Nat)
    (i o : Option GridId) (w : Option WlKey) :
    (reqKey e i o w = none ∧ (step e (St.init ver) (.req i o w)).2 = .error .value) ∨
    (∃ k k2, reqKey e i o w = some k ∧ fullKey e ver i o w = some k2 ∧
      (step e (St.init ver) (.req i o w)).2 = .inst k2 ver) := by
  rw [(step_req_spec hT hmax (inv_init e ver).1 (inv_init e ver).2 i o w).1]
  unfold answer
  cases hk : reqKey e i o w with
  | none => exact .inl ⟨rfl, rfl⟩
  | some k =>
    obtain ⟨k2, hk2⟩ := fullKey_isSome_of_reqKey (St.init ver).ver hk
    exact .inr ⟨k, k2, rfl, hk2, by rw [hk2]; rfl⟩

/-- **Transparency of one request** in any state satisfying the invariants: the shared element
answers exactly as a freshly constructed element with the same parameters. -/
theorem request_transparent {e : Elem} (hT : Truthful e) (hmax : 1 ≤ e.maxN) {s : St}
    (hi : Inv e s) (i o : Option GridId) (w : Option WlKey) :
    (step e s (.req i o w)).2 = (step e (St.init s.ver) (.req i o w)).2 :=
  (step_req_spec hT hmax hi.1 hi.2 i o w).1.trans
    (step_req_spec hT hmax (inv_init e s.ver).1 (inv_init e s.ver).2 i o w).1.symm

/-! ## Whole histories -/

/-- **Transparency (full strength).** For every truthful element with `max_in_cache ≥ 1`, from
every state satisfying the invariants, every finite history — forward, backward and both-grid
requests in any order and repetition, more distinct combinations than the cache holds,
`clear_cache()` calls and setters interleaved — is answered request by request exactly as by
freshly constructed elements carrying the current parameters. -/
theorem transparent_from {e : Elem} (hT : Truthful e) (hmax : 1 ≤ e.maxN) (ops : List Op) :
    ∀ s : St, Inv e s → run e s ops = specRun e s.ver ops := by
  induction ops with
  | nil => intro s _; rfl
  | cons op ops ih =>
    intro s hi
    obtain ⟨hi', hver⟩ := step_req_inv hT hmax hi op
    have ih' := ih _ hi'
    rw [hver] at ih'
    cases op with
    | req i o w => exact congrArg₂ List.cons (request_transparent hT hmax hi i o w) ih'
    | clear => exact congrArg (Resp.done :: ·) ih'
    | set => exact congrArg (Resp.done :: ·) ih'

/-- Transparency for an element used from its construction on. -/
theorem transparent {e : Elem} (hT : Truthful e) (hmax : 1 ≤ e.maxN) (ver : Nat) (ops : List Op) :
    run e (St.init ver) ops = specRun e ver ops :=
  transparent_from hT hmax ops _ (inv_init e ver)

theorem inv_reachable {e : Elem} (hT : Truthful e) (hmax : 1 ≤ e.maxN) (ops : List Op) :
    ∀ s : St, Inv e s → Inv e (ops.foldl (fun s op => (step e s op).1) s) :=
  fun _ hi => List.foldlRecOn ops _ hi fun _ hi op _ => (step_req_inv hT hmax hi op).1

/-- Accounting in every reachable state: `_num_in_cache` is the number of live instances, at most
`max_in_cache`. -/
theorem accounting_reachable {e : Elem} (hT : Truthful e) (hmax : 1 ≤ e.maxN) (ver : Nat)
    (ops : List Op) :
    let s := ops.foldl (fun s op => (step e s op).1) (St.init ver)
    s.num = (s.cache.map (·.2.id)).toFinset.card ∧ s.num ≤ e.maxN := by
  have := (inv_reachable hT hmax ops _ (inv_init e ver)).2
  exact ⟨this.1, this.2.1⟩

/-- No history makes `popitem` fail: a `KeyError` is never answered. -/
theorem no_key_error {e : Elem} (hT : Truthful e) (hmax : 1 ≤ e.maxN) (ver : Nat) (ops : List Op) :
    Resp.error .key ∉ run e (St.init ver) ops := by
  rw [transparent hT hmax]
  induction ops generalizing ver with
  | nil => exact List.not_mem_nil
  | cons op ops ih =>
    cases op with
    | req i o w =>
      refine List.not_mem_cons_of_ne_of_not_mem ?_ (ih ver)
      rcases fresh_spec hT hmax ver i o w with ⟨_, hf⟩ | ⟨_, _, _, _, hf⟩ <;> rw [hf] <;> exact nofun
    | clear => exact List.not_mem_cons_of_ne_of_not_mem Resp.noConfusion (ih ver)
    | set => exact List.not_mem_cons_of_ne_of_not_mem Resp.noConfusion (ih (ver + 1))

/-! ## Eviction order -/

theorem fifo_init (ver : Nat) : Fifo (St.init ver) := FirstSorted.nil

set_option linter.unusedVariables false in
theorem fifo_step {e : Elem} (hT : Truthful e) (hmax : 1 ≤ e.maxN) {s : St} (hi : Inv e s)
    (hf : Fifo s) (op : Op) : Fifo (step e s op).1 := by
  cases op with
  | clear => exact FirstSorted.nil
  | set => exact FirstSorted.nil
  | req i o w =>
    exact step_req_elim (fun _ _ => hf) fun _ _ _ h => (getInstanceDataHow_ids hmax hi.2 h).2 hf

theorem fifo_reachable {e : Elem} (hT : Truthful e) (hmax : 1 ≤ e.maxN) (ops : List Op) :
    ∀ s : St, Inv e s → Fifo s → Fifo (ops.foldl (fun s op => (step e s op).1) s) :=
  fun _ hi hf => (List.foldlRecOn ops _ (motive := fun s => Inv e s ∧ Fifo s) ⟨hi, hf⟩ fun _ h op _ =>
    ⟨(step_req_inv hT hmax h.1 op).1, fifo_step hT hmax h.1 h.2 op⟩).2

/-- **The oldest instance is the one evicted**, with all of its keys and nothing else: when the
cache is full, eviction removes exactly the entries of the live instance with the least identity
(creation counter). -/
theorem evicts_oldest {e : Elem} {s s' : St} (hf : Fifo s) (hfull : s.num = e.maxN)
    (h : evict e s = .ok s') :
    ∃ k v rest, s.cache = (k, v) :: rest ∧ (∀ p ∈ s.cache, v.id ≤ p.2.id) ∧
      s'.cache = s.cache.filter (fun p => p.2.id != v.id) ∧ s'.num = s.num - 1 := by
  rcases (evict_spec e s).1 s' h with ⟨hne, _⟩ | ⟨k, v, rest, _, hc, rfl⟩
  · exact absurd hfull hne
  · exact ⟨k, v, rest, hc, fun p hp => FirstSorted.head_le hf v.id (rest.map (·.2.id))
      (by rw [hc]; rfl) _ (List.mem_map.2 ⟨p, hp, rfl⟩), rfl, rfl⟩

/-- **A setter takes effect on the very next propagation**: after any history, a setter followed
by a complete request hands out an instance built with the new parameter version. -/
theorem setter_takes_effect {e : Elem} (hT : Truthful e) (hmax : 1 ≤ e.maxN) {s : St}
    (hi : Inv e s) (i o : Option GridId) (w : Option WlKey) {k : Key}
    (hk : reqKey e i o w = some k) :
    ∃ k2, fullKey e (s.ver + 1) i o w = some k2 ∧
      run e s [.set, .req i o w] = [.done, .inst k2 (s.ver + 1)] := by
  rw [transparent_from hT hmax _ s hi]
  rcases fresh_spec hT hmax (s.ver + 1) i o w with ⟨hnone, _⟩ | ⟨_, k2, _, hk2, hf⟩
  · rw [hnone] at hk; cases hk
  · exact ⟨k2, hk2, by simp only [specRun]; rw [hf]⟩

/-- The mutant "setter without `clear_cache()`" is not transparent: the request after the setter
is answered with the instance built for the old parameters. -/
theorem setter_without_clear_counterexample :
    let e : Elem := ⟨true, true, 11, fun _ _ g => some g, fun _ _ g => some g⟩
    let s1 := (step e (St.init 0) (.req (some 1) none (some 5))).1
    (step e (Mutant.setParamNoClear s1) (.req (some 1) none (some 5))).2 = .inst ⟨some 1, some 1, some 5⟩ 0 ∧
    (step e (St.init 1) (.req (some 1) none (some 5))).2 = .inst ⟨some 1, some 1, some 5⟩ 1 := by
  decide

/-! ## The lens-propagator history of defect D3 (the unrepaired lookup is in `Lemmas/CacheOld.lean`) -/

/-- The lookup in /repo answers the history that exposed D3 correctly. -/
theorem lens_history_repaired :
    let e : Elem := ⟨true, true, 11, fun _ _ _ => some 1, fun _ _ _ => some 9⟩
    run e (St.init 0) [.req (some 1) none (some 5), .req (some 2) none (some 5)]
      = [.inst ⟨some 1, some 9, some 5⟩ 0, .inst ⟨some 2, some 9, some 5⟩ 0] := by decide

/-! ## Grids versus the ids under which the cache sees them

The model identifies a grid with its id (`hash(grid)` in the code).  That identification is an assumption of the
tie, made explicit here; it is discharged by C10 (equal grids hash equal, the hash is a function of the *current*
coordinate values, different grids do not collide), not by this file. -/

/-- **Tie assumption `HashFaithful`**: the id is an injective function of the grid (its current coordinates). -/
def HashFaithful {G : Type} (hash : G → GridId) : Prop := ∀ g1 g2 : G, hash g1 = hash g2 → g1 = g2

example : HashFaithful (fun n : Nat => n + 1) := fun a b h => by simpa using h

theorem forward_key_names_grid {e : Elem} (hg : e.gridDep = true) {ver : Nat} {a : GridId}
    {w : Option WlKey} {k : Key} (h : fullKey e ver (some a) none w = some k) : k.i = some a := by
  rw [fullKey, reqKey_eq, hg] at h
  split at h
  · cases h
  · cases h
    rfl

/-- **Different grids never share an instance** (under `HashFaithful`): if two forward requests, in any two
reachable states of a grid-dependent element, are handed instances made for the same key, they were made on the
same grid. -/
theorem distinct_grids_distinct_instances {G : Type} (hash : G → GridId) (hf : HashFaithful hash)
    {e : Elem} (hT : Truthful e) (hmax : 1 ≤ e.maxN) (hg : e.gridDep = true) {s1 s2 : St}
    (h1 : Inv e s1) (h2 : Inv e s2) (g1 g2 : G) (w : Option WlKey) (k : Key) (v1 v2 : Nat)
    (r1 : (step e s1 (.req (some (hash g1)) none w)).2 = .inst k v1)
    (r2 : (step e s2 (.req (some (hash g2)) none w)).2 = .inst k v2) : g1 = g2 := by
  have key_of : ∀ (s : St), Inv e s → ∀ (g : G) (v : Nat),
      (step e s (.req (some (hash g)) none w)).2 = .inst k v → k.i = some (hash g) := by
    intro s hi g v r
    rw [(step_req_spec hT hmax hi.1 hi.2 _ none w).1, answer] at r
    split at r
    · cases r
      exact forward_key_names_grid hg ‹_›
    · cases r
  exact hf g1 g2 (Option.some.inj ((key_of s1 h1 g1 v1 r1).symm.trans (key_of s2 h2 g2 v2 r2)))

/-- Without `HashFaithful` the cache cannot tell colliding grids apart: every history is answered identically
for two grids with the same id (this is what a lossy or stale `Grid.__hash__` does). -/
theorem colliding_grids_share_instance {G : Type} (hash : G → GridId) (e : Elem) (s : St) (g1 g2 : G)
    (w : Option WlKey) (h : hash g1 = hash g2) :
    step e s (.req (some (hash g1)) none w) = step e s (.req (some (hash g2)) none w) := by
  rw [h]

/-! ### Grids that differ in their weights only

`Grid.__eq__` and `Grid.__hash__` ignore the weights (C10: equality is about coordinates), instances do not.  The
executed key function `gridKey` (what `_get_grid_key` computes after repair D505; every `req`/`reqc` of the driver runs it)
is faithful for grids = (coordinates, weights); the unrepaired key part `hash(grid)` is not. -/

/-- **The repaired key discharges `HashFaithful` for grids with weights**: grids that differ in their coordinates *or*
in their weights get different ids (given that the digests of coordinates and weights themselves do not collide —
that part stays C10's hash assumption). -/
theorem gridKey_faithful : HashFaithful gridKey := by
  rintro ⟨c1, w1⟩ ⟨c2, w2⟩ h
  -- `gridKey ⟨c, w⟩` is `pair c w`, and the body of `pair` is that of `Nat.pair`
  obtain ⟨rfl, rfl⟩ := Nat.pair_eq_pair.mp (show Nat.pair c1 w1 = Nat.pair c2 w2 from h)
  rfl

/-- The unrepaired key part (`hash(grid)`, coordinates only) is not faithful. -/
theorem coords_key_not_faithful : ¬ HashFaithful Mutant.gridKeyCoords := by
  intro h
  have := h ⟨1, 1⟩ ⟨1, 2⟩ rfl
  cases this

/-- **Defect D505 (clean tree)**: with the coordinates-only key, a grid with equal coordinates and other weights is
answered exactly like the first grid, in every state and at every wavelength — it is handed the first grid's
instance. -/
theorem coords_key_shares_instance (e : Elem) (s : St) (c w1 w2 : Nat) (wl : Option WlKey) :
    step e s (.req (some (Mutant.gridKeyCoords ⟨c, w1⟩)) none wl)
      = step e s (.req (some (Mutant.gridKeyCoords ⟨c, w2⟩)) none wl) :=
  colliding_grids_share_instance Mutant.gridKeyCoords e s ⟨c, w1⟩ ⟨c, w2⟩ wl rfl

/-- **With the repaired key, grids that differ in weights only never share an instance**: two forward requests (any
two reachable states of a grid-dependent element) handed instances made for the same key were made on grids with the
same coordinates and the same weights. -/
theorem weights_distinguish_instances {e : Elem} (hT : Truthful e) (hmax : 1 ≤ e.maxN)
    (hg : e.gridDep = true) {s1 s2 : St} (h1 : Inv e s1) (h2 : Inv e s2) (g1 g2 : Grid)
    (w : Option WlKey) (k : Key) (v1 v2 : Nat)
    (r1 : (step e s1 (.req (some (gridKey g1)) none w)).2 = .inst k v1)
    (r2 : (step e s2 (.req (some (gridKey g2)) none w)).2 = .inst k v2) :
    g1.coord = g2.coord ∧ g1.weights = g2.weights := by
  have := distinct_grids_distinct_instances gridKey gridKey_faithful hT hmax hg h1 h2 g1 g2 w k v1 v2 r1 r2
  subst this
  exact ⟨rfl, rfl⟩

/-- **Transparency for histories on actual grids** (coordinates and weights) seen through the executed key: the
shared element answers every request as a fresh element does, and (by `gridKey_faithful`) the key of the instance
handed out determines coordinates and weights of the grids it was made for. -/
theorem transparent_on_grids {e : Elem} (hT : Truthful e) (hmax : 1 ≤ e.maxN) (ver : Nat) (ops : List OpG) :
    run e (St.init ver) (ops.map (OpG.toOp gridKey)) = specRun e ver (ops.map (OpG.toOp gridKey)) :=
  transparent hT hmax ver _

/-- The same histories through the coordinates-only key are *not* transparent with respect to the grids: a concrete
history (forward on a grid, forward on a grid with the same coordinates and other weights) in which the second
request is answered `hit` by the first grid's instance, while the executed key creates a second instance. -/
theorem coords_key_history_counterexample :
    let e : Elem := ⟨true, true, 11, fun _ _ _ => none, fun _ _ g => some g⟩
    let ops : List OpG := [.req (some ⟨1, 1⟩) none (some 5), .req (some ⟨1, 2⟩) none (some 5)]
    (run e (St.init 0) (ops.map (OpG.toOp Mutant.gridKeyCoords))).getLast? =
        (run e (St.init 0) (ops.map (OpG.toOp Mutant.gridKeyCoords))).head? ∧
      (run e (St.init 0) (ops.map (OpG.toOp gridKey))).getLast? ≠
        (run e (St.init 0) (ops.map (OpG.toOp gridKey))).head? := by decide

/-! ### Declared dependences: what `make_instance` reads versus what the key retains

`Content.make : Key → Nat → α` (an instance is a function of its key) is discharged here from a model of what
`make_instance` reads, instead of being assumed. -/

/-- A request as `make_instance` sees it: the value id of every dimension (specification side). -/
abbrev ReqEnv := Dim → Nat

/-- What a key that retains the dimensions `covers` keeps of a request. -/
def keyView (covers : Dim → Bool) (r : ReqEnv) : Dim → Option Nat := fun d => if covers d then some (r d) else none

/-- `mk` (an element's `make_instance`, as a function of the request) reads only the dimensions in `reads`. -/
def ReadsOnly {α : Type} (reads : List Dim) (mk : ReqEnv → α) : Prop :=
  ∀ r1 r2 : ReqEnv, (∀ d ∈ reads, r1 d = r2 d) → mk r1 = mk r2

example : ReadsOnly [Dim.coords, Dim.wavelength] (fun r => r .coords + 2 * r .wavelength) := by
  intro r1 r2 h
  simp only [h .coords (by simp), h .wavelength (by simp)]

/-- **An instance is a function of its key**: if the key retains every dimension `make_instance` reads, two requests
with the same key view build the same instance content — whatever else differs between them (other weights, another
wavelength for a wavelength-independent element, …). -/
theorem instance_determined_by_key {α : Type} (covers : Dim → Bool) (reads : List Dim) (mk : ReqEnv → α)
    (hc : uncoveredBy covers reads = []) (hr : ReadsOnly reads mk) (r1 r2 : ReqEnv)
    (hk : keyView covers r1 = keyView covers r2) : mk r1 = mk r2 := by
  apply hr
  intro d hd
  have hcov : covers d = true := by simpa using List.filter_eq_nil_iff.1 hc d hd
  have := congrFun hk d
  simpa [keyView, hcov] using this

/-- Hence `make_instance` factors through the key view: this is the `Content.make` of the cache model. -/
theorem make_factors_through_key {α : Type} [Inhabited α] (covers : Dim → Bool) (reads : List Dim) (mk : ReqEnv → α)
    (hc : uncoveredBy covers reads = []) (hr : ReadsOnly reads mk) :
    ∃ mk' : (Dim → Option Nat) → α, ∀ r, mk r = mk' (keyView covers r) := by
  classical
  refine ⟨fun kv => if h : ∃ r, keyView covers r = kv then mk h.choose else default, ?_⟩
  intro r
  have hex : ∃ r', keyView covers r' = keyView covers r := ⟨r, rfl⟩
  simp only [dif_pos hex]
  exact instance_determined_by_key covers reads mk hc hr r _ hex.choose_spec.symm

/-- **Every shipped family is covered** by the repaired key: nothing its `make_instance` reads is lost.  (The harness
compares each row with the flags and the reads observed on the running classes.) -/
theorem shipped_families_covered : ∀ f ∈ shippedFamilies, uncovered f.gridDep f.wlDep f.reads = [] := by decide

/-- … so for every shipped family, requests with equal key views build equal instances. -/
theorem shipped_instances_determined_by_key {α : Type} (f : Family) (hf : f ∈ shippedFamilies) (mk : ReqEnv → α)
    (hr : ReadsOnly f.reads mk) (r1 r2 : ReqEnv)
    (hk : keyView (keyCovers f.gridDep f.wlDep) r1 = keyView (keyCovers f.gridDep f.wlDep) r2) : mk r1 = mk r2 :=
  instance_determined_by_key _ f.reads mk (shipped_families_covered f hf) hr r1 r2 hk

/-- **A read the key loses breaks it**: for any dimension read but not retained there are an admissible `make_instance`
and two requests with the same key view that must get different instances. -/
theorem uncovered_read_breaks (covers : Dim → Bool) (reads : List Dim) (d : Dim)
    (hu : d ∈ uncoveredBy covers reads) :
    ∃ (mk : ReqEnv → Nat) (r1 r2 : ReqEnv), ReadsOnly reads mk ∧ keyView covers r1 = keyView covers r2 ∧ mk r1 ≠ mk r2 := by
  have hd : d ∈ reads := (List.mem_filter.mp hu).1
  have hn : covers d = false := by simpa using (List.mem_filter.mp hu).2
  refine ⟨fun r => r d, fun _ => 0, fun d' => if d' = d then 1 else 0, ?_, ?_, ?_⟩
  · intro r1 r2 h
    exact h d hd
  · funext d'
    by_cases h : d' = d
    · subst h; simp [keyView, hn]
    · simp [keyView, h]
  · simp

/-- With the unrepaired key every grid-dependent shipped family loses a dimension it reads (the weights): D505. -/
theorem coords_only_key_loses_weights :
    ∀ f ∈ shippedFamilies, f.gridDep = true →
      uncoveredBy (Mutant.keyCoversCoordsOnly f.gridDep f.wlDep) f.reads = [Dim.weights] := by decide

/-- The seeded regression C07-8 in the model: a magnifier that reads the grid's weights while the key does not
retain them (not grid dependent, or grid dependent with the coordinates-only key). -/
theorem magnifier_reading_weights_uncovered :
    uncovered false true [Dim.weights, Dim.wavelength] = [Dim.weights] ∧
      uncoveredBy (Mutant.keyCoversCoordsOnly true true) [Dim.coords, Dim.weights, Dim.wavelength] = [Dim.weights] := by
  decide

/-! ## The wavelength key (the property's side condition "wavelengths at least 1e-6 apart")

`wavelength_key = int(np.round(np.log(wavelength) / np.log(1 + 1e-9)))`, modelled over ℝ as
`wlKey r b lam = r (log lam / log b)` for any round-to-nearest `r` (ties broken either way) and any
base `b ∈ [1 + 1e-9/2, 1 + 2e-9]` — in particular the exact `1 + 1e-9` and the double the code uses. -/

/-- The executed base `wlBase` (the double nearest to `1 + 1e-9`: what `1 + 1e-9` evaluates to in the code, `1 + 4503600·2⁻⁵²`;
the harness checks this identity on the running interpreter) is an admissible base. -/
theorem wlBase_ok : BaseOk ((wlBase : ℚ) : ℝ) := by
  rw [wlBase_cast]; exact base_double_ok

example : Nearest (round : ℝ → ℤ) := nearest_round
example : BaseOk (1 + 1 / 10 ^ 9) := baseOk_exact

/-- **Wavelengths at least a relative 1e-6 apart never share an instance**: their keys (at the base the code uses) differ
by at least 498, whatever the tie-breaking of the rounding.  (Any base in `[1 + 1e-9/2, 1 + 2e-9]`:
`wavelength_key_separates_base`, Lemmas/WavelengthKey.lean.) -/
theorem wavelength_key_separates {r : ℝ → ℤ} (hr : Nearest r)
    {l1 l2 : ℝ} (h1 : 0 < l1) (h : l1 * (1 + 1 / 10 ^ 6) ≤ l2) :
    wlKey r ((wlBase : ℚ) : ℝ) l1 ≠ wlKey r ((wlBase : ℚ) : ℝ) l2 ∧
      wlKey r ((wlBase : ℚ) : ℝ) l1 + 498 ≤ wlKey r ((wlBase : ℚ) : ℝ) l2 := by
  have := wavelength_key_separates_base hr wlBase_ok h1 h
  exact ⟨by omega, this⟩

/-- **Coalescing is local**: wavelengths within a relative 1e-10 get the same or neighbouring keys. -/
theorem wavelength_key_stable {r : ℝ → ℤ} (hr : Nearest r)
    {l1 l2 : ℝ} (h1 : 0 < l1) (hle : l1 ≤ l2) (h : l2 ≤ l1 * (1 + 1 / 10 ^ 10)) :
    |wlKey r ((wlBase : ℚ) : ℝ) l2 - wlKey r ((wlBase : ℚ) : ℝ) l1| ≤ 1 :=
  wavelength_key_stable_base hr wlBase_ok h1 hle h

/-- **What the cache coalesces**: two wavelengths that share a key (hence an instance) are within one factor `base`
(a relative 1e-9) of each other, in both directions. -/
theorem wavelength_key_shared_close {r : ℝ → ℤ} (hr : Nearest r)
    {l1 l2 : ℝ} (h1 : 0 < l1) (h2 : 0 < l2) (h : wlKey r ((wlBase : ℚ) : ℝ) l1 = wlKey r ((wlBase : ℚ) : ℝ) l2) :
    l2 ≤ l1 * ((wlBase : ℚ) : ℝ) ∧ l1 ≤ l2 * ((wlBase : ℚ) : ℝ) :=
  ⟨wavelength_key_shared_close_base hr wlBase_ok.one_lt h1 h2 h,
    wavelength_key_shared_close_base hr wlBase_ok.one_lt h2 h1 h.symm⟩

/-- The instance as in the code up to tie-breaking: Mathlib's `round`, the code's base. -/
theorem wavelength_key_separates_round {l1 l2 : ℝ} (h1 : 0 < l1) (h : l1 * (1 + 1 / 10 ^ 6) ≤ l2) :
    wlKey round ((wlBase : ℚ) : ℝ) l1 ≠ wlKey round ((wlBase : ℚ) : ℝ) l2 :=
  (wavelength_key_separates nearest_round h1 h).1

/-! ### The executed enclosure of key differences (`wlKeyDiffBounds`, driver op `wldiff`)

Ties the ℝ model `wlKey` to definitions the driver runs: for rational wavelengths (every float is one) the exact rational
bounds enclose the key difference of the ℝ model at the double base, and the harness checks that the key differences of the
running code lie inside the same bounds. -/

/-- **The executed bounds enclose the modelled key difference** (any tie-breaking, the double base). -/
theorem wavelength_key_diff_enclosed {r : ℝ → ℤ} (hr : Nearest r) {l1 l2 : ℚ} (h1 : 0 < l1) (hle : l1 ≤ l2) :
    (((wlKeyDiffBounds l1 l2).1 : ℚ) : ℝ) ≤
        (wlKey r ((wlBase : ℚ) : ℝ) (l2 : ℝ) : ℝ) - (wlKey r ((wlBase : ℚ) : ℝ) (l1 : ℝ) : ℝ) ∧
      (wlKey r ((wlBase : ℚ) : ℝ) (l2 : ℝ) : ℝ) - (wlKey r ((wlBase : ℚ) : ℝ) (l1 : ℝ) : ℝ) ≤
        (((wlKeyDiffBounds l1 l2).2 : ℚ) : ℝ) := by
  have := key_diff_bounds_real hr wlBase_ok.one_lt (Rat.cast_pos.2 h1) (Rat.cast_le.2 hle)
  simp only [wlKeyDiffBounds, wlDiffLo, wlDiffHi, Rat.cast_sub, Rat.cast_add, Rat.cast_div, Rat.cast_one]
  exact this

example : (0 : ℚ) < 1 ∧ (1 : ℚ) ≤ 2 := by norm_num

/-- **Separation, on the executed bounds**: at the property's side condition (`λ2 ≥ λ1·(1 + 1e-6)`) the executed lower
bound of the key difference is already ≥ 498 — the two wavelengths cannot share a cache entry. -/
theorem wavelength_key_executed_separates {l1 l2 : ℚ} (h1 : 0 < l1) (h : l1 * (1 + 1 / 10 ^ 6) ≤ l2) :
    498 ≤ (wlKeyDiffBounds l1 l2).1 := by
  have lo : (498 : ℚ) + 1 ≤ wlDiffLo l1 l2 :=
    le_trans (by norm_num) (diffLo_ge (b := wlBase) (δ := 2 / 10 ^ 9) (by norm_num [wlBase])
      (by norm_num [wlBase]) h1 (by norm_num) h)
  exact le_sub_iff_add_le.2 lo

/-- **Stability, on the executed bounds**: wavelengths within a relative `1e-10` have an executed upper bound below 2,
i.e. the same or neighbouring keys. -/
theorem wavelength_key_executed_stable {l1 l2 : ℚ} (h1 : 0 < l1) (h : l2 ≤ l1 * (1 + 1 / 10 ^ 10)) :
    (wlKeyDiffBounds l1 l2).2 < 2 := by
  have hi : wlDiffHi l1 l2 ≤ 1 / 4 :=
    le_trans (diffHi_le (b := wlBase) (δ := 1 / (2 * 10 ^ 9)) (by norm_num [wlBase]) (by norm_num) h1
      (by norm_num) h) (by norm_num)
  exact lt_of_le_of_lt (add_le_add hi le_rfl) (by norm_num)

/-- Both together with the enclosure: the modelled keys of two rational wavelengths at the property's bound differ by at
least 498 — `wavelength_key_separates` recovered through the executed definition. -/
theorem wavelength_key_separates_executed {r : ℝ → ℤ} (hr : Nearest r) {l1 l2 : ℚ} (h1 : 0 < l1)
    (h : l1 * (1 + 1 / 10 ^ 6) ≤ l2) :
    (498 : ℝ) ≤ (wlKey r ((wlBase : ℚ) : ℝ) (l2 : ℝ) : ℝ) - (wlKey r ((wlBase : ℚ) : ℝ) (l1 : ℝ) : ℝ) := by
  have hle : l1 ≤ l2 := (le_mul_of_one_le_right h1.le (by norm_num)).trans h
  exact le_trans (by exact_mod_cast wavelength_key_executed_separates h1 h)
    (wavelength_key_diff_enclosed hr h1 hle).1

/-! ## Scratch state of the Fourier objects -/

/-- A memo cell is well formed when its value is what `compute` gives for its tag. -/
def MemoOk {τ α} (compute : τ → α) (m : Memo τ α) : Prop :=
  ∀ t v, m.slot = some (t, v) → v = compute t

/-- **Memo cells are transparent** (`MatrixFourierTransform` matrices per dtype, `FourierFilter`
transfer function per dtype and internal array per (dtype, tensor shape)): whatever was asked
before, `get` returns what a fresh computation returns, and the cell stays well formed. -/
theorem memo_get_transparent {τ α} [DecidableEq τ] (compute : τ → α) (m : Memo τ α)
    (hm : MemoOk compute m) (t : τ) :
    (m.get compute t).2 = compute t ∧ MemoOk compute (m.get compute t).1 := by
  have hnew : MemoOk compute ⟨some (t, compute t)⟩ := fun _ _ h => by cases h; rfl
  fun_cases Memo.get compute m t with
  | case1 v hs => exact ⟨hm t v hs, hm⟩
  | case2 => exact ⟨rfl, hnew⟩
  | case3 => exact ⟨rfl, hnew⟩

example : MemoOk (fun (b : Bool) => if b then 64 else 128) ⟨none⟩ := by
  intro t v h; cases h

/-- Histories of memo-cell reads (alternating dtypes / tensor shapes, with `_remove_matrices()` in
between or not): every read returns the fresh computation. -/
theorem memo_history_transparent {τ α} [DecidableEq τ] (compute : τ → α) (ts : List (τ × Bool)) :
    ∀ m : Memo τ α, MemoOk compute m →
      (ts.foldl (fun (acc : Memo τ α × List α) (tb : τ × Bool) =>
          let r := acc.1.get compute tb.1
          ((if tb.2 then r.1.drop else r.1), acc.2 ++ [r.2])) (m, [])).2
        = ts.map (fun tb => compute tb.1) := by
  intro m hm
  rw [foldl_collect (fun (m : Memo τ α) (tb : τ × Bool) =>
    ((if tb.2 then (m.get compute tb.1).1.drop else (m.get compute tb.1).1), (m.get compute tb.1).2))]
  refine hidden_state_history_transparent _ (MemoOk compute) _ (fun m tb hm => ?_) ts m hm
  obtain ⟨hv, hok⟩ := memo_get_transparent compute m hm tb.1
  refine ⟨?_, hv⟩
  split
  · exact fun t v h => nomatch h
  · exact hok

/-- The mutant "matrices not rebuilt on dtype change" is not transparent. -/
theorem memo_stale_counterexample :
    let compute : Bool → Nat := fun b => if b then 64 else 128
    let m1 := (Mutant.memoGetStale compute ⟨none⟩ true).1
    (Mutant.memoGetStale compute m1 false).2 = 64 ∧ compute false = 128 := by decide

set_option linter.unusedVariables false in
/-- **Scratch buffers are transparent** (`FastFourierTransform.internal_array`,
`FourierFilter.internal_array`): what `forward`/`backward` hand to the FFT — `Fft.loadArray`, the very
definition C01's `coreState` reads and that the driver op `C05 load` runs against the array the real
code passes to `fftn` — does not depend on what the buffer held before. -/
theorem scratch_load_independent {C : Type} [CommRing C] (N M : ℕ) (hNM : N ≤ M)
    (buf buf' f : ℕ → C) (p : ℕ) (hp : p < M) :
    Fft.loadArray N M buf f p = Fft.loadArray N M buf' f p := by
  rw [Fft.loadArray_eq_pad N M buf f p hp, Fft.loadArray_eq_pad N M buf' f p hp]

example : (3 : ℕ) ≤ 6 ∧ (4 : ℕ) < 6 := by decide

/-- The mutant "`internal_array` not re-zeroed" (`Fft.loadArrayNoClear`) depends on the previous call:
a position outside the window keeps the old content. -/
theorem scratch_load_noclear_counterexample :
    Fft.loadArrayNoClear 2 4 (fun _ => (7 : ℤ)) (fun _ => 1) 0 = 7 ∧
    Fft.loadArrayNoClear 2 4 (fun _ => (0 : ℤ)) (fun _ => 1) 0 = 0 ∧
    Fft.loadArray 2 4 (fun _ => (7 : ℤ)) (fun _ => 1) 0 = 0 := by
  decide

/-! ### `ZoomFastFourierTransform` (a memo cell owning `ChirpZTransform` memo cells) -/

/-- Both chirp-z cells of a zoom FFT are well formed. -/
def ZoomOk {α} (compute : Nat → α) (z : Zoom α) : Prop := MemoOk compute z.czt ∧ MemoOk compute z.inv

example : ZoomOk (fun n => n + 1) (Zoom.fresh : Zoom Nat) :=
  And.intro (fun t v h => by simp [Zoom.fresh] at h) (fun t v h => by simp [Zoom.fresh] at h)

/-- **The zoom FFT is transparent**: whatever precisions and directions were used before, a call
uses the kernels computed for its own precision — what a freshly constructed object computes. -/
theorem zoom_call_transparent {α} (compute : Nat → α) (z : Zoom α) (hz : ZoomOk compute z)
    (back : Bool) (t : Nat) :
    (z.call compute back t).2 = compute t ∧ (z.call compute back t).2 = ((Zoom.fresh).call compute back t).2 ∧
      ZoomOk compute (z.call compute back t).1 := by
  have hnone : MemoOk compute (⟨none⟩ : Memo Nat α) := fun t v h => by cases h
  have key : ∀ z : Zoom α, ZoomOk compute z →
      (z.call compute back t).2 = compute t ∧ ZoomOk compute (z.call compute back t).1 := by
    intro z hz
    have hz1 : ZoomOk compute (if z.tag = some t then z else ⟨some t, ⟨none⟩, ⟨none⟩⟩) := by
      split
      · exact hz
      · exact ⟨hnone, hnone⟩
    -- backward reads and updates the cell `inv`, forward the cell `czt`
    fun_cases Zoom.call compute z back t
    · obtain ⟨hv, hok⟩ := memo_get_transparent compute _ hz1.2 t
      exact ⟨hv, hz1.1, hok⟩
    · obtain ⟨hv, hok⟩ := memo_get_transparent compute _ hz1.1 t
      exact ⟨hv, hok, hz1.2⟩
  obtain ⟨h1, h2⟩ := key z hz
  obtain ⟨h3, _⟩ := key Zoom.fresh ⟨hnone, hnone⟩
  exact ⟨h1, h1.trans h3.symm, h2⟩

/-- Histories of zoom-FFT calls (alternating directions and precisions). -/
theorem zoom_history_transparent {α} (compute : Nat → α) (calls : List (Bool × Nat)) :
    runObj (fun (z : Zoom α) (c : Bool × Nat) => z.call compute c.1 c.2) Zoom.fresh calls
      = calls.map (fun c => compute c.2) := by
  have hnone : MemoOk compute (⟨none⟩ : Memo Nat α) := fun t v h => by cases h
  exact hidden_state_history_transparent _ (ZoomOk compute) _
    (fun z c hz => (zoom_call_transparent compute z hz c.1 c.2).elim fun hv h => ⟨h.2, hv⟩)
    calls Zoom.fresh ⟨hnone, hnone⟩

/-! ## Instance contents: the abstraction "an instance is its (key, version)" as a hypothesis -/

/-- **Hypothesis `ObservablyPure`**: there is an invariant `Good k ver` of instance contents such that
`make_instance` establishes it, every use keeps it, and under it a use returns what the freshly made
content returns.  ("`make_instance` is deterministic in (full key, current parameters) and using an
instance does not change it observably.") -/
def ObservablyPure {α W R} (c : Content α W R) (Good : Key → Nat → α → Prop) : Prop :=
  (∀ k ver, Good k ver (c.make k ver)) ∧
  ∀ k ver a wf, Good k ver a → Good k ver (c.use a wf).1 ∧ (c.use a wf).2 = (c.use (c.make k ver) wf).2

/-- Satisfiable: contents that are never modified. -/
example : ObservablyPure (⟨fun k ver => (k, ver), fun a (wf : Nat) => (a, (a, wf))⟩ :
    Content (Key × Nat) Nat ((Key × Nat) × Nat)) (fun k ver a => a = (k, ver)) :=
  ⟨fun _ _ => rfl, fun k ver a wf h => by subst h; exact ⟨rfl, rfl⟩⟩

/-- Invariant of the content of an instance that owns a memo cell (`memoContent`): it belongs to the
instance `(k, ver)` and its cell is well formed. -/
def MemoContentOk {τ β : Type} (compute : Key → Nat → τ → β) (k : Key) (ver : Nat)
    (a : Key × Nat × Memo τ β) : Prop :=
  a.1 = k ∧ a.2.1 = ver ∧ MemoOk (compute k ver) a.2.2

/-- **Bridge: memo cells discharge `ObservablyPure`.**  The content the driver op `reqc` executes
(`memoContent`: an instance owning a `FourierFilter`-like cell read through `Memo.get`) is observably
pure, with `MemoContentOk` as invariant. -/
theorem memo_content_pure {τ β : Type} [DecidableEq τ] (compute : Key → Nat → τ → β) :
    ObservablyPure (memoContent compute) (MemoContentOk compute) := by
  refine ⟨fun k ver => ⟨rfl, rfl, fun t v h => by cases h⟩, ?_⟩
  rintro k ver ⟨k', ver', m⟩ t ⟨rfl, rfl, hm⟩
  obtain ⟨h1, h2⟩ := memo_get_transparent (compute k' ver') m hm t
  refine ⟨⟨rfl, rfl, h2⟩, ?_⟩
  show (m.get (compute k' ver') t).2 = ((⟨none⟩ : Memo τ β).get (compute k' ver') t).2
  rw [h1]; rfl

theorem stepC_state {α W R} (e : Elem) (c : Content α W R) (s : St) (heap : Inst → α) (op : OpC W) :
    (stepC e c s heap op).1 = (step e s (match op with
      | .req i o w _ => .req i o w | .clear => .clear | .set => .set)).1 := by
  cases op with
  | clear => rfl
  | set => rfl
  | req i o w wf =>
    simp only [stepC, step]
    cases getInstanceData e s i o w with
    | error err => rfl
    | ok r => rfl

/-- **Transparency with results (the abstraction made explicit).**  The cache stores instance objects
with contents of any type `α`; a request with wavefront `wf` returns `use (content of the instance
handed out) wf` and may update that content in place.  If contents are `ObservablyPure`, then for every
truthful element with `max_in_cache ≥ 1` every history of requests, `clear_cache()` and setters returns,
request by request, what a freshly constructed element (empty cache, freshly made instance) returns. -/
theorem transparent_results_from {α W R} {e : Elem} (hT : Truthful e) (hmax : 1 ≤ e.maxN)
    (c : Content α W R) (Good : Key → Nat → α → Prop) (hc : ObservablyPure c Good)
    (ops : List (OpC W)) :
    ∀ (s : St) (heap : Inst → α), Inv e s → (∀ v, Good v.key v.ver (heap v)) →
      runC e c s heap ops = specC e c s.ver ops := by
  induction ops with
  | nil => intro s heap _ _; rfl
  | cons op ops ih =>
    intro s heap hi hh
    cases op with
    | clear => exact congrArg (Res.done :: ·) (ih _ _ (inv_clear e s) hh)
    | set => exact congrArg (Res.done :: ·) (ih _ _ (inv_setParam e s) hh)
    | req i o w wf =>
      rw [runC, specC, ← request_transparent hT hmax hi i o w]
      cases h : getInstanceData e s i o w with
      | error err =>
        simp only [stepC, step, h]
        rw [ih _ _ hi hh]
      | ok r =>
        obtain ⟨s', v⟩ := r
        obtain ⟨-, -, hver, hs'⟩ := request_sound hT hi.1 h
        -- the instance handed out stays good and returns what a freshly made one returns
        obtain ⟨hg, hr⟩ := hc.2 v.key v.ver (heap v) wf (hh v)
        simp only [stepC, step, h]
        rw [hr, ← hver]
        refine congrArg _ (ih _ _ ⟨hs', request_accounting hmax hi.2 h⟩ fun v' => ?_)
        show Good v'.key v'.ver (if v' = v then (c.use (heap v) wf).1 else heap v')
        split
        · rename_i hv
          exact hv ▸ hg
        · exact hh v'

theorem transparent_results {α W R} {e : Elem} (hT : Truthful e) (hmax : 1 ≤ e.maxN)
    (c : Content α W R) (Good : Key → Nat → α → Prop) (hc : ObservablyPure c Good) (ver : Nat)
    (ops : List (OpC W)) :
    runC e c (St.init ver) c.heap0 ops = specC e c ver ops :=
  transparent_results_from hT hmax c Good hc ops _ _ (inv_init e ver) (fun v => hc.1 v.key v.ver)

/-- **Transparency with results for instances that own a memo cell — no hypothesis on contents.**
The cache composed with the memo-cell content (exactly what `C05 reqc` runs): every history of
propagations with fields of any dtypes, `clear_cache()` and setters returns, request by request, the
kernel a freshly constructed element computes for that request, whatever dtype the cell of a reused
instance was left with. -/
theorem transparent_results_memo {τ β : Type} [DecidableEq τ] {e : Elem} (hT : Truthful e)
    (hmax : 1 ≤ e.maxN) (compute : Key → Nat → τ → β) (ver : Nat) (ops : List (OpC τ)) :
    runC e (memoContent compute) (St.init ver) (memoContent compute).heap0 ops
      = specC e (memoContent compute) ver ops :=
  transparent_results hT hmax _ _ (memo_content_pure compute) ver ops

/-- **`ObservablyPure` is needed**: an instance that keeps state it does not re-check (a memo cell
without tag comparison: it answers every later wavefront with the value of the first) makes the very
same, proved-transparent cache return a stale result. -/
theorem content_hypothesis_needed :
    let e : Elem := ⟨true, true, 11, fun _ _ g => some g, fun _ _ g => some g⟩
    let c : Content (Option Nat) Nat Nat :=
      ⟨fun _ _ => none, fun a wf => match a with | some v => (a, v) | none => (some wf, wf)⟩
    let ops : List (OpC Nat) := [.req (some 1) none (some 5) 7, .req (some 1) none (some 5) 8]
    runC e c (St.init 0) c.heap0 ops = [.result 7, .result 7] ∧
    specC e c 0 ops = [.result 7, .result 8] := by
  decide

/-- **A `Truthful`-failing element is not transparent.**  A grid-dependent element declared wavelength
*in*dependent whose `get_output_grid` nevertheless depends on the wavelength (output grid = wavelength
key): a forward request on grid 1 at wavelength 5 creates the instance for `(1, 5)` and registers it
under the request key `(1, -)`; the same grid at wavelength 6 hits that key and is handed the instance
for output grid 5, while a fresh element builds the one for output grid 6.  No shipped class is of this
kind (`truthful_of_declared_deps`). -/
theorem truthful_needed :
    let e : Elem := ⟨true, false, 11, fun _ _ g => some g, fun _ w _ => w⟩
    ¬ Truthful e ∧
    run e (St.init 0) [.req (some 1) none (some 5), .req (some 1) none (some 6)]
      = [.inst ⟨some 1, some 5, none⟩ 0, .inst ⟨some 1, some 5, none⟩ 0] ∧
    specRun e 0 [.req (some 1) none (some 5), .req (some 1) none (some 6)]
      = [.inst ⟨some 1, some 5, none⟩ 0, .inst ⟨some 1, some 6, none⟩ 0] := by
  refine ⟨?_, by decide, by decide⟩
  intro hT
  have := hT 0 (some 1) none (some 5) (some 1) none (some 6)
  revert this
  decide

/-! ## The second cache: `make_agnostic_optical_element` (exported, deprecated) -/

open HcipyVerif.Cache.Deco

/-- The element of the counterexample: grid and wavelength dependent, `num_in_cache = 50` (the
default), output grid of the element built on grid `a` = grid `a + 100`. -/
def decoExample : DElem := ⟨true, true, 50, fun a _ => a + 100⟩

/-- **`make_agnostic_optical_element` is history dependent** (open finding
`history-dependent make_agnostic_optical_element backward-after-forward`; replayed on the real code by
the harness): forward on grid 1, then backward on that element's output grid 101.  The shared object
answers the backward request with the element built for grid 1; a freshly constructed one raises
`RuntimeError('Output grid is not known. Perform a forward propagation first …')`. -/
theorem decorator_counterexample :
    drun decoExample DSt.init [⟨some 1, none, some 5⟩, ⟨none, some 101, some 5⟩]
      = [.inst (some 1) (some 5), .inst (some 1) (some 5)] ∧
    dspecRun decoExample [⟨some 1, none, some 5⟩, ⟨none, some 101, some 5⟩]
      = [.inst (some 1) (some 5), .error .runtime] := by
  decide

/-- The negative statement: the analogue of `transparent` is false for the decorator's cache. -/
theorem decorator_history_dependent :
    ∃ (e : DElem) (ops : List DOp), 1 ≤ e.num ∧ drun e DSt.init ops ≠ dspecRun e ops :=
  ⟨decoExample, [⟨some 1, none, some 5⟩, ⟨none, some 101, some 5⟩], by decide, by decide⟩

/-- A freshly constructed decorated element never answers a request that names an output grid with an
element: it raises (`RuntimeError`, or `ValueError` for an incomplete request). -/
theorem decorator_fresh_backward_raises (e : DElem) (i : Option GridId) (b : GridId) (w : Option WlKey) :
    (dstep e DSt.init ⟨i, some b, w⟩).2 = .error .value ∨
    (dstep e DSt.init ⟨i, some b, w⟩).2 = .error .runtime := by
  unfold dstep getInstance
  cases dreqKey e i (some b) w with
  | none => left; rfl
  | some k => right; rfl

/-- What the shared object answers to a backward request (grid dependent element): an exception, or an
element that some earlier forward request built and whose output grid is the requested grid, at the
requested wavelength — never an element for another output grid or wavelength. -/
theorem decorator_backward_answer {e : DElem} (hg : e.gridDep = true) {s : DSt} (hs : DSound e s)
    (b : GridId) (w : Option WlKey) :
    (∃ err, (dstep e s ⟨none, some b, w⟩).2 = .error err) ∨
    (∃ a, (dstep e s ⟨none, some b, w⟩).2 = .inst (some a) (if e.wlDep then w else none) ∧
      e.outOf a (if e.wlDep then w else none) = b) := by
  refine dstep_elim (op := ⟨none, some b, w⟩) (fun err _ => .inl ⟨err, rfl⟩) fun s' v h => .inr ?_
  obtain ⟨_, k, hk, hw, hgrid⟩ := getInstance_sound hs h
  -- the key of a backward request names the output grid
  cases dreqKey_eq_some hk
  simp only [hg] at hgrid
  obtain ⟨a, ha, hout⟩ := hgrid
  exact ⟨a, by rw [ha, hw], hout⟩

/-- **Forward requests through the decorator are transparent**: for every history (any mixture of
forward, backward and malformed requests, beyond any cache size, `num_in_cache ≥ 1`) the answers to the
requests that name no output grid are those of freshly constructed elements. -/
theorem decorator_forward_transparent {e : DElem} (hnum : 1 ≤ e.num) (ops : List DOp) :
    ∀ s, DSound e s → forwardOnly ops (drun e s ops) = forwardOnly ops (dspecRun e ops) := by
  induction ops with
  | nil => intro s _; rfl
  | cons op ops ih =>
    intro s hs
    have ih' := ih _ (dstep_sound hs op)
    obtain ⟨i, o, w⟩ := op
    cases o with
    | some b => exact ih'
    | none =>
      exact congrArg₂ List.cons
        ((forward_answer hnum hs i w).trans (forward_answer hnum (dsound_init e) i w).symm) ih'

example : ∃ e : DElem, 1 ≤ e.num ∧ DSound e DSt.init := ⟨decoExample, by decide, dsound_init _⟩

/-- The size bound `2 * num_in_cache` is not kept either: when two input grids share an output grid the
second registration overwrites the `('output', …)` entry in place, the length becomes odd, the test
`len(cache) == 2 * num_in_cache` is stepped over and nothing is ever evicted again
(`num_in_cache = 2`: 7 entries after four forward requests). -/
theorem decorator_cache_exceeds_bound :
    let e : DElem := ⟨true, true, 2, fun a _ => if a ≤ 2 then 100 else 100 + a⟩
    let ops : List DOp := [⟨some 1, none, some 5⟩, ⟨some 2, none, some 5⟩, ⟨some 3, none, some 5⟩,
      ⟨some 4, none, some 5⟩]
    (ops.foldl (fun s op => (dstep e s op).1) DSt.init).cache.length = 7 := by
  decide

/-! ## Setters: what the instances are built from (driver ops `pnew` / `pset` / `preq`)

The version counter of the cache model stands for "the current parameter values".  `pstep` keeps the values themselves
(object identity, content, kind) next to it.  Two classes of setter histories get their own statements: the setter is
handed the object the element already holds (edited in place by the caller), and the setter changes the *kind* of the
value (constant <-> function of grid / wavelength / both). -/

theorem builtFrom_current {vals : List PVal} {ver : Nat} (h : vals.length = ver + 1) :
    builtFrom vals ver = vals.headD default := by
  unfold builtFrom
  rw [h, Nat.add_sub_cancel, Nat.sub_self]
  cases vals <;> rfl

/-- The invariants of an element with a parameter -- the cache invariants, and one recorded value per parameter
version -- hold at construction and after every step. -/
theorem pstep_inv {e : Elem} (hT : Truthful e) (hmax : 1 ≤ e.maxN) {p : PSt} (hi : Inv e p.st)
    (hl : p.vals.length = p.st.ver + 1) (op : POp) :
    Inv e (pstep e p op).1.st ∧ (pstep e p op).1.vals.length = (pstep e p op).1.st.ver + 1 := by
  obtain ⟨hi', hver⟩ := step_req_inv hT hmax hi op.toOp
  cases op with
  | req i o w => exact ⟨hi', hl.trans (congrArg (· + 1) hver.symm)⟩
  | clear => exact ⟨hi', hl.trans (congrArg (· + 1) hver.symm)⟩
  | set v => exact ⟨hi', (congrArg (· + 1) hl).trans (congrArg (· + 1) hver.symm)⟩

example : ∃ (e : Elem) (p : PSt), Inv e p.st ∧ p.vals.length = p.st.ver + 1 :=
  ⟨⟨true, true, 11, fun _ _ g => some g, fun _ _ g => some g⟩, PSt.init ⟨0, 0, 0⟩, inv_init _ 0, rfl⟩

/-- **Setters are transparent in the values**: after any history of requests, `clear_cache()` calls and setters --
whatever objects the setters were handed (the same object again, edited in place, included) and however the kind of
the value changed --, every request is answered by an instance built from the value the element holds *now*, exactly
as a freshly constructed element given that value would. -/
theorem transparent_values {e : Elem} (hT : Truthful e) (hmax : 1 ≤ e.maxN) (ops : List POp) :
    ∀ p : PSt, Inv e p.st → p.vals.length = p.st.ver + 1 → prun e p ops = pspec e p.stored p.st.ver ops := by
  induction ops with
  | nil => intro p _ _; rfl
  | cons op ops ih =>
    intro p hi hl
    obtain ⟨hi2, hl2⟩ := pstep_inv hT hmax hi hl op
    have ih' := ih _ hi2 hl2
    cases op with
    | set v => exact congrArg (PResp.done :: ·) ih'
    | clear => exact congrArg (PResp.done :: ·) ih'
    | req i o w =>
      -- the answer names the current parameter version, whose value is the one stored
      have hresp : (pstep e p (.req i o w)).2 =
          PResp.ofResp (fun _ => p.stored) (step e (St.init p.st.ver) (.req i o w)).2 := by
        show PResp.ofResp (builtFrom p.vals) (step e p.st (.req i o w)).2 = _
        rw [request_transparent hT hmax hi]
        rcases fresh_spec hT hmax p.st.ver i o w with ⟨_, hf⟩ | ⟨_, _, _, _, hf⟩ <;> rw [hf]
        · rfl
        · exact congrArg (PResp.built _) (builtFrom_current hl)
      rw [show (pstep e p (.req i o w)).1.st.ver = p.st.ver from
        (step_req_inv hT hmax hi (.req i o w)).2] at ih'
      exact congrArg₂ List.cons hresp ih'

/-- **Setter that changes the kind of the value** (or anything else about it): the next complete request is answered by an
instance built from the new value with its new kind, whatever kind the element was constructed with. -/
theorem setter_kind_change_takes_effect {e : Elem} (hT : Truthful e) (hmax : 1 ≤ e.maxN) {p : PSt} (hi : Inv e p.st)
    (hl : p.vals.length = p.st.ver + 1) (v : PVal) (i o : Option GridId) (w : Option WlKey) {k : Key}
    (hk : reqKey e i o w = some k) :
    ∃ k2, (pstep e (pstep e p (.set v)).1 (.req i o w)).2 = .built k2 v := by
  obtain ⟨k2, _, h⟩ := setter_takes_effect hT hmax hi i o w hk
  refine ⟨k2, ?_⟩
  show PResp.ofResp (builtFrom (v :: p.vals)) (step e p.st.setParam (.req i o w)).2 = _
  rw [show (step e p.st.setParam (.req i o w)).2 = _ from (List.cons.inj (List.cons.inj h).2).1]
  exact congrArg (PResp.built k2) (builtFrom_current (congrArg (· + 1) hl))

/-- **Setter handed the object the element already holds** (the caller edited it in place): the next complete request is
answered by an instance built from the object's *new* content. -/
theorem setter_same_object_takes_effect {e : Elem} (hT : Truthful e) (hmax : 1 ≤ e.maxN) {p : PSt} (hi : Inv e p.st)
    (hl : p.vals.length = p.st.ver + 1) (c : Nat) (i o : Option GridId) (w : Option WlKey) {k : Key}
    (hk : reqKey e i o w = some k) :
    ∃ k2, (pstep e (pstep e p (.set { p.stored with content := c })).1 (.req i o w)).2
      = .built k2 { p.stored with content := c } :=
  setter_kind_change_takes_effect hT hmax hi hl _ i o w hk

/-- The mutant "the setter returns early when it is handed the object it already holds" (seeded regression C08-11) serves
the instance built from the old content. -/
theorem setter_skip_same_object_counterexample :
    let e : Elem := ⟨true, true, 11, fun _ _ g => some g, fun _ _ g => some g⟩
    let p1 := (pstep e (PSt.init ⟨7, 1, 0⟩) (.req (some 1) none (some 5))).1
    let p2 := Mutant.psetSkipSameObject p1 ⟨7, 2, 0⟩
    (step e p2.st (.req (some 1) none (some 5))).2 = .inst ⟨some 1, some 1, some 5⟩ 0 ∧
    builtFrom p1.vals 0 = ⟨7, 1, 0⟩ ∧ p2.stored = ⟨7, 2, 0⟩ ∧
    (pstep e (PSt.set' p1 ⟨7, 2, 0⟩) (.req (some 1) none (some 5))).2 = .built ⟨some 1, some 1, some 5⟩ ⟨7, 2, 0⟩ := by
  decide

/-- The mutant "the kind of the value is decided once, at construction" (seeded regression C09-10): after a setter that
replaces a constant by a function of the wavelength the instance is built treating the function as a constant. -/
theorem kind_at_construction_counterexample :
    let vals : List PVal := [⟨2, 9, 2⟩, ⟨1, 3, 0⟩]
    Mutant.builtFromKindAtInit vals 1 = ⟨2, 9, 0⟩ ∧ builtFrom vals 1 = ⟨2, 9, 2⟩ := by
  decide

end HcipyVerif.C05
