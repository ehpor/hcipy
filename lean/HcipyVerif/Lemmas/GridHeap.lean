import HcipyVerif.Model.GridHeap
import HcipyVerif.Lemmas.GridList
import HcipyVerif.Lemmas.ListFacts
import HcipyVerif.Lemmas.OptionRules
import Mathlib.Data.List.Nodup

/-! Frame reasoning for the reference model of grids (`Model/GridHeap.lean`): under the separation invariant `RWorld.Sep`
an in-place operation changes the value of its target only, once per array (`RWorld.abs_inplace`), and an allocation adds
one value (`RWorld.abs_new`; `construct` and `copy` are `new` of the values read, `RWorld.construct_eq_new`). -/

namespace HcipyVerif.Grid

theorem Heap.length_modify (h : Heap) (r : Nat) (f : List Rat → List Rat) : (h.modify r f).length = h.length := by
  simp only [modify, List.length_set]

theorem Heap.read_modify_ne (h : Heap) (r r' : Nat) (f : List Rat → List Rat) (hne : r ≠ r') :
    (h.modify r f).read r' = h.read r' := by
  simp only [read, modify, List.getD_eq_getElem?_getD, List.getElem?_set_ne hne]

theorem Heap.read_modify_eq (h : Heap) (r : Nat) (f : List Rat → List Rat) (hr : r < h.length) :
    (h.modify r f).read r = f (h.read r) := by
  simp only [read, modify, List.getD_eq_getElem?_getD, List.getElem?_set_self hr, Option.getD_some]

/-- the sequence of writes of an in-place operation -/
def applyAll (h : Heap) (ros : List (Nat × ArrOp)) : Heap := ros.foldl (fun h ro => h.modify ro.1 ro.2.apply) h

theorem length_applyAll (ros : List (Nat × ArrOp)) (h : Heap) : (applyAll h ros).length = h.length :=
  List.foldlRecOn (motive := fun h' => h'.length = h.length) ros _ rfl fun h' ih ro _ =>
    (Heap.length_modify h' ro.1 ro.2.apply).trans ih

theorem read_applyAll_notin (ros : List (Nat × ArrOp)) (h : Heap) (r : Nat) (hr : ∀ ro ∈ ros, ro.1 ≠ r) :
    (applyAll h ros).read r = h.read r :=
  List.foldlRecOn (motive := fun h' => h'.read r = h.read r) ros _ rfl fun h' ih ro hro =>
    (Heap.read_modify_ne h' ro.1 r ro.2.apply (hr ro hro)).trans ih

theorem RObj.inplace_eq (h : Heap) (o : RObj) (ops : List ArrOp) : o.inplace h ops = applyAll h (List.zip o.refs ops) := rfl

theorem RObj.inplace_frame (h : Heap) (o o' : RObj) (ops : List ArrOp) (hd : ∀ r ∈ o.refs, r ∉ o'.refs) :
    o'.val (o.inplace h ops) = o'.val h := by
  simp only [RObj.val, RObj.inplace_eq]
  apply List.map_congr_left
  intro r hr
  apply read_applyAll_notin
  intro ro hro e
  have := (List.of_mem_zip hro).1
  exact hd _ this (e ▸ hr)

/-- `hn`: an array held twice would be written twice -/
theorem RObj.inplace_val (h : Heap) (o : RObj) (ops : List ArrOp) (hn : o.refs.Nodup)
    (hr : ∀ r ∈ o.refs, r < h.length) (hl : ops.length = o.refs.length) :
    o.val (o.inplace h ops) = List.zipWith (fun op a => op.apply a) ops (o.val h) := by
  obtain ⟨refs⟩ := o
  induction refs generalizing ops h with
  | nil => simp only [RObj.val, List.map_nil, List.zipWith_nil_right]
  | cons r rs ih =>
    cases ops with
    | nil => cases hl
    | cons op os =>
      have hnot : r ∉ rs := (List.nodup_cons.mp hn).1
      -- the first write is the only one to `r`, and it leaves the arrays of `rs` as they were
      have hd : (applyAll (h.modify r op.apply) (List.zip rs os)).read r = op.apply (h.read r) :=
        (read_applyAll_notin _ _ r fun ro hro e => hnot (e ▸ (List.of_mem_zip hro).1)).trans
          (Heap.read_modify_eq _ _ _ (hr r List.mem_cons_self))
      have hf : rs.map (h.modify r op.apply).read = rs.map h.read :=
        List.map_congr_left fun x hx => Heap.read_modify_ne _ _ _ _ fun e => hnot (e ▸ hx)
      have ih := ih (h.modify r op.apply) os (List.nodup_cons.mp hn).2
        (fun x hx => (Heap.length_modify ..).symm ▸ hr x (List.mem_cons_of_mem _ hx)) (Nat.succ.inj hl)
      exact congrArg₂ List.cons hd (ih.trans (congrArg _ hf))

theorem Heap.read_append_left (h e : Heap) (r : Nat) (hr : r < h.length) : Heap.read (h ++ e) r = h.read r := by
  simp only [read, List.getD_eq_getElem?_getD, List.getElem?_append_left hr]

theorem map_read_range' (h e : Heap) : (List.range' h.length e.length).map (Heap.read (h ++ e)) = e := by
  apply List.ext_getElem
  · simp only [List.length_map, List.length_range']
  · intro i h1 h2
    simp only [List.getElem_map, List.getElem_range', Heap.read, List.getD_eq_getElem?_getD]
    rw [List.getElem?_append_right (by omega)]
    simp only [List.length_map, List.length_range'] at h1
    simp only [Nat.one_mul, Nat.add_sub_cancel_left, h1, getElem?_pos, Option.getD_some]

theorem RObj.deepCopy_val (h : Heap) (o : RObj) :
    (o.deepCopy h).2.val (o.deepCopy h).1 = o.val h := by
  have := map_read_range' h (o.val h)
  simpa only [val, deepCopy, List.length_map] using this

/-- no array is held twice (by one object or by two), and every reference is valid -/
def RWorld.Sep (w : RWorld) : Prop := (∀ r ∈ w.allRefs, r < w.heap.length) ∧ w.allRefs.Nodup

instance (w : RWorld) : Decidable w.Sep := by unfold RWorld.Sep; exact inferInstance

theorem RWorld.refs_of_mem (w : RWorld) (o : RObj) (ho : o ∈ w.objs) (r : Nat) (hr : r ∈ o.refs) : r ∈ w.allRefs := by
  simp only [RWorld.allRefs, List.mem_flatten, List.mem_map]
  exact ⟨o.refs, ⟨o, ho, rfl⟩, hr⟩

theorem RWorld.val_grow (w : RWorld) (hs : ∀ r ∈ w.allRefs, r < w.heap.length) (e : Heap) (o : RObj) (ho : o ∈ w.objs) :
    o.val (w.heap ++ e) = o.val w.heap := by
  simp only [RObj.val]
  apply List.map_congr_left
  intro r hr
  exact Heap.read_append_left _ _ _ (hs r (w.refs_of_mem o ho r hr))

theorem nodup_append_range' (l : List Nat) (n k : Nat) (hl : l.Nodup) (hb : ∀ r ∈ l, r < n) : (l ++ List.range' n k).Nodup := by
  rw [List.nodup_append]
  refine ⟨hl, List.nodup_range', ?_⟩
  intro a ha b hb' e
  have := hb a ha
  rw [List.mem_range'_1] at hb'
  omega

theorem RWorld.construct_eq_new (w : RWorld) (refs : List Nat) : w.construct refs = w.new (refs.map w.heap.read) := by
  simp only [construct, new, RObj.deepCopy, RObj.val, List.length_map]

theorem RWorld.allRefs_new (w : RWorld) (e : Heap) : (w.new e).allRefs = w.allRefs ++ List.range' w.heap.length e.length := by
  simp only [RWorld.allRefs, RWorld.new, List.map_append, List.flatten_append, List.map_cons, List.map_nil, List.flatten_cons,
    List.flatten_nil, List.append_nil]

theorem RWorld.Sep_new (w : RWorld) (hs : w.Sep) (e : Heap) : (w.new e).Sep := by
  obtain ⟨h1, h2⟩ := hs
  rw [RWorld.Sep, w.allRefs_new]
  refine ⟨fun r hr => ?_, nodup_append_range' _ _ _ h2 h1⟩
  rw [List.mem_append, List.mem_range'_1] at hr
  rw [RWorld.new, List.length_append]
  rcases hr with hr | hr
  · exact Nat.lt_add_right _ (h1 r hr)
  · exact hr.2

theorem RWorld.Sep_construct (w : RWorld) (hs : w.Sep) (refs : List Nat) : (w.construct refs).Sep :=
  w.construct_eq_new refs ▸ w.Sep_new hs _

theorem RWorld.Sep_inplace (w : RWorld) (hs : w.Sep) (i : Nat) (ops : List ArrOp) : (w.inplace i ops).Sep := by
  obtain ⟨h1, h2⟩ := hs
  refine ⟨?_, h2⟩
  intro r hr
  simp only [RWorld.inplace, RObj.inplace_eq, length_applyAll]
  exact h1 r hr

theorem RWorld.Sep_copied (w : RWorld) (hs : w.Sep) (i : Nat) (ops : List ArrOp) : (w.copied i ops).Sep :=
  RWorld.Sep_inplace _ (w.Sep_construct hs _) _ _

theorem RWorld.abs_new (w : RWorld) (hs : w.Sep) (e : Heap) : (w.new e).abs = w.abs ++ [e] := by
  simp only [RWorld.abs, RWorld.new, List.map_append, List.map_cons, List.map_nil, RObj.val, map_read_range']
  exact congrArg (· ++ [e]) (List.map_congr_left fun o ho => w.val_grow hs.1 e o ho)

theorem RWorld.refs_disjoint (w : RWorld) (hn : w.allRefs.Nodup) (i j : Nat) (hi : i < w.objs.length) (hj : j < w.objs.length)
    (hij : i ≠ j) : ∀ r ∈ w.objs[i].refs, r ∉ w.objs[j].refs := by
  have hp := (List.nodup_flatten.mp hn).2
  rw [List.pairwise_map, List.pairwise_iff_getElem] at hp
  intro r hri hrj
  rcases Nat.lt_or_gt_of_ne hij with h | h
  · exact (hp i j hi hj h) hri hrj
  · exact (hp j i hj hi h) hrj hri

theorem RWorld.abs_inplace (w : RWorld) (hs : w.Sep) (i : Nat) (hi : i < w.objs.length) (ops : List ArrOp)
    (hl : ops.length = (w.objs[i]).refs.length) :
    (w.inplace i ops).abs = w.abs.set i (List.zipWith (fun op a => op.apply a) ops (w.objs[i].val w.heap)) := by
  obtain ⟨h1, h2⟩ := hs
  have hget : w.objs.getD i ⟨[]⟩ = w.objs[i] := by simp only [List.getD_eq_getElem?_getD, hi, getElem?_pos, Option.getD_some]
  apply List.ext_getElem
  · simp only [abs, inplace, List.getD_eq_getElem?_getD, List.length_map, List.length_set]
  · intro j hj1 hj2
    have hj : j < w.objs.length := by simpa only [abs, inplace, List.getD_eq_getElem?_getD, List.length_map] using hj1
    simp only [RWorld.abs, RWorld.inplace, List.getElem_map, hget]
    by_cases hij : i = j
    · subst hij
      rw [List.getElem_set_self]
      exact RObj.inplace_val _ _ _ ((List.nodup_flatten.mp h2).1 _ (List.mem_map_of_mem (List.getElem_mem hi)))
        (fun r hr => h1 r (w.refs_of_mem _ (List.getElem_mem hi) r hr)) hl
    · rw [List.getElem_set_ne hij, List.getElem_map]
      exact RObj.inplace_frame _ _ _ _ (w.refs_disjoint h2 i j hi hj hij)

theorem RWorld.abs_copy (w : RWorld) (hs : w.Sep) (i : Nat) (hi : i < w.objs.length) :
    (w.copy i).abs = w.abs ++ [w.objs[i].val w.heap] := by
  rw [copy, construct_eq_new, abs_new w hs, List.getD_eq_getElem?_getD, List.getElem?_eq_getElem hi, Option.getD_some, RObj.val]

theorem RWorld.abs_length (w : RWorld) : w.abs.length = w.objs.length := List.length_map _

theorem RWorld.abs_getElem? (w : RWorld) (i : Nat) (hi : i < w.objs.length) : w.abs[i]? = some (w.objs[i].val w.heap) := by
  rw [abs, List.getElem?_map, List.getElem?_eq_getElem hi, Option.map_some]

theorem RWorld.abs_inplace_of_val (w : RWorld) (hs : w.Sep) (i : Nat) (v : List (List Rat)) (hv : w.abs[i]? = some v)
    (ops : List ArrOp) (hl : ops.length = v.length) :
    (w.inplace i ops).abs = w.abs.set i (List.zipWith (fun op a => op.apply a) ops v) := by
  have hi : i < w.objs.length := w.abs_length ▸ (List.getElem?_eq_some_iff.mp hv).1
  obtain rfl : w.objs[i].val w.heap = v := Option.some.inj ((w.abs_getElem? i hi).symm.trans hv)
  exact w.abs_inplace hs i hi ops (hl.trans (List.length_map _))

/-- `w'` holds the objects of `w` and one more (a copy, possibly changed since): an operation on that last object -/
theorem RWorld.abs_inplace_last (w' : RWorld) (hs : w'.Sep) (w : RWorld) (x : List (List Rat))
    (h : w'.abs = w.abs ++ [x]) (ops : List ArrOp) (hl : ops.length = x.length) :
    (w'.inplace w.objs.length ops).abs = w.abs ++ [List.zipWith (fun op a => op.apply a) ops x] := by
  rw [← w.abs_length, w'.abs_inplace_of_val hs w.abs.length x (by rw [h, List.getElem?_concat_length]) ops hl, h,
    ListFacts.set_append_singleton]

/-- … and on object `i` of `w` -/
theorem RWorld.abs_inplace_init (w' : RWorld) (hs : w'.Sep) (w : RWorld) (x : List (List Rat))
    (h : w'.abs = w.abs ++ [x]) (i : Nat) (hi : i < w.objs.length) (ops : List ArrOp)
    (hl : ops.length = (w.objs[i]).refs.length) :
    (w'.inplace i ops).abs = w.abs.set i (List.zipWith (fun op a => op.apply a) ops (w.objs[i].val w.heap)) ++ [x] := by
  have hi' : i < w.abs.length := w.abs_length.symm ▸ hi
  rw [w'.abs_inplace_of_val hs i (w.objs[i].val w.heap) (by rw [h, List.getElem?_append_left hi', w.abs_getElem? i hi]) ops
    (hl.trans (List.length_map _).symm), h, List.set_append_left _ _ hi']

theorem RWorld.abs_copied (w : RWorld) (hs : w.Sep) (i : Nat) (hi : i < w.objs.length) (ops : List ArrOp)
    (hl : ops.length = (w.objs[i]).refs.length) :
    (w.copied i ops).abs = w.abs ++ [List.zipWith (fun op a => op.apply a) ops (w.objs[i].val w.heap)] :=
  (w.copy i).abs_inplace_last (w.Sep_construct hs _) w _ (w.abs_copy hs i hi) ops (hl.trans (List.length_map _).symm)

theorem RWorld.Sep_empty : RWorld.Sep {} := by decide

theorem stepRef_returns_sep (w : RWorld) (hs : w.Sep) (toks : List String) : Returns (stepRef w toks) (·.1.Sep) := by
  unfold stepRef
  split
  · exact .pure RWorld.Sep_empty
  · exact .map fun a _ => w.Sep_new hs a
  · exact .bind fun _ _ => .ite (.pure hs) (.pure (w.Sep_construct hs _))
  · exact .bind fun _ _ => .ite (.pure hs) (.pure (w.Sep_construct hs _))
  · exact .bind fun _ _ => .bind fun _ _ => .ite (.pure hs) (.pure (w.Sep_inplace hs _ _))
  · exact .bind fun _ _ => .bind fun _ _ => .ite (.pure hs) (.pure (w.Sep_copied hs _ _))
  · refine .bind fun _ _ => ?_
    split <;> exact .pure hs
  · exact .pure hs
  · exact .none

/-- the argument of an in-place array operation is the identity of its group, in whatever spelling:
no-op, `*= 1`, `+= 0`, `*= [1,…,1]`, `+= [0,…,0]` -/
def ArrOp.IsIdentity (a : List Rat) : ArrOp → Prop
  | .keep => True
  | .mulS c => c = 1
  | .addS c => c = 0
  | .mulV v => a.length ≤ v.length ∧ ∀ x ∈ v, x = 1
  | .addV v => a.length ≤ v.length ∧ ∀ x ∈ v, x = 0

theorem ArrOp.apply_identity (op : ArrOp) (a : List Rat) (h : op.IsIdentity a) : op.apply a = a := by
  cases op with
  | keep => rfl
  | mulS c => simp only [ArrOp.IsIdentity] at h; simp only [apply, h, Rat.mul_one, List.map_id_fun', id_eq]
  | addS c => simp only [ArrOp.IsIdentity] at h; simp only [apply, h, Rat.add_zero, List.map_id_fun', id_eq]
  | mulV v => exact zipWith_right_id a v h.1 fun y hy x => (congrArg (x * ·) (h.2 y hy)).trans (Rat.mul_one x)
  | addV v => exact zipWith_right_id a v h.1 fun y hy x => (congrArg (x + ·) (h.2 y hy)).trans (Rat.add_zero x)

theorem zipWith_apply_identity (ops : List ArrOp) (vals : List (List Rat))
    (h : List.Forall₂ (fun op a => ArrOp.IsIdentity a op) ops vals) :
    List.zipWith (fun op a => op.apply a) ops vals = vals := by
  induction h with
  | nil => rfl
  | cons hh _ ih => simp only [List.zipWith_cons_cons, ih, ArrOp.apply_identity _ _ hh]

end HcipyVerif.Grid
