import HcipyVerif.Lemmas.SerialFiles
import HcipyVerif.Lemmas.ListFacts
import Mathlib.Data.Rat.Defs
import Mathlib.Data.List.Forall2

/-! Row-major index maps and the sparse conversions. -/

namespace HcipyVerif.Serial
open HcipyVerif.ListFacts

theorem map_range_eq_map {α β : Type} (l : List α) (f : α → β) (F : Nat → β)
    (h : ∀ q (hq : q < l.length), F q = f l[q]) : (List.range l.length).map F = l.map f := by
  apply List.ext_getElem
  · simp only [List.length_map, List.length_range]
  · intro q h1 h2
    simp only [List.getElem_map, List.getElem_range]
    exact h q _

theorem map_range_eq_self (d : List Rat) (n : Nat) (hd : d.length = n) (F : Nat → Rat)
    (h : ∀ k, k < n → F k = d.getD k 0) : (List.range n).map F = d := by
  subst hd
  refine (map_range_eq_map d id F fun k hk => ?_).trans (List.map_id d)
  rw [h k hk, List.getD_eq_getElem?_getD, List.getElem?_eq_getElem hk]
  rfl

theorem inBounds_iff : ∀ {idx s : List Nat}, InBounds idx s ↔ List.Forall₂ (· < ·) idx s
  | [], [] => ⟨fun _ => .nil, fun _ => trivial⟩
  | [], _ :: _ => ⟨False.elim, fun h => nomatch h⟩
  | _ :: _, [] => ⟨False.elim, fun h => nomatch h⟩
  | _ :: _, _ :: _ => ⟨fun h => .cons h.1 (inBounds_iff.1 h.2), fun | .cons h t => ⟨h, inBounds_iff.2 t⟩⟩

theorem ravel_lt (s idx : List Nat) (h : InBounds idx s) : ravel s idx < prod s := by
  induction inBounds_iff.1 h with
  | nil => exact Nat.zero_lt_one
  | cons hi _ ih => exact flat_lt hi (ih h.2)

theorem transposeFlat_length (r c : Nat) (d : List Rat) : (transposeFlat r c d).length = r * c := by
  simp [transposeFlat]

theorem transposeFlat_getD (r c : Nat) (d : List Rat) (j : Nat) (hj : j < r * c) :
    (transposeFlat r c d).getD j 0 = d.getD ((j % r) * c + j / r) 0 :=
  getD_map_range _ hj 0

theorem InBounds_reverse (idx s : List Nat) (h : InBounds idx s) : InBounds idx.reverse s.reverse :=
  inBounds_iff.2 (List.rel_reverse (inBounds_iff.1 h))

theorem transposeFlat_eq_transposeAll (dt : String) (r c : Nat) (d : List Rat) :
    transposeFlat r c d = (Arr.transposeAll ⟨dt, [r, c], d⟩).data := by
  simp [transposeFlat, Arr.transposeAll, prod, ravel, unravel, Nat.mul_comm]

theorem ratNat_natRat (k : Nat) : ratNat (natRat k) = k := by
  simp [ratNat, natRat]

theorem natRat_inj (a b : Nat) : natRat a = natRat b ↔ a = b :=
  ⟨fun h => by simpa [ratNat_natRat] using congrArg ratNat h, congrArg natRat⟩

theorem sumRat_append (a b : List Rat) : sumRat (a ++ b) = sumRat a + sumRat b := by
  fun_induction sumRat a <;> simp [sumRat, *, add_assoc]

/-- offset of sublist `j` inside the flattened list -/
def offset {α} (L : List (List α)) (j : Nat) : Nat := ((L.take j).map List.length).sum

theorem cumul_length (ls : List Nat) (acc : Nat) : (cumul acc ls).length = ls.length + 1 := by
  fun_induction cumul acc ls <;> simp [*]

theorem cumul_getD (ls : List Nat) (acc j : Nat) (hj : j ≤ ls.length) :
    (cumul acc ls).getD j 0 = acc + (ls.take j).sum := by
  induction ls generalizing acc j with
  | nil =>
    cases Nat.le_zero.1 hj
    rfl
  | cons l r ih =>
    cases j with
    | zero => rfl
    | succ j =>
      rw [cumul, List.getD_cons_succ, ih _ _ (Nat.le_of_succ_le_succ hj), List.take_succ_cons,
        List.sum_cons, Nat.add_assoc]

theorem flatten_getElem? {α} (L : List (List α)) (j q : Nat) (hj : j < L.length)
    (hq : q < (L.getD j []).length) :
    L.flatten[offset L j + q]? = (L.getD j [])[q]? := by
  rw [List.getD_eq_getElem L [] hj] at hq ⊢
  have hsplit : L.flatten = (L.take j).flatten ++ (L[j] ++ (L.drop (j + 1)).flatten) := by
    rw [← List.flatten_cons, ← List.drop_eq_getElem_cons hj, ← List.flatten_append,
      List.take_append_drop]
  rw [hsplit, offset, ← List.length_flatten, List.getElem?_append_right (Nat.le_add_right _ _),
    Nat.add_sub_cancel_left, List.getElem?_append_left hq]

theorem offset_succ {α} (L : List (List α)) (j : Nat) :
    offset L (j + 1) = offset L j + (L.getD j []).length := by
  rw [offset, offset, List.take_add_one, List.map_append, List.sum_append, List.getD_eq_getElem?_getD]
  cases L[j]? <;> rfl

/-- what a stored entry contributes to row `i` of its column -/
def entryAt {E : Type} (row : E → Nat) (val : E → Rat) (i : Nat) (e : E) : Rat :=
  if row e = i then val e else 0

/-- `todense()` of a record assembled column by column, as `denseToCsc` and `csrToCsc` assemble theirs -/
theorem cscToDense_ofCols {E : Type} (F : Nat → List E) (row : E → Nat) (val : E → Rat)
    (dd di dp : String) (sd si sp : List Nat) (n m : Nat) :
    let cols := (List.range m).map F
    cscToDense ⟨⟨dd, sd, cols.flatten.map val⟩, ⟨di, si, cols.flatten.map fun e => natRat (row e)⟩,
        ⟨dp, sp, (cumul 0 (cols.map List.length)).map natRat⟩, [n, m]⟩ =
      ⟨dd, [n, m], (List.range (n * m)).map fun k =>
        sumRat ((F (k % m)).map (entryAt row val (k / m)))⟩ := by
  intro cols
  have hm : cols.length = m := by rw [List.length_map, List.length_range]
  have hF : ∀ j, j < m → F j = cols.getD j [] := fun j hj => (getD_map_range F hj []).symm
  clear_value cols
  have hptr : ∀ j, j ≤ m →
      ratNat (((cumul 0 (cols.map List.length)).map natRat).getD j 0) = offset cols j := by
    intro j hj
    rw [getD_map_of_eq natRat (show natRat 0 = 0 from rfl), ratNat_natRat, cumul_getD _ _ _ (by rw [List.length_map, hm]; exact hj),
      Nat.zero_add, offset, List.map_take]
  simp only [cscToDense, List.headD_cons, List.drop_succ_cons, List.drop_zero]
  congr 1
  apply List.map_congr_left
  intro k hk
  have hj : k % m < m := (flat_surj (List.mem_range.1 hk)).2.1
  rw [hF _ hj, hptr (k % m + 1) hj, hptr (k % m) (Nat.le_of_lt hj), offset_succ,
    Nat.add_sub_cancel_left]
  have hf := fun q => flatten_getElem? cols (k % m) q (hm ▸ hj)
  generalize cols.getD (k % m) [] = col at hf ⊢
  refine congrArg sumRat (map_range_eq_map col _ _ fun q hq => ?_)
  simp only [List.getD_eq_getElem?_getD, List.getElem?_map, hf q hq, List.getElem?_eq_getElem hq,
    Option.map_some, Option.getD_some, natRat_inj, entryAt]

theorem colEntries_succ (n m : Nat) (d : List Rat) (j : Nat) :
    colEntries (n + 1) m d j = colEntries n m d j ++
      (if d.getD (n * m + j) 0 = 0 then [] else [(n, d.getD (n * m + j) 0)]) := by
  simp only [colEntries, List.range_succ, List.filterMap_append]
  congr 1
  simp only [List.filterMap_cons, List.filterMap_nil]
  generalize d.getD (n * m + j) 0 = x
  by_cases h : x = 0 <;> simp [h]

theorem sum_entryAt_colEntries (n m : Nat) (d : List Rat) (j i : Nat) :
    sumRat ((colEntries n m d j).map (entryAt Prod.fst Prod.snd i)) =
      if i < n then d.getD (i * m + j) 0 else 0 := by
  induction n with
  | zero => rfl
  | succ n ih =>
    rw [colEntries_succ, List.map_append, sumRat_append, ih]
    have hlast : sumRat ((if d.getD (n * m + j) 0 = 0 then [] else [(n, d.getD (n * m + j) 0)]).map
        (entryAt Prod.fst Prod.snd i)) = if n = i then d.getD (n * m + j) 0 else 0 := by
      generalize d.getD (n * m + j) 0 = x
      by_cases hx : x = 0 <;> by_cases hi : n = i <;> simp [hx, hi, sumRat, entryAt]
    rw [hlast]
    rcases Nat.lt_trichotomy i n with h | rfl | h
    · rw [if_pos h, if_pos (Nat.lt_succ_of_lt h), if_neg (Nat.ne_of_gt h), Rat.add_zero]
    · rw [if_neg (Nat.lt_irrefl _), if_pos (Nat.lt_succ_self _), if_pos rfl, Rat.zero_add]
    · rw [if_neg (Nat.lt_asymm h), if_neg (show ¬i < n + 1 by omega), if_neg (Nat.ne_of_lt h),
        Rat.add_zero]

theorem cscToDense_denseToCsc (dt : String) (n m : Nat) (d : List Rat) (hd : d.length = n * m) :
    cscToDense (denseToCsc ⟨dt, [n, m], d⟩) = ⟨dt, [n, m], d⟩ := by
  simp only [denseToCsc, List.headD_cons, List.drop_succ_cons, List.drop_zero]
  rw [cscToDense_ofCols (colEntries n m d) Prod.fst Prod.snd]
  congr 1
  refine map_range_eq_self d _ hd _ fun k hk => ?_
  rw [sum_entryAt_colEntries, if_pos (flat_surj hk).1, Nat.div_add_mod' k m]

theorem cscToDense_shape (c : Csc) (n m : Nat) (h : c.shape = [n, m]) :
    (cscToDense c).shape = [n, m] ∧ (cscToDense c).data.length = n * m := by
  unfold cscToDense
  rw [h]
  exact ⟨rfl, by simp only [List.length_map, List.length_range]; rfl⟩

theorem denseToCsc_cscToDense (c : Csc) (n m : Nat) (h : c.shape = [n, m]) :
    (denseToCsc (cscToDense c)).shape = [n, m] ∧
      cscToDense (denseToCsc (cscToDense c)) = cscToDense c := by
  obtain ⟨hs, hl⟩ := cscToDense_shape c n m h
  have heta : cscToDense c = ⟨(cscToDense c).dtype, [n, m], (cscToDense c).data⟩ := by rw [← hs]
  rw [heta]
  exact ⟨rfl, cscToDense_denseToCsc _ _ _ _ hl⟩

theorem sum_entryAt_filter {E : Type} (row : E → Nat) (val : E → Rat) (L : List E) (p : E → Bool)
    (i : Nat) :
    sumRat ((L.filter p).map (entryAt row val i)) =
      sumRat ((L.filter fun e => row e == i && p e).map val) := by
  fun_induction List.filter p L with
  | case1 => rfl
  | case2 e L hp ih => by_cases hi : row e = i <;> simp [hp, hi, sumRat, entryAt, ih]
  | case3 e L hp ih => simp [hp, ih]

end HcipyVerif.Serial
