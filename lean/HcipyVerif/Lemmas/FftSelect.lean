import HcipyVerif.Model.FftSelect
import HcipyVerif.Lemmas.FftPlan
import Mathlib.Tactic.Ring
import Mathlib.Tactic.Linarith
import Mathlib.Algebra.Order.Field.Basic
import Mathlib.Algebra.Order.Field.Rat
import Mathlib.Algebra.Order.Floor.Ring
import Mathlib.Data.Rat.Floor

/-!
# `make_fourier_transform` builds a transform whose preconditions hold and whose output grid is the
grid that was requested (C01, selection)

* `selection_pre` — whatever `choose` returns, the constructor it is handed to accepts its grids.
* `fft_grid_roundtrip` — one axis, exact arithmetic: the parameters `get_fft_parameters`
  reconstructs rebuild exactly the requested axis, and satisfy the value preconditions of
  `FastFourierTransform`.
* `selection_grid_of`, `selection_sound` — the combination (for the repaired detection:
  `C01.selection_sound'`; the detection as written returns a transform on another grid than the
  one requested: `C01.Old.selection_counterexample_*`).
-/

namespace HcipyVerif.Fft

theorem GridDesc.isSeparated_of_isRegular {g : GridDesc} (h : g.isRegular = true) :
    g.isSeparated = true := by
  obtain ⟨k, c, n⟩ := g
  cases k
  · rfl
  · rfl
  · cases h

theorem eq_fftGridDesc {g i : GridDesc} (hr : g.isRegular = true) (hc : g.cartesian = true)
    (hn : g.ndim = i.ndim) : g = fftGridDesc i := by
  obtain ⟨k, c, n⟩ := g
  cases k
  · cases hc; cases hn; rfl
  · cases hr
  · cases hr

theorem detectLit_iff {i g : GridDesc} {nf : Bool} :
    detectLit i g nf = true ↔
      i.isRegular = true ∧ g.isRegular = true ∧ nf = true ∧ i.cartesian = true := by
  simp only [detectLit, Bool.and_eq_true, and_assoc]

theorem detectFix_iff {i g : GridDesc} {nf : Bool} :
    detectFix i g nf = true ↔
      detectLit i g nf = true ∧ g.cartesian = true ∧ g.ndim = i.ndim := by
  simp only [detectFix, Bool.and_eq_true, beq_iff_eq, and_assoc]

section choose
variable {detect : GridDesc → GridDesc → Bool → Bool} {i : GridDesc} {o : Option OutReq}
  {r : OutReq} {c : Bool}

/-- no explicit grid is left (none was given, or it was taken for an FFT grid): the constructor is
called by parameters -/
theorem choose_of_detected (hd : ∀ r, o = some r → detect i r.grid r.numFft = true) :
    choose detect i o c =
      if !(i.isRegular && i.cartesian) then none
      else if !(i.ndim == 1 || i.ndim == 2) then some ⟨.fft, .params⟩
      else if c then some ⟨.fft, .params⟩ else some ⟨.mft, .params⟩ := by
  cases o with
  | none => rfl
  | some r => unfold choose; simp only [hd r rfl, if_true]

theorem choose_of_not_detected (hd : detect i r.grid r.numFft = false) :
    choose detect i (some r) c =
      if i.isSeparated && i.cartesian && r.grid.isSeparated && r.grid.cartesian &&
          (i.ndim == 1 || i.ndim == 2)
      then some ⟨.mft, .grid⟩ else some ⟨.naive, .grid⟩ := by
  unfold choose
  simp only [hd, Bool.false_eq_true, if_false]

end choose

/-- **Preconditions.**  Whatever the detection does and whichever way the planner's comparison goes:
if `make_fourier_transform` reaches a constructor, that constructor's checks pass — provided an
explicit output grid has as many dimensions as the input grid (otherwise the constructor raises:
`makeFT_ndim_mismatch`). -/
theorem selection_pre (detect : GridDesc → GridDesc → Bool → Bool) (i : GridDesc)
    (o : Option OutReq) (fftCheaper : Bool) (ch : Choice)
    (hnd : ∀ r, o = some r → r.grid.ndim = i.ndim)
    (h : choose detect i o fftCheaper = some ch) : ctorPre i o ch := by
  by_cases hd : ∀ r, o = some r → detect i r.grid r.numFft = true
  · -- by parameters: FFT needs a regular Cartesian input, MFT in addition one or two axes
    rw [choose_of_detected hd] at h
    split_ifs at h with h1 h2 h3
    all_goals
      cases h
      simp only [Bool.not_eq_true', Bool.not_eq_false, Bool.and_eq_true, Bool.or_eq_true,
        beq_iff_eq] at h1 h2
    · exact h1
    · exact h1
    · exact ⟨GridDesc.isSeparated_of_isRegular h1.1, h1.2, rfl, rfl, h2, rfl⟩
  · -- by grid: the tests of the branch are the constructor's, the dimensions agree by `hnd`
    push Not at hd
    obtain ⟨r, rfl, hd⟩ := hd
    rw [choose_of_not_detected (Bool.eq_false_iff.mpr hd)] at h
    split_ifs at h with h1
    all_goals cases h
    · simp only [Bool.and_eq_true, Bool.or_eq_true, beq_iff_eq] at h1
      exact ⟨h1.1.1.1.1, h1.1.1.1.2, h1.1.1.2, h1.1.2, h1.2, (hnd r rfl).symm⟩
    · exact (hnd r rfl).symm

theorem makeFT_eq_ok {detect : GridDesc → GridDesc → Bool → Bool} {i : GridDesc}
    {o : Option OutReq} {c : Bool} {ch : Choice} :
    makeFT detect i o c = .ok ch ↔ choose detect i o c = some ch ∧ ctorPre i o ch := by
  fun_cases makeFT detect i o c with
  | case1 h => simp [h]
  | case2 c' h hp => rw [h]; exact ⟨fun e => by cases e; exact ⟨rfl, hp⟩, fun e => by cases e.1; rfl⟩
  | case3 c' h hp => rw [h]; exact ⟨nofun, fun e => by cases e.1; exact absurd e.2 hp⟩

/-- with equal dimensions the constructor never raises: the whole function is the choice -/
theorem makeFT_eq_choose (detect : GridDesc → GridDesc → Bool → Bool) (i : GridDesc)
    (o : Option OutReq) (fftCheaper : Bool) (hnd : ∀ r, o = some r → r.grid.ndim = i.ndim) :
    makeFT detect i o fftCheaper =
      match choose detect i o fftCheaper with
      | none => .error "value"
      | some c => .ok c := by
  unfold makeFT
  cases hc : choose detect i o fftCheaper with
  | none => rfl
  | some c => exact if_pos (selection_pre detect i o fftCheaper c hnd hc)

/-- an explicit grid that is not taken for an FFT grid and has another number of dimensions makes
the constructor raise -/
theorem makeFT_ndim_mismatch (detect : GridDesc → GridDesc → Bool → Bool) (i : GridDesc)
    (r : OutReq) (fftCheaper : Bool) (hd : detect i r.grid r.numFft = false)
    (hnd : r.grid.ndim ≠ i.ndim) : makeFT detect i (some r) fftCheaper = .error "value" := by
  unfold makeFT
  rw [choose_of_not_detected hd]
  split_ifs
  · exact if_neg fun h => hnd h.2.2.2.2.2.symm
  · exact if_neg fun h => hnd h.symm

theorem choose_params_detected {detect : GridDesc → GridDesc → Bool → Bool} {i : GridDesc}
    {r : OutReq} {c : Bool} {ch : Choice}
    (h : choose detect i (some r) c = some ch) (hv : ch.via = .params) :
    detect i r.grid r.numFft = true := by
  by_contra hd
  rw [choose_of_not_detected (Bool.eq_false_iff.mpr hd)] at h
  split_ifs at h <;> cases h <;> cases hv

theorem mul_fovPlain {M : Nat} (Mo : Nat) (hM : 0 < M) :
    (M : Rat) * fovPlain Mo (M : Rat) = (Mo : Rat) := by
  unfold fovPlain
  rw [mul_div_assoc', mul_div_cancel_left₀ _ (Nat.cast_ne_zero.mpr hM.ne')]

/-- the corrected value lands in the middle of the truncation interval -/
theorem mul_fovCorrected {N M : Nat} (Mo : Nat) {q : Rat} (hM : 0 < M)
    (h : q * (N : Rat) = (M : Rat)) : (M : Rat) * fovCorrected Mo N q = (Mo : Rat) + 1 / 2 := by
  unfold fovCorrected
  rw [mul_comm (N : Rat) q, h, mul_div_assoc', mul_div_cancel_left₀ _ (Nat.cast_ne_zero.mpr hM.ne')]

theorem getFftParameters_spec (a : InAxis) (o : OutAxis) (p : FftParams)
    (h : getFftParameters a o = some p) :
    ∃ M : Nat, 0 < a.N ∧ a.N ≤ M ∧ o.Mo ≤ M ∧ o.dT * (M : Rat) * a.delta = 1 ∧
      p.q * (a.N : Rat) = (M : Rat) ∧ 1 ≤ p.q ∧
      (M : Rat) * p.fov = (o.Mo : Rat) ∧ p.shiftT = o.zeroT + o.dT * ((o.Mo / 2 : Nat) : Rat) ∧
      p.s = o.s := by
  revert h
  fun_cases getFftParameters a o with
  | case1 | case2 | case3 => exact nofun
  | case4 q h1 zp h2 h3 fov fov' =>
    intro h
    push Not at h1 h2 h3
    have hden : a.delta * (a.N : Rat) * o.dT ≠ 0 := fun h0 =>
      absurd h1 (by show ¬ 1 ≤ 1 / (a.delta * (a.N : Rat) * o.dT); rw [h0, div_zero]; norm_num)
    have hNpos : 0 < a.N :=
      Nat.pos_of_ne_zero fun h0 => hden (by rw [h0, Nat.cast_zero, mul_zero, zero_mul])
    have hNq : (1 : Rat) ≤ (a.N : Rat) := by exact_mod_cast hNpos
    have hmN : (a.N : Rat) ≤ (roundHalfEven zp : Rat) := by
      rw [← h2]; exact le_mul_of_one_le_left (Nat.cast_nonneg _) h1
    -- `q·N` is a natural number `M`; the rest is the plan for that `M`
    obtain ⟨M, hM⟩ : ∃ M : Nat, roundHalfEven zp = M :=
      Int.eq_ofNat_of_zero_le (by exact_mod_cast hNq.trans' zero_le_one |>.trans hmN)
    rw [hM, Int.cast_natCast] at h2 hmN
    have hNM : a.N ≤ M := by exact_mod_cast hmN
    have hfl : (zp + 1 / 2).floor = M := by
      rw [h2]; refine (Int.floor_eq_iff (R := Rat)).mpr ⟨?_, ?_⟩ <;> push_cast <;> linarith
    rw [hfl] at h3
    have hM0 : 0 < M := hNpos.trans_le hNM
    have hfov : fov' = fovPlain o.Mo M := by
      show (if outSize (paddedSize a.N q) (fovPlain o.Mo zp) ≠ o.Mo then _ else _) = _
      rw [paddedSize_of_int _ _ _ h2, h2, outSize_eq_natFloor, mul_fovPlain _ hM0, Nat.floor_natCast]
      simpa using congrArg (fovPlain o.Mo) h2
    have hcons : o.dT * (M : Rat) * a.delta = 1 := by
      rw [← h2, ← div_self hden]
      show o.dT * (1 / (a.delta * (a.N : Rat) * o.dT) * (a.N : Rat)) * a.delta = _
      ring
    cases h
    exact ⟨M, hNpos, hNM, by exact_mod_cast h3, hcons, h2, h1, hfov ▸ mul_fovPlain _ hM0, rfl, rfl⟩

/-- Any `fov` that `int(M·fov)` truncates to the requested number of points reproduces the axis. -/
theorem roundtrip_core (a : InAxis) (o : OutAxis) (p : FftParams) (z : Rat) (M : Nat)
    (hN : 0 < a.N) (hNM : a.N ≤ M) (hMo : o.Mo ≤ M) (hcons : o.dT * (M : Rat) * a.delta = 1)
    (hqN : p.q * (a.N : Rat) = (M : Rat)) (hq1 : 1 ≤ p.q)
    (hf1 : (o.Mo : Rat) ≤ (M : Rat) * p.fov) (hf2 : (M : Rat) * p.fov < (o.Mo : Rat) + 1)
    (hsT : p.shiftT = o.zeroT + o.dT * ((o.Mo / 2 : Nat) : Rat)) (hs : p.s = o.s) :
    AxisReproduced a z o p ∧ FftValuePre (p.toAxisIn a z) ∧
      ((plan (p.toAxisIn a z)).M : Rat) = p.q * (a.N : Rat) ∧
      FftConsistent a.N (plan (p.toAxisIn a z)).M (plan (p.toAxisIn a z)).Mo a.delta
        (plan (p.toAxisIn a z)).dT := by
  have hM : 0 < M := hN.trans_le hNM
  have hdT : 1 / ((M : Rat) * a.delta) = o.dT :=
    (eq_one_div_of_mul_eq_one_left ((mul_assoc _ _ _).symm.trans hcons)).symm
  unfold AxisReproduced FftValuePre
  rw [plan_of_int (p.toAxisIn a z) M o.Mo hqN hf1 hf2]
  refine ⟨⟨rfl, rfl, hdT, ?_, hs⟩,
    ⟨hq1, nonneg_of_mul_nonneg_right ((Nat.cast_nonneg _).trans hf1) (Nat.cast_pos.mpr hM), hMo⟩,
    hqN.symm, hM, hNM, hMo, hdT ▸ hcons⟩
  show -(1 / ((M : Rat) * a.delta) * ((o.Mo / 2 : Nat) : Rat)) + p.shiftT = o.zeroT
  rw [hdT, hsT]; ring

theorem fft_grid_roundtrip (a : InAxis) (o : OutAxis) (p : FftParams) (z : Rat)
    (h : getFftParameters a o = some p) :
    AxisReproduced a z o p ∧ FftValuePre (p.toAxisIn a z) ∧
      ((plan (p.toAxisIn a z)).M : Rat) = p.q * (a.N : Rat) ∧
      FftConsistent a.N (plan (p.toAxisIn a z)).M (plan (p.toAxisIn a z)).Mo a.delta
        (plan (p.toAxisIn a z)).dT := by
  obtain ⟨M, hN, hNM, hMo, hcons, hqN, hq1, hfov, hsT, hs⟩ := getFftParameters_spec a o p h
  exact roundtrip_core a o p z M hN hNM hMo hcons hqN hq1 hfov.ge
    (hfov.trans_lt (lt_add_one _)) hsT hs

theorem fft_grid_roundtrip_corrected (a : InAxis) (o : OutAxis) (p : FftParams) (z : Rat)
    (h : getFftParameters a o = some p) :
    let p' : FftParams := { p with fov := fovCorrected o.Mo a.N p.q }
    AxisReproduced a z o p' ∧ FftValuePre (p'.toAxisIn a z) ∧
      ((plan (p'.toAxisIn a z)).M : Rat) = p'.q * (a.N : Rat) ∧
      FftConsistent a.N (plan (p'.toAxisIn a z)).M (plan (p'.toAxisIn a z)).Mo a.delta
        (plan (p'.toAxisIn a z)).dT := by
  obtain ⟨M, hN, hNM, hMo, hcons, hqN, hq1, hfov, hsT, hs⟩ := getFftParameters_spec a o p h
  have e := mul_fovCorrected o.Mo (hN.trans_le hNM) hqN
  exact roundtrip_core a o { p with fov := fovCorrected o.Mo a.N p.q } z M hN hNM hMo hcons hqN
    hq1 (e.ge.trans' (le_add_of_nonneg_right (by norm_num)))
    (e.trans_lt ((add_lt_add_iff_left _).mpr (by norm_num))) hsT hs

theorem numFftAxes_reproduced (ins : List InAxis) (outs : List OutAxis)
    (h : numFftAxes ins outs = true) : AxesReproduced ins outs := by
  fun_induction numFftAxes ins outs with
  | case1 => trivial
  | case2 a as o os ih =>
    rw [Bool.and_eq_true] at h
    obtain ⟨p, hp⟩ := Option.isSome_iff_exists.mp h.1
    exact ⟨⟨p, hp, fun z => ⟨(fft_grid_roundtrip a o p z hp).1, (fft_grid_roundtrip a o p z hp).2.1⟩⟩,
      ih h.2⟩
  | case3 => cases h

/-- What any detection must guarantee for the returned object to be on the requested grid: a grid
it takes for an FFT grid has the descriptor of `make_fft_grid(input_grid, …)`, and the numerical
part succeeded on every axis. -/
theorem selection_grid_of {detect : GridDesc → GridDesc → Bool → Bool} {i : GridDesc}
    {o : Option OutReq} {c : Bool} {ch : Choice} {ins : List InAxis} {outs : List OutAxis}
    (hdet : ∀ r, o = some r → detect i r.grid r.numFft = true →
      r.grid = fftGridDesc i ∧ numFftAxes ins outs = true)
    (h : choose detect i o c = some ch) :
    ctorGrid i o ch = requestedDesc i o ∧
      (∀ r, o = some r → ch.via = .params → AxesReproduced ins outs) := by
  constructor
  · cases hv : ch.via with
    | grid => unfold ctorGrid; rw [hv]
    | params =>
      unfold ctorGrid; rw [hv]
      cases o with
      | none => rfl
      | some r => exact (hdet r rfl (choose_params_detected h hv)).1.symm
  · rintro r rfl hv
    exact numFftAxes_reproduced ins outs (hdet r rfl (choose_params_detected h hv)).2

/-- **`selection_sound`** for the code as written.  Hypothesis `hreq`: an explicit output grid has
the dimension of the input grid, is Cartesian if it is regular, and the oracle `numFft` is the
per-axis model.  Then in every branch that returns an object: its constructor's preconditions hold,
the `output_grid` it reports is (descriptor) the requested grid, and where the grid was replaced by
reconstructed FFT parameters every axis of the rebuilt grid equals the requested axis exactly and
the parameters satisfy `FastFourierTransform`'s value checks.
(By parameters, `output_grid=None`: the requested grid *is* `make_fft_grid(input_grid, q, fov, shift)`,
which `FastFourierTransform` computes by that very call and `MatrixFourierTransform` is handed.) -/
theorem selection_sound (i : GridDesc) (o : Option OutReq) (fftCheaper : Bool) (ch : Choice)
    (ins : List InAxis) (outs : List OutAxis)
    (hreq : ∀ r, o = some r → r.grid.ndim = i.ndim ∧
      (r.grid.isRegular = true → r.grid.cartesian = true) ∧ r.numFft = numFftAxes ins outs)
    (h : choose detectLit i o fftCheaper = some ch) :
    ctorPre i o ch ∧ ctorGrid i o ch = requestedDesc i o ∧
      (∀ r, o = some r → ch.via = .params → AxesReproduced ins outs) := by
  refine ⟨selection_pre detectLit i o fftCheaper ch (fun r hr => (hreq r hr).1) h,
    selection_grid_of (fun r hr hd => ?_) h⟩
  obtain ⟨hn, hc, hnum⟩ := hreq r hr
  obtain ⟨-, hreg, hnf, -⟩ := detectLit_iff.mp hd
  exact ⟨eq_fftGridDesc hreg (hc hreg) hn, hnum ▸ hnf⟩

/-- the repaired detection sends both to the by-grid constructors (which keep the grid, or raise) -/
theorem selection_fix_examples :
    makeFT detectFix ⟨.regular, true, 2⟩ (some ⟨⟨.regular, false, 2⟩, true⟩) true
        = .ok ⟨.naive, .grid⟩ ∧
      makeFT detectFix ⟨.regular, true, 2⟩ (some ⟨⟨.regular, true, 1⟩, true⟩) false
        = .error "value" := by decide

-- the hypotheses can be met

example : getFftParameters ⟨8, 1 / 2⟩ ⟨5, 1 / 8, -(1 / 4), 1 / 4⟩
    = some ⟨2, 5 / 16, 0, 1 / 4⟩ := by decide +kernel

example : getFftParameters ⟨87, 1 / 4⟩ ⟨218, 2 / 109, 3 / 8, 0⟩
    = some ⟨218 / 87, 1, 3 / 8 + 2 / 109 * 109, 0⟩ := by decide +kernel

example : choose detectLit ⟨.regular, true, 2⟩ (some ⟨⟨.regular, true, 2⟩, true⟩) false
    = some ⟨.mft, .params⟩ := by decide

example : choose detectLit ⟨.separated, true, 2⟩ (some ⟨⟨.unstructured, true, 2⟩, false⟩) false
    = some ⟨.naive, .grid⟩ := by decide

example : numFftAxes [⟨8, 1 / 2⟩, ⟨6, 1 / 4⟩] [⟨5, 1 / 8, -(1 / 4), 1 / 4⟩, ⟨9, 1 / 3, 0, 0⟩]
    = true := by decide +kernel

end HcipyVerif.Fft
