import HcipyVerif.Model.OpIR
import HcipyVerif.Lemmas.ScalarHom
import Mathlib.Tactic.Ring
import Mathlib.Data.Complex.Basic

/-!
C06, operator terms: every `OpIR.Term` with a definite parity is linear / conjugate-linear (`denote_semilinear`), and
`denote` commutes with a change of scalars (`denote_map`), in particular along `CDy.toComplex`: what the driver
computes at `CDy` is what the same term computes over `ℂ`.
-/

namespace HcipyVerif.OpIR

variable {K : Type} [CommRing K]

/-- What is assumed of the conjugation: a ring involution. -/
structure IsConj (cj : K → K) : Prop where
  add : ∀ a b, cj (a + b) = cj a + cj b
  mul : ∀ a b, cj (a * b) = cj a * cj b
  invol : ∀ a, cj (cj a) = a

/-- `a • x + y` on list vectors. -/
def lincomb (a : K) (x y : List K) : List K := vadd (smul a x) y

theorem map_zipWith_hom {α β : Type} {φ : α → β} {f : α → α → α} {g : β → β → β}
    (h : ∀ p q, φ (f p q) = g (φ p) (φ q)) (x y : List α) :
    (List.zipWith f x y).map φ = List.zipWith g (x.map φ) (y.map φ) := by
  simp only [List.map_zipWith, List.zipWith_map, h]

theorem zipWith_interchange {α : Type} {f g : α → α → α}
    (h : ∀ a b c d, g (f a b) (f c d) = f (g a c) (g b d)) (u1 v1 u2 v2 : List α) :
    List.zipWith g (List.zipWith f u1 v1) (List.zipWith f u2 v2)
      = List.zipWith f (List.zipWith g u1 u2) (List.zipWith g v1 v2) :=
  List.ext_getElem (by simp only [List.length_zipWith]; exact inf_inf_inf_comm _ _ _ _) fun i _ _ => by
    simp only [List.getElem_zipWith, h]

theorem lincomb_eq_zipWith (a : K) (x y : List K) :
    lincomb a x y = List.zipWith (fun p q => a * p + q) x y := by
  simp only [lincomb, vadd, smul, List.zipWith_map_left]

theorem lincomb_length (a : K) (x y : List K) : (lincomb a x y).length = min x.length y.length := by
  rw [lincomb_eq_zipWith, List.length_zipWith]

theorem vmul_lincomb (m : List K) (a : K) (x y : List K) :
    vmul m (lincomb a x y) = lincomb a (vmul m x) (vmul m y) := by
  simp only [lincomb_eq_zipWith, vmul]
  refine List.ext_getElem (by simp only [List.length_zipWith]; exact inf_inf_distrib_left _ _ _) fun i _ _ => ?_
  simp only [List.getElem_zipWith]
  ring

theorem dot_lincomb (r : List K) (a : K) (x y : List K) (h : x.length = y.length) :
    dot r (lincomb a x y) = a * dot r x + dot r y := by
  simp only [lincomb_eq_zipWith]
  induction r generalizing x y with
  | nil => simp [dot]
  | cons r0 r ih =>
    rcases x with _ | ⟨x0, x⟩ <;> rcases y with _ | ⟨y0, y⟩ <;> try cases h
    · simp [dot]
    · simp only [List.zipWith_cons_cons, dot, ih x y (Nat.succ.inj h)]
      ring

theorem matrix_lincomb (rows : List (List K)) (a : K) (x y : List K) (h : x.length = y.length) :
    rows.map (fun r => dot r (lincomb a x y))
      = lincomb a (rows.map (fun r => dot r x)) (rows.map (fun r => dot r y)) := by
  simp only [dot_lincomb _ a x y h]
  simp only [lincomb_eq_zipWith, List.zipWith_map, List.zipWith_self]

theorem vadd_lincomb (a : K) (u1 v1 u2 v2 : List K) :
    vadd (lincomb a u1 v1) (lincomb a u2 v2) = lincomb a (vadd u1 u2) (vadd v1 v2) := by
  simp only [lincomb_eq_zipWith]
  exact zipWith_interchange (fun _ _ _ _ => by ring) u1 v1 u2 v2

theorem vsub_lincomb (a : K) (u1 v1 u2 v2 : List K) :
    vsub (lincomb a u1 v1) (lincomb a u2 v2) = lincomb a (vsub u1 u2) (vsub v1 v2) := by
  simp only [lincomb_eq_zipWith]
  exact zipWith_interchange (fun _ _ _ _ => by ring) u1 v1 u2 v2

theorem smul_lincomb (c a : K) (u v : List K) :
    smul c (lincomb a u v) = lincomb a (smul c u) (smul c v) := by
  simp only [lincomb_eq_zipWith]
  exact map_zipWith_hom (fun _ _ => by ring) u v

theorem conj_lincomb {cj : K → K} (hc : IsConj cj) (a : K) (u v : List K) :
    (lincomb a u v).map cj = lincomb (cj a) (u.map cj) (v.map cj) := by
  simp only [lincomb_eq_zipWith]
  exact map_zipWith_hom (fun _ _ => by rw [hc.add, hc.mul]) u v

theorem replicate_lincomb (a : K) (n : Nat) :
    lincomb a (List.replicate n (0 : K)) (List.replicate n 0) = List.replicate n 0 := by
  simp only [lincomb_eq_zipWith, List.zipWith_replicate, min_self, mul_zero, add_zero]

theorem denote_length_congr (cj : K → K) (t : Term K) :
    ∀ x y : List K, x.length = y.length → (denote cj t x).length = (denote cj t y).length := by
  intro x y h
  induction t generalizing x y with
  | id => exact h
  | zero n => simp only [denote, List.length_replicate]
  | mulField a => simp only [denote, vmul, List.length_zipWith, h]
  | matrix rows => simp only [denote, List.length_map]
  | add s t ihs iht | sub s t ihs iht => simp only [denote, vadd, vsub, List.length_zipWith, ihs x y h, iht x y h]
  | comp s t ihs iht => exact ihs _ _ (iht x y h)
  | scale c t ih => simp only [denote, smul, List.length_map, ih x y h]
  | conj => simp only [denote, List.length_map, h]

theorem twist_twist {cj : K → K} (hc : IsConj cj) (b1 b2 : Bool) (a : K) :
    twist cj b1 (twist cj b2 a) = twist cj (b1 != b2) a := by
  cases b1 <;> cases b2 <;> simp [twist, hc.invol]

theorem denote_semilinear {cj : K → K} (hc : IsConj cj) (t : Term K) :
    ∀ (b : Bool), parity t = some b → ∀ (a : K) (x y : List K), x.length = y.length →
      denote cj t (lincomb a x y) = lincomb (twist cj b a) (denote cj t x) (denote cj t y) := by
  -- along the computation of `parity t`: its equations give the parities of the parts of a term; where the result is
  -- `none` or a literal, `cases hb` closes the goal or puts the literal for `b`
  fun_induction parity t <;> intro b hb a x y h <;> try cases hb
  case case1 => rfl
  case case2 n => exact (replicate_lincomb _ n).symm
  case case3 m => exact vmul_lincomb m a x y
  case case4 rows => exact matrix_lincomb rows a x y h
  -- `add s t`, `sub s t` with `parity s = parity t = some b`
  case case5 ht hs ihs iht => simp only [denote, ihs _ hs a x y h, iht _ ht a x y h, vadd_lincomb]
  case case8 ht hs ihs iht => simp only [denote, ihs _ hs a x y h, iht _ ht a x y h, vsub_lincomb]
  -- `comp s t` with `parity s = some b1`, `parity t = some b2`
  case case11 s t b1 b2 ht hs ihs iht =>
    simp only [denote, iht b2 ht a x y h]
    rw [ihs b1 hs _ _ _ (denote_length_congr cj t x y h), twist_twist hc]
  case case13 ih => simp only [denote, ih b hb a x y h, smul_lincomb]
  case case14 => exact conj_lincomb hc a x y

theorem lincomb_take (a : K) (x y : List K) (n : Nat) :
    (lincomb a x y).take n = lincomb a (x.take n) (y.take n) := by
  simp only [lincomb_eq_zipWith, List.take_zipWith]

theorem lincomb_drop (a : K) (x y : List K) (n : Nat) :
    (lincomb a x y).drop n = lincomb a (x.drop n) (y.drop n) := by
  simp only [lincomb_eq_zipWith, List.drop_zipWith]

theorem lincomb_append (a : K) {x1 y1 : List K} (x2 y2 : List K) (h : x1.length = y1.length) :
    lincomb a (x1 ++ x2) (y1 ++ y2) = lincomb a x1 y1 ++ lincomb a x2 y2 := by
  simp only [lincomb_eq_zipWith, List.zipWith_append h]

theorem denoteBlocks_semilinear {cj : K → K} (hc : IsConj cj) (t : Term K) (b : Bool) (hb : parity t = some b)
    (n : Nat) (a : K) : ∀ (r : Nat) (x y : List K), x.length = y.length →
      denoteBlocks cj t n r (lincomb a x y)
        = lincomb (twist cj b a) (denoteBlocks cj t n r x) (denoteBlocks cj t n r y) := by
  intro r
  induction r with
  | zero => intro x y _; rfl
  | succ r ih =>
    intro x y h
    have ht : (x.take n).length = (y.take n).length := by rw [List.length_take, List.length_take, h]
    have hd : (x.drop n).length = (y.drop n).length := by rw [List.length_drop, List.length_drop, h]
    simp only [denoteBlocks, lincomb_take, lincomb_drop, denote_semilinear hc t b hb a _ _ ht, ih _ _ hd,
      lincomb_append _ _ _ (denote_length_congr cj t _ _ ht)]

theorem denoteBlocks_length_congr (cj : K → K) (t : Term K) (n : Nat) :
    ∀ (r : Nat) (x y : List K), x.length = y.length →
      (denoteBlocks cj t n r x).length = (denoteBlocks cj t n r y).length := by
  intro r
  induction r with
  | zero => intro x y _; rfl
  | succ r ih =>
    intro x y h
    simp only [denoteBlocks, List.length_append]
    rw [denote_length_congr cj t (x.take n) (y.take n) (by rw [List.length_take, List.length_take, h]),
      ih (x.drop n) (y.drop n) (by rw [List.length_drop, List.length_drop, h])]

open Old in
theorem sumsq_smul (a : Rat) (x : List Rat) : sumsq (smul a x) = a * a * sumsq x := by
  induction x with
  | nil => simp [sumsq, smul]
  | cons c x ih =>
    simp only [sumsq, smul, List.map_cons, List.sum_cons] at ih ⊢
    rw [ih]; ring

namespace Dy

theorem toRat_eq (a : Dy) : a.toRat = (a.m : ℚ) / (2 : ℚ) ^ a.e := by
  simp [toRat, Rat.mkRat_eq_div]

theorem align_div (a : Dy) (e : Nat) (h : a.e ≤ e) : ((a.align e : Int) : ℚ) / (2 : ℚ) ^ e = a.toRat := by
  obtain ⟨k, rfl⟩ := Nat.exists_eq_add_of_le h
  rw [toRat_eq, align, Nat.add_sub_cancel_left, pow_add]
  push_cast
  exact mul_div_mul_right _ _ (pow_ne_zero k two_ne_zero)

theorem toRat_add (a b : Dy) : (a + b).toRat = a.toRat + b.toRat := by
  show Dy.toRat ⟨a.align (max a.e b.e) + b.align (max a.e b.e), max a.e b.e⟩ = _
  rw [← align_div a (max a.e b.e) (le_max_left _ _), ← align_div b (max a.e b.e) (le_max_right _ _), toRat_eq]
  push_cast
  ring

theorem toRat_sub (a b : Dy) : (a - b).toRat = a.toRat - b.toRat := by
  show Dy.toRat ⟨a.align (max a.e b.e) - b.align (max a.e b.e), max a.e b.e⟩ = _
  rw [← align_div a (max a.e b.e) (le_max_left _ _), ← align_div b (max a.e b.e) (le_max_right _ _), toRat_eq]
  push_cast
  ring

theorem toRat_mul (a b : Dy) : (a * b).toRat = a.toRat * b.toRat := by
  show Dy.toRat ⟨a.m * b.m, a.e + b.e⟩ = _
  simp only [toRat_eq]
  push_cast
  rw [pow_add, mul_div_mul_comm]

theorem toRat_zero : (0 : Dy).toRat = 0 := by
  show Dy.toRat ⟨0, 0⟩ = 0
  simp [toRat_eq]

theorem toRat_neg (a : Dy) : a.neg.toRat = -a.toRat := by
  simp only [neg, toRat_eq]
  push_cast
  ring

end Dy

section Hom
variable {K L : Type} [Add K] [Sub K] [Mul K] [Zero K] [CommRing L]

/-- `φ` respects the operations `denote` uses. -/
structure ScalarHom (φ : K → L) (cjK : K → K) (cjL : L → L) : Prop extends HcipyVerif.ScalarHom φ where
  sub : ∀ a b, φ (a - b) = φ a - φ b
  conj : ∀ a, φ (cjK a) = cjL (φ a)

variable {φ : K → L} {cjK : K → K} {cjL : L → L}

theorem hom_vadd (h : ScalarHom φ cjK cjL) (x y : List K) : (vadd x y).map φ = vadd (x.map φ) (y.map φ) :=
  map_zipWith_hom h.add x y

theorem hom_smul (h : ScalarHom φ cjK cjL) (a : K) (x : List K) : (smul a x).map φ = smul (φ a) (x.map φ) := by
  simp only [smul, List.map_map, Function.comp_def, h.mul]

theorem map_dot (h : ScalarHom φ cjK cjL) : ∀ r x : List K, φ (dot r x) = dot (r.map φ) (x.map φ)
  | [], _ | _ :: _, [] => h.zero
  | a :: r, b :: x => by simp only [dot, List.map_cons, h.add, h.mul, map_dot h r x]

theorem denote_map (h : ScalarHom φ cjK cjL) (t : Term K) :
    ∀ x : List K, (denote cjK t x).map φ = denote cjL (t.map φ) (x.map φ) := by
  induction t with
  | id => intro x; rfl
  | zero n => intro x; simp only [denote, Term.map, List.map_replicate, h.zero]
  | mulField a => intro x; exact map_zipWith_hom h.mul a x
  | matrix rows => intro x; simp only [denote, Term.map, List.map_map, Function.comp_def, map_dot h]
  | add s t ihs iht => intro x; simp only [denote, Term.map, hom_vadd h, ihs, iht]
  | sub s t ihs iht =>
    intro x; simp only [denote, Term.map, ← ihs, ← iht]; exact map_zipWith_hom h.sub _ _
  | comp s t ihs iht => intro x; simp only [denote, Term.map, ihs, iht]
  | scale c t ih => intro x; simp only [denote, Term.map, hom_smul h, ih]
  | conj => intro x; simp only [denote, Term.map, List.map_map, Function.comp_def, h.conj]

theorem denoteBlocks_map (h : ScalarHom φ cjK cjL) (t : Term K) (n : Nat) :
    ∀ (r : Nat) (x : List K), (denoteBlocks cjK t n r x).map φ = denoteBlocks cjL (t.map φ) n r (x.map φ) := by
  intro r
  induction r with
  | zero => intro x; rfl
  | succ r ih =>
    intro x
    simp only [denoteBlocks, List.map_append, denote_map h, ih, List.map_take, List.map_drop]

theorem parity_map {K L : Type} (f : K → L) (t : Term K) : parity (t.map f) = parity t := by
  induction t with
  | add s t ihs iht | sub s t ihs iht | comp s t ihs iht => simp only [Term.map, parity, ihs, iht]
  | scale c t ih => exact ih
  | _ => rfl

end Hom

noncomputable def CDy.toComplex (z : CDy) : ℂ := ⟨(z.re.toRat : ℝ), (z.im.toRat : ℝ)⟩

theorem CDy.scalarHom : ScalarHom CDy.toComplex CDy.conj (starRingEnd ℂ) where
  add a b := Complex.ext
    (show ((a.re + b.re).toRat : ℝ) = a.re.toRat + b.re.toRat by rw [Dy.toRat_add, Rat.cast_add])
    (show ((a.im + b.im).toRat : ℝ) = a.im.toRat + b.im.toRat by rw [Dy.toRat_add, Rat.cast_add])
  sub a b := Complex.ext
    (show ((a.re - b.re).toRat : ℝ) = a.re.toRat - b.re.toRat by rw [Dy.toRat_sub, Rat.cast_sub])
    (show ((a.im - b.im).toRat : ℝ) = a.im.toRat - b.im.toRat by rw [Dy.toRat_sub, Rat.cast_sub])
  mul a b := Complex.ext
    (show ((a.re * b.re - a.im * b.im).toRat : ℝ) = a.re.toRat * b.re.toRat - a.im.toRat * b.im.toRat by
      rw [Dy.toRat_sub, Dy.toRat_mul, Dy.toRat_mul, Rat.cast_sub, Rat.cast_mul, Rat.cast_mul])
    (show ((a.re * b.im + a.im * b.re).toRat : ℝ) = a.re.toRat * b.im.toRat + a.im.toRat * b.re.toRat by
      rw [Dy.toRat_add, Dy.toRat_mul, Dy.toRat_mul, Rat.cast_add, Rat.cast_mul, Rat.cast_mul])
  zero := Complex.ext (show (((0 : Dy).toRat : ℚ) : ℝ) = 0 by rw [Dy.toRat_zero, Rat.cast_zero])
    (show (((0 : Dy).toRat : ℚ) : ℝ) = 0 by rw [Dy.toRat_zero, Rat.cast_zero])
  conj a := Complex.ext rfl (show ((a.im.neg.toRat : ℚ) : ℝ) = -a.im.toRat by rw [Dy.toRat_neg, Rat.cast_neg])

end HcipyVerif.OpIR
