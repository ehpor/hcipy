import HcipyVerif.Lemmas.AperturePolygon
import HcipyVerif.Lemmas.ApertureStat
import HcipyVerif.Lemmas.AperturePupil
import HcipyVerif.Model.ApertureHistory
import HcipyVerif.Model.ApertureTelescopes

/-!
# C12 — Apertures depend only on the physical points, not on the grid representation

All theorems are about `HcipyVerif.Aperture` (Model/Aperture.lean), the model of
`hcipy/aperture/generic.py` and `evaluate_supersampled` after the repairs in `pending_fixes/`
(D6, D7, D8, D28, D30); the model is tied to the code by the C12 correspondence
(harness/props/c12.py).

* `val s p` is the value of shape `s` at the physical point `p` (the point predicate `inside`,
  as a 0/1/transmission value);
* `evalSep s xs ys` is the code path on a **separated** grid with axes `xs`, `ys` (regular grids are
  separated): broadcast of `x[newaxis,:]`, `y[:,newaxis]`, bounding slices, masked assignment into
  the 2-D view, `ravel()`;
* `evalPts s pts` is the code path on a **non-separated** grid (unstructured Cartesian; every polar
  grid after `as_('cartesian')`): element-wise on the coordinate arrays, `x[m]`, `f[m] = …`;
* `evalPolar s qs` is the code path on a **polar** grid whose points are `(r, cos θ, sin θ)`: the
  radius shortcut of the centre-less circle (`.disk`), `PolarGrid.rotate` for rotated apertures,
  `as_('cartesian')` (→ `evalPts`) for every other maker.

All four are executed by the driver (`C12 eval sep|pts|polar`, `C12 regsub`, `C12 keck`, `C12 vlt`,
`C12 hexpos`, `C12 hexpupil`, `C12 hicat`, `C12 super`, `C12 superstat`, `C12 superlist`) and compared with the running code — values, and for the regular polygon also the
bounding slices / the mask and the sub-array that `func(grid, return_with_mask=True)` returns.

Every statement holds for **all** axis lists (any length, unsorted, repeated values) and all
rational parameters.  Hypotheses (each has a satisfiability `example` at the end):
* `WF s`     — every regular polygon in `s` has a non-negative circum-radius;
* `Binary s` — `s` is built from the binary makers (no transmissions other than 1, differences
               only of nested shapes);
* `PolarWF s` — centre-less circles evaluated on the polar grid itself have radius ≥ 0 and the
               rotations above them satisfy `c² + s² = 1`;
* `PolarPt q` — `0 ≤ r` and `cos² + sin² = 1`.

The shipped behaviour of D6 and D7 is modelled by `circlePolarOld`, `regpolySlowOld`; its refutations are at
the end of Lemmas/ApertureList.lean; they are not property theorems.
-/

namespace HcipyVerif.Aperture

/-! ## representation independence -/

/-- **The separated-grid code path computes the point semantics**: the fast path of every maker
(and of every composition of makers) on the separated grid `xs × ys` is the list of values at the
grid's points, x fastest. -/
theorem fast_path_eq_inside (s : Shape) (xs ys : List Rat) (h : WF s) :
    evalSep s xs ys = (sepPoints xs ys).map (val s) :=
  evalSep_eq_val s xs ys h

/-- **The non-separated code path computes the point semantics.** -/
theorem slow_path_eq_inside (s : Shape) (pts : List Pt) : evalPts s pts = pts.map (val s) :=
  evalPts_eq_val s pts

/-- **Representation independence**: a separated grid and the unstructured grid holding the same
points get the same field. -/
theorem representation_independent (s : Shape) (xs ys : List Rat) (h : WF s) :
    evalSep s xs ys = evalPts s (sepPoints xs ys) := by
  rw [evalSep_eq_val s xs ys h, evalPts_eq_val]

/-- index form of the non-separated path -/
theorem slow_index (s : Shape) (pts : List Pt) (k : Nat) (hk : k < pts.length) :
    (evalPts s pts)[k]? = some (val s (pts.getD k (0, 0))) := by
  rw [evalPts_eq_val, List.getElem?_map]
  simp [List.getD_eq_getElem?_getD, List.getElem?_eq_getElem hk]

/-- … and so do any two point lists that agree as physical points, whatever produced them
(`as_('polar')` and back, a rotated copy, a subset). -/
theorem value_depends_on_point_only (s : Shape) (pts pts' : List Pt) (k k' : Nat)
    (hk : k < pts.length) (hk' : k' < pts'.length) (h : pts.getD k (0, 0) = pts'.getD k' (0, 0)) :
    (evalPts s pts)[k]? = (evalPts s pts')[k']? := by
  rw [slow_index s pts k hk, slow_index s pts' k' hk', h]

/-! ### polar grids -/

/-- **The polar code path computes the point semantics** at `(r cos θ, r sin θ)`, for every shape
tree: the radius shortcut of the centre-less circle, rotation by adding to θ, conversion for the
rest. -/
theorem polar_path_eq_inside (s : Shape) (qs : List PPt) (h : PolarWF s) (hq : ∀ q ∈ qs, PolarPt q) :
    evalPolar s qs = (qs.map toCart).map (val s) :=
  evalPolar_eq_val_of_agree s qs fun q hm => diskAgree_of_polarWF s q h (hq q hm)

/-- **Representation independence, polar ↔ Cartesian**: a polar grid and the unstructured Cartesian
grid holding the same physical points get the same field. -/
theorem polar_representation_independent (s : Shape) (qs : List PPt) (h : PolarWF s)
    (hq : ∀ q ∈ qs, PolarPt q) : evalPolar s qs = evalPts s (qs.map toCart) := by
  rw [polar_path_eq_inside s qs h hq, evalPts_eq_val]

/-- the shortcut `grid.as_('polar').r <= diameter / 2` of `make_circular_aperture` without a centre
is the Cartesian test, for a non-negative diameter -/
theorem polar_circle_shortcut {R : Rat} (hR : 0 ≤ R) (qs : List PPt) (hq : ∀ q ∈ qs, PolarPt q) :
    evalPolar (.disk R) qs = qs.map (fun q => b2r (decide (q.1 ≤ R))) ∧
    evalPolar (.disk R) qs = (qs.map toCart).map (val (.disk R)) :=
  ⟨rfl, polar_path_eq_inside (.disk R) qs hR hq⟩

/-- **… and for a negative diameter it is not**: at the origin the shortcut says "outside", the
Cartesian test (which squares the radius) "inside".  The real code does the same
(`make_circular_aperture(-1.0)`: 12 pixels on a Cartesian 8×8 grid, none on the same grid as polar —
replayed by the harness, `negative-diameter` in c12.py); a negative diameter is outside the domain
of the property ("sizes"), so this is documented, not repaired. -/
theorem polar_circle_negative_diameter_counterexample :
    ∃ R qs, (∀ q ∈ qs, PolarPt q) ∧ evalPolar (.disk R) qs ≠ (qs.map toCart).map (val (.disk R)) := by
  refine ⟨-1, [(0, 1, 0)], fun q hq => ?_, by decide +kernel⟩
  rw [List.mem_singleton.mp hq]
  exact ⟨le_refl _, by norm_num⟩

/-! #### … on the direction cosines the code really has (floats: not exactly a unit vector)

`PolarPt` above asks for `cos² + sin² = 1` exactly; that is false for almost every float pair
`(cos θ, sin θ)` the driver is sent.  `diskAgree s q` (Model; computed by the driver for every point of
every polar request) is the decidable condition that carries the statement instead. -/

/-- **The polar code path computes the point semantics wherever the radius shortcuts agree with the
Cartesian test** — no hypothesis on the direction cosines, the rotations or the radii. -/
theorem polar_path_eq_inside_float (s : Shape) (qs : List PPt) (h : ∀ q ∈ qs, diskAgree s q = true) :
    evalPolar s qs = (qs.map toCart).map (val s) :=
  evalPolar_eq_val_of_agree s qs h

/-- **… and they agree except within one rounding error of the rim**: if `cos² + sin²` is within `ε`
of 1 then `r ≤ R` and `(r cos)² + (r sin)² ≤ R²` agree whenever `ε·r² < |r² − R²|`. -/
theorem polar_float_rim {R ε : Rat} (hR : 0 ≤ R) {q : PPt} (hr : 0 ≤ q.1)
    (hn : |q.2.1 * q.2.1 + q.2.2 * q.2.2 - 1| ≤ ε) (hfar : ε * sq q.1 < |sq q.1 - sq R|) :
    diskAgree (.disk R) q = true := by
  rw [diskAgree_disk, ← le_iff_mul_le_of_far (show 0 ≤ sq q.1 from mul_self_nonneg _) hn hfar]
  exact mul_self_le_mul_self_iff hr hR

/-- `PolarGrid.rotate` on float cosines multiplies the squared norm of the direction by the squared
norm of the rotation (so `ε` grows to at most `2ε + ε²` per rotation) -/
theorem polar_rotate_norm (c s : Rat) (q : PPt) :
    (rotDir c s q).2.1 * (rotDir c s q).2.1 + (rotDir c s q).2.2 * (rotDir c s q).2.2
      = (c * c + s * s) * (q.2.1 * q.2.1 + q.2.2 * q.2.2) :=
  rotDir_norm c s q

/-- the exact case: a unit direction and a radius ≥ 0 always agree -/
theorem polar_exact_agrees {R : Rat} (hR : 0 ≤ R) {q : PPt} (hq : PolarPt q) :
    diskAgree (.disk R) q = true :=
  diskAgree_of_polarPt hR hq

/-- **Index theorem** (`fast_eq_slow` for every maker): at flat index `iy·Nx + ix` the separated
path holds exactly the value at the point `(x[ix], y[iy])`. -/
theorem fast_eq_slow_index (s : Shape) (xs ys : List Rat) (h : WF s) {ix iy : Nat}
    (hx : ix < xs.length) (hy : iy < ys.length) :
    (evalSep s xs ys)[iy * xs.length + ix]? = some (val s (xs.getD ix 0, ys.getD iy 0)) := by
  rw [evalSep_eq_val s xs ys h, List.getElem?_map, sepPoints_getElem? xs ys hx hy]
  rfl

/-- C order of `ravel()`: element `(i, j)` of an `nr × nc` array lands at `i·nc + j`. -/
theorem ravel_x_fastest {α : Type} (A : Arr α) {i j : Nat} (hi : i < A.nr) (hj : j < A.nc) :
    A.ravel[i * A.nc + j]? = some (A.get i j) := by
  unfold Arr.ravel
  rw [ListFacts.flatMap_getElem? _ _ A.nc (by intro a _; simp) i j hj]
  simp [hi, hj]

/-! ### the individual makers, as the code writes them -/

theorem fast_eq_slow_circular (r cx cy : Rat) (xs ys : List Rat) :
    circleFast r cx cy xs ys = (sepPoints xs ys).map fun p => b2r (inCircle r cx cy p) :=
  circleFast_eq r cx cy xs ys

theorem fast_eq_slow_elliptical (cM sM cm sm cx cy : Rat) (xs ys : List Rat) :
    ellipseFast cM sM cm sm cx cy xs ys
      = (sepPoints xs ys).map fun p => b2r (inEllipse cM sM cm sm cx cy p) :=
  ellipseFast_eq cM sM cm sm cx cy 0 xs ys

theorem fast_eq_slow_rectangular (hx hy cx cy : Rat) (xs ys : List Rat) :
    rectFast hx hy cx cy xs ys = (sepPoints xs ys).map fun p => b2r (inRect hx hy cx cy p) :=
  rectFast_eq hx hy cx cy xs ys

theorem fast_eq_slow_spider (sx sy c s hl hw : Rat) (xs ys : List Rat) :
    spiderFast sx sy c s hl hw xs ys
      = (sepPoints xs ys).map fun p => 1 - b2r (inSpider sx sy c s hl hw p) :=
  spiderFast_eq sx sy c s hl hw xs ys

theorem fast_eq_slow_spider_infinite (px py c s hw : Rat) (xs ys : List Rat) :
    spiderInfFast px py c s hw xs ys
      = (sepPoints xs ys).map fun p => 1 - b2r (inSpiderInf px py c s hw p) :=
  spiderInfFast_eq px py c s hw xs ys

/-- the regular polygon: bounding slices `ind[0] … ind[-1]`, the loop over `thetas`, the
assignment `f[m_y, m_x] = f_sub` — equal to the fallback path (rectangular mask, `x[m]`,
`f[m] = f_sub`) on the same points -/
theorem fast_eq_slow_regular_polygon {r : Rat} (h : 0 ≤ r) (even : Bool) (a : Rat)
    (dirs : List (Rat × Rat)) (cx cy : Rat) (xs ys : List Rat) :
    regpolyFast even r a dirs cx cy xs ys = regpolySlow even r a dirs cx cy (sepPoints xs ys) := by
  rw [regpolyFast_eq h, regpolySlow_eq]

/-- the segmented aperture with a mask-returning segment: `res.shaped[mask][sub > 0.5] = t` on the
separated grid equals `res[flatnonzero(mask)[sub > 0.5]] = t` on the unstructured grid -/
theorem fast_eq_slow_segmented {r : Rat} (h : 0 ≤ r) (even : Bool) (a : Rat)
    (dirs : List (Rat × Rat)) (cx cy : Rat) (xs ys : List Rat) (segs : List (Pt × Rat)) :
    (segFastArr even r a dirs cx cy xs ys segs).ravel
      = evalPts (.seg segs (.regpoly even r a dirs cx cy)) (sepPoints xs ys) := by
  rw [segFast_eq h, evalPts_eq_val]

/-! ## bounding boxes -/

/-- a point of the regular polygon lies in the bounding square around the polygon's **centre**
(so masking with that square, or slicing to it, loses nothing) -/
theorem bounding_box_sound {even : Bool} {r a : Rat} {dirs : List (Rat × Rat)} {cx cy : Rat} {p : Pt}
    (h : val (.regpoly even r a dirs cx cy) p ≠ 0) : |p.1 - cx| ≤ r ∧ |p.2 - cy| ≤ r := by
  have hin : inRegpoly even r a dirs cx cy p = true := (b2r_ne_zero _).symm.trans (decide_eq_true h)
  simp only [inRegpoly, Bool.and_eq_true, decide_eq_true_eq, rabs_eq_abs] at hin
  exact hin.1

/-- every pixel outside the bounding slices `[y0, y0+nr) × [x0, x0+nc)` chosen by the fast path is
outside the box, every pixel inside them carries box ∧ half-planes -/
theorem bounding_slices_sound {even : Bool} {r a : Rat} {dirs : List (Rat × Rat)} {xs ys : List Rat}
    {sub : Sub} (h : regpolySub even r a dirs xs ys = some sub) (i j : Nat) (hi : i < ys.length)
    (hj : j < xs.length)
    (hout : ¬ (sub.y0 ≤ i ∧ i < sub.y0 + sub.F.nr ∧ sub.x0 ≤ j ∧ j < sub.x0 + sub.F.nc)) :
    (decide (sq (xs.getD j 0) ≤ sq r) && decide (sq (ys.getD i 0) ≤ sq r)) = false :=
  (h ▸ (regpolySub_spec even r a dirs xs ys hi hj).2 :) hout

/-- no index inside the box at all ⇒ the field is zero everywhere -/
theorem bounding_slices_empty {even : Bool} {r a : Rat} {dirs : List (Rat × Rat)} {xs ys : List Rat}
    (h : regpolySub even r a dirs xs ys = none) (i j : Nat) (hi : i < ys.length) (hj : j < xs.length) :
    (decide (sq (xs.getD j 0) ≤ sq r) && decide (sq (ys.getD i 0) ≤ sq r)) = false :=
  (h ▸ (regpolySub_spec even r a dirs xs ys hi hj).2 :)

/-- **Irregular polygon: the bounding box of the vertices is sound on all four sides.**  A point
with odd crossing number has a vertex at or left of it, one strictly right of it, one at or below
it and one strictly above it.  (+x: the intercept of a straddling edge is a convex combination of
its end points, so no edge is crossed from the right of all vertices; −x: every straddling edge is
crossed, and a closed polygon straddles a horizontal line an even number of times.) -/
theorem bounding_box_irregular {vs : List Pt} {p : Pt} (h : containsPt vs p = true) :
    (∃ v ∈ vs, v.1 ≤ p.1) ∧ (∃ w ∈ vs, p.1 < w.1) ∧ (∃ v ∈ vs, v.2 ≤ p.2) ∧ (∃ w ∈ vs, p.2 < w.2) := by
  have hodd : crossings vs p % 2 = 1 := beq_iff_eq.mp h
  refine ⟨?_, ?_, ?_⟩
  · by_contra hc
    push Not at hc
    rw [crossings_even_of_left hc] at hodd
    cases hodd
  · by_contra hc
    push Not at hc
    rw [crossings_eq_zero_of_right hc] at hodd
    cases hodd
  · have hpos : 0 < crossings vs p := Nat.pos_of_ne_zero fun h0 => by rw [h0] at hodd; cases hodd
    obtain ⟨e, he⟩ := List.exists_mem_of_length_pos hpos
    obtain ⟨hmem, hc⟩ := List.mem_filter.mp he
    obtain ⟨h1, h2⟩ := mem_of_mem_edges hmem
    rw [edgeCross_eq, Bool.and_eq_true] at hc
    rcases straddle_cases hc.1 with ⟨hlo, hhi⟩ | ⟨hlo, hhi⟩
    · exact ⟨⟨e.1, h1, hlo⟩, ⟨e.2, h2, hhi⟩⟩
    · exact ⟨⟨e.2, h2, hlo⟩, ⟨e.1, h1, hhi⟩⟩

/-- a closed polygon straddles any horizontal line an even number of times -/
theorem closed_polygon_straddles_even (vs : List Pt) (p : Pt) :
    ((edges vs).filter (straddle p)).length % 2 = 0 :=
  straddles_even vs p

/-- hence the rectangular pre-selection `res[mask] = contains_points(points[mask])` loses nothing
whenever the rectangle covers the vertices: the aperture *is* the even-odd polygon -/
theorem irregular_mask_redundant {vs : List Pt} {hx hy bx by_ : Rat}
    (hbox : ∀ v ∈ vs, |v.1 - bx| ≤ hx ∧ |v.2 - by_| ≤ hy) (p : Pt) :
    val (.irrpoly vs hx hy bx by_) p = b2r (containsPt vs p) := by
  show b2r (inRect hx hy bx by_ p && containsPt vs p) = _
  cases hc : containsPt vs p with
  | false => rw [Bool.and_false]
  | true =>
    obtain ⟨⟨a, ha, ha'⟩, ⟨b, hb, hb'⟩, ⟨c, hcm, hc'⟩, ⟨d, hd, hd'⟩⟩ := bounding_box_irregular hc
    have hin : inRect hx hy bx by_ p = true := by
      simp only [inRect, rabs_eq_abs, Bool.and_eq_true, decide_eq_true_eq]
      exact ⟨abs_sub_le_of_between (hbox a ha).1 (hbox b hb).1 ha' hb'.le,
        abs_sub_le_of_between (hbox c hcm).2 (hbox d hd).2 hc' hd'.le⟩
    rw [hin]
    rfl

/-! ## masked assignment of segments -/

/-- non-separated grids (repaired D8): the assignment writes `t` to exactly the masked pixels the
segment covers and leaves every other pixel alone -/
theorem segmented_assign {α : Type} (pts : List α) (mask sel : α → Bool) (res : α → Rat) (t : Rat) :
    scatterWhere (pts.map mask) ((compress (pts.map mask) pts).map sel) (pts.map res) t
      = pts.map fun p => if mask p && sel p then t else res p := by
  simpa using scatterWhere_eq pts mask id sel res t

/-- separated grids: `res.shaped[mask][sub] = t` writes through the view, at exactly the pixels of
the slice where `sub` holds -/
theorem segmented_assign_view {α : Type} (A : Arr α) (r0 c0 : Nat) (M : Arr Bool) (t : α) (i j : Nat) :
    (A.setWhere r0 c0 M t).get i j =
      if r0 ≤ i ∧ i < r0 + M.nr ∧ c0 ≤ j ∧ j < c0 + M.nc ∧ M.get (i - r0) (j - c0) = true then t
      else A.get i j :=
  rfl

/-- the whole loop over the segments, pixel by pixel -/
theorem segmented_pixels {r : Rat} (h : 0 ≤ r) (even : Bool) (a : Rat) (dirs : List (Rat × Rat))
    (cx cy : Rat) (xs ys : List Rat) (segs : List (Pt × Rat)) (i j : Nat) (hi : i < ys.length)
    (hj : j < xs.length) :
    (segFastArr even r a dirs cx cy xs ys segs).get i j
      = val (.seg segs (.regpoly even r a dirs cx cy)) (xs.getD j 0, ys.getD i 0) :=
  (segFastArr_full h even a dirs cx cy xs ys segs).get i j hi hj

/-- later segments overwrite earlier ones exactly where they cover the point -/
theorem segmented_later_overwrites (segs : List (Pt × Rat)) (s : Pt × Rat) (a : Shape) (p : Pt) :
    val (.seg (segs ++ [s]) a) p =
      if val a (shiftPt s.1.1 s.1.2 p) > 1/2 then s.2 else val (.seg segs a) p :=
  segFold_snoc (val a) p segs s 0

/-! ## values -/

theorem values_in_unit_interval_binary {s : Shape} (h : Binary s) (p : Pt) :
    0 ≤ val s p ∧ val s p ≤ 1 :=
  values_in_unit_interval h p

/-- binary apertures are 0/1-valued -/
theorem values_zero_or_one {s : Shape} (h : Binary s) (p : Pt) : val s p = 0 ∨ val s p = 1 :=
  binary_val h p

/-- segment transmissions aside: a segmented aperture is 0 or one of its transmissions -/
theorem segmented_values (segs : List (Pt × Rat)) (a : Shape) (p : Pt) :
    val (.seg segs a) p = 0 ∨ ∃ s ∈ segs, val (.seg segs a) p = s.2 :=
  seg_val_mem segs a p

theorem segmented_in_unit_interval {segs : List (Pt × Rat)} {a : Shape} {p : Pt}
    (h : ∀ s ∈ segs, 0 ≤ s.2 ∧ s.2 ≤ 1) : 0 ≤ val (.seg segs a) p ∧ val (.seg segs a) p ≤ 1 :=
  binary_seg_unit_transmissions h

/-- the obstructed circular aperture `(outer − inner)·spiders` is binary when the obscuration is
not larger than the pupil -/
theorem obstructed_circular_binary {ri ro cx cy : Rat} (h : rabs ri ≤ rabs ro) :
    Binary (.sub (.circle ro cx cy) (.circle ri cx cy)) :=
  Binary.sub (Binary.circle _ _ _) (Binary.circle _ _ _) fun _ => circle_sub_le h

/-- the mean of fields with values in [0,1] has values in [0,1] -/
theorem mean_in_unit_interval (n : Nat) (fs : List (List Rat)) (hne : fs ≠ [])
    (hlen : ∀ f ∈ fs, f.length = n) (hu : ∀ f ∈ fs, ∀ v ∈ f, 0 ≤ v ∧ v ≤ 1) :
    ∀ v ∈ meanFields n fs, 0 ≤ v ∧ v ≤ 1 := by
  intro v hv
  obtain ⟨w, hw, rfl⟩ := List.mem_map.mp hv
  have hb := sumFields_mem_bounds n fs hlen hu w hw
  have hpos : (0 : Rat) < fs.length := Nat.cast_pos.mpr (List.length_pos_iff.mpr hne)
  exact ⟨div_nonneg hb.1 hpos.le, (div_le_one hpos).mpr hb.2⟩

/-- statistic 'mean' of the general form (`supersampledStat`, all four statistics) is the
`supersampled` of the theorems below -/
theorem supersampled_statistic_mean (s : Shape) (nx ny : Nat) (xs ys : List Rat) :
    supersampledStat .mean s nx ny xs ys = supersampled s nx ny xs ys := by
  unfold supersampledStat supersampled
  cases ditherGrids nx ny xs ys <;> rfl

/-- every statistic is defined on the same grids and factors ('mean': `supersampled_defined_iff` below) -/
theorem supersampled_statistic_defined_iff (st : Stat) (s : Shape) (nx ny : Nat) (xs ys : List Rat) :
    (∃ f, supersampledStat st s nx ny xs ys = .ok f) ↔ (2 ≤ xs.length ∧ 2 ≤ ys.length ∧ 1 ≤ nx ∧ 1 ≤ ny) := by
  fun_cases supersampledStat st s nx ny xs ys with
  | case1 hg =>
    have := (ditherGrids_eq_none_iff nx ny xs ys).mp hg
    exact iff_of_false (fun ⟨_, h⟩ => nomatch h) (by omega)
  | case2 gs hg hn => exact iff_of_false (fun ⟨_, h⟩ => nomatch h) (by omega)
  | case3 gs hg hn =>
    have := ditherGrids_some_length hg
    exact iff_of_true ⟨_, rfl⟩ ⟨this.1, this.2, by omega, by omega⟩

/-- which exception a statistic raises: IndexError for a one-point axis whatever the statistic;
for an oversampling factor 0 ZeroDivisionError with 'mean' (`0 / len(dithers)`), AttributeError with
'sum' / 'min' / 'max' (`field.grid = grid` on the initial `0` / `None`) -/
theorem supersampled_statistic_error_kinds (st : Stat) (s : Shape) (nx ny : Nat) (xs ys : List Rat) :
    (supersampledStat st s nx ny xs ys = .error .index ↔ (xs.length < 2 ∨ ys.length < 2)) ∧
    (supersampledStat st s nx ny xs ys = .error .zeroDiv ↔
      (st = .mean ∧ 2 ≤ xs.length ∧ 2 ≤ ys.length ∧ (nx = 0 ∨ ny = 0))) ∧
    (supersampledStat st s nx ny xs ys = .error .attribute ↔
      (st ≠ .mean ∧ 2 ≤ xs.length ∧ 2 ≤ ys.length ∧ (nx = 0 ∨ ny = 0))) := by
  fun_cases supersampledStat st s nx ny xs ys with
  | case1 hg =>
    have := (ditherGrids_eq_none_iff nx ny xs ys).mp hg
    exact ⟨iff_of_true rfl this, iff_of_false nofun (by omega), iff_of_false nofun (by omega)⟩
  | case2 gs hg hn =>
    have hlen := ditherGrids_some_length hg
    by_cases hm : st = .mean
    · rw [if_pos hm]
      exact ⟨iff_of_false nofun (by omega), iff_of_true rfl ⟨hm, hlen.1, hlen.2, hn⟩,
        iff_of_false nofun fun h => h.1 hm⟩
    · rw [if_neg hm]
      exact ⟨iff_of_false nofun (by omega), iff_of_false nofun fun h => hm h.1,
        iff_of_true rfl ⟨hm, hlen.1, hlen.2, hn⟩⟩
  | case3 gs hg hn =>
    have hlen := ditherGrids_some_length hg
    exact ⟨iff_of_false nofun (by omega), iff_of_false nofun fun h => hn h.2.2.2,
      iff_of_false nofun fun h => hn h.2.2.2⟩

/-- **supersampled binary apertures take values in [0,1]** — for every oversampling `nx, ny`
and every separated grid on which `evaluate_supersampled` is defined -/
theorem supersampled_in_unit_interval {s : Shape} (hb : Binary s) (hw : WF s) {nx ny : Nat}
    {xs ys f : List Rat} (h : supersampled s nx ny xs ys = .ok f) : ∀ v ∈ f, 0 ≤ v ∧ v ≤ 1 := by
  rw [← supersampled_statistic_mean] at h
  obtain ⟨fs, H, rfl⟩ := supersampledStat_ok h
  exact mean_in_unit_interval _ _ H.ne (H.length hw) (H.vals hw (values_in_unit_interval hb))

/-- **where it is defined**: each axis has ≥ 2 points and both oversampling factors are ≥ 1 (the
model has no totalised `x / 0`: a factor 0 is an error, as in the code) -/
theorem supersampled_defined_iff (s : Shape) (nx ny : Nat) (xs ys : List Rat) :
    (∃ f, supersampled s nx ny xs ys = .ok f) ↔ (2 ≤ xs.length ∧ 2 ≤ ys.length ∧ 1 ≤ nx ∧ 1 ≤ ny) :=
  supersampled_statistic_mean s nx ny xs ys ▸ supersampled_statistic_defined_iff .mean s nx ny xs ys

/-- which exception otherwise: IndexError for a one-point axis, else ZeroDivisionError for a
factor 0 (the order in which the code computes spacings and the dither grid) -/
theorem supersampled_error_kinds (s : Shape) (nx ny : Nat) (xs ys : List Rat) :
    (supersampled s nx ny xs ys = .error .index ↔ (xs.length < 2 ∨ ys.length < 2)) ∧
    (supersampled s nx ny xs ys = .error .zeroDiv ↔
      (2 ≤ xs.length ∧ 2 ≤ ys.length ∧ (nx = 0 ∨ ny = 0))) :=
  supersampled_statistic_mean s nx ny xs ys ▸
    ⟨(supersampled_statistic_error_kinds .mean s nx ny xs ys).1,
      (supersampled_statistic_error_kinds .mean s nx ny xs ys).2.1.trans (and_iff_right rfl)⟩

/-! ### the other statistics: 'sum', 'min', 'max' (`supersampledStat`, driver op `C12 superstat`) -/

/-- **'min' and 'max' only select**: every value they return is the aperture's value at some
physical point — whatever the aperture (transmissions included) -/
theorem supersampled_min_max_selects {st : Stat} (hst : st = .min ∨ st = .max) {s : Shape} (hw : WF s)
    {nx ny : Nat} {xs ys f : List Rat} (h : supersampledStat st s nx ny xs ys = .ok f) :
    ∀ v ∈ f, ∃ p, v = val s p := by
  obtain ⟨fs, H, rfl⟩ := supersampledStat_ok h
  exact combineFields_minmax_forall hst _ (H.vals hw fun p => ⟨p, rfl⟩)

/-- hence the 'min' / 'max' of a binary aperture is again 0/1-valued (in particular in [0,1]) -/
theorem supersampled_min_max_binary {st : Stat} (hst : st = .min ∨ st = .max) {s : Shape}
    (hb : Binary s) (hw : WF s) {nx ny : Nat} {xs ys f : List Rat}
    (h : supersampledStat st s nx ny xs ys = .ok f) : ∀ v ∈ f, v = 0 ∨ v = 1 := by
  intro v hv
  obtain ⟨p, rfl⟩ := supersampled_min_max_selects hst hw h v hv
  exact binary_val hb p

/-- **min ≤ mean ≤ max at every pixel** — any aperture, any oversampling -/
theorem supersampled_min_le_mean_le_max {s : Shape} (hw : WF s) {nx ny : Nat} {xs ys fmin fmean fmax : List Rat}
    (hmin : supersampledStat .min s nx ny xs ys = .ok fmin) (hmean : supersampled s nx ny xs ys = .ok fmean)
    (hmax : supersampledStat .max s nx ny xs ys = .ok fmax) (k : Nat) (hk : k < xs.length * ys.length) :
    fmin.getD k 0 ≤ fmean.getD k 0 ∧ fmean.getD k 0 ≤ fmax.getD k 0 := by
  obtain ⟨fs, H, rfl⟩ := supersampledStat_ok hmin
  obtain rfl := Except.ok.inj ((supersampled_statistic_mean .. ▸ H.ok .mean).symm.trans hmean)
  obtain rfl := Except.ok.inj ((H.ok .max).symm.trans hmax)
  exact combine_min_mean_max _ _ H.ne (H.length hw) k hk

/-- 'mean' is 'sum' divided by the number of dithered grids `ny·nx` -/
theorem supersampled_sum_mean {s : Shape} {nx ny : Nat} {xs ys f : List Rat}
    (h : supersampledStat .sum s nx ny xs ys = .ok f) :
    supersampled s nx ny xs ys = .ok (f.map fun v => v / ((ny * nx : Nat) : Rat)) := by
  obtain ⟨fs, H, rfl⟩ := supersampledStat_ok h
  rw [← supersampled_statistic_mean, H.ok .mean]
  simp only [combineFields, meanFields, sumFields, H.card]

/-- the 'sum' of a binary aperture counts sub-samples: between 0 and `ny·nx` (so 'sum' does **not**
stay in [0,1]; the clause is about 'mean', 'min', 'max') -/
theorem supersampled_sum_bounds {s : Shape} (hb : Binary s) (hw : WF s) {nx ny : Nat}
    {xs ys f : List Rat} (h : supersampledStat .sum s nx ny xs ys = .ok f) :
    ∀ v ∈ f, 0 ≤ v ∧ v ≤ ((ny * nx : Nat) : Rat) := by
  obtain ⟨fs, H, rfl⟩ := supersampledStat_ok h
  exact H.card ▸ sumFields_mem_bounds _ _ (H.length hw) (H.vals hw (values_in_unit_interval hb))

/-! ### a list of generators (→ ModeBasis; `supersampledList`, driver op `C12 superlist`) -/

/-- **the list form holds, in order, exactly the fields of its generators**: it succeeds iff every
generator does (any statistic) -/
theorem supersampled_list_ok_iff (st : Stat) (nx ny : Nat) (xs ys : List Rat) {ss : List Shape}
    (hne : ss ≠ []) (fs : List (List Rat)) :
    supersampledList st nx ny xs ys ss = .ok fs ↔
      List.Forall₂ (fun s f => supersampledStat st s nx ny xs ys = .ok f) ss fs := by
  cases ss with
  | nil => exact absurd rfl hne
  | cons s rest => exact supersampledListAux_ok_iff st nx ny xs ys (s :: rest) fs

/-- an empty list is rejected (ValueError from `ModeBasis`) -/
theorem supersampled_list_empty (st : Stat) (nx ny : Nat) (xs ys : List Rat) :
    supersampledList st nx ny xs ys [] = .error .value := rfl

/-- a non-empty list fails exactly when, and as, its first generator does -/
theorem supersampled_list_error_iff (st : Stat) (nx ny : Nat) (xs ys : List Rat) (s : Shape)
    (rest : List Shape) (e : SuperErr) :
    supersampledList st nx ny xs ys (s :: rest) = .error e ↔ supersampledStat st s nx ny xs ys = .error e := by
  show supersampledListAux st nx ny xs ys (s :: rest) = .error e ↔ _
  rw [supersampledListAux]
  cases h1 : supersampledStat st s nx ny xs ys with
  | error e' => simp
  | ok f =>
    -- success depends on the grid and the factors only, so every other generator succeeds as well
    have hdef := (supersampled_statistic_defined_iff st s nx ny xs ys).mp ⟨f, h1⟩
    choose F hF using fun t => (supersampled_statistic_defined_iff st t nx ny xs ys).mpr hdef
    have hfs : supersampledListAux st nx ny xs ys rest = .ok (rest.map F) :=
      (supersampledListAux_ok_iff ..).mpr
        (List.forall₂_map_right_iff.mpr (List.forall₂_same.mpr fun t _ => hF t))
    simp [hfs]

/-- every mode of a supersampled list of binary apertures has values in [0,1] -/
theorem supersampled_list_in_unit_interval {nx ny : Nat} {xs ys : List Rat} {s : Shape} {rest : List Shape}
    (hs : ∀ t ∈ s :: rest, Binary t ∧ WF t) {fs : List (List Rat)}
    (h : supersampledList .mean nx ny xs ys (s :: rest) = .ok fs) : ∀ f ∈ fs, ∀ v ∈ f, 0 ≤ v ∧ v ≤ 1 := by
  intro f hf
  obtain ⟨i, hi, rfl⟩ := List.getElem_of_mem hf
  have hF := (supersampled_list_ok_iff _ nx ny xs ys (List.cons_ne_nil s rest) fs).mp h
  have hr := hF.get (hF.length_eq ▸ hi) hi
  rw [supersampled_statistic_mean] at hr
  exact supersampled_in_unit_interval (hs _ (List.get_mem ..)).1 (hs _ (List.get_mem ..)).2 hr

/-- one mode per generator -/
theorem supersampled_list_length {st : Stat} {nx ny : Nat} {xs ys : List Rat} {s : Shape} {rest : List Shape}
    {fs : List (List Rat)} (h : supersampledList st nx ny xs ys (s :: rest) = .ok fs) :
    fs.length = (s :: rest).length :=
  ((supersampled_list_ok_iff st nx ny xs ys (List.cons_ne_nil s rest) fs).mp h).length_eq.symm

/-! ## one sample per grid point

The clause "the returned field is attached to the grid it was asked for" is about object identity
(`field.grid is grid`) and is **oracle-only**: the harness checks it on the real code for every
maker, every representation and the supersampled form.  What the model can say is only that each
code path returns one sample per grid point, in the grid's own order: -/

theorem field_length_separated (s : Shape) (xs ys : List Rat) (h : WF s) :
    (evalSep s xs ys).length = (sepPoints xs ys).length := by
  rw [evalSep_eq_val s xs ys h, List.length_map]

theorem field_length_unstructured (s : Shape) (pts : List Pt) : (evalPts s pts).length = pts.length := by
  rw [evalPts_eq_val, List.length_map]

theorem field_length_polar (s : Shape) (qs : List PPt) (h : PolarWF s) (hq : ∀ q ∈ qs, PolarPt q) :
    (evalPolar s qs).length = qs.length := by
  rw [polar_path_eq_inside s qs h hq, List.length_map, List.length_map]

theorem field_length_supersampled_statistic {st : Stat} {s : Shape} (hw : WF s) {nx ny : Nat}
    {xs ys f : List Rat} (h : supersampledStat st s nx ny xs ys = .ok f) :
    f.length = (sepPoints xs ys).length := by
  obtain ⟨fs, H, rfl⟩ := supersampledStat_ok h
  rw [sepPoints_length, Nat.mul_comm ys.length]
  exact combineFields_length st _ _ H.ne (H.length hw)

theorem field_length_supersampled {s : Shape} (hw : WF s) {nx ny : Nat} {xs ys f : List Rat}
    (h : supersampled s nx ny xs ys = .ok f) : f.length = (sepPoints xs ys).length :=
  field_length_supersampled_statistic hw ((supersampled_statistic_mean ..).trans h)

/-! ## the regular polygon's tests versus their definition -/

/-- even number of sides: one squared test is the pair of opposite half-planes -/
theorem halfplane_even {a c s x y : Rat} (ha : 0 ≤ a) :
    hp true a (c, s) x y = true ↔ (-a ≤ c * x + s * y ∧ c * x + s * y ≤ a) := by
  show decide (sq (c * x + s * y) ≤ sq a) = true ↔ _
  rw [decide_eq_true_iff, sq_le_sq_iff_rabs ha, rabs_eq_abs, abs_le]

/-- odd number of sides: `|sin θ·x| − cos θ·y ≤ a` is a half-plane and its mirror image in the
symmetry axis -/
theorem halfplane_odd {a c s x y : Rat} :
    hp false a (c, s) x y = true ↔ (s * x - c * y ≤ a ∧ -(s * x) - c * y ≤ a) := by
  show decide (rabs (s * x) - c * y ≤ a) = true ↔ _
  rw [decide_eq_true_iff, rabs_eq_abs, sub_le_iff_le_add, abs_le, neg_le, and_comm,
    ← sub_le_iff_le_add, ← sub_le_iff_le_add]

/-- the running product `f_sub *= (…) <= apothem` is the conjunction of the tests -/
theorem halfplane_product (even : Bool) (a : Rat) (dirs : List (Rat × Rat)) (x y : Rat) :
    hpProd even a dirs x y = b2r (allHp even a dirs x y) :=
  hpProd_eq even a dirs x y

/-- the two spellings of the bounding box, `x² ≤ R²` (fast path) and `|x| ≤ R` (rectangular mask) -/
theorem box_spellings_agree {x r : Rat} (h : 0 ≤ r) : sq x ≤ sq r ↔ |x| ≤ r := by
  rw [sq_le_sq_iff_rabs h, rabs_eq_abs]

/-! ## a telescope pupil inside the model: Keck -/

/-- `make_hexagonal_grid(·, n)` produces `1 + 3n(n+1)` segment centres (37 for Keck's 3 rings) -/
theorem hexagonal_grid_size (n : Nat) (cd ap : Rat) :
    (hexPositions n cd ap).length = 1 + 3 * n * (n + 1) := by
  rw [hexPositions, List.length_map, hexQR_length]

/-- every hexagonally segmented pupil (`HexCfg`, see below; Keck is one of them, `keckShape_eq_hexcfg`) takes values
in [0,1] for transmissions in [0,1], whatever is dropped and whichever flags are set -/
theorem hexpupil_in_unit_interval (c : HexCfg) (htr : ∀ t ∈ c.trs, 0 ≤ t ∧ t ≤ 1) (p : Pt) :
    0 ≤ val c.shape p ∧ val c.shape p ≤ 1 :=
  unitVal_decor.hexcfg c
    (fun _ => binary_seg_unit_transmissions fun s hs => htr s.2 (List.of_mem_zip hs).2)
    (fun R _ => values_in_unit_interval (Binary.disk R).compl) p

/-- the Keck pupil (37 hexagonal segments with transmissions, central obscuration, six spiders)
gets the same field on a separated grid and on the unstructured grid with the same points -/
theorem keck_representation_independent {segR : Rat} (h : 0 ≤ segR) (rings : Nat)
    (pitch ap segA : Rat) (dirs : List (Rat × Rat)) (trs : List Rat) (obsR : Rat)
    (spiders : List (Rat × Rat)) (hw : Rat) (xs ys : List Rat) :
    evalSep (keckShape rings pitch ap segR segA dirs trs obsR spiders hw) xs ys
      = evalPts (keckShape rings pitch ap segR segA dirs trs obsR spiders hw) (sepPoints xs ys) :=
  keckShape_eq_hexcfg .. ▸ representation_independent _ xs ys (hexcfg_wf (keckCfg ..) h)

/-- … and takes values in [0,1] for transmissions in [0,1] -/
theorem keck_in_unit_interval (rings : Nat) (pitch ap segR segA : Rat) (dirs : List (Rat × Rat))
    {trs : List Rat} (htr : ∀ t ∈ trs, 0 ≤ t ∧ t ≤ 1) (obsR : Rat) (spiders : List (Rat × Rat))
    (hw : Rat) (p : Pt) :
    0 ≤ val (keckShape rings pitch ap segR segA dirs trs obsR spiders hw) p ∧
      val (keckShape rings pitch ap segR segA dirs trs obsR spiders hw) p ≤ 1 :=
  keckShape_eq_hexcfg .. ▸ hexpupil_in_unit_interval (keckCfg ..) htr p

/-- with all transmissions 1 the Keck recipe is a binary aperture: `values_zero_or_one` and
`supersampled_in_unit_interval` apply to it -/
theorem keck_binary (rings : Nat) (pitch ap segR segA : Rat) (dirs : List (Rat × Rat))
    {trs : List Rat} (htr : ∀ t ∈ trs, t = 1) (obsR : Rat) (spiders : List (Rat × Rat)) (hw : Rat) :
    Binary (keckShape rings pitch ap segR segA dirs trs obsR spiders hw) :=
  keckShape_eq_hexcfg .. ▸ hexcfg_binary (keckCfg ..) (Binary.regpoly ..) htr

/-- the Keck pupil on a polar grid (the central obscuration takes the radius shortcut) equals the
Keck pupil on the unstructured Cartesian grid with the same points -/
theorem keck_polar_representation_independent {obsR : Rat} (h : 0 ≤ obsR) (rings : Nat)
    (pitch ap segR segA : Rat) (dirs : List (Rat × Rat)) (trs : List Rat)
    (spiders : List (Rat × Rat)) (hw : Rat) (qs : List PPt) (hq : ∀ q ∈ qs, PolarPt q) :
    evalPolar (keckShape rings pitch ap segR segA dirs trs obsR spiders hw) qs
      = evalPts (keckShape rings pitch ap segR segA dirs trs obsR spiders hw) (qs.map toCart) :=
  keckShape_eq_hexcfg .. ▸ polar_representation_independent _ qs
    (hexcfg_polarWF (keckCfg ..) fun _ hR => Option.some.inj hR ▸ h) hq

/-! ## a non-hexagonal telescope pupil inside the model: the VLT

`vltShape` = `make_vlt_aperture(…)`: obstructed circular aperture × four finite spiders [× M3 cover];
`vltSegment i` = the `i`-th quadrant of `return_segments=True`, whose three half-planes are computed
**in the model** from the spiders' start/end points (`spiderLine`, `vltThird`). -/

/-- the VLT pupil gets the same field on a separated grid and on the unstructured grid with the
same points (every parameter value; there is no regular polygon in it, so no side condition) -/
theorem vlt_representation_independent (ro ri : Rat) (sp : List SpiderC)
    (m3 : Option (Rat × Rat × Rat × Rat)) (xs ys : List Rat) :
    evalSep (vltShape ro ri sp m3) xs ys = evalPts (vltShape ro ri sp m3) (sepPoints xs ys) :=
  representation_independent _ xs ys (vlt_wf ro ri sp m3)

/-- … and on a polar grid (both circles take the radius shortcut) -/
theorem vlt_polar_representation_independent {ro ri : Rat} (ho : 0 ≤ ro) (hi : 0 ≤ ri)
    (sp : List SpiderC) (m3 : Option (Rat × Rat × Rat × Rat)) (qs : List PPt)
    (hq : ∀ q ∈ qs, PolarPt q) :
    evalPolar (vltShape ro ri sp m3) qs = evalPts (vltShape ro ri sp m3) (qs.map toCart) :=
  polar_representation_independent _ qs (PolarWF.decor.vltShape ⟨ho, hi⟩ sp m3) hq

/-- the VLT recipe is binary when the central obscuration is not larger than the pupil -/
theorem vlt_binary {ro ri : Rat} (h : rabs ri ≤ rabs ro) (sp : List SpiderC)
    (m3 : Option (Rat × Rat × Rat × Rat)) : Binary (vltShape ro ri sp m3) :=
  Binary.decor.vltShape (Binary.sub (Binary.disk _) (Binary.disk _) fun _ => circle_sub_le (cx := 0) (cy := 0) h) sp m3

/-- every quadrant (segment generator) of the VLT pupil: same field on separated, unstructured
and polar grids, and binary -/
theorem vlt_segment_representation_independent {ro ri : Rat} (ho : 0 ≤ ro) (hi : 0 ≤ ri)
    (hio : ri ≤ ro) (sp : List SpiderC) (m3 : Option (Rat × Rat × Rat × Rat)) {i : Nat}
    {lines : List ((Rat × Rat) × Rat)} {q : Shape}
    (h : vltSegment i lines (vltShape ro ri sp m3) m3 = some q) :
    (∀ xs ys, evalSep q xs ys = evalPts q (sepPoints xs ys)) ∧
    (∀ qs, (∀ p ∈ qs, PolarPt p) → evalPolar q qs = evalPts q (qs.map toCart)) ∧ Binary q := by
  exact ⟨fun xs ys => representation_independent q xs ys (WF.decor.vltSegment h (vlt_wf ro ri sp m3)),
    fun qs hq => polar_representation_independent q qs
      (PolarWF.decor.vltSegment h (PolarWF.decor.vltShape ⟨ho, hi⟩ sp m3)) hq,
    Binary.decor.vltSegment h (vlt_binary (by rwa [rabs_of_nonneg hi, rabs_of_nonneg ho]) sp m3)⟩

/-! ## the hexagonally segmented telescope pupils inside the model

`HexCfg` (Model/AperturePupil.lean) = `make_luvoir_a_aperture`, `make_luvoir_b_aperture`, `make_elt_aperture`,
`make_tmt_aperture` (and `make_keck_aperture`): the lattice of segment centres, the `Grid.subset` calls that
drop segments, the segmented aperture, the central obscuration, the spiders (product or loop form) and the
list of returned segments are all computed by the model (`C12 hexpos`, `C12 hexpupil`); `HicatCfg` =
`make_hicat_aperture` (`C12 hicat`). -/

/-- **which segments are dropped**: the successive `subset` calls keep exactly the lattice sites that satisfy
every criterium, each decided at that site alone (`selKeeps`: the criterium's aperture value at the site) —
order and multiplicity of the sites are preserved, no site's fate depends on the other sites -/
theorem dropped_segments_pointwise (sels : List Sel) (pos : List Pt) :
    selectPositions sels pos = pos.filter fun p => sels.all fun s => selKeeps s p := by
  induction sels generalizing pos with
  | nil => simp [selectPositions]
  | cons s sels ih =>
    show selectPositions sels (applySel s pos) = _
    rw [ih, applySel_eq_filter, List.filter_filter]
    exact List.filter_congr fun p _ => Bool.and_comm ..

/-- the kept segment centres are a sub-list of the hexagonal lattice, at most `1 + 3n(n+1)` of them -/
theorem kept_segments_sublattice (c : HexCfg) :
    c.positions.Sublist (hexPositions c.rings c.pitch c.ap) ∧
      c.positions.length ≤ 1 + 3 * c.rings * (c.rings + 1) := by
  have h : c.positions.Sublist (hexPositions c.rings c.pitch c.ap) := by
    rw [HexCfg.positions, dropped_segments_pointwise]
    exact List.filter_sublist
  exact ⟨h, hexagonal_grid_size .. ▸ h.length_le⟩

/-- the composed pupil takes the fast path to the point semantics on every separated grid … -/
theorem hexpupil_fast_path_eq_inside (c : HexCfg) (h : WF c.segment) (xs ys : List Rat) :
    evalSep c.shape xs ys = (sepPoints xs ys).map (val c.shape) :=
  evalSep_eq_val _ xs ys (hexcfg_wf c h)

/-- … hence the same field on a separated grid and on the unstructured grid with the same points -/
theorem hexpupil_representation_independent (c : HexCfg) (h : WF c.segment) (xs ys : List Rat) :
    evalSep c.shape xs ys = evalPts c.shape (sepPoints xs ys) :=
  representation_independent _ xs ys (hexcfg_wf c h)

/-- … and on a polar grid (the central obscuration of TMT/Keck takes the radius shortcut there) -/
theorem hexpupil_polar_representation_independent (c : HexCfg) (h : ∀ R, c.obs = some R → 0 ≤ R)
    (qs : List PPt) (hq : ∀ q ∈ qs, PolarPt q) :
    evalPolar c.shape qs = evalPts c.shape (qs.map toCart) :=
  polar_representation_independent _ qs (hexcfg_polarWF c h) hq

/-- every segment of `return_segments=True` (with the spiders / obscuration the maker wraps around it) is
representation independent as well -/
theorem hexpupil_segment_representation_independent (c : HexCfg) (h : WF c.segment) :
    ∀ s ∈ c.segmentShapes, ∀ xs ys, evalSep s xs ys = evalPts s (sepPoints xs ys) := by
  intro s hs xs ys
  obtain ⟨pt, _, rfl⟩ := List.mem_map.mp hs
  exact representation_independent _ xs ys
    (WF.decor.decorateSegment c (b := baseSegment c.segment pt) ⟨h, trivial⟩ fun _ _ => trivial)

/-- one returned segment per kept centre (and transmission) -/
theorem hexpupil_segment_count (c : HexCfg) :
    c.segmentShapes.length = min c.positions.length c.trs.length := by
  rw [HexCfg.segmentShapes, List.length_map, HexCfg.segs, List.length_zip]

/-- **the segment list is consistent with the pupil (1)**: at every point the pupil is 0 or has exactly the
value of one of the returned segments (a segment that covers the point) — any transmissions -/
theorem hexpupil_value_is_a_segment (c : HexCfg) (hb : Binary c.segment) (p : Pt) :
    val c.shape p = 0 ∨ ∃ s ∈ c.segmentShapes, val c.shape p = val s p := by
  rcases segFold_cover (val c.segment) p c.segs 0 with ⟨_, h0⟩ | ⟨s, hs, hc, hv⟩
  · left; rw [val_shape, h0]; ring
  · right
    refine ⟨decorateSegment c (baseSegment c.segment s), List.mem_map.mpr ⟨s, hs, rfl⟩, ?_⟩
    have h1 : val c.segment (shiftPt s.1.1 s.1.2 p) = 1 := by
      rcases binary_val hb (shiftPt s.1.1 s.1.2 p) with h | h
      · rw [h] at hc; norm_num at hc
      · exact h
    rw [val_shape, val_decorateSegment, val_baseSegment, hv, h1]
    ring

/-- **(2)**: with unit transmissions no returned segment exceeds the pupil anywhere … -/
theorem hexpupil_segment_le_pupil (c : HexCfg) (hb : Binary c.segment) (htr : ∀ t ∈ c.trs, t = 1) (p : Pt) :
    ∀ s ∈ c.segmentShapes, val s p ≤ val c.shape p := by
  intro s hs
  obtain ⟨pt, hpt, rfl⟩ := List.mem_map.mp hs
  have hunit : ∀ s ∈ c.segs, s.2 = 1 := fun s hs => htr s.2 (List.of_mem_zip hs).2
  have hnn : 0 ≤ val c.shape p :=
    (values_in_unit_interval (hexcfg_binary c hb htr) p).1
  rw [val_decorateSegment, val_baseSegment, hunit pt hpt]
  rcases binary_val hb (shiftPt pt.1.1 pt.1.2 p) with h | h
  · rw [h]; simpa using hnn
  · rcases segFold_cover (val c.segment) p c.segs 0 with ⟨hno, _⟩ | ⟨s', hs', _, hv⟩
    · exact absurd (by rw [h]; norm_num) (hno pt hpt)
    · rw [val_shape, hv, hunit s' hs', h]
      exact le_of_eq (by ring)

/-- **(3) pupil = union of the returned segments** (unit transmissions): the pupil is 1 exactly where some
returned segment is 1 -/
theorem hexpupil_union_of_segments (c : HexCfg) (hb : Binary c.segment) (htr : ∀ t ∈ c.trs, t = 1) (p : Pt) :
    val c.shape p = 1 ↔ ∃ s ∈ c.segmentShapes, val s p = 1 := by
  constructor
  · intro h1
    rcases hexpupil_value_is_a_segment c hb p with h | ⟨s, hs, h⟩
    · rw [h] at h1; norm_num at h1
    · exact ⟨s, hs, by rw [← h, h1]⟩
  · rintro ⟨s, hs, h1⟩
    have hle := hexpupil_segment_le_pupil c hb htr p s hs
    have hub := (values_in_unit_interval (hexcfg_binary c hb htr) p).2
    rw [h1] at hle
    exact le_antisymm hub hle

/-- the HiCAT pupil (contour − central segment, × segmentation, × spiders) is representation independent -/
theorem hicat_representation_independent (c : HicatCfg) (hA : WF c.segA) (hB : WF c.segB) (hC : WF c.central)
    (xs ys : List Rat) :
    evalSep c.shape xs ys = evalPts c.shape (sepPoints xs ys) ∧
      evalSep c.shape xs ys = (sepPoints xs ys).map (val c.shape) :=
  ⟨representation_independent _ xs ys (hicat_wf c hA hB hC), evalSep_eq_val _ xs ys (hicat_wf c hA hB hC)⟩

/-- … and so is every returned HiCAT segment (`func(grid) * seg(grid)`) -/
theorem hicat_segment_representation_independent (c : HicatCfg) (hA : WF c.segA) (hB : WF c.segB)
    (hC : WF c.central) : ∀ s ∈ c.segmentShapes, ∀ xs ys, evalSep s xs ys = evalPts s (sepPoints xs ys) := by
  intro s hs xs ys
  obtain ⟨pt, _, rfl⟩ := List.mem_map.mp hs
  exact representation_independent _ xs ys ⟨hicat_wf c hA hB hC, hB, trivial⟩

/-! ## which side of a decision boundary the model takes

Where a maker's decision is exactly representable in floating point (dyadic sizes and centres, axis-aligned) the
harness compares ON the boundary too (`run_exact_boundary`, tolerance 0).  The sides: apertures are **closed**
(`<=`), obstructing spiders are closed as well — so the *transmitted* set of a spider is open —, the half-plane
tests of the VLT quadrants are **strict**. -/

/-- the rectangle is closed: value 1 exactly where `|x − cx| ≤ hx ∧ |y − cy| ≤ hy`, edges and corners included -/
theorem rect_boundary_closed (hx hy cx cy : Rat) (p : Pt) :
    val (.rect hx hy cx cy) p = 1 ↔ |p.1 - cx| ≤ hx ∧ |p.2 - cy| ≤ hy := by
  simp only [val, inRect, b2r_eq_one, Bool.and_eq_true, decide_eq_true_eq, rabs_eq_abs]

/-- the circle is closed: value 1 exactly where `(x − cx)² + (y − cy)² ≤ r²`, the rim included (also `r = 0`:
the centre alone) -/
theorem circle_boundary_closed (r cx cy : Rat) (p : Pt) :
    val (.circle r cx cy) p = 1 ↔ (p.1 - cx) * (p.1 - cx) + (p.2 - cy) * (p.2 - cy) ≤ r * r := by
  simp only [val, inCircle, b2r_eq_one, decide_eq_true_eq]
  rfl

/-- an axis-aligned finite spider (`c = 1, s = 0`) blocks its closed rectangle: transmitted (value 1) exactly
**strictly** outside, i.e. the edges `|y − sy| = hw`, `|x − sx| = hl` are dark -/
theorem spider_boundary_blocked (sx sy hl hw : Rat) (p : Pt) :
    val (.spider sx sy 1 0 hl hw) p = 0 ↔ |p.1 - sx| ≤ hl ∧ |p.2 - sy| ≤ hw := by
  simp only [val, inSpider, one_sub_b2r_eq_zero, Bool.and_eq_true, decide_eq_true_eq, mul_one,
    mul_zero, add_zero, sub_zero, abs_le, ge_iff_le]
  exact ⟨fun ⟨⟨⟨a, b⟩, c⟩, d⟩ => ⟨⟨b, a⟩, d, c⟩, fun ⟨⟨b, a⟩, d, c⟩ => ⟨⟨⟨a, b⟩, c⟩, d⟩⟩

/-- an infinite spider along +x (`angle = 0`; the start point is *added*, as the code has it) blocks the closed
half-strip `x + px ≥ 0`, `|y + py| ≤ hw` -/
theorem spider_infinite_boundary_blocked (px py hw : Rat) (p : Pt) :
    val (.spiderInf px py 1 0 hw) p = 0 ↔ 0 ≤ p.1 + px ∧ |p.2 + py| ≤ hw := by
  simp only [val, inSpiderInf, one_sub_b2r_eq_zero, Bool.and_eq_true, decide_eq_true_eq, mul_one,
    mul_zero, add_zero, sub_zero, abs_le, ge_iff_le]
  exact ⟨fun ⟨⟨a, b⟩, c⟩ => ⟨c, b, a⟩, fun ⟨c, b, a⟩ => ⟨⟨a, b⟩, c⟩⟩

/-- the half-plane tests of the VLT quadrants are strict: a point on the line belongs to neither side -/
theorem halfplane_boundary_open (gt : Bool) (a b c : Rat) (p : Pt) (h : a * p.1 + b * p.2 = c) :
    val (.halfplane gt a b c) p = 0 := by
  have hin : inHalf gt a b c p = false := by
    cases gt <;> exact decide_eq_false (h ▸ lt_irrefl _)
  show b2r (inHalf gt a b c p) = 0
  rw [hin]; rfl

/-! ## the hypotheses are satisfiable -/

example : WF (HexCfg.mk 1 1 (7/16) [.nonzero (.disk 1)] (.regpoly true 1 (7/8) [(1, 0)] 0 0) [1, 1] (some (1/4))
    [(0, 0, 1, 0)] (1/16) true).segment := by
  show (0 : Rat) ≤ 1
  norm_num

example : Binary (HexCfg.mk 1 1 (7/16) [.nonzero (.disk 1)] (.regpoly true 1 (7/8) [(1, 0)] 0 0) [1, 1] (some (1/4))
    [(0, 0, 1, 0)] (1/16) true).segment := Binary.regpoly ..

example : ∀ R, (HexCfg.mk 1 1 (7/16) [] (.regpoly true 1 (7/8) [(1, 0)] 0 0) [1, 1] (some (1/4)) [] 0 true).obs = some R →
    0 ≤ R := by
  intro R h
  simp at h
  rw [← h]; norm_num

example : WF (.seg [((0, 0), 1/2)] (.rot 1 0 (.regpoly true 1 (7/8) [(1, 0), (0, 1)] 0 0))) := by
  show (0 : Rat) ≤ 1
  norm_num

example : Binary (.mul (.sub (.circle 2 0 0) (.circle 1 0 0)) (.mul (.const 1) (.spider 0 0 1 0 1 (1/8)))) :=
  Binary.mul (obstructed_circular_binary (by simp [rabs])) (Binary.mul Binary.const1 (Binary.spider ..))

example : containsPt [(0, 0), (2, 0), (0, 2)] (1/2, 1/2) = true := by decide +kernel

example : ∀ v ∈ [((0 : Rat), (0 : Rat)), (2, 0), (0, 2)], |v.1 - 1| ≤ (1 : Rat) ∧ |v.2 - 1| ≤ (1 : Rat) := by
  intro v hv
  simp at hv
  rcases hv with rfl | rfl | rfl <;> norm_num [abs_le]

example : ∀ t ∈ [(1 : Rat), 1/2, 0], 0 ≤ t ∧ t ≤ 1 := by
  intro t ht
  simp at ht
  rcases ht with rfl | rfl | rfl <;> norm_num

/-! ## concrete segment counts (Model/ApertureTelescopes.lean; finite tables fixed by the makers' constants) -/

/-- **LUVOIR A keeps 120 of the 127 lattice sites** (6 rings; the outer clip at `0.98·D/2` drops the six corners,
the inner circle the central segment) -/
theorem luvoir_a_keeps_120_segments : luvoirAPos.positions.length = 120 := by decide +kernel

/-- **LUVOIR B keeps 55 of the 61 lattice sites** (4 rings; the clip at `0.9·D/2` drops the six corners) -/
theorem luvoir_b_keeps_55_segments : luvoirBPos.positions.length = 55 := by decide +kernel

/-- the concrete configurations are instances of the general pupil model: the positions are those of the `HexCfg`
with the same lattice and criteria, whatever segment shape, transmissions and spiders it has -/
theorem poscfg_positions_eq_hexcfg (p : PosCfg) (c : HexCfg) (hr : c.rings = p.rings) (hp : c.pitch = p.pitch)
    (ha : c.ap = p.ap) (hs : c.sels = p.sels) : c.positions = p.positions := by
  simp [HexCfg.positions, PosCfg.positions, hr, hp, ha, hs]

/-! ## history on one grid object: in-place operations between two evaluations (Model/ApertureHistory.lean) -/

/-- **Every in-place operation moves the physical points by the same geometric map, whatever the representation**:
after `scale / shift / rotate / reverse / weights = …` the points of the object are the transformed points (in
reversed order for `reverse`), on a Cartesian and on a polar object alike. -/
theorem inplace_op_moves_points {o : IOp} {g g' : GObj} (h : o.apply g = some g') :
    g'.points = o.reorder (g.points.map o.onPt) := by
  cases g with
  | cart pts =>
    rw [IOp.apply_cart] at h
    obtain rfl := Option.some.inj h
    rfl
  | polar qs =>
    cases o with
    | scale sx sy =>
      rw [IOp.apply] at h
      split at h
      · rename_i hs
        subst hs
        obtain rfl := Option.some.inj h
        exact map_toCart (toCart_scaleRad sx) qs
      · cases h
    | shift dx dy => cases h
    | rot c s =>
      obtain rfl := Option.some.inj h
      exact map_toCart (toCart_rotDir c s) qs
    | reverse =>
      obtain rfl := Option.some.inj h
      show qs.reverse.map toCart = ((qs.map toCart).map id).reverse
      rw [List.map_id, List.map_reverse]
    | weights => obtain rfl := Option.some.inj h; exact (List.map_id _).symm

/-- **After any history the field is the point predicate at the CURRENT points** (for a polar object: wherever its
radius shortcuts agree with the Cartesian test, `polar_path_eq_inside_float`). -/
theorem inplace_history_values (s : Shape) (ops : List IOp) {g g' : GObj} (_h : runOps ops g = some g')
    (ha : g'.agree s = true) : evalObj s g' = g'.points.map (val s) := by
  cases g' with
  | cart pts => exact evalPts_eq_val s pts
  | polar qs =>
    simp only [GObj.agree, List.all_eq_true] at ha
    exact evalPolar_eq_val_of_agree s qs ha

/-- **The history of the object does not matter**: two objects with the same current points — reached by whatever
in-place operations from whatever grids, Cartesian or polar, in particular a used object and a fresh one
(`ops' = []`) — get the same field. -/
theorem inplace_history_independent (s : Shape) {ops ops' : List IOp} {g0 g0' g g' : GObj}
    (h : runOps ops g0 = some g) (h' : runOps ops' g0' = some g') (hp : g.points = g'.points)
    (ha : g.agree s = true) (ha' : g'.agree s = true) : evalObj s g = evalObj s g' := by
  rw [inplace_history_values s ops h ha, inplace_history_values s ops' h' ha', hp]

/-- **`Grid.reverse()` between two evaluations reverses the field**: the value at point `i` afterwards is the value
that belonged to point `N-1-i` before — the same physical position. -/
theorem inplace_reverse_values (s : Shape) (g : GObj) (ha : g.agree s = true) :
    evalAfter s [.reverse] g = some (evalObj s g).reverse := by
  cases g with
  | cart pts =>
    show some (evalPts s pts.reverse) = some (evalPts s pts).reverse
    rw [evalPts_eq_val, evalPts_eq_val, List.map_reverse]
  | polar qs =>
    simp only [GObj.agree, List.all_eq_true] at ha
    show some (evalPolar s qs.reverse) = some (evalPolar s qs).reverse
    rw [evalPolar_eq_val_of_agree s qs ha,
      evalPolar_eq_val_of_agree s _ fun q hq => ha q (List.mem_reverse.mp hq),
      List.map_reverse, List.map_reverse]

/-- **Assigning the weights between two evaluations changes nothing.** -/
theorem inplace_weights_irrelevant (s : Shape) (ops : List IOp) (g : GObj) :
    evalAfter s (.weights :: ops) g = evalAfter s ops g :=
  rfl

/-- the history composes: evaluating after `ops ++ ops'` is evaluating after `ops'` on the object `ops` produced -/
theorem inplace_history_append (s : Shape) (ops ops' : List IOp) (g : GObj) :
    evalAfter s (ops ++ ops') g = (runOps ops g).bind (evalAfter s ops') := by
  induction ops generalizing g with
  | nil => rfl
  | cons o os ih =>
    show ((o.apply g).bind (runOps (os ++ ops'))).map (evalObj s)
      = ((o.apply g).bind (runOps os)).bind (evalAfter s ops')
    cases o.apply g with
    | none => rfl
    | some g1 => exact ih g1

/-- which histories are defined: on a Cartesian object every one -/
theorem inplace_history_defined_cartesian (ops : List IOp) (pts : List Pt) :
    ∃ pts', runOps ops (.cart pts) = some (.cart pts') ∧ pts'.length = pts.length := by
  induction ops generalizing pts with
  | nil => exact ⟨pts, rfl, rfl⟩
  | cons o os ih =>
    obtain ⟨p, hp, hl⟩ := ih (o.reorder (pts.map o.onPt))
    refine ⟨p, ?_, by rw [hl, IOp.reorder_length, List.length_map]⟩
    rw [runOps, IOp.apply_cart]
    exact hp

example : runOps [.scale 2 2, .rot (3/5) (4/5), .reverse, .weights] (.polar [(1, 1, 0), (2, 0, 1)])
    = some (.polar [(4, -4/5, 3/5), (2, 3/5, 4/5)]) := by decide +kernel

example : (GObj.polar [((2 : Rat), (3/5 : Rat), (4/5 + 1/1000 : Rat)), (1/2, 1, 1/1000)]).agree (.sub (.disk 1) (.disk (1/4))) = true := by
  decide +kernel

example : (IOp.scale 2 3).apply (.polar [(1, 1, 0)]) = none := by decide +kernel

example : ∃ c : HexCfg, c.rings = luvoirAPos.rings ∧ c.pitch = luvoirAPos.pitch ∧ c.ap = luvoirAPos.ap ∧ c.sels = luvoirAPos.sels :=
  ⟨⟨luvoirAPos.rings, luvoirAPos.pitch, luvoirAPos.ap, luvoirAPos.sels, .disk 1, [], none, [], 0, false⟩, rfl, rfl, rfl, rfl⟩

example : ∃ f, supersampled (.circle 1 0 0) 2 2 [0, 1] [0, 1, 2] = .ok f :=
  (supersampled_defined_iff _ 2 2 [0, 1] [0, 1, 2]).mpr (by simp)

example : supersampled (.circle 1 0 0) 0 2 [0, 1] [0, 1, 2] = .error .zeroDiv :=
  ((supersampled_error_kinds _ 0 2 [0, 1] [0, 1, 2]).2).mpr (by simp)

example : PolarWF (.mul (.sub (.disk 2) (.disk 1)) (.rot (3/5) (4/5) (.compl (.disk (1/2))))) :=
  ⟨⟨show (0 : Rat) ≤ 2 by norm_num, show (0 : Rat) ≤ 1 by norm_num⟩,
    show (3/5 : Rat) * (3/5) + (4/5) * (4/5) = 1 by norm_num, show (0 : Rat) ≤ 1/2 by norm_num⟩

example : ∀ q ∈ [((0 : Rat), (1 : Rat), (0 : Rat)), (2, 3/5, -4/5)], PolarPt q := by
  intro q hq
  simp at hq
  rcases hq with rfl | rfl <;> exact ⟨by norm_num, by norm_num⟩

example : ∃ f, supersampledStat .max (.circle 1 0 0) 2 1 [0, 1] [0, 1, 2] = .ok f :=
  (supersampled_statistic_defined_iff .max _ 2 1 [0, 1] [0, 1, 2]).mpr (by simp)

example : ∀ q ∈ [((2 : Rat), (3/5 : Rat), (4/5 + 1/1000 : Rat)), (1/2, 1, 1/1000)],
    diskAgree (.sub (.disk 1) (.disk (1/4))) q = true := by decide +kernel

example : |(3/5 : Rat) * (3/5) + (4/5 + 1/1000) * (4/5 + 1/1000) - 1| ≤ 1/500 ∧
    (1/500 : Rat) * sq 2 < |sq 2 - sq 1| := by
  unfold sq; constructor <;> norm_num [abs_le, abs_of_pos]

example : ∃ fs, supersampledList .min 2 1 [0, 1] [0, 1, 2] [.circle 1 0 0, .disk 2] = .ok fs := by
  obtain ⟨f, hf⟩ := (supersampled_statistic_defined_iff .min (.circle 1 0 0) 2 1 [0, 1] [0, 1, 2]).mpr (by simp)
  obtain ⟨g, hg⟩ := (supersampled_statistic_defined_iff .min (.disk 2) 2 1 [0, 1] [0, 1, 2]).mpr (by simp)
  exact ⟨[f, g], (supersampled_list_ok_iff _ _ _ _ _ (by simp) _).mpr (List.Forall₂.cons hf (List.Forall₂.cons hg List.Forall₂.nil))⟩

example : (vltSegment 3 (vltLines [((-1, -1), (-4, 0)), ((-1, -1), (0, -4)), ((1, 1), (4, 0)), ((1, 1), (0, 4))])
    (vltShape 4 (1/2) [] none) none).isSome = true := by decide +kernel

example : ∀ t ∈ [(1 : Rat), 1, 1], t = 1 := by simp

example : (regpolySub true 1 (7/8) [(1, 0)] [5, 0, 7] [0]).isSome = true := by decide +kernel

example : regpolySub true 1 (7/8) [(1, 0)] [5] [0] = none := by decide +kernel

end HcipyVerif.Aperture
