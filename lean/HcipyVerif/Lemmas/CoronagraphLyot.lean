import HcipyVerif.Lemmas.CoronagraphMat

/-!
`lyotForward` without a stop is `rejectF B F (1 − mask)`; `forward` is definitionally `backward` with `cj = id`.
-/
namespace HcipyVerif.Coronagraph
open Matrix

section Lyot
variable {K : Type} [CommRing K] {m n : ℕ}

theorem dotProduct_mul_left (g u w : Fin m → K) : u ⬝ᵥ (g * w) = (g * u) ⬝ᵥ w :=
  Finset.sum_congr rfl fun k _ => by simp only [Pi.mul_apply]; ring

theorem rejectF_adjoint (cj : K →+* K) (hinv : ∀ a, cj (cj a) = a)
    (f : Matrix (Fin m) (Fin n) K) (b : Matrix (Fin n) (Fin m) K) (hb : ∀ i k, b i k = cj (f k i))
    (g : Fin m → K) (x y : Fin n → K) :
    (cj ∘ y) ⬝ᵥ rejectF b f g x = (cj ∘ rejectF b f (cj ∘ g) y) ⬝ᵥ x := by
  have hB : ∀ v : Fin m → K, cj ∘ (b *ᵥ v) = (cj ∘ v) ᵥ* f := fun v => funext fun i => by
    simp only [Function.comp, mulVec, vecMul, dotProduct, map_sum, map_mul, hb, hinv]
    exact Finset.sum_congr rfl fun k _ => mul_comm _ _
  have hF : cj ∘ (f *ᵥ y) = (cj ∘ y) ᵥ* b := funext fun k => by
    simp only [Function.comp, mulVec, vecMul, dotProduct, map_sum, map_mul, hb]
    exact Finset.sum_congr rfl fun j _ => mul_comm _ _
  have hsub : ∀ u v : Fin n → K, cj ∘ (u - v) = cj ∘ u - cj ∘ v := fun u v => funext fun i => map_sub cj _ _
  have hmul : ∀ w : Fin m → K, cj ∘ (cj ∘ g * w) = g * cj ∘ w := fun w => funext fun k => by
    simp only [Function.comp, Pi.mul_apply, map_mul, hinv]
  unfold rejectF
  rw [hsub, hB, hmul, hF, dotProduct_sub, sub_dotProduct, dotProduct_mulVec, ← dotProduct_mulVec _ f,
    dotProduct_mul_left]

theorem toFn_lyotBackward_none (cj : K → K) (F : Vector (Vector K n) m) (B : Vector (Vector K m) n)
    (mask : Vector K m) (y : Vector K n) :
    toFn (lyotBackward cj F B mask none y) = rejectF (toFn2 B) (toFn2 F) (1 - cj ∘ toFn mask) (toFn y) := by
  show toFn (Vector.ofFn (toFn y -
    toFn (matVec B (Vector.ofFn (toFn (matVec F y) - toFn (matVec F y) * cj ∘ toFn mask))))) = _
  rw [toFn_ofFn, toFn_matVec, toFn_ofFn, toFn_matVec, rejectF, sub_mul, one_mul, mul_comm (cj ∘ toFn mask)]

theorem toFn_lyotForward_none (F : Vector (Vector K n) m) (B : Vector (Vector K m) n) (mask : Vector K m)
    (x : Vector K n) :
    toFn (lyotForward F B mask none x) = rejectF (toFn2 B) (toFn2 F) (1 - toFn mask) (toFn x) :=
  toFn_lyotBackward_none id F B mask x

theorem lyotForward_some (F : Vector (Vector K n) m) (B : Vector (Vector K m) n) (mask : Vector K m)
    (s x : Vector K n) :
    lyotForward F B mask (some s) x = Vector.ofFn (toFn (lyotForward F B mask none x) * toFn s) := rfl

theorem lyotBackward_some (cj : K → K) (F : Vector (Vector K n) m) (B : Vector (Vector K m) n)
    (mask : Vector K m) (s y : Vector K n) :
    lyotBackward cj F B mask (some s) y =
      lyotBackward cj F B mask none (Vector.ofFn (toFn y * cj ∘ toFn s)) := rfl

theorem cdot_eq (cj : K → K) (u v : Vector K n) : cdot cj u v = (cj ∘ toFn u) ⬝ᵥ toFn v :=
  foldl_eq_sum n fun i => cj (toFn u i) * toFn v i

end Lyot
end HcipyVerif.Coronagraph
