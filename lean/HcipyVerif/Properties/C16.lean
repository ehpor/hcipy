import HcipyVerif.Model.Serial
import HcipyVerif.Lemmas.Serial

/-!
# C16 — writing then reading a grid, field or mode basis returns an equal object

Property theorems over the model `HcipyVerif.Serial` (see `Model/Serial.lean` for what is
modelled).  Hypotheses used throughout:

* `knownSystem g.system` — the grid's class is registered in `Grid._coordinate_systems`
  (`CartesianGrid`, `PolarGrid` and, after the repair of D161, the base `Grid`).  This is **not** an
  invariant of writable objects: `grid_file_readable_iff` states, at top level, that a grid that can
  be written can be read back *iff* its system is registered (a user subclass that never called
  `Grid._add_coordinate_system` is written but not readable; explicit assumption of the harness);
* `Coords.WellFormed` — `delta` and `zero` of regular coordinates are what `ndarray.tolist()`
  yields: all Python ints or all Python floats.
-/

namespace HcipyVerif.Serial

/-- `delta`, `zero` of regular coordinates come from one NumPy array each. -/
def Coords.WellFormed : Coords → Prop
  | .regular d _ z => Homogeneous d ∧ Homogeneous z
  | _ => True

def Grid.Ok (g : Grid) : Prop := knownSystem g.system = true ∧ g.coords.WellFormed

/-! ## row-major index maps: `reshape` is the identity on C-order data -/

/-- `np.ravel_multi_index(np.unravel_index(k, s), s) = k` for every shape and every flat index. -/
theorem ravel_unravel (s : List Nat) (k : Nat) (h : k < prod s) : ravel s (unravel s k) = k := by
  induction s generalizing k with
  | nil => exact (Nat.lt_one_iff.1 h).symm
  | cons n s ih =>
    rw [unravel, ravel, ih _ (ListFacts.flat_surj h).2.1]
    exact Nat.div_add_mod' k (prod s)

/-- `np.unravel_index(np.ravel_multi_index(idx, s), s) = idx` for every valid multi-index. -/
theorem unravel_ravel (s idx : List Nat) (h : InBounds idx s) : unravel s (ravel s idx) = idx := by
  induction inBounds_iff.1 h with
  | nil => rfl
  | cons hi _ ih =>
    have hr := ravel_lt _ _ h.2
    rw [ravel, unravel, ListFacts.flat_div hr, Nat.mul_add_mod_of_lt hr, ih h.2]

theorem unravel_in_bounds (s : List Nat) (k : Nat) (h : k < prod s) : InBounds (unravel s k) s := by
  induction s generalizing k with
  | nil => trivial
  | cons n s ih => exact ⟨(ListFacts.flat_surj h).1, ih _ (ListFacts.flat_surj h).2.1⟩

/-- `np.ravel_multi_index` / `np.unravel_index` *with their checks* (the maps the driver runs and the
harness compares with NumPy, refusals included): an index is accepted exactly when it is `InBounds`,
a flat index exactly when it is below the size — the hypotheses of the two theorems above are what
NumPy checks — and on what is accepted the two are inverse to each other. -/
theorem ravel_checked_inverse (s : List Nat) :
    (∀ idx, (ravelChecked s idx).toBool = true ↔ InBounds idx s) ∧
    (∀ k, (unravelChecked s k).toBool = true ↔ k < prod s) ∧
    (∀ k, k < prod s → (unravelChecked s k).bind (ravelChecked s) = .ok k) ∧
    (∀ idx, InBounds idx s → (ravelChecked s idx).bind (unravelChecked s) = .ok idx) := by
  refine ⟨fun idx => ?_, fun k => ?_, fun k hk => ?_, fun idx hi => ?_⟩
  · by_cases h : InBounds idx s <;> simp [ravelChecked, h, Except.toBool]
  · by_cases h : k < prod s <;> simp [unravelChecked, h, Except.toBool]
  · simp [unravelChecked, ravelChecked, hk, Except.bind, unravel_in_bounds s k hk, ravel_unravel s k hk]
  · simp [unravelChecked, ravelChecked, hi, Except.bind, ravel_lt s idx hi, unravel_ravel s idx hi]

example : InBounds [1, 2] [2, 3] ∧ ¬ InBounds [2, 0] [2, 3] ∧ ¬ InBounds [1] [2, 3] := by decide

/-- Element `idx` of `a.reshape(s)` is the element of `a` with the same row-major rank, for every
pair of shapes. -/
theorem reshape_at (a b : Arr) (s idx : List Nat) (h : a.reshape s = .ok b) (hi : InBounds idx s) :
    b.at idx = a.at (unravel a.shape (ravel s idx)) := by
  unfold Arr.reshape at h
  split at h
  · rename_i hp
    injection h with h
    subst h
    have : ravel s idx < prod a.shape := hp ▸ ravel_lt s idx hi
    simp [Arr.at, ravel_unravel a.shape _ this]
  · cases h

/-- Reshaping to any shape of the same size and back is the identity (all tensor and grid
shapes). -/
theorem reshape_roundtrip (a : Arr) (s : List Nat) (h : prod s = prod a.shape) :
    (a.reshape s).bind (fun b => b.reshape a.shape) = .ok a := by
  simp [Arr.reshape, h, Except.bind]

example : prod [2, 3] = prod [3, 2] := by decide

/-- `.T.T = id`: reversing all axes twice is the identity on C-order data, for every shape. -/
theorem transposeAll_transposeAll (dt : String) (s : List Nat) (d : List Rat)
    (hd : d.length = prod s) :
    (Arr.transposeAll ⟨dt, s.reverse, (Arr.transposeAll ⟨dt, s, d⟩).data⟩).data = d := by
  simp only [Arr.transposeAll, List.reverse_reverse]
  refine map_range_eq_self d _ hd _ fun k hk => ?_
  have hbr := InBounds_reverse _ _ (unravel_in_bounds s k hk)
  rw [ListFacts.getD_map_range _ (ravel_lt _ _ hbr), unravel_ravel _ _ hbr, List.reverse_reverse,
    ravel_unravel s k hk]

/-- Transposing an `r × c` matrix twice is the identity on its C-order data. -/
theorem transpose_transpose (r c : Nat) (d : List Rat) (h : d.length = r * c) :
    transposeFlat c r (transposeFlat r c d) = d := by
  rw [transposeFlat_eq_transposeAll "", transposeFlat_eq_transposeAll "" r c]
  exact transposeAll_transposeAll "" [r, c] d (by simp [prod, h])

example : ([1, 2, 3, 4, 5, 6] : List Rat).length = 2 * 3 := by decide

/-- `np.moveaxis(np.moveaxis(a, -1, 0), 0, -1) = a` for every shape of at least one axis. -/
theorem moveaxis_roundtrip (a : Arr) (hs : a.shape ≠ []) (hd : a.data.length = prod a.shape) :
    a.moveLastToFront.moveFirstToLast = a := by
  obtain ⟨dtype, shape, data⟩ := a
  simp only at hs hd
  rcases List.eq_nil_or_concat shape with h0 | ⟨pre, m, rfl⟩
  · exact absurd h0 hs
  · rw [List.concat_eq_append] at hd ⊢
    have hlen : data.length = prod pre * m := by rw [hd, prod_append, prod_singleton]
    simp [Arr.moveLastToFront, Arr.moveFirstToLast, transpose_transpose _ _ _ hlen]

example : (⟨"f8", [2, 3], [1, 2, 3, 4, 5, 6]⟩ : Arr).data.length = prod [2, 3] := by decide

theorem coords_dict_roundtrip (c : Coords) (h : c.WellFormed) :
    Coords.fromDict c.toDict = .ok c := by
  cases c with
  | regular d n z =>
    obtain ⟨hd, hz⟩ := h
    simp [Coords.toDict, Coords.fromDict, asList, bind, Except.bind,
      coerce_of_homogeneous _ hd, coerce_of_homogeneous _ hz]
  | separated ax | unstructured ax =>
    simp [Coords.toDict, Coords.fromDict, asList, bind, Except.bind]

example : (Coords.regular [.float (1/2), .float (1/4)] [4, 3] [.int 0, .int 1]).WellFormed :=
  ⟨.inr rfl, .inl rfl⟩

/-- `Grid.from_dict(g.to_dict())` is `g`: coordinate system, coordinates (storage kind included)
and weights (`None`, scalar, list or array exactly as stored). -/
theorem grid_dict_roundtrip (g : Grid) (h : g.Ok) : Grid.fromDict g.toDict = .ok g :=
  (Grid.fromDict_toDict g (coords_dict_roundtrip _ h.2)).trans (if_pos h.1)

example : (⟨.polar, .separated [⟨"f8", [2], [0, 1]⟩, ⟨"f8", [3], [0, 1, 3]⟩], .null⟩ : Grid).Ok :=
  ⟨rfl, trivial⟩

example : (⟨.noneSys, .regular [.float 1] [3] [.float 0], .null⟩ : Grid).Ok :=
  ⟨rfl, .inr rfl, .inr rfl⟩

/-- A grid whose coordinate system is not registered in `Grid._coordinate_systems` has a dictionary
form that `from_dict` rejects with `KeyError`. -/
theorem unregistered_grid_not_readable (g : Grid) (hs : knownSystem g.system = false)
    (hc : g.coords.WellFormed) : Grid.fromDict g.toDict = .error .key := by
  rw [Grid.fromDict_toDict g (coords_dict_roundtrip _ hc), hs]
  rfl

example : knownSystem (⟨.other, .regular [.float 1] [3] [.float 0], .null⟩ : Grid).system = false := rfl

/-- The dictionary form of a grid is readable exactly when its coordinate system is registered. -/
theorem grid_dict_readable_iff (g : Grid) (hc : g.coords.WellFormed) :
    (Grid.fromDict g.toDict).toBool = true ↔ knownSystem g.system = true := by
  rw [Grid.fromDict_toDict g (coords_dict_roundtrip _ hc)]
  cases knownSystem g.system <;> exact Iff.rfl

theorem field_dict_roundtrip (f : Field) (h : f.grid.Ok) : Field.fromDict f.toDict = .ok f := by
  obtain ⟨v, g⟩ := f
  simp [Field.toDict, Field.fromDict, asArr, bind, Except.bind, grid_dict_roundtrip g h]

/-- `Field.__getstate__` / `__setstate__` (pickle, deepcopy) reproduce the field for every tensor
shape and for both memory layouts `ndarray.__reduce__` distinguishes: C-ordered (incl. strided
views) and Fortran-ordered data (`Field(xy.T, grid)`). -/
theorem field_pickle_roundtrip (f : Field) (l : Layout)
    (h : f.values.data.length = prod f.values.shape) : Field.setState (f.getState l) = f := by
  obtain ⟨⟨dt, s, d⟩, g⟩ := f
  cases l with
  | c => rfl
  | f => simp [Field.getState, Field.setState, Arr.raw, transposeAll_transposeAll dt s d h]

example : (⟨"f8", [2, 3], [1, 2, 3, 4, 5, 6]⟩ : Arr).data.length = prod [2, 3] := by decide

def exGridPickle : Grid := ⟨.cartesian, .regular [.float 1] [3] [.float 0], .null⟩

/-- The seeded class: a `__getstate__` that sets the Fortran flag from the memory layout but emits
C-order bytes returns, for the Fortran-ordered vector field `[[1,2,3],[4,5,6]]`, a field of the
right shape, dtype and grid with permuted values; C-ordered data is unaffected. -/
theorem field_pickle_bad_counterexample :
    (Field.setState (Field.getStateBad ⟨⟨"f8", [2, 3], [1, 2, 3, 4, 5, 6]⟩, exGridPickle⟩ .f)).values
      = ⟨"f8", [2, 3], [1, 3, 5, 2, 4, 6]⟩ ∧
    ∀ f : Field, Field.setState (f.getStateBad .c) = f := by
  constructor
  · decide +kernel
  · intro f; rfl

theorem csc_dict_roundtrip (c : Csc) : Csc.fromDict c.toDict = .ok c := by
  obtain ⟨d, i, p, s⟩ := c
  simp [Csc.toDict, Csc.fromDict, asArr, asList, bind, Except.bind]

/-- `ModeBasis.from_dict(b.to_dict())` is `b`, dense stays dense and CSC stays CSC with the very
same `data`, `indices`, `indptr`. -/
theorem modebasis_dict_roundtrip (b : ModeBasis) (g : Grid) (hg : b.grid = some g) (h : g.Ok) :
    b.toDict.bind (fun t => ModeBasis.fromDict t) = .ok b := by
  obtain ⟨tm, og⟩ := b
  cases hg
  cases tm with
  | dense a =>
    simp [ModeBasis.toDict, ModeBasis.fromDict, ModeBasis.isSparse, ModeBasis.toDense, bind, Except.bind,
      Except.map, grid_dict_roundtrip g h]
  | sparse c =>
    have hc := csc_dict_roundtrip c
    simp only [Csc.toDict] at hc
    simp [ModeBasis.toDict, ModeBasis.fromDict, ModeBasis.isSparse, ModeBasis.toSparse, bind, Except.bind,
      Except.map, grid_dict_roundtrip g h, Csc.toDict, hc]

/-- sparse-or-dense storage is preserved by the dictionary round trip -/
theorem modebasis_dict_roundtrip_kind (b b' : ModeBasis) (g : Grid) (hg : b.grid = some g)
    (h : g.Ok) (hb : b.toDict.bind (fun t => ModeBasis.fromDict t) = .ok b') :
    b'.isSparse = b.isSparse := by
  rw [modebasis_dict_roundtrip b g hg h] at hb
  injection hb with hb
  rw [hb]

/-- A mode basis without grid has no dictionary form (`AttributeError`), hence cannot be written
by `write_mode_basis` in any format. -/
theorem modebasis_without_grid_has_no_dict (b : ModeBasis) (h : b.grid = none) :
    b.toDict = .error .attr := by
  simp [ModeBasis.toDict, h]

/-! ## writing never alters the object

The object is the state of a `StateM` program (`Model/Serial.lean`, "object state"): `_weights` is
lazily materialised by the *property* `grid.weights`, so a `to_dict` that read the property instead
of the attribute would change the object being written (`to_dict_bad_alters`).  The driver op
`todict-st` runs these very programs; the harness compares `_weights is None` before / after each
real `to_dict` and each real write with them. -/

/-- Frame lemma for grids: a `to_dict` preserves the grid as soon as its way of obtaining the
weights does. -/
theorem grid_to_dict_frame (getW : StateM Grid Tree) (h : ∀ g, (getW.run g).2 = g) (g : Grid) :
    ((Grid.toDictMWith getW).run g).2 = g := h g

/-- Frame lemma: whatever `to_dict` the grid has, if it preserves grids then `Field.to_dict` and
`ModeBasis.to_dict` preserve the field / the basis. -/
theorem field_to_dict_frame (gd : StateM Grid Tree) (hgd : ∀ g, (gd.run g).2 = g) (f : Field) :
    ((Field.toDictMWith gd).run f).2 = f := by
  obtain ⟨v, g⟩ := f
  exact congrArg (Field.mk v) (hgd g)

theorem basis_to_dict_frame (gd : StateM Grid Tree) (hgd : ∀ g, (gd.run g).2 = g) (b : ModeBasis) :
    ((ModeBasis.toDictMWith gd).run b).2 = b := by
  obtain ⟨tm, og⟩ := b
  cases og with
  | none => rfl
  | some g => exact congrArg (fun g' => ModeBasis.mk tm (some g')) (hgd g)

/-- **Writing never alters the object** (dictionary form): grid, field and mode basis are, after
`to_dict`, what they were before, and the tree is the one the pure `toDict` describes. -/
theorem to_dict_preserves (g : Grid) (f : Field) (b : ModeBasis) :
    Grid.toDictM.run g = (g.toDict, g) ∧ Field.toDictM.run f = (f.toDict, f) ∧
    ModeBasis.toDictM.run b = (b.toDict, b) := by
  refine ⟨rfl, rfl, ?_⟩
  obtain ⟨tm, og⟩ := b
  cases og <;> rfl

/-- **Writing never alters the object** (files): `write_grid` (asdf / fits), `write_field(fits)` and
`write_mode_basis(fits)` leave the object as it was and write what the pure writers describe,
whether or not the write is refused. -/
theorem write_preserves (lib : AsdfLib) (g : Grid) (f : Field) (b : ModeBasis) :
    (writeGridM Grid.toDictM lib).run g = (writeGridFits lib g, g) ∧
    (writeFieldFitsM Grid.toDictM).run f = (writeFieldFits f, f) ∧
    (writeBasisFitsM Grid.toDictM).run b = (writeBasisFits b, b) := by
  refine ⟨rfl, rfl, ?_⟩
  obtain ⟨tm, og⟩ := b
  cases og <;> rfl

/-- The property `grid.weights` stores what it computes: afterwards `_weights` is not `None`. -/
theorem weights_property_materialises (auto : AutoWeights) (g : Grid) :
    (((Grid.weightsProperty auto).run g).2).weights.isNull = false := by
  simp only [Grid.weightsProperty, StateT.run]
  split
  · split
    · rfl
    · exact Bool.of_not_eq_true ‹_›
  · exact Bool.of_not_eq_true ‹_›

/-- The model can express a violation: a `to_dict` that reads the property `weights` alters
**every** grid whose weights were not yet materialised (and no other), whatever the automatic
weights of its class are; the alteration propagates to a field on that grid. -/
theorem to_dict_bad_alters (auto : AutoWeights) (g : Grid) :
    (((Grid.toDictMBad auto).run g).2 ≠ g ↔ g.weights.isNull = true) ∧
    (g.weights.isNull = true → ∀ v, ((Field.toDictMWith (Grid.toDictMBad auto)).run ⟨v, g⟩).2 ≠ ⟨v, g⟩) := by
  have hstate : ((Grid.toDictMBad auto).run g).2 = ((Grid.weightsProperty auto).run g).2 := rfl
  have hiff : ((Grid.toDictMBad auto).run g).2 ≠ g ↔ g.weights.isNull = true := by
    constructor
    · intro hne
      by_contra hw
      exact hne (by rw [hstate]; simp only [Grid.weightsProperty, StateT.run, if_neg hw])
    · intro hw heq
      have hmat := weights_property_materialises auto g
      rw [← hstate, heq, hw] at hmat
      cases hmat
  exact ⟨hiff, fun hw v heq => hiff.2 hw (congrArg Field.grid heq)⟩

example : (⟨.cartesian, .regular [.float 1] [3] [.float 0], .null⟩ : Grid).weights.isNull = true := rfl

/-- **Fields through FITS.**  For every tensor shape `ts`, every grid kind and every grid shape:
whenever `write_field` can write the file, `read_field` returns the field that was written
(values, tensor shape, grid).  Separated grids travel as an image of shape `ts ++ grid.shape`,
the others inside the embedded tree. -/
theorem fits_field_roundtrip (f : Field) (ts : List Nat) (h : f.grid.Ok)
    (hnd : 0 < f.grid.coords.ndim)
    (hshape : f.values.shape = ts ++ [f.grid.coords.size]) (file : FitsFile)
    (hw : writeFieldFits f = .ok file) : readFieldFits file = .ok f := by
  rw [writeFieldFits_eq f ts hshape] at hw
  split at hw
  · rename_i hsep
    split at hw
    · cases hw
      -- the image has shape `ts ++ grid.shape`; the reader flattens the last `ndim` axes again
      obtain ⟨⟨dt, sh, data⟩, g⟩ := f
      simp only at hshape
      subst hshape
      have ht := pyDropLast_append ts g.coords.shape g.coords.ndim (Coords.shape_length g.coords hsep) hnd
      simp [readFieldFits, Field.toDict, grid_dict_roundtrip g h, bind, Except.bind, Arr.reshape, ht,
        prod_append_shape ts _ hsep, Field.fromDict, asArr]
    · cases hw
  · cases hw
    exact field_dict_roundtrip _ h

example : (⟨⟨"f8", [2, 4], [1, 2, 3, 4, 5, 6, 7, 8]⟩,
    ⟨.cartesian, .unstructured [⟨"f8", [4], [0, 1, 3, 4]⟩, ⟨"f8", [4], [0, 2, 5, 7]⟩], .null⟩⟩ : Field).values.shape
    = [2] ++ [(Coords.unstructured [⟨"f8", [4], [0, 1, 3, 4]⟩, ⟨"f8", [4], [0, 2, 5, 7]⟩]).size] := by decide

/-! Witnesses of the **image branch** (separated grids; the example above is the tree branch): a
vector field on a regular 3 × 2 grid and a (2, 1) tensor field on a separated polar grid satisfy
the hypotheses, are written as images of shape `tensor shape ++ grid.shape`, and come back equal. -/

def exGridReg2 : Grid := ⟨.cartesian, .regular [.float 1, .float 1] [3, 2] [.float 0, .float 0], .null⟩
def exGridSep : Grid := ⟨.polar, .separated [⟨"f8", [3], [0, 1, 3]⟩, ⟨"f8", [2], [0, 2]⟩], .arr ⟨"f8", [6], [1, 2, 3, 4, 5, 6]⟩⟩
def exFieldImage : Field := ⟨⟨"f8", [2, 6], [1, 2, 3, 4, 5, 6, 7, 8, 9, 10, 11, 12]⟩, exGridReg2⟩
def exTensorImage : Field := ⟨⟨"i4", [2, 1, 6], [1, 2, 3, 4, 5, 6, 7, 8, 9, 10, 11, 12]⟩, exGridSep⟩

example : exFieldImage.grid.Ok ∧ 0 < exFieldImage.grid.coords.ndim ∧
    exFieldImage.values.shape = [2] ++ [exFieldImage.grid.coords.size] :=
  ⟨⟨rfl, .inr rfl, .inr rfl⟩, by decide, by decide⟩

example : exTensorImage.grid.Ok ∧ 0 < exTensorImage.grid.coords.ndim ∧
    exTensorImage.values.shape = [2, 1] ++ [exTensorImage.grid.coords.size] :=
  ⟨⟨rfl, trivial⟩, by decide, by decide⟩

example : (writeFieldFits exFieldImage).map (fun file => file.image.map (·.shape)) = .ok (some [2, 2, 3]) ∧
    ((writeFieldFits exFieldImage).bind readFieldFits).map (·.values) = .ok exFieldImage.values := by
  decide +kernel

example : (writeFieldFits exTensorImage).map (fun file => file.image.map (·.shape)) = .ok (some [2, 1, 2, 3]) ∧
    ((writeFieldFits exTensorImage).bind readFieldFits).map (·.values) = .ok exTensorImage.values := by
  decide +kernel

/-- `shape[:-grid.ndim]` is modelled literally (`pyDropLast`): for a zero-dimensional separated grid
it is `shape[:0] = ()`, and a scalar field on such a grid (the one case the real code writes) comes
back as written.  For `ndim = 0` and a non-empty tensor shape the real writer raises, the model's
does not: that is what `hnd` excludes. -/
example : ((writeFieldFits ⟨⟨"f8", [1], [5]⟩, ⟨.cartesian, .separated [], .null⟩⟩).bind readFieldFits).map
    (·.values) = .ok ⟨"f8", [1], [5]⟩ := by decide +kernel

/-- **Dense mode bases through FITS** (after the repair of D160).  For every tensor shape `ts`,
number of modes `m` and grid: whenever `write_mode_basis` can write the file, `read_mode_basis`
returns the basis that was written.  On separated grids the matrix travels as an image with axes
(mode, tensor…, grid…). -/
theorem fits_basis_dense_roundtrip (b : ModeBasis) (a : Arr) (g : Grid) (ts : List Nat) (m : Nat)
    (htm : b.tm = .dense a) (hg : b.grid = some g) (h : g.Ok) (hnd : 0 < g.coords.ndim)
    (hshape : a.shape = ts ++ [g.coords.size, m]) (hdata : a.data.length = prod a.shape)
    (file : FitsFile) (hw : writeBasisFits b = .ok file) : readBasisFits file = .ok b := by
  obtain ⟨tm, og⟩ := b
  cases htm
  cases hg
  rcases writeBasisFits_ok ⟨.dense a, some g⟩ g _ rfl rfl ts m hshape file hw with rfl | ⟨rfl, hsep⟩
  · exact of_bind_eq (modebasis_dict_roundtrip ⟨.dense a, some g⟩ g rfl h) rfl
  · exact readBasisFits_image g (grid_dict_roundtrip g h) hsep hnd a ts m hshape _
      (transpose_transpose _ m a.data (hdata.trans (hshape ▸ prod_append_pair ..))) _ false

/-- witness of the image branch for a dense tensor basis: hypotheses hold, the image has axes
(mode, tensor, grid) -/
example : (⟨.cartesian, .regular [.float 1] [2] [.float 0], .null⟩ : Grid).Ok ∧
    (writeBasisFits ⟨.dense ⟨"f8", [2, 2, 3], [1, 2, 3, 4, 5, 6, 7, 8, 9, 10, 11, 12]⟩,
      some ⟨.cartesian, .regular [.float 1] [2] [.float 0], .null⟩⟩).map
      (fun file => file.image.map (·.shape)) = .ok (some [3, 2, 2]) :=
  ⟨⟨rfl, .inr rfl, .inr rfl⟩, by decide +kernel⟩

/-- Reading a sparse basis back from FITS gives either the very same CSC matrix (tree path) or
the re-sparsified dense image `csc_matrix(c.todense())` (image path, after the repair of D14). -/
theorem fits_basis_sparse_read (b : ModeBasis) (c : Csc) (g : Grid) (m : Nat)
    (htm : b.tm = .sparse c) (hg : b.grid = some g) (h : g.Ok) (hnd : 0 < g.coords.ndim)
    (hshape : c.shape = [g.coords.size, m])
    (file : FitsFile) (hw : writeBasisFits b = .ok file) :
    readBasisFits file = .ok b ∨
    readBasisFits file = .ok ⟨.sparse (denseToCsc (cscToDense c)), some g⟩ := by
  obtain ⟨tm, og⟩ := b
  cases htm
  cases hg
  obtain ⟨hAs, hAd⟩ := cscToDense_shape c _ _ hshape
  rcases writeBasisFits_ok ⟨.sparse c, some g⟩ g _ rfl rfl [] m hAs file hw with rfl | ⟨rfl, hsep⟩
  · exact .inl (of_bind_eq (modebasis_dict_roundtrip ⟨.sparse c, some g⟩ g rfl h) rfl)
  · exact .inr (readBasisFits_image g (grid_dict_roundtrip g h) hsep hnd (cscToDense c) [] m hAs _
      (transpose_transpose (prod [g.coords.size]) m _ (hAd.trans (by simp [prod]))) _ true)

/-- `to_sparse()` followed by `to_dense()` returns the matrix it started from, for every `n × m`
matrix (explicit zeros are dropped from the CSC structure, never values). -/
theorem csc_dense_roundtrip (dt : String) (n m : Nat) (d : List Rat) (hd : d.length = n * m) :
    cscToDense (denseToCsc ⟨dt, [n, m], d⟩) = ⟨dt, [n, m], d⟩ :=
  cscToDense_denseToCsc dt n m d hd

example : ([1, 0, 3, 4, 5, 0] : List Rat).length = 2 * 3 := by decide

/-- **Sparse mode bases through FITS** (after the repair of D14).  Whenever the file can be written
it can be read, and the basis read is sparse, on the same grid, with the same matrix values
(`todense()` equal; on the image path explicit zeros, duplicates and index order of the CSC
structure are normalised by SciPy, which the property allows). -/
theorem fits_basis_sparse_roundtrip (b : ModeBasis) (c : Csc) (g : Grid) (m : Nat)
    (htm : b.tm = .sparse c) (hg : b.grid = some g) (h : g.Ok) (hnd : 0 < g.coords.ndim)
    (hshape : c.shape = [g.coords.size, m])
    (file : FitsFile) (hw : writeBasisFits b = .ok file) :
    ∃ b', readBasisFits file = .ok b' ∧ b'.isSparse = true ∧ b'.grid = b.grid ∧
      b'.denseArr = b.denseArr := by
  rcases fits_basis_sparse_read b c g m htm hg h hnd hshape file hw with hr | hr
  · exact ⟨b, hr, by simp [ModeBasis.isSparse, htm], rfl, rfl⟩
  · refine ⟨_, hr, rfl, hg.symm, ?_⟩
    simp only [ModeBasis.denseArr, htm]
    exact (denseToCsc_cscToDense c _ _ hshape).2

/-! ## which objects can be written to FITS (the guard "whenever it can be written" made explicit) -/

/-- **Which fields `write_field` can write to FITS**: every field on a grid that is not separated
(the values travel in the tree), and on a separated grid exactly the dtypes astropy takes for an
image HDU (`fitsDtypeOk`; `bool`, `complex`, `float16` are refused with `KeyError`).  The write status
`w=` of every real `write_field(…fits / fits.gz)` is compared with `writeFieldFits`. -/
theorem fits_field_writable_iff (f : Field) (ts : List Nat)
    (hshape : f.values.shape = ts ++ [f.grid.coords.size]) :
    ((writeFieldFits f).toBool = true ↔
      (f.grid.coords.isSeparated = false ∨ fitsDtypeOk f.values.dtype = true)) ∧
    ((writeFieldFits f).toBool = false → writeFieldFits f = .error .key) := by
  rw [writeFieldFits_eq f ts hshape]
  cases f.grid.coords.isSeparated <;> cases fitsDtypeOk f.values.dtype <;> simp [Except.toBool]

example : (writeFieldFits ⟨⟨"c16", [6], [1, 2, 3, 4, 5, 6]⟩, exGridReg2⟩).map (fun _ => ()) = .error .key ∧
    (writeFieldFits ⟨⟨"c16", [4], [1, 2, 3, 4]⟩,
      ⟨.cartesian, .unstructured [⟨"f8", [4], [0, 1, 3, 4]⟩], .null⟩⟩).toBool = true := by
  decide +kernel

/-- **Fields through FITS, without the hypothesis "could be written"**: for every field whose
dtype is accepted (or whose grid is not separated) the file is written *and* read back equal. -/
theorem fits_field_roundtrip_total (f : Field) (ts : List Nat) (h : f.grid.Ok)
    (hnd : 0 < f.grid.coords.ndim) (hshape : f.values.shape = ts ++ [f.grid.coords.size])
    (hd : f.grid.coords.isSeparated = false ∨ fitsDtypeOk f.values.dtype = true) :
    (writeFieldFits f).bind readFieldFits = .ok f := by
  obtain ⟨file, hfile⟩ := ok_of_toBool ((fits_field_writable_iff f ts hshape).1.2 hd)
  rw [hfile]
  exact fits_field_roundtrip f ts h hnd hshape file hfile

/-- **Which mode bases `write_mode_basis` can write to FITS** (dense or sparse; `b.denseArr` is the
matrix itself or `todense()` of the CSC matrix): every basis on a grid that is empty or not
separated; on a separated grid the dtype must be one astropy accepts (else `KeyError`) and the grid
regular (else `ValueError`: a separated grid has no `delta` for the WCS header). -/
theorem fits_basis_writable_iff (b : ModeBasis) (g : Grid) (ts : List Nat) (m : Nat)
    (hg : b.grid = some g) (hshape : b.denseArr.shape = ts ++ [g.coords.size, m]) :
    ((writeBasisFits b).toBool = true ↔
      (g.coords.size = 0 ∨ g.coords.isSeparated = false ∨
        (fitsDtypeOk b.denseArr.dtype = true ∧ g.coords.isRegular = true))) ∧
    ((writeBasisFits b).toBool = false →
      writeBasisFits b = .error (if fitsDtypeOk b.denseArr.dtype then .value else .key)) := by
  obtain ⟨t, ht⟩ := b.toDict_of_grid g hg
  rw [writeBasisFits_eq b g t hg ht ts m hshape]
  by_cases hz : g.coords.size = 0
  · simp [hz, Except.toBool]
  · cases g.coords.isSeparated
    · simp [Except.toBool]
    · cases fitsDtypeOk b.denseArr.dtype <;> cases g.coords.isRegular <;> simp [hz, Except.toBool]

/-- **Dense mode bases through FITS, without the hypothesis "could be written".** -/
theorem fits_basis_dense_roundtrip_total (b : ModeBasis) (a : Arr) (g : Grid) (ts : List Nat) (m : Nat)
    (htm : b.tm = .dense a) (hg : b.grid = some g) (h : g.Ok) (hnd : 0 < g.coords.ndim)
    (hshape : a.shape = ts ++ [g.coords.size, m]) (hdata : a.data.length = prod a.shape)
    (hwr : g.coords.size = 0 ∨ g.coords.isSeparated = false ∨
      (fitsDtypeOk a.dtype = true ∧ g.coords.isRegular = true)) :
    (writeBasisFits b).bind readBasisFits = .ok b := by
  obtain ⟨tm, og⟩ := b
  cases htm
  obtain ⟨file, hfile⟩ := ok_of_toBool ((fits_basis_writable_iff ⟨.dense a, og⟩ g ts m hg hshape).1.2 hwr)
  rw [hfile]
  exact fits_basis_dense_roundtrip _ a g ts m rfl hg h hnd hshape hdata file hfile

/-- **Sparse mode bases through FITS, without the hypothesis "could be written".** -/
theorem fits_basis_sparse_roundtrip_total (b : ModeBasis) (c : Csc) (g : Grid) (m : Nat)
    (htm : b.tm = .sparse c) (hg : b.grid = some g) (h : g.Ok) (hnd : 0 < g.coords.ndim)
    (hshape : c.shape = [g.coords.size, m])
    (hwr : g.coords.size = 0 ∨ g.coords.isSeparated = false ∨
      (fitsDtypeOk c.data.dtype = true ∧ g.coords.isRegular = true)) :
    ∃ b', (writeBasisFits b).bind readBasisFits = .ok b' ∧ b'.isSparse = true ∧ b'.grid = b.grid ∧
      b'.denseArr = b.denseArr := by
  obtain ⟨tm, og⟩ := b
  cases htm
  -- `write_mode_basis` looks at `c.todense()`, which has the dtype of `c.data`
  obtain ⟨file, hfile⟩ := ok_of_toBool
    ((fits_basis_writable_iff ⟨.sparse c, og⟩ g [] m hg (cscToDense_shape c _ _ hshape).1).1.2 hwr)
  rw [hfile]
  exact fits_basis_sparse_roundtrip _ c g m rfl hg h hnd hshape file hfile

/-! ## grid files and the ASDF layer

`lib : AsdfLib` is the ASDF library, `AsdfFaithful lib` the named assumption about it (trees come
back as stored, NumPy-scalar weights as Python numbers: `Grid.pyWeights`).  The harness monitors the
assumption on every asdf file and every grid FITS file it writes (driver op `file`). -/

/-- the library behaviour observed on real files satisfies the hypothesis -/
theorem asdfFaithful_observed : AsdfFaithful AsdfLib.observed := by
  refine ⟨fun g => rfl, fun f => rfl, fun b t ht => ?_⟩
  obtain ⟨tm, og⟩ := b
  cases og with
  | none => cases ht
  | some g =>
    cases ht
    rfl

/-- **Grids through asdf files**: reading back what was written yields the grid (system,
coordinates, weights; NumPy-scalar weights as the Python number of the same value). -/
theorem asdf_grid_roundtrip (lib : AsdfLib) (hl : AsdfFaithful lib) (g : Grid) (h : g.Ok) :
    (writeGridAsdf lib g).bind readGridAsdf = .ok g.pyWeights :=
  (hl.grid_load g).trans (grid_dict_roundtrip g.pyWeights h)

/-- **Grids through FITS files** (no image; the tree travels in the embedded ASDF table). -/
theorem fits_grid_roundtrip (lib : AsdfLib) (hl : AsdfFaithful lib) (g : Grid) (h : g.Ok) :
    (writeGridFits lib g).bind readGridFits = .ok g.pyWeights :=
  asdf_grid_roundtrip lib hl g h

example : (⟨.polar, .separated [⟨"f8", [2], [0, 1]⟩, ⟨"f8", [3], [0, 1, 3]⟩], .arr ⟨"f8", [], [2]⟩⟩ : Grid).Ok :=
  ⟨rfl, trivial⟩

/-- a grid whose weights are not a NumPy scalar is untouched by the ASDF layer, so the two
theorems above return the very grid that was written -/
theorem pyWeights_eq_self (g : Grid) (h : g.weights.isNpScalar = false) : g.pyWeights = g := by
  rw [Grid.pyWeights, pyScalar_of_not_npScalar _ h]

example : (Tree.null).isNpScalar = false ∧ (Tree.arr ⟨"f8", [3], [1, 2, 3]⟩).isNpScalar = false ∧
    (Tree.num (.float 2)).isNpScalar = false := ⟨rfl, rfl, rfl⟩

/-- **The property-shaped statement for grids, with its exception visible**: a grid file (asdf or
FITS) can always be written, and the file that was written can be read back *iff* the grid's
coordinate system is registered in `Grid._coordinate_systems`.  After the repair of D161 that is
`CartesianGrid`, `PolarGrid` and the base `Grid`; the remaining exception is a user subclass that
never registered itself (harness kind `unregistered`, stated in `ctx.assumptions`). -/
theorem grid_file_readable_iff (lib : AsdfLib) (hl : AsdfFaithful lib) (g : Grid)
    (hc : g.coords.WellFormed) :
    (∀ file, writeGridAsdf lib g = .ok file →
      ((readGridAsdf file).toBool = true ↔ knownSystem g.system = true)) ∧
    (∀ file, writeGridFits lib g = .ok file →
      ((readGridFits file).toBool = true ↔ knownSystem g.system = true)) := by
  have key : (Grid.fromDict (lib.load g.toDict)).toBool = true ↔ knownSystem g.system = true := by
    rw [hl.grid_load]
    exact grid_dict_readable_iff g.pyWeights hc
  constructor
  · rintro file ⟨⟩
    exact key
  · rintro file ⟨⟩
    exact key

example : knownSystem Tag.other = false ∧ knownSystem Tag.noneSys = true := ⟨rfl, rfl⟩

/-- **Fields through asdf files.** -/
theorem asdf_field_roundtrip (lib : AsdfLib) (hl : AsdfFaithful lib) (f : Field) (h : f.grid.Ok) :
    (writeFieldAsdf lib f).bind readFieldAsdf = .ok { f with grid := f.grid.pyWeights } := by
  simp only [writeFieldAsdf, readFieldAsdf, Except.bind, hl.field, normObjTree_field]
  exact field_dict_roundtrip _ h

/-- **Mode bases through asdf files** (dense stays dense, CSC stays CSC with the same arrays). -/
theorem asdf_basis_roundtrip (lib : AsdfLib) (hl : AsdfFaithful lib) (b : ModeBasis) (g : Grid)
    (hg : b.grid = some g) (h : g.Ok) :
    (writeBasisAsdf lib b).bind readBasisAsdf = .ok { b with grid := some g.pyWeights } := by
  obtain ⟨tm, og⟩ := b
  cases hg
  refine (hl.basis ⟨tm, some g⟩ _ rfl).trans ?_
  -- the normalised tree is the tree of the basis on the normalised grid
  refine of_bind_eq (modebasis_dict_roundtrip ⟨tm, some g.pyWeights⟩ g.pyWeights rfl h) ?_
  simp [normObjTree, ModeBasis.toDict, ModeBasis.isSparse, normGridTree_toDict]

example : AsdfFaithful AsdfLib.observed := asdfFaithful_observed

/-- Grid files (asdf, FITS) and asdf files of fields are always written; an asdf file of a mode basis
exactly when the basis has a grid (else `to_dict` raises `AttributeError`,
`modebasis_without_grid_has_no_dict`).  The harness reports any refused asdf write of an object that
has a dictionary form. -/
theorem asdf_writable_iff (lib : AsdfLib) (g : Grid) (f : Field) (b : ModeBasis) :
    (writeGridAsdf lib g).toBool = true ∧ (writeGridFits lib g).toBool = true ∧
    (writeFieldAsdf lib f).toBool = true ∧
    ((writeBasisAsdf lib b).toBool = true ↔ b.grid.isSome = true) := by
  refine ⟨rfl, rfl, rfl, ?_⟩
  obtain ⟨tm, og⟩ := b
  cases og <;> exact Iff.rfl

/-! ## file names and formats: `read_*` / `write_*` as a whole

`Model/Serial.lean`, "file names, formats and the dispatch": `resolveName` (`fmt is None` → guess from
the name, `ValueError`), `to_dict()` before the dispatch, `dispatch` (`NotImplementedError`), then the
format's writer / reader.  The driver op `filert` runs `write…File` / `read…File`; the harness
compares write status, the format found in the file written (magic bytes), read status and the
object read with the real functions on generated `(filename, fmt)` pairs. -/

/-- `_guess_file_format`: whatever precedes the dot, the five documented extensions select the
three formats (`.fits.gz` is FITS: it does not end in `fits`, the second test is needed; `.pickle`
does not end in `pkl`).  The driver op `guess` runs `guessFormat`; the harness compares it with the
real `_guess_file_format` on generated names. -/
theorem guess_extensions (stem : List Char) :
    guessFormat (stem ++ '.' :: sAsdf) = some .asdf ∧
    guessFormat (stem ++ '.' :: sFits) = some .fits ∧
    guessFormat (stem ++ '.' :: sFitsGz) = some .fits ∧
    guessFormat (stem ++ '.' :: sPkl) = some .pickle ∧
    guessFormat (stem ++ '.' :: sPickle) = some .pickle :=
  ⟨guessFormat_append stem _ _ (by decide +kernel), guessFormat_append stem _ _ (by decide +kernel),
    guessFormat_append stem _ _ (by decide +kernel), guessFormat_append stem _ _ (by decide +kernel),
    guessFormat_append stem _ _ (by decide +kernel)⟩

example : guessFormat "x.fits.gz".toList = some .fits ∧ guessFormat "myasdf".toList = some .asdf ∧
    guessFormat "x.fit".toList = none ∧ formatOf "x.dat".toList (some "pickle") = .ok .pickle ∧
    formatOf "x.asdf".toList (some "FITS") = .error .notImpl ∧ formatOf "x.dat".toList none = .error .value := by
  decide +kernel

/-- **`write_grid(g, filename, fmt)` then `read_grid(filename, fmt)`**, the functions the property
names, for every file name and every `fmt` argument: the write succeeds exactly when a format is
found (given, or guessed from the name), and then reading the same `(filename, fmt)` returns the
grid (through pickle as it is, through asdf / FITS with NumPy-scalar weights as Python numbers). -/
theorem grid_file_roundtrip (lib : AsdfLib) (hl : AsdfFaithful lib) (name : List Char)
    (fmt : Option String) (g : Grid) (h : g.Ok) :
    ((writeGridFile lib name fmt g).toBool = true ↔ (formatOf name fmt).toBool = true) ∧
    ∀ c, writeGridFile lib name fmt g = .ok c →
      ∃ f, formatOf name fmt = .ok f ∧
        readGridFile name fmt c = .ok (if f = .pickle then g else g.pyWeights) := by
  refine ⟨?_, read_storeAs _ (fun k r => r = .ok (if k = .pickle then g else g.pyWeights))
    (fun _ => of_bind_eq (asdf_grid_roundtrip lib hl g h))
    (fun _ => of_bind_eq (fits_grid_roundtrip lib hl g h)) rfl⟩
  rw [writeGridFile, bind_dispatch]
  cases formatOf name fmt with
  | error e => exact Iff.rfl
  | ok k => cases k <;> exact Iff.rfl

/-- **`write_field` then `read_field`** for every file name, `fmt` argument, tensor shape, grid kind
and memory layout `l` of the data (pickle stores `__getstate__()`): which writes succeed, and that
every file written reads back as the field. -/
theorem field_file_roundtrip (lib : AsdfLib) (hl : AsdfFaithful lib) (l : Layout) (name : List Char)
    (fmt : Option String) (f : Field) (ts : List Nat) (h : f.grid.Ok)
    (hnd : 0 < f.grid.coords.ndim) (hshape : f.values.shape = ts ++ [f.grid.coords.size])
    (hdata : f.values.data.length = prod f.values.shape) :
    ((writeFieldFile lib l name fmt f).toBool = true ↔
      ∃ k, formatOf name fmt = .ok k ∧
        (k = .fits → f.grid.coords.isSeparated = false ∨ fitsDtypeOk f.values.dtype = true)) ∧
    ∀ c, writeFieldFile lib l name fmt f = .ok c →
      ∃ k, formatOf name fmt = .ok k ∧
        readFieldFile name fmt c =
          .ok (if k = .asdf then { f with grid := f.grid.pyWeights } else f) := by
  refine ⟨?_, read_storeAs _
    (fun k r => r = .ok (if k = .asdf then { f with grid := f.grid.pyWeights } else f))
    (fun _ => of_bind_eq (asdf_field_roundtrip lib hl f h))
    (fits_field_roundtrip f ts h hnd hshape)
    (congrArg _ (field_pickle_roundtrip f l hdata))⟩
  -- an asdf file is always written
  rw [writeFieldFile, bind_dispatch, ← (fits_field_writable_iff f ts hshape).1]
  cases formatOf name fmt with
  | error e => exact ⟨nofun, nofun⟩
  | ok k =>
    simp only [Except.ok.injEq, exists_eq_left']
    cases k with
    | asdf => exact ⟨fun _ => nofun, fun _ => rfl⟩
    | fits => cases writeFieldFits f <;> exact ⟨fun h _ => h, fun h => h rfl⟩
    | pickle => exact ⟨fun _ => nofun, fun _ => rfl⟩

/-- **`write_mode_basis` then `read_mode_basis`, dense bases**, for every file name and `fmt`. -/
theorem basis_file_roundtrip_dense (lib : AsdfLib) (hl : AsdfFaithful lib) (name : List Char)
    (fmt : Option String) (b : ModeBasis) (a : Arr) (g : Grid) (ts : List Nat) (m : Nat)
    (htm : b.tm = .dense a) (hg : b.grid = some g) (h : g.Ok) (hnd : 0 < g.coords.ndim)
    (hshape : a.shape = ts ++ [g.coords.size, m]) (hdata : a.data.length = prod a.shape) :
    ∀ c, writeBasisFile lib name fmt b = .ok c →
      ∃ k, formatOf name fmt = .ok k ∧
        readBasisFile name fmt c =
          .ok (if k = .asdf then { b with grid := some g.pyWeights } else b) := by
  exact writeBasisFile_ok (read_storeAs _
    (fun k r => r = .ok (if k = .asdf then { b with grid := some g.pyWeights } else b))
    (fun _ => of_bind_eq (asdf_basis_roundtrip lib hl b g hg h))
    (fits_basis_dense_roundtrip b a g ts m htm hg h hnd hshape hdata) rfl)

/-- `to_dict()` comes before the dispatch: a basis without grid is refused with `AttributeError`
whatever the format — pickle and formats that do not exist included. -/
theorem basis_without_grid_not_writable (lib : AsdfLib) (name : List Char) (fmt : Option String)
    (b : ModeBasis) (hg : b.grid = none) (s : String) (hr : resolveName name fmt = .ok s) :
    writeBasisFile lib name fmt b = .error .attr := by
  simp [writeBasisFile, hr, bind, Except.bind, modebasis_without_grid_has_no_dict b hg]

/-- One hop for a sparse basis, with what the next hop needs: the basis read is again a CSC matrix
of the same shape with the same dense values (`todense()`), on the grid written (`pyWeights` form
after an asdf file). -/
theorem basis_file_hop_sparse (lib : AsdfLib) (hl : AsdfFaithful lib) (name : List Char)
    (fmt : Option String) (c : Csc) (g : Grid) (m : Nat)
    (h : g.Ok) (hnd : 0 < g.coords.ndim) (hshape : c.shape = [g.coords.size, m]) :
    ∀ st, writeBasisFile lib name fmt ⟨.sparse c, some g⟩ = .ok st →
      ∃ k c', formatOf name fmt = .ok k ∧
        readBasisFile name fmt st = .ok ⟨.sparse c', if k = .asdf then some g.pyWeights else some g⟩ ∧
        c'.shape = [g.coords.size, m] ∧ cscToDense c' = cscToDense c := by
  simp only [exists_and_left]
  exact writeBasisFile_ok (read_storeAs (X := ModeBasis) _
    (fun k r => ∃ c', r = .ok ⟨.sparse c', if k = .asdf then some g.pyWeights else some g⟩ ∧
      c'.shape = [g.coords.size, m] ∧ cscToDense c' = cscToDense c)
    (fun file hf => ⟨c, of_bind_eq (asdf_basis_roundtrip lib hl _ g rfl h) hf, hshape, rfl⟩)
    (fun file hf => (fits_basis_sparse_read _ c g m rfl rfl h hnd hshape file hf).elim
      (fun hr => ⟨c, hr, hshape, rfl⟩)
      (fun hr => ⟨_, hr, denseToCsc_cscToDense c _ _ hshape⟩))
    ⟨c, rfl, hshape, rfl⟩)

/-- **`write_mode_basis` then `read_mode_basis`, sparse bases**: the basis read is sparse, on the
same grid, with the same matrix (`todense()`), in every format. -/
theorem basis_file_roundtrip_sparse (lib : AsdfLib) (hl : AsdfFaithful lib) (name : List Char)
    (fmt : Option String) (b : ModeBasis) (c : Csc) (g : Grid) (m : Nat)
    (htm : b.tm = .sparse c) (hg : b.grid = some g) (h : g.Ok) (hnd : 0 < g.coords.ndim)
    (hshape : c.shape = [g.coords.size, m]) :
    ∀ st, writeBasisFile lib name fmt b = .ok st →
      ∃ k b', formatOf name fmt = .ok k ∧ readBasisFile name fmt st = .ok b' ∧
        b'.isSparse = true ∧ b'.denseArr = b.denseArr ∧
        b'.grid = (if k = .asdf then some g.pyWeights else some g) := by
  obtain ⟨tm, og⟩ := b
  cases htm
  cases hg
  intro st hw
  obtain ⟨k, c', hk, hr, -, hd⟩ := basis_file_hop_sparse lib hl name fmt c g m h hnd hshape st hw
  exact ⟨k, _, hk, hr, rfl, hd, rfl⟩

/-- **The format read is the format written, for every accepted file name**: whatever the writer
produced for `(filename, fmt)` is a file of exactly the format that `formatOf filename fmt` resolves
to — which is the format the reader called with the same `(filename, fmt)` dispatches on.  With
`fmt=None` the names accepted are those `_guess_file_format` knows (`guess_extensions`), an explicit
`fmt` overrides the name altogether. -/
theorem file_format_is_resolved_format (lib : AsdfLib) (name : List Char) (fmt : Option String) :
    (∀ g st, writeGridFile lib name fmt g = .ok st → formatOf name fmt = .ok st.fmt) ∧
    (∀ l f st, writeFieldFile lib l name fmt f = .ok st → formatOf name fmt = .ok st.fmt) ∧
    (∀ b st, writeBasisFile lib name fmt b = .ok st → formatOf name fmt = .ok st.fmt) ∧
    ((formatOf name none).toBool = true ↔ (guessFormat name).isSome = true) ∧
    (∀ s, formatOf name (some s) = dispatch s) := by
  refine ⟨fun g => format_of_stored, fun l f => format_of_stored,
    fun b => writeBasisFile_ok format_of_stored, ?_, fun s => rfl⟩
  · unfold formatOf resolveName
    cases guessFormat name with
    | none => exact ⟨fun hs => (nomatch hs), fun hs => (nomatch hs)⟩
    | some k => cases k <;> exact ⟨fun _ => rfl, fun _ => rfl⟩

/-- **Chains of files, of any length** (what the harness does with A > B > C): a grid that went
through any sequence of `write_grid` / `read_grid` pairs — any file names, any `fmt` arguments, any
mixture of formats — is the grid that was written first (NumPy-scalar weights possibly as the Python
number, once an asdf or FITS file was among them). -/
theorem grid_file_chain (lib : AsdfLib) (hl : AsdfFaithful lib) (hops : List Hop) (g g' : Grid)
    (h : g.Ok) (hc : gridChain lib hops g = .ok g') : g' = g ∨ g' = g.pyWeights := by
  refine chain_orbit (gridChain lib) _ _ (fun _ => rfl) (fun _ _ _ => rfl) Grid.pyWeights pyWeights_idem
    Grid.Ok (fun _ hx => hx) ?_ hops g g' h hc
  intro hop x c y hx hw hr
  obtain ⟨k, -, hread⟩ := (grid_file_roundtrip lib hl hop.1 hop.2 x hx).2 c hw
  cases hread.symm.trans hr
  exact ite_eq_or_eq _ _ _

example : (gridChain AsdfLib.observed [("a.pkl".toList, none), ("b.dat".toList, some "fits"), ("c.asdf".toList, none)]
    ⟨.polar, .separated [⟨"f8", [2], [0, 1]⟩, ⟨"f8", [3], [0, 1, 3]⟩], .arr ⟨"f8", [], [2]⟩⟩).map
      (fun g => (g.weights.isNpScalar, g.system, g.coords.size)) = .ok (false, .polar, 6) := by decide +kernel

/-- A chain of grid files succeeds exactly when a format is found at every hop. -/
theorem grid_file_chain_succeeds_iff (lib : AsdfLib) (hl : AsdfFaithful lib) (hops : List Hop) (g : Grid)
    (h : g.Ok) :
    (gridChain lib hops g).toBool = true ↔ ∀ hop ∈ hops, (formatOf hop.1 hop.2).toBool = true := by
  induction hops generalizing g with
  | nil => exact ⟨fun _ _ hm => (nomatch hm), fun _ => rfl⟩
  | cons hop r ih =>
    obtain ⟨hiff, hrt⟩ := grid_file_roundtrip lib hl hop.1 hop.2 g h
    rw [List.forall_mem_cons, ← hiff]
    change ((writeGridFile lib hop.1 hop.2 g).bind fun c => (readGridFile hop.1 hop.2 c).bind (gridChain lib r)).toBool
      = true ↔ _
    cases hw : writeGridFile lib hop.1 hop.2 g with
    | error e => exact ⟨fun hc => (nomatch hc), fun hc => nomatch hc.1⟩
    | ok c =>
      obtain ⟨k, -, hread⟩ := hrt c hw
      change ((readGridFile hop.1 hop.2 c).bind (gridChain lib r)).toBool = true ↔ _
      rw [hread]
      exact (ih _ (by split <;> exact h)).trans (and_iff_right rfl).symm

/-- **Chains of files for fields**, any length, any mixture of formats, any memory layout of the
data at each hop. -/
theorem field_file_chain (lib : AsdfLib) (hl : AsdfFaithful lib) (hops : List (Layout × Hop))
    (f f' : Field) (ts : List Nat) (h : f.grid.Ok) (hnd : 0 < f.grid.coords.ndim)
    (hshape : f.values.shape = ts ++ [f.grid.coords.size])
    (hdata : f.values.data.length = prod f.values.shape)
    (hc : fieldChain lib hops f = .ok f') :
    f' = f ∨ f' = { f with grid := f.grid.pyWeights } := by
  refine chain_orbit (fieldChain lib) _ _ (fun _ => rfl) (fun _ _ _ => rfl)
    (fun x => { x with grid := x.grid.pyWeights }) (fun x => congrArg (Field.mk x.values) (pyWeights_idem x.grid))
    (fun x => x.grid.Ok ∧ 0 < x.grid.coords.ndim ∧ x.values.shape = ts ++ [x.grid.coords.size] ∧
      x.values.data.length = prod x.values.shape)
    (fun _ hx => hx) ?_ hops f f' ⟨h, hnd, hshape, hdata⟩ hc
  intro hop x c y hx hw hr
  obtain ⟨k, -, hread⟩ :=
    (field_file_roundtrip lib hl hop.1 hop.2.1 hop.2.2 x ts hx.1 hx.2.1 hx.2.2.1 hx.2.2.2).2 c hw
  cases hread.symm.trans hr
  exact (ite_eq_or_eq _ _ _).symm

/-- **Chains of files for dense mode bases**, any length, any mixture of formats.  (Sparse bases: `basis_file_chain_sparse`.) -/
theorem basis_file_chain_dense (lib : AsdfLib) (hl : AsdfFaithful lib) (hops : List Hop)
    (b b' : ModeBasis) (a : Arr) (g : Grid) (ts : List Nat) (m : Nat)
    (htm : b.tm = .dense a) (hg : b.grid = some g) (h : g.Ok) (hnd : 0 < g.coords.ndim)
    (hshape : a.shape = ts ++ [g.coords.size, m]) (hdata : a.data.length = prod a.shape)
    (hc : basisChain lib hops b = .ok b') :
    b' = b ∨ b' = { b with grid := some g.pyWeights } := by
  -- every basis on the way holds `a` on `g` up to weights that the ASDF layer maps to those of `g.pyWeights`
  refine chain_orbit (basisChain lib) _ _ (fun _ => rfl) (fun _ _ _ => rfl)
    (fun x => { x with grid := some g.pyWeights }) (fun _ => rfl)
    (fun x => x.tm = .dense a ∧ ∃ w, x.grid = some { g with weights := w } ∧
      Grid.pyWeights { g with weights := w } = g.pyWeights)
    (fun _ hx => ⟨hx.1, _, rfl, pyWeights_idem g⟩) ?_ hops b b' ⟨htm, _, hg, rfl⟩ hc
  rintro hop x c y ⟨hxtm, w, hxg, hpw⟩ hw hr
  obtain ⟨k, -, hread⟩ :=
    basis_file_roundtrip_dense lib hl hop.1 hop.2 x a _ ts m hxtm hxg h hnd hshape hdata c hw
  cases hread.symm.trans hr
  rw [hpw]
  exact (ite_eq_or_eq _ _ _).symm

/-- **Chains of files for sparse mode bases**, any length, any file names, `fmt` arguments and
mixture of formats (asdf / fits / fits.gz / pickle): whenever every hop can be written, the basis
read at the end is **sparse** (a CSC matrix of the same shape), has the **same matrix**
(`todense()` equal: the FITS image path re-sparsifies, which normalises explicit zeros, duplicates
and index order and nothing else) and sits on the **same grid** (NumPy-scalar weights possibly as
the Python number once an asdf file was among the hops).  Induction over the hop list from the
single hop `basis_file_hop_sparse`, with the invariant "CSC of shape `[grid.size, m]` whose dense
form is the original's". -/
theorem basis_file_chain_sparse (lib : AsdfLib) (hl : AsdfFaithful lib) (hops : List Hop)
    (b b' : ModeBasis) (c : Csc) (g : Grid) (m : Nat)
    (htm : b.tm = .sparse c) (hg : b.grid = some g) (h : g.Ok) (hnd : 0 < g.coords.ndim)
    (hshape : c.shape = [g.coords.size, m])
    (hc : basisChain lib hops b = .ok b') :
    b'.isSparse = true ∧ b'.denseArr = b.denseArr ∧
      (∃ c', b'.tm = .sparse c' ∧ c'.shape = c.shape) ∧
      (b'.grid = some g ∨ b'.grid = some g.pyWeights) := by
  obtain ⟨tm, og⟩ := b
  cases htm
  cases hg
  -- on the way the grid is `g` up to its weights, which are `g`'s or their Python form
  let Inv : ModeBasis → Prop := fun x => ∃ cx w, x = ⟨.sparse cx, some { g with weights := w }⟩ ∧
    cx.shape = [g.coords.size, m] ∧ cscToDense cx = cscToDense c ∧ (w = g.weights ∨ w = pyScalar g.weights)
  have hhop : ∀ (hop : Hop) x st y, Inv x → writeBasisFile lib hop.1 hop.2 x = .ok st →
      readBasisFile hop.1 hop.2 st = .ok y → Inv y := by
    rintro hop x st y ⟨cx, w, rfl, hs, hd, hgx⟩ hw hr
    obtain ⟨k, c', -, hread, hs', hd'⟩ :=
      basis_file_hop_sparse lib hl hop.1 hop.2 cx { g with weights := w } m h hnd hs st hw
    cases hread.symm.trans hr
    split
    · exact ⟨c', pyScalar w, rfl, hs', hd'.trans hd,
        .inr (hgx.elim (congrArg pyScalar) fun e => e ▸ pyScalar_idem _)⟩
    · exact ⟨c', w, rfl, hs', hd'.trans hd, hgx⟩
  obtain ⟨cx, w, rfl, hs, hd, hgx⟩ := chain_invariant (basisChain lib) _ _ (fun _ => rfl)
    (fun _ _ _ => rfl) Inv hhop hops _ b' ⟨c, g.weights, rfl, hshape, rfl, .inl rfl⟩ hc
  refine ⟨rfl, hd, ⟨cx, rfl, hs.trans hshape.symm⟩, hgx.imp ?_ ?_⟩
  · rintro rfl
    rfl
  · rintro rfl
    rfl

example : (basisChain AsdfLib.observed [("a.fits".toList, none), ("b.pkl".toList, none), ("c.dat".toList, some "asdf"),
      ("d.fits.gz".toList, none)]
    ⟨.sparse (denseToCsc ⟨"f8", [2, 3], [1, 0, 3, 4, 5, 0]⟩), some ⟨.cartesian, .regular [.float 1] [2] [.float 0], .null⟩⟩).map
      (fun b => (b.isSparse, b.denseArr.data)) = .ok (true, [1, 0, 3, 4, 5, 0]) := by decide +kernel

/-! ## dtypes: what each route does with kind, item size and byte order -/

/-- `DType.all` is every well-formed dtype. -/
theorem dtype_all_complete (d : DType) (h : d.wellFormed = true) : d ∈ DType.all := by
  obtain ⟨k, n, o⟩ := d
  -- item sizes are below 17, which leaves a finite table
  have hn : n ∈ List.range 17 := by
    rw [List.mem_range]
    cases k <;> simp only [DType.wellFormed, Bool.and_eq_true, Bool.or_eq_true, beq_iff_eq] at h <;> omega
  have htable : ∀ k ∈ [DKind.bool, .int, .uint, .float, .complex], ∀ n ∈ List.range 17,
      ∀ o ∈ [BOrder.little, .big, .na],
      (⟨k, n, o⟩ : DType).wellFormed = true → (⟨k, n, o⟩ : DType) ∈ DType.all := by decide +kernel
  exact htable k (by cases k <;> decide) n hn o (by cases o <;> decide) h

example : DType.all.all DType.wellFormed = true := by decide

/-- The table `fitsDtypeOk` (the executed guard of `writeFieldFits` / `writeBasisFits`) **is**
astropy's `BITPIX` lookup succeeding, for every dtype and byte order. -/
theorem fitsDtypeOk_iff_card (d : DType) (h : d.wellFormed = true) :
    fitsDtypeOk d.tag = (fitsCard d).toBool := by
  have : ∀ d ∈ DType.all, fitsDtypeOk d.tag = (fitsCard d).toBool := by decide +kernel
  exact this d (dtype_all_complete d h)

/-- **`write_rejects`**: the only refusals on account of the dtype are image HDUs of `bool`,
`float16` and complex values (`KeyError` before anything is written); every other route accepts
every dtype. -/
theorem write_rejects (r : Route) (d : DType) (h : d.wellFormed = true) :
    (readDType r d = .error .key ↔
      (r = .fitsImageField ∨ r = .fitsImageBasis) ∧
        (d.kind = .bool ∨ d.kind = .complex ∨ (d.kind = .float ∧ d.size = 2))) ∧
    (∀ e, readDType r d = .error e → e = .key) := by
  have htable : ∀ d ∈ DType.all, (fitsCard d = .error .key ↔
      d.kind = .bool ∨ d.kind = .complex ∨ (d.kind = .float ∧ d.size = 2)) := by decide +kernel
  constructor
  · rw [readDType_error_iff, htable d (dtype_all_complete d h)]
  · intro e he
    exact fitsCard_error d e ((readDType_error_iff r d e).1 he).2

/-- **`write_read_dtype_eq`**: whenever the write is accepted, the values read back have the same
kind and item size; through a dictionary, an asdf file and the tree of a FITS file
the byte order too; pickles and mode-basis images come back in native order. -/
theorem write_read_dtype_eq (r : Route) (d d' : DType) (h : readDType r d = .ok d') :
    d'.kind = d.kind ∧ d'.size = d.size ∧
    ((r = .dict ∨ r = .asdf ∨ r = .fitsTree) → d' = d) ∧
    ((r = .pickle ∨ r = .pickleObject ∨ r = .fitsImageBasis) → d'.order = d.native.order) := by
  cases r
  case dict | asdf | fitsTree =>
    cases h
    exact ⟨rfl, rfl, fun _ => rfl, nofun⟩
  case pickle | pickleObject =>
    cases h
    exact ⟨rfl, rfl, nofun, fun _ => rfl⟩
  case fitsImageField =>
    obtain ⟨hk, hs⟩ := fitsImageDType_ok d d' h
    exact ⟨hk, hs, nofun, nofun⟩
  case fitsImageBasis =>
    change (fitsImageDType d).map DType.native = .ok d' at h
    cases hx : fitsImageDType d with
    | error e => rw [hx] at h; cases h
    | ok x =>
      rw [hx] at h
      cases h
      obtain ⟨hk, hs⟩ := fitsImageDType_ok d x hx
      exact ⟨hk, hs, nofun, fun _ => by simp only [DType.native, hs]⟩

/-- **`write_read_values_eq`, FITS images**: for every dtype astropy takes, every value the dtype
can hold is stored as a number that fits the storage type chosen by `BITPIX` (so nothing wraps or
saturates: signed bytes and unsigned 16/32/64-bit integers are shifted by `BZERO` into the signed /
unsigned range of the same width), and loading gives the value back.  For the other routes the
values are the stored array itself (`field_dict_roundtrip`, `asdf_field_roundtrip`,
`field_pickle_roundtrip`, …). -/
theorem write_read_values_eq (d : DType) (c : FitsCard) (hc : fitsCard d = .ok c) :
    (∀ v : Int, d.holds v = true → c.fits (v - c.bzero) = true ∧ c.store v = ((v - c.bzero : Int) : Rat)) ∧
    (∀ q : Rat, c.load (c.store q) = q) := by
  refine ⟨fun v hv => ⟨?_, by simp [FitsCard.store]⟩, fun q => Rat.sub_add_cancel ..⟩
  -- row by row of astropy's table: the range of the dtype, shifted by `BZERO`, is within the range of
  -- the storage type
  unfold fitsCard at hc
  split at hc <;> cases hc <;> rename_i hk hn <;>
    simp only [DType.holds, hk, hn, FitsCard.fits, ↓reduceIte, Int.reduceEq, Int.reduceLT,
      Bool.and_eq_true, decide_eq_true_eq, Int.reduceToNat] at hv ⊢ <;>
    omega

example : fitsCard ⟨.uint, 2, .big⟩ = .ok ⟨16, 32768⟩ ∧ (⟨.uint, 2, .big⟩ : DType).holds 65535 = true ∧
    (⟨16, 32768⟩ : FitsCard).fits (65535 - 32768) = true ∧
    readDType .fitsImageField ⟨.uint, 2, .big⟩ = .ok ⟨.uint, 2, .little⟩ := by decide

/-! ## sparse storage formats assigned through the setter (D162) -/

/-- The repaired `to_dict` of a basis that holds a **CSR** matrix (assigned through the
`transformation_matrix` setter) emits arrays SciPy accepts as a CSC matrix of the same shape:
1-D arrays of equal length and `len(indptr) = columns + 1`, for every CSR record. -/
theorem csr_to_csc_wellformed (r : Csc) (n m : Nat) (hs : r.shape = [n, m]) :
    (csrToCsc r).wellFormed = true ∧ (csrToCsc r).shape = r.shape := by
  simp [csrToCsc, Csc.wellFormed, hs, cumul_length, Function.comp_def]

/-- **Writing onto a path that may hold a file** (`writeOver`, the definition the driver op `overwrite`
executes, for every payload type): the call raises iff the writer itself refuses the object or the file
is a FITS file, the path is occupied and `overwrite` is false; a call that raises leaves the path holding
exactly what it held; a call that returns leaves exactly the file a write onto a fresh path produces —
never the old file, never a mixture.  With `overwrite = true` (the default) or a free path the outcome is
the writer's. -/
theorem write_over_spec {P : Type} (prev : Option (Stored P)) (overwrite : Bool)
    (w : Except Err (Stored P)) :
    ((writeOver prev overwrite w).2.toBool = false ↔
      (w.toBool = false ∨ ∃ st, w = .ok st ∧ st.fmt = .fits ∧ prev.isSome = true ∧ overwrite = false)) ∧
    ((writeOver prev overwrite w).2.toBool = false → (writeOver prev overwrite w).1 = prev) ∧
    (∀ st, (writeOver prev overwrite w).2.toBool = true → w = .ok st →
      (writeOver prev overwrite w).1 = some st) ∧
    ((overwrite = true ∨ prev = none) → (writeOver prev overwrite w).2.toBool = w.toBool) := by
  fun_cases writeOver prev overwrite w with
  | case1 e => exact ⟨⟨fun _ => .inl rfl, fun _ => rfl⟩, fun _ => rfl, fun _ hs => (nomatch hs), fun _ => rfl⟩
  | case2 st hc =>
    simp only [Bool.and_eq_true, beq_iff_eq, Bool.not_eq_true'] at hc
    obtain ⟨⟨h1, h2⟩, h3⟩ := hc
    refine ⟨⟨fun _ => .inr ⟨st, rfl, h1, h2, h3⟩, fun _ => rfl⟩, fun _ => rfl, fun _ hs => (nomatch hs), ?_⟩
    rintro (rfl | rfl)
    · cases h3
    · cases h2
  | case3 st hc =>
    refine ⟨⟨fun hs => (nomatch hs), ?_⟩, fun hs => (nomatch hs), fun st' _ hst => by cases hst; rfl, fun _ => rfl⟩
    rintro (hs | ⟨st', hst, h1, h2, h3⟩)
    · cases hs
    · cases hst
      rw [h1, h2, h3] at hc
      exact (hc rfl).elim

/-- **Grid written over an existing file, then read**: whatever the path held and whatever `overwrite`
says, if the call returns, reading the path gives the grid written (same conclusion as
`grid_file_roundtrip`); if it raises, the path still holds the old file. -/
theorem grid_write_over_roundtrip (lib : AsdfLib) (hl : AsdfFaithful lib) (name : List Char)
    (fmt : Option String) (g : Grid) (h : g.Ok) (prev : Option (Stored Grid)) (overwrite : Bool) :
    match writeOver prev overwrite (writeGridFile lib name fmt g) with
    | (slot, .ok _) => ∃ c f, slot = some c ∧ formatOf name fmt = .ok f ∧
        readGridFile name fmt c = .ok (if f = .pickle then g else g.pyWeights)
    | (slot, .error _) => slot = prev := by
  have hrt := (grid_file_roundtrip lib hl name fmt g h).2
  generalize writeGridFile lib name fmt g = w at hrt
  fun_cases writeOver prev overwrite w with
  | case1 e => rfl
  | case2 st hc => rfl
  | case3 st hc =>
    obtain ⟨f, hf, hr⟩ := hrt st rfl
    exact ⟨st, f, rfl, hf, hr⟩

example : (match (writeOver (some (.pickle ⟨.cartesian, .regular [.float 1] [2] [.float 0], .null⟩)) false
    (writeGridFile AsdfLib.observed "a.fits".toList none ⟨.cartesian, .regular [.float 1] [2] [.float 0], .null⟩)).2 with
    | .error .fileExists => true | _ => false) = true := by decide +kernel

/-- **`to_sparse()` has no threshold** (seeded class C16-11: dynamic range inside one mode).
The dense → CSC conversion the FITS image path of a sparse basis goes through (`denseToCsc`, the
executed definition) stores **every** element that is not exactly zero, however small it is relative to
the other elements of its mode (column), stores nothing else, and stores no zero: column `j` holds
`(i, x)` iff `i < n` and `x = d[i·m + j] ≠ 0`.  No magnitude appears in the statement: the values are
arbitrary rationals (2^-1074 next to 2^1000 included). -/
theorem to_sparse_keeps_every_nonzero (n m : Nat) (d : List Rat) (j i : Nat) (x : Rat) :
    (i, x) ∈ colEntries n m d j ↔ i < n ∧ x = d.getD (i * m + j) 0 ∧ x ≠ 0 := by
  simp only [colEntries, List.mem_filterMap, List.mem_range]
  constructor
  · rintro ⟨a, ha, h⟩
    split at h
    · cases h
    · cases h
      exact ⟨ha, rfl, ‹_›⟩
  · rintro ⟨hi, rfl, h0⟩
    exact ⟨i, hi, by rw [if_neg h0]⟩

/-- … and therefore the matrix read back through the image path has the dense values that were
written, for every rational matrix (`cscToDense ∘ denseToCsc = id`; both are the executed definitions). -/
theorem to_sparse_values_eq (dt : String) (n m : Nat) (d : List Rat) (hd : d.length = n * m) :
    cscToDense (denseToCsc ⟨dt, [n, m], d⟩) = ⟨dt, [n, m], d⟩ ∧
    (∀ e ∈ (denseToCsc ⟨dt, [n, m], d⟩).data.data, e ≠ 0) := by
  refine ⟨cscToDense_denseToCsc dt n m d hd, ?_⟩
  intro e he
  simp only [denseToCsc, List.mem_map, List.mem_flatten] at he
  obtain ⟨⟨i, x⟩, ⟨l, ⟨j, _, rfl⟩, hl⟩, rfl⟩ := he
  exact ((to_sparse_keeps_every_nonzero n m d j i x).1 hl).2.2

example : (denseToCsc ⟨"f8", [2, 2], [1, (1 : Rat) / 2 ^ 70, 0, 2 ^ 70]⟩).data.data = [1, (1 : Rat) / 2 ^ 70, 2 ^ 70] := by
  decide +kernel

/-- **`scipy.sparse.csc_matrix(csr)` keeps every value**: the CSC record the repaired `to_dict()` emits
for a CSR-holding basis stands for the same dense matrix as the CSR record (duplicates summed on both
sides, explicit zeros kept), for every CSR record of every size — `csrToCsc` and `cscToDense` are the
definitions the driver op `spstore` executes. -/
theorem csr_to_csc_values_eq (r : Csc) (n m : Nat) (hs : r.shape = [n, m]) :
    cscToDense (csrToCsc r) = csrToDense r := by
  simp only [csrToCsc, csrToDense, hs, List.headD_cons, List.drop_succ_cons, List.drop_zero]
  rw [cscToDense_ofCols (fun j => (csrEntries r).filter fun e => e.2.1 == j) (·.1) (·.2.2)]
  simp only [sum_entryAt_filter]

example : ∃ r : Csc, r.shape = [2, 3] ∧ (cscToDense (csrToCsc r)).data = [1, 0, 3, 4, 0, 0] :=
  ⟨⟨⟨"f8", [3], [1, 3, 4]⟩, ⟨"i4", [3], [0, 2, 0]⟩, ⟨"i4", [3], [0, 2, 3]⟩, [2, 3]⟩, rfl, by decide +kernel⟩

/-- **Dictionary round trip for every sparse storage** (after the repair of D162): whatever the
setter stored (CSC or CSR), `from_dict(to_dict(b))` is the sparse basis on the same grid whose matrix
is the CSC conversion SciPy makes of the stored matrix; for a CSR matrix that conversion is accepted by
SciPy (`wellFormed`), has the same shape **and the same dense values**.  Formats without `indices` /
`indptr` (COO, LIL, DIA, DOK) are converted by SciPy itself and are outside the model
(`SpStore.toCsc = none`, excluded by `hc`); the harness compares them. -/
theorem sparse_store_dict_roundtrip (s : SpStore) (c : Csc) (g : Grid) (h : g.Ok)
    (hc : s.toCsc = some c) :
    (ModeBasis.toDict ⟨.sparse c, some g⟩).bind (fun t => ModeBasis.fromDict t) = .ok ⟨.sparse c, some g⟩ ∧
    (∀ r n m, s = .csr r → r.shape = [n, m] →
      c.wellFormed = true ∧ c.shape = [n, m] ∧ cscToDense c = csrToDense r) ∧
    (∀ c', s = .csc c' → c = c') := by
  refine ⟨modebasis_dict_roundtrip ⟨.sparse c, some g⟩ g rfl h, ?_, ?_⟩
  · rintro r n m rfl hshape
    cases hc
    have := csr_to_csc_wellformed r n m hshape
    exact ⟨this.1, this.2.trans hshape, csr_to_csc_values_eq r n m hshape⟩
  · rintro c' rfl
    cases hc
    rfl

example : ∃ (s : SpStore) (c : Csc) (g : Grid), s.toCsc = some c ∧ g.Ok :=
  ⟨.csr ⟨⟨"f8", [0], []⟩, ⟨"i4", [0], []⟩, ⟨"i4", [1], [0]⟩, [0, 1]⟩, _,
    ⟨.noneSys, .regular [.float 1] [3] [.float 0], .null⟩, rfl, rfl, .inr rfl, .inr rfl⟩

example : (SpStore.csr ⟨⟨"f8", [3], [1, 3, 4]⟩, ⟨"i4", [3], [0, 2, 0]⟩, ⟨"i4", [3], [0, 2, 3]⟩, [2, 3]⟩).toCsc.map
    (fun c => (c.wellFormed, (cscToDense c).data)) = some (true, [1, 0, 3, 4, 0, 0]) := by decide +kernel

/-! ## Old — the unrepaired read/write paths and their counterexamples

Documentation of the defects that were found (D14, D19, D160, D161): statements about `…Old`
definitions, i.e. about code that `/repo` no longer contains once the `fix:` commits are applied.
Not evidence for the property. -/

def exGridU : Grid :=
  ⟨.cartesian, .unstructured [⟨"f8", [4], [0, 1, 3, 4]⟩, ⟨"f8", [4], [0, 2, 5, 7]⟩], .null⟩
def exGridR : Grid := ⟨.cartesian, .regular [.float 1] [2] [.float 0], .null⟩
def exVector : Field := ⟨⟨"f8", [2, 4], [1, 2, 3, 4, 5, 6, 7, 8]⟩, exGridU⟩
def exTensor : Field := ⟨⟨"f8", [3, 1, 4], [1, 2, 3, 4, 5, 6, 7, 8, 9, 10, 11, 12]⟩, exGridU⟩
def exTensorBasis : ModeBasis :=
  ⟨.dense ⟨"f8", [2, 2, 3], [1, 2, 3, 4, 5, 6, 7, 8, 9, 10, 11, 12]⟩, some exGridR⟩
def exSparseBasis : ModeBasis := ⟨.sparse (denseToCsc ⟨"f8", [2, 3], [1, 0, 3, 4, 5, 0]⟩), some exGridR⟩

/-- D19: on the unrepaired tree a vector field on an unstructured 2-D grid is written but cannot
be read (`ValueError`), and a tensor field of shape (3, 1) comes back with tensor shape (3,). -/
theorem fits_field_old_counterexample :
    (writeFieldFits exVector).bind readFieldFitsOld = .error .value ∧
    ((writeFieldFits exTensor).bind readFieldFitsOld).map (·.values.shape) = .ok [3, 4] := by
  constructor <;> rfl

/-- D160: on the unrepaired tree a (2, N, M) tensor mode basis on a regular grid comes back as an
(N, 2·M) matrix. -/
theorem fits_basis_old_counterexample_tensor :
    ((writeBasisFitsOld exTensorBasis).bind readBasisFitsOld).map (·.denseArr.shape) = .ok [2, 6] := by
  rfl

/-- D14: on the unrepaired tree a sparse mode basis on a regular grid is written but cannot be
read (`scipy.sparse` refuses the big-endian image). -/
theorem fits_basis_old_counterexample_sparse :
    (writeBasisFitsOld exSparseBasis).bind readBasisFitsOld = .error .value := by
  rfl

/-- D161: on the unrepaired tree the base class `Grid` (coordinate system `'none'`) is written to asdf
and FITS files that cannot be read back (`KeyError: 'none'`). -/
theorem base_grid_old_counterexample :
    (writeGridAsdf AsdfLib.observed ⟨.noneSys, .regular [.float 1] [3] [.float 0], .null⟩).bind readGridAsdfOld
      = .error .key ∧
    (writeGridFits AsdfLib.observed ⟨.noneSys, .regular [.float 1] [3] [.float 0], .null⟩).bind readGridFitsOld
      = .error .key := by
  constructor <;> rfl

/-- the repaired paths on the same inputs -/
theorem fits_repaired_on_counterexamples :
    ((writeFieldFits exVector).bind readFieldFits).map (·.values) = .ok exVector.values ∧
    ((writeFieldFits exTensor).bind readFieldFits).map (·.values) = .ok exTensor.values ∧
    ((writeBasisFits exTensorBasis).bind readBasisFits).map (·.tm) = .ok exTensorBasis.tm ∧
    ((writeBasisFits exSparseBasis).bind readBasisFits).map (·.tm) = .ok exSparseBasis.tm ∧
    (writeGridFits AsdfLib.observed ⟨.noneSys, .regular [.float 1] [3] [.float 0], .null⟩).bind readGridFits
      = .ok ⟨.noneSys, .regular [.float 1] [3] [.float 0], .null⟩ := by
  refine ⟨rfl, rfl, ?_, ?_, rfl⟩ <;> decide +kernel

/-- CSR records of `[[1, 0, 3], [4, 0, 0]]` and of `[[1, 2], [0, 3]]` -/
def exCsr23 : Csc := ⟨⟨"f8", [3], [1, 3, 4]⟩, ⟨"i4", [3], [0, 2, 0]⟩, ⟨"i4", [3], [0, 2, 3]⟩, [2, 3]⟩
def exCsr22 : Csc := ⟨⟨"f8", [3], [1, 2, 3]⟩, ⟨"i4", [3], [0, 1, 1]⟩, ⟨"i4", [3], [0, 2, 3]⟩, [2, 2]⟩

/-- D162: on the unrepaired tree a sparse basis whose matrix was assigned as **CSR** is written with
the CSR arrays as they are.  For a 2 × 3 matrix SciPy rejects them on reading (`indptr` has
rows + 1 = 3 entries, not columns + 1 = 4: "index pointer size 3 should be 4"); for a square matrix
they pass the check and are read as the **transposed** matrix.  The repaired `to_dict` returns the
matrix in both cases. -/
theorem to_dict_csr_old_counterexample :
    ((SpStore.csr exCsr23).toDictOld.bind Csc.fromDict).map Csc.wellFormed = .ok false ∧
    ((SpStore.csr exCsr22).toDictOld.bind Csc.fromDict).map (fun c => (c.wellFormed, (cscToDense c).data))
      = .ok (true, [1, 0, 2, 3]) ∧
    (csrToDense exCsr22).data = [1, 2, 0, 3] ∧
    (SpStore.csr exCsr22).toCsc.map (fun c => (cscToDense c).data) = some [1, 2, 0, 3] ∧
    (SpStore.csr exCsr23).toCsc.map (fun c => (c.wellFormed, (cscToDense c).data)) = some (true, [1, 0, 3, 4, 0, 0]) ∧
    SpStore.noIndices.toDictOld = .error .attr := by
  refine ⟨?_, ?_, ?_, ?_, ?_, rfl⟩ <;> decide +kernel

end HcipyVerif.Serial
