import HcipyVerif.Lemmas.FftPipeline
import HcipyVerif.Model.FftIndex2

/-!
# Two axes: the 2-D pipeline is the 1-D pipeline applied along each axis (separability), hence
the 2-D defining sum.
-/

namespace HcipyVerif.Fft
open Finset

section core
variable {C : Type} [CommRing C]

theorem pad2_eq (Ny My Nx Mx : ℕ) (f : ℕ → ℕ → C) (a b : ℕ) :
    pad2 Ny My Nx Mx f a b = pad Ny My (fun iy => pad Nx Mx (f iy) b) a := by
  unfold pad2 pad
  by_cases hA : padStart Ny My ≤ a ∧ a < padStart Ny My + Ny
  · simp only [hA, true_and, if_true]
  · simp only [hA, false_and, if_false]

theorem pad_sum (N M : ℕ) (s : Finset ℕ) (G : ℕ → ℕ → C) (a : ℕ) :
    pad N M (fun i => ∑ p ∈ s, G i p) a = ∑ p ∈ s, pad N M (fun i => G i p) a := by
  unfold pad
  split
  · rfl
  · simp

theorem pad_mul_right (N M : ℕ) (g : ℕ → C) (c : C) (a : ℕ) :
    pad N M (fun i => g i * c) a = pad N M g a * c := by
  unfold pad
  split
  · rfl
  · simp

theorem core2_eq_dft (b : Bool) (Ny My Moy Nx Mx Mox : ℕ) (kerY kerX : ℤ → C) (f : ℕ → ℕ → C)
    (ky kx : ℕ) :
    core2 b Ny My Moy Nx Mx Mox kerY kerX f ky kx
      = ∑ py ∈ range My, ∑ px ∈ range Mx, pad2 Ny My Nx Mx f (shiftIn b My py) (shiftIn b Mx px) *
          (kerY ((py : ℤ) * (shiftOut b My Moy ky : ℕ)) * kerX ((px : ℤ) * (shiftOut b Mx Mox kx : ℕ))) := by
  cases b
  · simp only [core2, crop2, dft2, sumRange_eq, Bool.false_eq_true, if_false]; rfl
  · simp only [core2, crop2, fftshift2, dft2, ifftshift2, sumRange_eq, if_true]; rfl

theorem core2_eq_iter (b : Bool) (Ny My Moy Nx Mx Mox : ℕ) (kerY kerX : ℤ → C) (f : ℕ → ℕ → C)
    (ky kx : ℕ) :
    core2 b Ny My Moy Nx Mx Mox kerY kerX f ky kx
      = core b Ny My Moy kerY (fun iy => core b Nx Mx Mox kerX (f iy) kx) ky := by
  simp only [core2_eq_dft, core_eq_dft]
  refine Finset.sum_congr rfl fun py _ => ?_
  rw [pad_sum, Finset.sum_mul]
  refine Finset.sum_congr rfl fun px _ => ?_
  rw [pad_mul_right, pad2_eq]
  ring

theorem core_mul_left (b : Bool) (N M Mo : ℕ) (ker : ℤ → C) (c : C) (g : ℕ → C) (k : ℕ) :
    core b N M Mo ker (fun i => c * g i) k = c * core b N M Mo ker g k := by
  have hp : ∀ a, pad N M (fun i => c * g i) a = c * pad N M g a := by
    intro a; unfold pad; split
    · rfl
    · rw [mul_zero]
  simp only [core_eq_dft, hp, Finset.mul_sum, mul_assoc]

/-- the literal 2-D program of two pipelines: one 2-D core, product multiplier arrays -/
def Pipe.run2 (b : Bool) (py px : Pipe C) (f : ℕ → ℕ → C) (ky kx : ℕ) : C :=
  py.c * px.c * core2 b py.N py.M py.Mo px.N px.M px.Mo py.ker px.ker
    (fun iy ix => f iy ix * (py.mIn iy * px.mIn ix)) ky kx * (py.mOut ky * px.mOut kx)

/-- One more axis around an array `q` of results: the constants `c'`, `o'` of the inner program
pass through the core of the outer pipeline (`core_mul_left`). -/
theorem Pipe.run_peel (b : Bool) (p : Pipe C) (c' o' : C) (q : ℕ → C) (k : ℕ) :
    p.c * c' * core b p.N p.M p.Mo p.ker (fun i => p.mIn i * q i) k * (p.mOut k * o')
      = p.run b (fun i => c' * q i * o') k := by
  unfold Pipe.run
  rw [funext fun i => (by ring : c' * q i * o' * p.mIn i = c' * o' * (p.mIn i * q i)),
    core_mul_left]
  ring

/-- **Separability**, for any multipliers: the factors that belong to `y` pass through the core
along `x` (`core_mul_left`). -/
theorem Pipe.run2_eq_iter (b : Bool) (py px : Pipe C) (f : ℕ → ℕ → C) (ky kx : ℕ) :
    py.run2 b px f ky kx = py.run b (fun iy => px.run b (f iy) kx) ky := by
  have inner : ∀ iy, core b px.N px.M px.Mo px.ker (fun ix => f iy ix * (py.mIn iy * px.mIn ix)) kx
      = py.mIn iy * core b px.N px.M px.Mo px.ker (fun ix => f iy ix * px.mIn ix) kx := fun iy => by
    rw [← core_mul_left]; congr 1; funext ix; ring
  unfold Pipe.run2
  rw [core2_eq_iter, funext inner]
  exact py.run_peel b px.c (px.mOut kx) _ ky

end core

section pipeline
variable {K C : Type} [Field K] [Field C] {T E : K → C}

theorem inMult2_eq (hT : IsChar T) (hE : IsChar E) (gy gx : Cfg K C) (hemu : gy.emu = gx.emu)
    (iy ix : ℕ) : inMult2 T E gy gx iy ix = gy.inMult T E iy * gx.inMult T E ix := by
  unfold inMult2 Cfg.inMult emuIn2 Cfg.emuIn
  rw [hemu, hE.map_neg_add]
  split
  · rw [hT.add, hT.map_neg_add]; ring
  · ring

theorem outMult2_eq (hT : IsChar T) (hE : IsChar E) (gy gx : Cfg K C) (hemu : gy.emu = gx.emu)
    (ky kx : ℕ) : outMult2 T E gy gx ky kx = gy.outMult T E ky * gx.outMult T E kx := by
  have hc : ∀ ky kx, centrePhase2 T E gy gx ky kx
      = gy.centrePhase T E ky * gx.centrePhase T E kx := fun ky kx => by
    unfold centrePhase2 Cfg.centrePhase
    rw [hT.map_neg_add, hE.map_neg_add]; ring
  unfold outMult2 Cfg.outMult emuOut2 Cfg.emuOut
  rw [hc, hc, hemu, mul_inv]
  split
  · rw [hT.add]; ring
  · ring

/-- **Separability of the whole pipeline**: the literal 2-D `forward` is the 1-D `forward`
along `x` followed by the 1-D `forward` along `y`. -/
theorem fastForward2_eq_iter (hT : IsChar T) (hE : IsChar E) (gy gx : Cfg K C)
    (hemu : gy.emu = gx.emu) (f : ℕ → ℕ → C) (ky kx : ℕ) :
    fastForward2 T E gy gx f ky kx = fastForward2Iter T E gy gx f ky kx := by
  unfold fastForward2Iter
  rw [fastForward_eq_run, fastForward_eq_run, hemu, ← Pipe.run2_eq_iter]
  simp only [fastForward2, Pipe.run2, Cfg.fwd, inMult2_eq hT hE gy gx hemu,
    outMult2_eq hT hE gy gx hemu, mul_one, one_mul]

/-- **`FastFourierTransform.forward` on a 2-D grid = the 2-D defining sum.** -/
theorem fastForward2_eq_sum (hT : IsChar T) (hE : IsChar E) (hper : ∀ n : ℤ, T (n : K) = 1)
    (gy gx : Cfg K C) (hemu : gy.emu = gx.emu)
    (hNy : gy.N ≤ gy.M) (hMoy : gy.Mo ≤ gy.M) (hcy : gy.dT * (gy.M : K) * gy.δ = 1)
    (hNx : gx.N ≤ gx.M) (hMox : gx.Mo ≤ gx.M) (hcx : gx.dT * (gx.M : K) * gx.δ = 1)
    (f : ℕ → ℕ → C) (ky kx : ℕ) (hky : ky < gy.Mo) (hkx : kx < gx.Mo) :
    fastForward2 T E gy gx f ky kx
      = ∑ iy ∈ range gy.N, ∑ ix ∈ range gx.N, f iy ix * (gy.w * gx.w) *
          (T (-(gx.a kx * gx.x ix + gy.a ky * gy.x iy)) * E (-(gx.s * gx.x ix + gy.s * gy.x iy))) := by
  rw [fastForward2_eq_iter hT hE gy gx hemu, fastForward2Iter]
  simp only [fastForward_eq_sumForward hT hE hper gy hNy hMoy hcy _ ky hky,
    fastForward_eq_sumForward hT hE hper gx hNx hMox hcx _ kx hkx, sumForward, sumRange_eq,
    Finset.sum_mul]
  refine Finset.sum_congr rfl fun iy _ => Finset.sum_congr rfl fun ix _ => ?_
  rw [neg_add, hT.add, neg_add, hE.add]; ring

end pipeline
end HcipyVerif.Fft
