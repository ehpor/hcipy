import HcipyVerif.Lemmas.GridAxes
import Mathlib.Tactic.Linarith
import Mathlib.Tactic.Ring
import Mathlib.Algebra.Order.Field.Rat

/-! An in-place operation that does something changes the data (`Coords.shift_ne`, `scale_ne`, `reverse_ne`); the rounded
shift `Coords.shiftR` does exactly when some stored sum is not absorbed (`Coords.shiftR_eq_self_iff`). -/

namespace HcipyVerif.Grid

/-- axis `i` of the coordinates carries a value `v` (regular: the spacing or the origin) -/
def Coords.axisHas (c : Coords) (i : Nat) (v : Rat) : Prop :=
  match c with
  | .regular a => ∃ x, a[i]? = some x ∧ (x.delta = v ∨ x.zero = v)
  | .separated a => ∃ ax, a[i]? = some ax ∧ v ∈ ax
  | .unstructured cs => ∃ col, cs[i]? = some col ∧ v ∈ col

theorem Coords.shift_ne (c : Coords) (b : List Rat) (i : Nat) (v : Rat) (hv : c.axisHas i v)
    (hb : ∃ bi, b[i]? = some bi ∧ bi ≠ 0) : c.shift b ≠ c := by
  obtain ⟨bi, hbi, hne⟩ := hb
  intro e
  cases c with
  | regular a =>
    obtain ⟨x, hx, _⟩ := hv
    injection e with e
    exact hne (add_eq_left.mp (congrArg RegAxis.zero (zipWith_eq_self_get? e hx hbi)))
  | separated a | unstructured a =>
    obtain ⟨ax, hx, hmem⟩ := hv
    injection e with e
    exact hne (add_eq_left.mp ((map_eq_self_iff _ ax).mp (zipWith_eq_self_get? e hx hbi) v hmem))

theorem Coords.scale_ne (c : Coords) (f : List Rat) (i : Nat) (v : Rat) (hv : c.axisHas i v) (hv0 : v ≠ 0)
    (hf : ∃ fi, f[i]? = some fi ∧ fi ≠ 1) : c.scale f ≠ c := by
  obtain ⟨fi, hfi, hne⟩ := hf
  have key : v * fi ≠ v := fun h => hne ((mul_eq_left₀ hv0).mp h)
  intro e
  cases c with
  | regular a =>
    obtain ⟨x, hx, hd⟩ := hv
    injection e with e
    have := zipWith_eq_self_get? e hx hfi
    rcases hd with rfl | rfl
    · exact key (congrArg RegAxis.delta this)
    · exact key (congrArg RegAxis.zero this)
  | separated a | unstructured a =>
    obtain ⟨ax, hx, hmem⟩ := hv
    injection e with e
    exact key ((map_eq_self_iff _ ax).mp (zipWith_eq_self_get? e hx hfi) v hmem)

theorem Coords.scale_one (c : Coords) : c.scale (List.replicate c.ndim 1) = c := by
  cases c with
  | regular a =>
    simp only [Coords.scale, Coords.ndim, Coords.regular.injEq]
    exact zipWith_replicate_self _ 1 (fun x => by cases x; simp only [mul_one]) a
  | separated a | unstructured a =>
    simp only [Coords.scale, Coords.ndim, Coords.separated.injEq, Coords.unstructured.injEq]
    exact zipWith_replicate_self _ 1 (fun x => by simp only [mul_one, List.map_id_fun', id_eq]) a

theorem RegAxis.reverse_reverse (a : RegAxis) : a.reverse.reverse = a := by
  cases a; simp only [RegAxis.reverse, RegAxis.mk.injEq, neg_neg, true_and]; ring

theorem Coords.reverse_reverse (c : Coords) : c.reverse.reverse = c := by
  cases c with
  | regular a => exact congrArg Coords.regular (List.map_involutive_iff.mpr RegAxis.reverse_reverse a)
  | separated a | unstructured a => exact congrArg _ (List.map_involutive_iff.mpr List.reverse_involutive a)

/-- axis `i` is not symmetric under reversal (regular: non-zero spacing; otherwise: not a palindrome) -/
def Coords.axisAsym (c : Coords) (i : Nat) : Prop :=
  match c with
  | .regular a => ∃ x, a[i]? = some x ∧ x.delta ≠ 0
  | .separated a => ∃ ax, a[i]? = some ax ∧ ax.reverse ≠ ax
  | .unstructured cs => ∃ col, cs[i]? = some col ∧ col.reverse ≠ col

theorem Coords.reverse_ne (c : Coords) (i : Nat) (h : c.axisAsym i) : c.reverse ≠ c := by
  intro e
  cases c with
  | regular a =>
    obtain ⟨x, hx, hd⟩ := h
    injection e with e
    have : -x.delta = x.delta := congrArg RegAxis.delta ((map_eq_self_iff _ a).mp e x (List.mem_of_getElem? hx))
    exact hd (by linarith)
  | separated a | unstructured a =>
    obtain ⟨x, hx, hd⟩ := h
    injection e with e
    exact hd ((map_eq_self_iff _ a).mp e x (List.mem_of_getElem? hx))

theorem Coords.shiftVals_length (c : Coords) : c.shiftVals.length = c.ndim := by
  cases c <;> simp only [Coords.shiftVals, Coords.ndim, List.length_map]

theorem Coords.shiftR_eq_self_iff (rnd : Rat → Rat) (c : Coords) (b : List Rat) (hl : b.length = c.ndim) :
    c.shiftR rnd b = c ↔
      ∀ i (h1 : i < c.shiftVals.length) (h2 : i < b.length), ∀ x ∈ c.shiftVals[i], rnd (x + b[i]) = x := by
  cases c with
  | regular a =>
    simp only [Coords.shiftR, Coords.regular.injEq, Coords.shiftVals, List.length_map, List.getElem_map,
      List.mem_singleton, forall_eq]
    rw [zipWith_eq_self_iff _ a b (by simpa only [ndim] using hl)]
    constructor
    · intro h i h1 h2
      have := congrArg RegAxis.zero (h i h1 h2)
      simpa only using this
    · intro h i h1 h2
      have := h i h1 h2
      cases hx : a[i] with
      | mk d n z => simp only [hx] at this ⊢; rw [this]
  | separated a | unstructured a =>
    simp only [Coords.shiftR, Coords.separated.injEq, Coords.unstructured.injEq, Coords.shiftVals]
    rw [zipWith_eq_self_iff _ a b (by simpa only [ndim] using hl)]
    simp only [map_eq_self_iff]

theorem Coords.absorbs_iff (rnd : Rat → Rat) (c : Coords) (b : List Rat) :
    c.absorbs rnd b = true ↔
      ∀ i (h1 : i < c.shiftVals.length) (h2 : i < b.length), ∀ x ∈ c.shiftVals[i], rnd (x + b[i]) = x := by
  simp only [Coords.absorbs, List.all_eq_true, decide_eq_true_eq]
  constructor
  · intro h i h1 h2 x hx
    have hm : (c.shiftVals[i], b[i]) ∈ List.zip c.shiftVals b := by
      rw [List.mem_iff_getElem]
      exact ⟨i, by simp only [List.length_zip, lt_inf_iff, h1, h2, and_self], by simp only [List.getElem_zip]⟩
    exact h _ hm x hx
  · intro h vb hvb x hx
    obtain ⟨i, hi, e⟩ := List.mem_iff_getElem.mp hvb
    simp only [List.length_zip, Nat.lt_min] at hi
    simp only [List.getElem_zip] at e
    subst e
    exact h i hi.1 hi.2 x hx

end HcipyVerif.Grid
