import Mathlib.Data.List.Fold
import HcipyVerif.Model.Detector
import HcipyVerif.Lemmas.Binning

/-! The detector state machines (C17): the invariants `Rep`, `PRep`, `RInv` and the steps that keep them. -/
set_option linter.unusedSectionVars false

namespace HcipyVerif.Detector
open HcipyVerif.Binning

variable {K : Type} [Field K]

/-- the image a read-out would return now -/
def accImage (g : Geom) (st : St K) : List K := st.acc.getD (vzero g.npix)

theorem charge_length (p : List K) (dt w : K) : (charge p dt w).length = p.length := by
  simp [charge]

theorem charge_getD (p : List K) (dt w : K) (i : Nat) : (charge p dt w).getD i 0 = p.getD i 0 * dt * w :=
  ListFacts.getD_map_of_eq _ (by rw [zero_mul, zero_mul]) p i

theorem charge_sum (p : List K) (dt w : K) : (charge p dt w).sum = p.sum * dt * w := by
  simp only [charge, mul_assoc, List.sum_map_mul_right, List.map_id']

theorem vadd_assoc_det (a b c : List K) : vadd (vadd a b) c = vadd a (vadd b c) :=
  Binning.vadd_assoc a b c

instance : Std.Associative (vadd : List K → List K → List K) := ⟨vadd_assoc_det⟩

instance : Std.Commutative (vadd : List K → List K → List K) := ⟨fun _ _ => List.zipWith_comm_of_comm add_comm⟩

theorem charge_add_dt (p : List K) (dt₁ dt₂ w : K) :
    charge p (dt₁ + dt₂) w = vadd (charge p dt₁ w) (charge p dt₂ w) := by
  simp only [charge, vadd, List.zipWith_map, List.zipWith_self, mul_add, add_mul]

theorem charge_smul_power (c : K) (p : List K) (dt w : K) :
    charge (p.map (c * ·)) dt w = (charge p dt w).map (c * ·) := by
  simp only [charge, List.map_map]
  apply List.map_congr_left
  intro x _
  simp only [Function.comp]
  ring

theorem charge_add_w (p : List K) (dt w₁ w₂ : K) :
    charge p dt (w₁ + w₂) = vadd (charge p dt w₁) (charge p dt w₂) := by
  simp only [charge, vadd, List.zipWith_map, List.zipWith_self, mul_add]

theorem binCharge_length (g : Geom) (p : List K) (dt w : K) (h : p.length = g.ninput) :
    (charge (binNDs g.ss g.dims p) dt w).length = g.npix := by
  rw [charge_length, binNDs_length _ _ g.hl _ h]; rfl

theorem sumCharges_nil (g : Geom) : sumCharges g ([] : List (List K × K × K)) = vzero g.npix := rfl

theorem sumCharges_snoc (g : Geom) (l : List (List K × K × K)) (x : List K × K × K) :
    sumCharges g (l ++ [x]) = vadd (sumCharges g l) (charge (binNDs g.ss g.dims x.1) x.2.1 x.2.2) := by
  simp [sumCharges, List.foldl_append]

/-- every pending integration has the size of the input grid -/
def Valid (g : Geom) (l : List (List K × K × K)) : Prop := ∀ x ∈ l, x.1.length = g.ninput

theorem Valid.nil (g : Geom) : Valid g ([] : List (List K × K × K)) := fun _ hx => nomatch hx

theorem Valid.snoc_iff {g : Geom} {l : List (List K × K × K)} {x : List K × K × K} :
    Valid g (l ++ [x]) ↔ Valid g l ∧ x.1.length = g.ninput := by
  simp only [Valid, List.forall_mem_append, List.forall_mem_singleton]

/-- `vadd` is associative and commutative on all lists (it truncates on both sides alike), so the left fold of the model
is the right fold `vsum`: length, pixels, total and scaling of the sum image are those of `vsum` (Lemmas/Binning). -/
theorem sumCharges_eq_vsum (g : Geom) (l : List (List K × K × K)) :
    sumCharges g l = vsum g.npix (l.map fun x => charge (binNDs g.ss g.dims x.1) x.2.1 x.2.2) :=
  List.foldl_map.symm.trans List.foldl_eq_foldr

theorem Valid.charges {g : Geom} {l : List (List K × K × K)} (h : Valid g l) :
    ∀ c ∈ l.map fun x => charge (binNDs g.ss g.dims x.1) x.2.1 x.2.2, c.length = g.npix :=
  List.forall_mem_map.2 fun x hx => binCharge_length g _ _ _ (h x hx)

theorem sumCharges_length (g : Geom) (l : List (List K × K × K)) (h : Valid g l) :
    (sumCharges g l).length = g.npix := by
  rw [sumCharges_eq_vsum]
  exact vsum_length _ _ h.charges

/-- the state represents the pending integrations `cur` -/
structure Rep (g : Geom) (st : St K) (cur : List (List K × K × K)) : Prop where
  img : accImage g st = sumCharges g cur
  valid : Valid g cur

theorem Rep.init (g : Geom) : Rep g ({} : St K) [] := ⟨rfl, Valid.nil g⟩

/-- the accumulator read as an image: `none` is the zero image -/
theorem accAdd_getD (n : Nat) (acc : Option (List K)) (c : List K) (hc : c.length = n) :
    accAdd acc c = vadd (acc.getD (vzero n)) c := by
  cases acc with
  | none => exact (vadd_vzero_left n c hc).symm
  | some a => rfl

theorem Rep.integrate {g : Geom} {st : St K} {cur} (hr : Rep g st cur) (p : List K) (dt w : K)
    (hp : p.length = g.ninput) :
    Rep g (integrate g st p dt w).1 (cur ++ [(p, dt, w)]) := by
  refine ⟨?_, Valid.snoc_iff.2 ⟨hr.valid, hp⟩⟩
  simp only [Detector.integrate, hp, if_true, accImage, Option.getD_some]
  rw [accAdd_getD g.npix st.acc _ (binCharge_length g p dt w hp), show st.acc.getD (vzero g.npix) = _ from hr.img,
    sumCharges_snoc]

theorem run_nil (g : Geom) (st : St K) : run g st [] = (st, []) := rfl

theorem run_cons (g : Geom) (st : St K) (op : Op K) (ops : List (Op K)) :
    run g st (op :: ops) = ((run g (step g st op).1 ops).1, (step g st op).2 :: (run g (step g st op).1 ops).2) := rfl

theorem run_append (g : Geom) (st : St K) (ops more : List (Op K)) :
    run g st (ops ++ more) =
      ((run g (run g st ops).1 more).1, (run g st ops).2 ++ (run g (run g st ops).1 more).2) := by
  induction ops generalizing st with
  | nil => simp [run_nil]
  | cons op ops ih => simp only [List.cons_append, run_cons, ih]

theorem images_append (a b : List (Obs K)) : images (a ++ b) = images a ++ images b := by
  induction a with
  | nil => rfl
  | cons o a ih => cases o <;> simp [images, ih]

theorem images_step_integrate (g : Geom) (st : St K) (p : List K) (dt w : K) (l : List (Obs K)) :
    images ((step g st (.integrate p dt w)).2 :: l) = images l := by
  by_cases hp : p.length = g.ninput <;> simp [step, Detector.integrate, hp, images]

theorem reads_eq_images (g : Geom) (st : St K) (ops : List (Op K)) :
    reads g st ops = (images (run g st ops).2).map Obs.image := by
  induction ops generalizing st with
  | nil => rfl
  | cons op ops ih =>
    cases op with
    | readOut => simp [reads, run_cons, step, readOut, images, ih]
    | integrate p dt w =>
      simp only [reads, run_cons, ih, images_step_integrate]

/-- the unit flat field changes nothing -/
theorem vmul_ones (a : List K) (n : Nat) (h : a.length = n) : vmul a (List.replicate n (1 : K)) = a := by
  rw [vmul, ListFacts.zipWith_replicate_right _ _ h]
  simp only [mul_one, List.map_id']

theorem vmul_getD (a b : List K) (i : Nat) (h : a.length = b.length) :
    (vmul a b).getD i 0 = a.getD i 0 * b.getD i 0 :=
  zipWith_getD (· * ·) (mul_zero 0) a b i h

theorem vmul_length (a b : List K) : (vmul a b).length = min a.length b.length := by simp [vmul]

/-- the dark current of an integration enters the accumulator as one more charge -/
theorem dark_step (a d : List K) (dt w : K) :
    List.zipWith (fun a d => a + d * dt * w) a d = vadd a (charge d dt w) := by
  simp only [charge, vadd, List.zipWith_map_right]

theorem charge_vzero (n : Nat) (dt w : K) : charge (vzero n) dt w = vzero n := by
  simp [charge, vzero]

/-- an accumulator that is the scalar 0 or an image of `n` pixels -/
def Sized (n : Nat) (acc : Option (List K)) : Prop := ∀ a, acc = some a → a.length = n

theorem Sized.none (n : Nat) : Sized n (none : Option (List K)) := fun _ h => nomatch h

theorem Sized.getD_length {n : Nat} {acc : Option (List K)} (h : Sized n acc) : (acc.getD (vzero n)).length = n := by
  cases acc with
  | none => exact vzero_length n
  | some a => exact h a rfl

theorem Sized.accAdd {n : Nat} {acc : Option (List K)} (h : Sized n acc) {c : List K} (hc : c.length = n) :
    (accAdd acc c).length = n := by
  rw [accAdd_getD n acc c hc, vadd_length, h.getD_length, hc, Nat.min_self]

theorem step_acc_length (g : Geom) (st : St K) (op : Op K) (hlen : Sized g.npix st.acc) :
    Sized g.npix (step g st op).1.acc := by
  cases op with
  | readOut => exact Sized.none _
  | integrate p dt w =>
    by_cases hp : p.length = g.ninput
    · intro a ha
      simp only [step, Detector.integrate, hp, if_true, Option.some.injEq] at ha
      subst ha
      exact hlen.accAdd (binCharge_length g p dt w hp)
    · simpa [step, Detector.integrate, hp] using hlen

theorem pStep_readOut_fst [DecidableEq K] (g : Geom) (pst : PSt K) :
    (pStep g pst .readOut).1 = { pst with acc := none, clean := true } := by
  simp only [pStep]; split <;> rfl

/-- the operation is a read-out or an integration of a power array of the size of the input grid -/
def sizedOp (g : Geom) : Op K → Bool
  | .integrate p _ _ => decide (p.length = g.ninput)
  | .readOut => true

/-- every integration of the history has the size of the input grid (decidable) -/
def WellSized (g : Geom) (ops : List (Op K)) : Prop := ∀ op ∈ ops, sizedOp g op = true

instance (g : Geom) (ops : List (Op K)) : Decidable (WellSized g ops) := by
  unfold WellSized; infer_instance

/-- the exposures of a history, with no size test at all: the integrations before each read-out -/
def exposuresAll : List (List K × K × K) → List (Op K) → List (List (List K × K × K))
  | _, [] => []
  | cur, .readOut :: ops => cur :: exposuresAll [] ops
  | cur, .integrate p dt w :: ops => exposuresAll (cur ++ [(p, dt, w)]) ops

theorem WellSized.tail {g : Geom} {op : Op K} {ops : List (Op K)} (h : WellSized g (op :: ops)) :
    WellSized g ops := fun o ho => h o (by simp [ho])

theorem WellSized.head_integrate {g : Geom} {p : List K} {dt w : K} {ops : List (Op K)}
    (h : WellSized g (.integrate p dt w :: ops)) : p.length = g.ninput := by
  have := h (.integrate p dt w) (by simp)
  simpa [sizedOp] using this

/-! In the proofs by `fun_induction exposures` the cases are: no operation left, a read-out, an integration of the
right size, an integration that is refused. -/

theorem exposures_eq_all (g : Geom) (ops : List (Op K)) (cur : List (List K × K × K))
    (h : WellSized g ops) : exposures g cur ops = exposuresAll cur ops := by
  fun_induction exposures g cur ops with
  | case1 => rfl
  | case2 cur ops ih => rw [exposuresAll, ih h.tail]
  | case3 cur p dt w ops _ ih => rw [exposuresAll, ih h.tail]
  | case4 cur p dt w ops hp => exact absurd h.head_integrate hp

theorem exposures_valid (g : Geom) (ops : List (Op K)) (cur : List (List K × K × K))
    (hc : Valid g cur) : ∀ e ∈ exposures g cur ops, Valid g e := by
  fun_induction exposures g cur ops with
  | case1 => exact fun _ he => nomatch he
  | case2 cur ops ih => exact List.forall_mem_cons.mpr ⟨hc, ih (Valid.nil g)⟩
  | case3 cur p dt w ops hp ih => exact ih (Valid.snoc_iff.2 ⟨hc, hp⟩)
  | case4 cur p dt w ops _ ih => exact ih hc

section
variable [DecidableEq K]

/-- every noise parameter has its "off" value and the exposure in progress is free of dark current -/
structure ParamsOff (g : Geom) (pst : PSt K) : Prop where
  flat : pst.flat = List.replicate g.npix 1
  dark : pst.dark = vzero g.npix
  sigma : pst.sigma = vzero g.npix
  photon : pst.photon = false
  clean : pst.clean = true

theorem allOff_paramsOff (g : Geom) : ParamsOff g (allOff g : PSt K) :=
  ⟨rfl, by simp [allOff, pInit, vzero], rfl, rfl, rfl⟩

theorem ParamsOff.off {g : Geom} {pst : PSt K} (h : ParamsOff g pst) : pst.off g = true := by
  simp [PSt.off, h.flat, h.sigma, h.photon, h.clean]

theorem ParamsOff.deterministic {g : Geom} {pst : PSt K} (h : ParamsOff g pst) :
    pst.deterministic g = true := by
  simp [PSt.deterministic, h.sigma, h.photon]

theorem ParamsOff.step {g : Geom} {pst : PSt K} (h : ParamsOff g pst) (op : POp K)
    (ho : OffOp g op = true) : ParamsOff g (pStep g pst op).1 := by
  cases op with
  | integrate p dt w =>
    by_cases hp : p.length = g.ninput
    · simp only [pStep, hp, if_true]
      exact { h with clean := by simp [h.clean, h.dark] }
    · simpa [pStep, hp] using h
  | readOut =>
    rw [pStep_readOut_fst]
    exact { h with clean := rfl }
  | setFlat m => exact { h with flat := of_decide_eq_true ho }
  | setDark d => exact { h with dark := of_decide_eq_true ho }
  | setSigma s => exact { h with sigma := of_decide_eq_true ho }
  | setPhoton b => exact { h with photon := show b = false by simpa [OffOp] using ho }

theorem offOp_lift (g : Geom) (op : Op K) : OffOp g (lift op) = true := by
  cases op <;> rfl

theorem pRun_cons (g : Geom) (st : PSt K) (op : POp K) (ops : List (POp K)) :
    pRun g st (op :: ops) =
      ((pRun g (pStep g st op).1 ops).1, (pStep g st op).2 :: (pRun g (pStep g st op).1 ops).2) := rfl

/-! A noisy detector `pst` simulates the noiseless `st` as long as their accumulators agree; they agree while no
dark current has entered the exposure in progress (`pst.clean`). -/

theorem pStep_readOut_snd {g : Geom} {pst : PSt K} {st : St K} (hoff : pst.off g = true)
    (hacc : pst.clean = true → pst.acc = st.acc) (hlen : Sized g.npix st.acc) :
    (pStep g pst .readOut).2 = (step g st .readOut).2 := by
  simp only [PSt.off, Bool.and_eq_true, Bool.not_eq_true', decide_eq_true_eq] at hoff
  obtain ⟨⟨⟨hclean, hph⟩, hflat⟩, hsig⟩ := hoff
  simp only [pStep, PSt.deterministic, hph, hsig, Bool.not_false, decide_true, Bool.and_self, if_true, step, readOut,
    hacc hclean, hflat]
  rw [← vmul.eq_1, vmul_ones _ _ hlen.getD_length]

/-- every `integrate` / `read_out` call keeps the relation -/
theorem pStep_lift_acc {g : Geom} {pst : PSt K} {st : St K} (op : Op K)
    (hacc : pst.clean = true → pst.acc = st.acc) (hlen : Sized g.npix st.acc) :
    (pStep g pst (lift op)).1.clean = true → (pStep g pst (lift op)).1.acc = (step g st op).1.acc := by
  cases op with
  | readOut => rw [lift, pStep_readOut_fst]; exact fun _ => rfl
  | integrate p dt w =>
    by_cases hp : p.length = g.ninput
    · intro hclean
      simp only [lift, pStep, hp, if_true, Bool.and_eq_true, decide_eq_true_eq] at hclean
      simp only [lift, pStep, hp, if_true, step, Detector.integrate, hacc hclean.1, hclean.2]
      rw [dark_step, charge_vzero, vadd_vzero_right _ _ (hlen.accAdd (binCharge_length g p dt w hp))]
    · simpa [lift, pStep, step, Detector.integrate, hp] using hacc

end

/-- well-formedness of a reference-level state: handles and the accumulator point into the heap, and the
caller holds no handle on the accumulator -/
structure RInv (st : RSt K) : Prop where
  known_lt : ∀ r ∈ st.known, r < st.heap.length
  acc_lt : ∀ a, st.acc = some a → a < st.heap.length
  acc_private : ∀ a, st.acc = some a → a ∉ st.known

/-- the value-level state a reference-level state stands for -/
def absSt (st : RSt K) : St K := { acc := st.accVal }

theorem RInv.init : RInv ({} : RSt K) := ⟨by simp, by simp, by simp⟩

theorem at_append_lt (st : RSt K) (x : List K) (r : Nat) (h : r < st.heap.length) :
    ({ st with heap := st.heap ++ [x] } : RSt K).at r = st.at r := by
  simp [RSt.at, List.getD_eq_getElem?_getD, List.getElem?_append_left h]

theorem rStep_inv (g : Geom) (st : RSt K) (op : ROp K) (h : RInv st) : RInv (rStep g st op).1 := by
  obtain ⟨h1, h2, h3⟩ := h
  cases op with
  | alloc v =>
    refine ⟨?_, ?_, ?_⟩ <;> simp only [rStep, List.length_append, List.length_singleton, List.mem_append, List.mem_singleton]
    · rintro r (hr | rfl)
      · have := h1 r hr; omega
      · omega
    · intro a ha; have := h2 a ha; omega
    · intro a ha
      rintro (hk | rfl)
      · exact h3 a ha hk
      · have := h2 _ ha; omega
  | write r v =>
    simp only [rStep]
    split
    · exact ⟨by simpa using h1, by simpa using h2, h3⟩
    · exact ⟨h1, h2, h3⟩
  | integrate buf dt w =>
    simp only [rStep]
    split
    · refine ⟨?_, ?_, ?_⟩ <;> simp only [List.length_append, List.length_singleton, Option.some.injEq]
      · intro r hr; have := h1 r hr; omega
      · rintro a rfl; omega
      · rintro a rfl hk; have := h1 _ hk; omega
    · exact ⟨h1, h2, h3⟩
  | readOut =>
    refine ⟨?_, ?_, ?_⟩ <;> simp only [rStep, List.length_append, List.length_singleton, List.mem_append, List.mem_singleton]
    · rintro r (hr | rfl)
      · have := h1 r hr; omega
      · omega
    · intro a ha; simp at ha
    · intro a ha; simp at ha

/-- frame: a step changes the content of an existing cell only by a `write` through a handle the caller holds -/
theorem rStep_at (g : Geom) (st : RSt K) (op : ROp K) (a : Nat) (ha : a < st.heap.length)
    (hw : ∀ v, op = .write a v → a ∉ st.known) : (rStep g st op).1.at a = st.at a := by
  cases op with
  | alloc v => exact List.getD_append _ _ _ _ ha
  | write r v =>
    simp only [rStep]
    split
    · rename_i hk
      have hne : r ≠ a := fun e => hw v (e ▸ rfl) (e ▸ by simpa using hk)
      simp [RSt.at, List.getD_eq_getElem?_getD, List.getElem?_set_ne hne]
    · rfl
  | integrate buf dt w =>
    simp only [rStep]
    split
    · exact List.getD_append _ _ _ _ ha
    · rfl
  | readOut => exact List.getD_append _ _ _ _ ha

/-- a step that does not rebind the accumulator leaves its value alone: the caller holds no handle on it -/
theorem absSt_frame {g : Geom} {st : RSt K} {op : ROp K} (h : RInv st) (hacc : (rStep g st op).1.acc = st.acc) :
    absSt (rStep g st op).1 = absSt st := by
  unfold absSt RSt.accVal
  rw [hacc]
  cases ha : st.acc with
  | none => rfl
  | some a => rw [Option.map_some, Option.map_some, rStep_at g st op a (h.acc_lt a ha) fun _ _ => h.acc_private a ha]

theorem absSt_integrate (g : Geom) (st : RSt K) (buf : Nat) (dt w : K) :
    absSt (rStep g st (.integrate buf dt w)).1 = (step g (absSt st) (.integrate (st.at buf) dt w)).1 := by
  simp only [rStep, step, Detector.integrate]
  split
  · simp only [absSt, RSt.accVal, Option.map_some, RSt.at, ListFacts.getD_append_length]
  · rfl

theorem absSt_readOut (g : Geom) (st : RSt K) :
    absSt (rStep g st .readOut).1 = (step g (absSt st) .readOut).1 ∧
      (step g (absSt st) .readOut).2 = .image ((rStep g st .readOut).1.at st.heap.length) := by
  constructor
  · simp [rStep, step, readOut, absSt, RSt.accVal]
  · simp only [rStep, step, readOut, absSt, RSt.at, ListFacts.getD_append_length]

theorem rRun_cons (g : Geom) (st : RSt K) (op : ROp K) (ops : List (ROp K)) :
    rRun g st (op :: ops) = ((rRun g (rStep g st op).1 ops).1, (rStep g st op).2 :: (rRun g (rStep g st op).1 ops).2) := rfl

theorem rStep_known_sub (g : Geom) (st : RSt K) (op : ROp K) : ∀ r ∈ st.known, r ∈ (rStep g st op).1.known := by
  intro r hr
  cases op with
  | alloc v => simp [rStep, hr]
  | write r' v => simp only [rStep]; split <;> exact hr
  | integrate buf dt w => simp only [rStep]; split <;> exact hr
  | readOut => simp [rStep, hr]

theorem darkTime_snoc (l : List (List K × K × K)) (x : List K × K × K) :
    darkTime (l ++ [x]) = darkTime l + x.2.1 * x.2.2 := by
  simp [darkTime]

theorem charge_darkTime (d : List K) (T dt w : K) :
    vadd (d.map (· * T)) (charge d dt w) = d.map (· * (T + dt * w)) := by
  simp only [charge, vadd, List.zipWith_map, List.zipWith_self, mul_add, mul_assoc]

section
variable [DecidableEq K]

/-- the accumulated charge of `pst` is `Σ bin(p)·dt·w + dark·Σ dt·w` over the pending integrations `cur` -/
structure PRep (g : Geom) (pst : PSt K) (cur : List (List K × K × K)) : Prop where
  lam : pst.lam g = vadd (sumCharges g cur) (pst.dark.map (· * darkTime cur))
  valid : Valid g cur
  dlen : pst.dark.length = g.npix

theorem PRep.init (g : Geom) (pst : PSt K) (h : pst.acc = none) (hd : pst.dark.length = g.npix) : PRep g pst [] := by
  refine ⟨?_, Valid.nil g, hd⟩
  have hz : pst.dark.map (· * (0 : K)) = vzero g.npix := by simp [vzero, hd]
  simp only [PSt.lam, h, Option.getD_none, sumCharges_nil, darkTime, List.map_nil, List.sum_nil]
  rw [hz, vadd_vzero_right _ _ (vzero_length _)]

theorem PRep.integrate {g : Geom} {pst : PSt K} {cur} (hr : PRep g pst cur) (p : List K) (dt w : K)
    (hp : p.length = g.ninput) :
    PRep g (pStep g pst (.integrate p dt w)).1 (cur ++ [(p, dt, w)]) := by
  have hc := binCharge_length g p dt w hp
  refine ⟨?_, Valid.snoc_iff.2 ⟨hr.valid, hp⟩, by simpa [pStep, hp] using hr.dlen⟩
  simp only [pStep, hp, if_true, PSt.lam, Option.getD_some]
  rw [accAdd_getD g.npix pst.acc _ hc, show pst.acc.getD (vzero g.npix) = _ from hr.lam, sumCharges_snoc, darkTime_snoc,
    dark_step, ← charge_darkTime]
  -- both sides add the same four images
  ac_rfl

theorem pIntegrateAll_rep (g : Geom) (l : List (List K × K × K)) (hv : Valid g l) (pst : PSt K) (cur)
    (hr : PRep g pst cur) : PRep g (pIntegrateAll g pst l) (cur ++ l) := by
  induction l generalizing pst cur with
  | nil => simpa [pIntegrateAll] using hr
  | cons x l ih =>
    have := ih (fun y hy => hv y (by simp [hy])) _ _ (hr.integrate x.1 x.2.1 x.2.2 (hv x (by simp)))
    simpa [pIntegrateAll] using this

/-- frame: integrations change the accumulator and the ghost flag only -/
theorem pIntegrateAll_frame (g : Geom) (l : List (List K × K × K)) (pst : PSt K) :
    ∃ a c, pIntegrateAll g pst l = { pst with acc := a, clean := c } := by
  induction l generalizing pst with
  | nil => exact ⟨_, _, rfl⟩
  | cons x l ih =>
    obtain ⟨a, c, h⟩ := ih (pStep g pst (.integrate x.1 x.2.1 x.2.2)).1
    refine ⟨a, c, h.trans ?_⟩
    simp only [pStep]; split <;> rfl

theorem noisyImage_getD (g : Geom) (st : PSt K) (δ z : List K) (n : Nat) (hl : (st.lam g).length = n)
    (hf : st.flat.length = n) (hs : st.sigma.length = n) (hδ : δ.length = n) (hz : z.length = n) (i : Nat) :
    (noisyImage g st δ z).getD i 0 =
      ((st.lam g).getD i 0 + (if st.photon then δ.getD i 0 else 0)) * st.flat.getD i 0
        + st.sigma.getD i 0 * z.getD i 0 := by
  have hc : (if st.photon then vadd (st.lam g) δ else st.lam g).length = n := by
    split
    · rw [vadd_length, hl, hδ, Nat.min_self]
    · exact hl
  rw [noisyImage, vadd_getD _ _ _ (by rw [vmul_length, vmul_length, hc, hf, hs, hz]),
    vmul_getD _ _ _ (hc.trans hf.symm), vmul_getD _ _ _ (hs.trans hz.symm)]
  split
  · rw [vadd_getD _ _ _ (hl.trans hδ.symm)]
  · rw [add_zero]

theorem vmul_vzero_left (n : Nat) (z : List K) (h : z.length = n) : vmul (vzero n : List K) z = vzero n := by
  rw [vmul, vzero, ListFacts.zipWith_replicate_left _ _ h]
  simp [h]

end

end HcipyVerif.Detector
