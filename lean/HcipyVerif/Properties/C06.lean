import HcipyVerif.Lemmas.OpIR
import HcipyVerif.Lemmas.EffectLoops

/-!
# C06 — every optical element is a linear (fibre injection: conjugate-linear), repeatable map that
leaves its input intact

Three models, tied to the code by harness/props/c06.py:

* `OpIR.Term` / `denote` — what an element computes.  `denote_linear`, `conj_linear`: **every** term
  with a definite parity is linear / conjugate-linear, over any commutative ring with a ring
  involution `cj` (instantiated at `ℂ` by `isConj_complex`); vectors are lists of any length.
  The terms are built in Lean by `Elements.familyTerm` from the parameters the harness reads off the
  element (driver op `C06 denote-family`); `family_parity`: every term of the table has the parity
  its family declares, hence is (conjugate-)linear (`family_semilinear`), also as executed at the
  driver's dyadic scalars (`family_semilinear_executed`) and applied component by component to a
  polarised field (`denoteBlocks`, `family_semilinear_blocks`, op `C06 denote-family-blocks`).
* `Effects.Prog` / `call` — what a call does to the objects it is given.  `safe_sound`: a program
  accepted by the static checker returns with the input wavefront's field *and* attributes exactly
  as they were, for every input value and every meaning of the array operations; `repeatable`:
  calling again (on what the first call left behind) gives the same result.  Grid and Stokes vector
  are heap objects of their own (`viewProg`, `safeAttr`, `safe_sound_attr`): several wavefronts may
  point to one grid, and an in-place update through any of them is rejected
  (`scaleSharedGridOld_*`, `copy_shares_grid_rejected`, `stokesInplaceOld_*`).  Every shipped effect
  program is accepted on all three heaps (`shipped_programs_safeAll`), the programs with a loop
  over scales / layers for every number of rounds (`shipped_loop_programs_safeAll`); the pinned tree's
  `VectorVortexCoronagraph.backward` is rejected and provably leaves `wavelength = 1`
  (`vvcBwdScalarOld_clobbers_wavelength`).  The driver op `C06 effects` runs `call` and the
  checkers; the harness compares identity / sharing of the result, the ordered trace of what is done
  to the input object and the number of wavefront objects created with the running code.
* `Effects.IProg` / `callI` / `runHistory` — what a call keeps inside the element
  (`history_independent`); driver op `C06 history` replays the harness's call / parameter-change
  histories and its hit / miss predictions are compared with observed recomputations.

Not modelled: hash collisions of the instance cache (C05), the Python object model beyond the
instruction set of `Effects.Instr`, rounding.  `chain` stands for compositions of arbitrary parts
(no frame theorem for sequential composition of calls).
-/

namespace HcipyVerif.C06
open HcipyVerif.OpIR HcipyVerif.OpIR.Old HcipyVerif.Effects HcipyVerif.Elements

section Linear
variable {K : Type} [CommRing K] {cj : K → K}

/-- **Linearity.** For every operator term of linear parity, every scalar `a` and all vectors
`x`, `y` of equal length: `denote t (a•x + y) = a•denote t x + denote t y`. -/
theorem denote_linear (hc : IsConj cj) (t : Term K) (ht : parity t = some false) (a : K) (x y : List K)
    (h : x.length = y.length) :
    denote cj t (vadd (smul a x) y) = vadd (smul a (denote cj t x)) (denote cj t y) :=
  denote_semilinear hc t false ht a x y h

/-- **Conjugate-linearity** (fibre injection as the code writes it):
`denote t (a•x + y) = conj(a)•denote t x + denote t y`. -/
theorem conj_linear (hc : IsConj cj) (t : Term K) (ht : parity t = some true) (a : K) (x y : List K)
    (h : x.length = y.length) :
    denote cj t (vadd (smul a x) y) = vadd (smul (cj a) (denote cj t x)) (denote cj t y) :=
  denote_semilinear hc t true ht a x y h

/-- The general statement both are instances of. -/
theorem denote_semilinear_all (hc : IsConj cj) (t : Term K) (b : Bool) (ht : parity t = some b) (a : K)
    (x y : List K) (h : x.length = y.length) :
    denote cj t (vadd (smul a x) y)
      = vadd (smul (if b then cj a else a) (denote cj t x)) (denote cj t y) :=
  denote_semilinear hc t b ht a x y h

/-- The result is a function of the input vector and the term's parameters only — and its length
depends on the input's length only (no data-dependent shapes). -/
theorem denote_length (t : Term K) (x y : List K) (h : x.length = y.length) :
    (denote cj t x).length = (denote cj t y).length :=
  denote_length_congr cj t x y h

end Linear

/-! ### The family schemas have the parity the property requires, whatever their parameters -/
section Parity
variable {K : Type}

theorem pointwise_parity (m : List K) : parity (pointwise m) = some false := rfl
theorem dense_parity (A : List (List K)) : parity (dense A) = some false := rfl
theorem fibreForward_parity (rows : List (List K)) : parity (fibreForward rows) = some true := rfl
theorem fibreBackward_parity (A : List (List K)) : parity (fibreBackward A) = some false := rfl
theorem projection_parity (T : List (List K)) (c : List K) (Ti : List (List K)) :
    parity (projection T c Ti) = some false := rfl
theorem lyotForward_parity (stop : List K) (Pb : List (List K)) (m1 : List K) (Pf : List (List K)) :
    parity (lyotForward stop Pb m1 Pf) = some false := rfl
theorem lyotBackward_parity (stop : List K) (Pb : List (List K)) (m1 : List K) (Pf : List (List K)) :
    parity (lyotBackward stop Pb m1 Pf) = some false := rfl
theorem sandwich_parity (Pb : List (List K)) (m : List K) (Pf : List (List K)) :
    parity (sandwich Pb m Pf) = some false := rfl
theorem optMul_parity (o : Option (List K)) : parity (optMul o) = some false := by
  cases o <;> rfl
theorem fibreNuller_parity (rows P : List (List K)) (apod : Option (List K)) :
    parity (fibreNuller rows P apod) = some true := by
  simp [fibreNuller, fibreForward, parity, optMul_parity]
theorem fibreNullerBackward_parity (apod : Option (List K)) (Pb B : List (List K)) :
    parity (fibreNullerBackward apod Pb B) = some false := by
  simp [fibreNullerBackward, fibreBackward, parity, optMul_parity]
theorem fibreModes_parity (Mc Mh : List (List K)) (ph w : List K) :
    parity (fibreModes Mc ph Mh w) = some false := rfl
theorem scaledTransform_parity (c : K) (F : List (List K)) : parity (scaledTransform c F) = some false := rfl
theorem lyotCore_parity (Pb : List (List K)) (m1 : List K) (Pf : List (List K)) :
    parity (lyotCore Pb m1 Pf) = some false := rfl

theorem multiscale_parity (F0 : List (List K)) (levels : List (List (List K) × List K × List (List K))) :
    parity (multiscale F0 levels) = some false := by
  fun_induction multiscale F0 levels with
  | case1 => rfl
  | case2 Pb m Pf rest ih => simp [parity, ih, sandwich]

theorem multiscaleForward_parity (stop : Option (List K)) (F0 : List (List K))
    (levels : List (List (List K) × List K × List (List K))) :
    parity (multiscaleForward stop F0 levels) = some false := by
  simp [multiscaleForward, parity, optMul_parity, multiscale_parity]

theorem multiscaleBackward_parity (stop : Option (List K)) (F0 : List (List K))
    (levels : List (List (List K) × List K × List (List K))) :
    parity (multiscaleBackward stop F0 levels) = some false := by
  simp [multiscaleBackward, parity, optMul_parity, multiscale_parity]

/-- An optical system of linear parts is linear; each conjugate-linear part flips the parity. -/
theorem system_parity_linear (ts : List (Term K)) (h : ∀ t ∈ ts, parity t = some false) :
    parity (system ts) = some false := by
  induction ts with
  | nil => rfl
  | cons t rest ih =>
    obtain ⟨h1, h2⟩ := List.forall_mem_cons.mp h
    simp [system, parity, h1, ih h2]

theorem systemDense_parity (parts : List (List (List K))) : parity (systemDense parts) = some false :=
  system_parity_linear _ (List.forall_mem_map.mpr fun _ _ => rfl)

/-- **Every term the driver op `C06 denote-family` can build has the parity its family declares**
(`Family.conj`: conjugate-linear for fibre injection and the nullers' forward, linear for the rest) —
for every family of the table, every number, size and value of the arguments (any number of
multi-scale levels, any number of system parts, with or without stop / apodizer). -/
theorem family_parity (f : Family) (args : List (Arg K)) (t : Term K) (h : familyTerm f args = some t) :
    parity t = some f.conj := by
  revert t
  fun_cases familyTerm f args <;> rintro t ⟨⟩
  -- one goal per row of `familyTerm` that yields a term: the parity of that schema
  case case10 => exact multiscaleForward_parity _ _ _
  case case12 => exact multiscaleBackward_parity _ _ _
  case case14 => exact systemDense_parity _
  case case16 => exact fibreNuller_parity _ _ _
  case case18 => exact fibreNullerBackward_parity _ _ _
  all_goals rfl

end Parity

section FamilyLinear
variable {K : Type} [CommRing K] {cj : K → K}

/-- **Hence every family is (conjugate-)linear as executed**: for the term `t` that `familyTerm`
builds — the very term the driver evaluates and the harness compares with the element's output on
`E1`, `E2` and `a·E1+E2` — `denote t (a•x + y) = a'•denote t x + denote t y` with `a' = a`, or
`a' = conj a` exactly for the families in which the code conjugates the field. -/
theorem family_semilinear (hc : IsConj cj) (f : Family) (args : List (Arg K)) (t : Term K)
    (h : familyTerm f args = some t) (a : K) (x y : List K) (hl : x.length = y.length) :
    denote cj t (vadd (smul a x) y)
      = vadd (smul (if f.conj then cj a else a) (denote cj t x)) (denote cj t y) :=
  denote_semilinear_all hc t f.conj (family_parity f args t h) a x y hl

/-- the linear families … -/
theorem family_linear (hc : IsConj cj) (f : Family) (hf : f.conj = false) (args : List (Arg K)) (t : Term K)
    (h : familyTerm f args = some t) (a : K) (x y : List K) (hl : x.length = y.length) :
    denote cj t (vadd (smul a x) y) = vadd (smul a (denote cj t x)) (denote cj t y) :=
  denote_linear hc t (hf ▸ family_parity f args t h) a x y hl

/-- … and fibre injection (alone or behind an apodizer and a propagator) is conjugate-linear. -/
theorem family_conj_linear (hc : IsConj cj) (f : Family) (hf : f.conj = true) (args : List (Arg K)) (t : Term K)
    (h : familyTerm f args = some t) (a : K) (x y : List K) (hl : x.length = y.length) :
    denote cj t (vadd (smul a x) y) = vadd (smul (cj a) (denote cj t x)) (denote cj t y) :=
  conj_linear hc t (hf ▸ family_parity f args t h) a x y hl

/-- **Polarised fields** (Jones-vector field: 2 components, Jones-matrix field: 4, stored one after
the other): the elements without polarisation optics apply the family's term to every component
(`OpIR.denoteBlocks`, what the driver op `C06 denote-family-blocks` evaluates and the harness compares
with the element's output on vector and tensor wavefronts) — and that is (conjugate-)linear on the
whole field, for any number `r` of components of any length `n`. -/
theorem family_semilinear_blocks (hc : IsConj cj) (f : Family) (args : List (Arg K)) (t : Term K)
    (h : familyTerm f args = some t) (n r : Nat) (a : K) (x y : List K) (hl : x.length = y.length) :
    denoteBlocks cj t n r (vadd (smul a x) y)
      = vadd (smul (if f.conj then cj a else a) (denoteBlocks cj t n r x)) (denoteBlocks cj t n r y) :=
  denoteBlocks_semilinear hc t f.conj (family_parity f args t h) n a r x y hl

example : denoteBlocks (fun a : ℤ => a) (.mulField [2, 3]) 2 2 [1, 1, 10, 10] = [2, 3, 20, 30] := by decide

/-- the hypotheses are satisfiable: each family accepts some argument list (here: one multi-scale level
of empty matrices and no stop, a two-part system, a nuller without apodizer). -/
example : ∃ t : Term ℤ, familyTerm .multiscaleForward [.none, .mat [], .mat [], .vec [], .mat []] = some t := ⟨_, rfl⟩
example : ∃ t : Term ℤ, familyTerm .system [.mat [[1]], .mat [[2]]] = some t := ⟨_, rfl⟩
example : ∃ t : Term ℤ, familyTerm .fibreNuller [.mat [[1]], .mat [[1]], .none] = some t := ⟨_, rfl⟩
example : ∀ f : Family, ∃ args : List (Arg ℤ), (familyTerm f args).isSome = true := fun f =>
  ⟨match f with
    | .pointwise => [.vec []]
    | .dense | .fibreForward | .fibreBackward => [.mat []]
    | .projection | .lyotCore | .sandwich => [.mat [], .vec [], .mat []]
    | .lyotForward | .lyotBackward => [.vec [], .mat [], .vec [], .mat []]
    | .multiscaleForward | .multiscaleBackward => [.none, .mat []]
    | .system => []
    | .fibreNuller => [.mat [], .mat [], .none]
    | .fibreNullerBackward => [.none, .mat [], .mat []]
    | .fibreModes => [.mat [], .vec [], .mat [], .vec []]
    | .scaledTransform => [.vec [0], .mat []],
    by cases f <;> rfl⟩

end FamilyLinear

/-- The hypothesis `IsConj` is satisfiable where it matters: complex conjugation. -/
theorem isConj_complex : IsConj (starRingEnd ℂ) :=
  ⟨map_add _, map_mul _, Complex.conj_conj⟩

/-- **What the driver prints is a (conjugate-)linear map over ℂ.**  The driver evaluates
`denote CDy.conj t` on Gaussian dyadic rationals (`OpIR.CDy`, the exact values of the floats the
code computes with).  Read as complex numbers (`CDy.toComplex`), the outputs on `x`, `y` and
`a•x + y` of every term `t` that `familyTerm` builds satisfy the (conjugate-)linearity equation —
this is the statement about the executed definition, without any ring structure assumed on `CDy`
(`Lemmas/OpIR.lean: denote_map`, `CDy.scalarHom`, `Dy.toRat_add/_sub/_mul`). -/
theorem family_semilinear_executed (f : Family) (args : List (Arg CDy)) (t : Term CDy)
    (h : familyTerm f args = some t) (a : CDy) (x y : List CDy) (hl : x.length = y.length) :
    (denote CDy.conj t (vadd (smul a x) y)).map CDy.toComplex
      = vadd (smul (if f.conj then (starRingEnd ℂ) a.toComplex else a.toComplex)
                ((denote CDy.conj t x).map CDy.toComplex))
             ((denote CDy.conj t y).map CDy.toComplex) := by
  rw [denote_map CDy.scalarHom, denote_map CDy.scalarHom, denote_map CDy.scalarHom,
    hom_vadd CDy.scalarHom, hom_smul CDy.scalarHom]
  exact denote_semilinear_all isConj_complex (t.map CDy.toComplex) f.conj
    ((parity_map _ t).trans (family_parity f args t h)) _ _ _ (by rw [List.length_map, List.length_map, hl])

/-- The same for what `C06 denote-family-blocks` prints (component-wise application, run at `CDy`). -/
theorem family_semilinear_blocks_executed (f : Family) (args : List (Arg CDy)) (t : Term CDy)
    (h : familyTerm f args = some t) (n r : Nat) (a : CDy) (x y : List CDy) (hl : x.length = y.length) :
    (denoteBlocks CDy.conj t n r (vadd (smul a x) y)).map CDy.toComplex
      = vadd (smul (if f.conj then (starRingEnd ℂ) a.toComplex else a.toComplex)
                ((denoteBlocks CDy.conj t n r x).map CDy.toComplex))
             ((denoteBlocks CDy.conj t n r y).map CDy.toComplex) := by
  rw [denoteBlocks_map CDy.scalarHom, denoteBlocks_map CDy.scalarHom, denoteBlocks_map CDy.scalarHom,
    hom_vadd CDy.scalarHom, hom_smul CDy.scalarHom]
  exact denoteBlocks_semilinear isConj_complex (t.map CDy.toComplex) f.conj
    ((parity_map _ t).trans (family_parity f args t h)) n _ r _ _ (by rw [List.length_map, List.length_map, hl])

example : ∃ (t : Term CDy), familyTerm .lyotCore [.mat [[⟨⟨1, 0⟩, ⟨0, 0⟩⟩]], .vec [⟨⟨1, 1⟩, ⟨0, 0⟩⟩], .mat [[⟨⟨3, 2⟩, ⟨1, 0⟩⟩]]] = some t :=
  ⟨_, rfl⟩

example : ∃ cj : ℤ → ℤ, IsConj cj := ⟨id, ⟨fun _ _ => rfl, fun _ _ => rfl, fun _ => rfl⟩⟩

/-- Without the parity condition the claim is false: `x ↦ x + conj x` is neither. -/
theorem mixed_not_linear :
    denote (starRingEnd ℂ) (.add .id .conj) (vadd (smul Complex.I [1]) [0])
      ≠ vadd (smul Complex.I (denote (starRingEnd ℂ) (.add .id .conj) [1]))
          (denote (starRingEnd ℂ) (.add .id .conj) [0]) := by
  simp [denote, vadd, smul, Complex.ext_iff]

/-! ### Input-dependent shortcuts are homogeneous but not additive

The class of defect "keep only the modes / pixels / components that carry more than a fraction θ of
*this* input's power": `f(a·E) = a·f(E)` holds for every `a ≠ 0`, so single-input and
comparable-magnitude tests pass, yet a faint component riding on a bright one is dropped.
(`OpIR.Old.keepExcited`: a defect class — seeded C06-2 —, not code of /repo; these two theorems
explain the harness's wide-magnitude additivity probe and are not evidence about hcipy.) -/

/-- Threshold selection relative to the input's own power commutes with every non-zero factor … -/
theorem keepExcited_homogeneous (θ a : Rat) (ha : a ≠ 0) (x : List Rat) :
    keepExcited θ (smul a x) = smul a (keepExcited θ x) := by
  -- both sides of the threshold test pick up the factor `a * a > 0`
  have h : ∀ c, θ * (a * a * sumsq x) < a * c * (a * c) ↔ θ * sumsq x < c * c := fun c => by
    rw [mul_left_comm, mul_mul_mul_comm a c]
    exact mul_lt_mul_iff_right₀ (mul_self_pos.mpr ha)
  rw [keepExcited, sumsq_smul]
  simp only [keepExcited, smul, List.map_map, Function.comp_def, h, mul_ite, mul_zero]

/-- … but is not additive: with θ = 1e-10 a component of amplitude 1e-6 next to one of amplitude 1
is dropped from the sum and kept when alone.  Hence it is not the denotation of any linear term. -/
theorem keepExcited_not_additive :
    keepExcited (1 / 10 ^ 10) (vadd [1, 0] [0, 1 / 10 ^ 6])
      ≠ vadd (keepExcited (1 / 10 ^ 10) [1, 0]) (keepExcited (1 / 10 ^ 10) [0, 1 / 10 ^ 6]) := by
  decide +kernel

/-! ## Effects -/

/-- **A safe program leaves its input intact**: field contents and every attribute (grid,
wavelength, Stokes vector) of the wavefront passed in are what they were, for every input value
and every meaning `sem` of the array operations. -/
theorem safe_sound (sem : Nat → List Int → Int) (p : Prog) (hs : safe p = true) (v : InVal) :
    (call sem p v).inputField = v.field ∧ (call sem p v).inputObj = v.obj := by
  unfold safe at hs
  split at hs
  · rename_i A hch
    have inv := exec_inv sem v p.body Abs.init A (init v) (inv_init v) hch
    have clean : ∀ a, a ∉ A.dirty := fun a => by simp [List.isEmpty_iff.mp hs]
    exact ⟨inv.buf0, Obj.ext_get inv.obj0buf fun a => (inv.obj0 a (clean a)).trans (v.obj_get a).symm⟩
  · cases hs

/-- The wavefront the caller still holds after the call, as a value. -/
def inputAfter (o : Outcome) : InVal :=
  ⟨o.inputField, o.inputObj.wavelength, o.inputObj.stokes, o.inputObj.grid⟩

/-- **Repeatable**: calling a safe program again with the wavefront the first call left behind
gives exactly the same outcome. -/
theorem repeatable (sem : Nat → List Int → Int) (p : Prog) (hs : safe p = true) (v : InVal) :
    call sem p (inputAfter (call sem p v)) = call sem p v := by
  obtain ⟨h1, h2⟩ := safe_sound sem p hs v
  have : inputAfter (call sem p v) = v := by
    cases v
    simp [inputAfter, h1, h2, InVal.obj]
  rw [this]

example : safe copyInplace = true := by decide
example : safe multiscaleFwd = true := by decide

/-! ### Grid and Stokes vector as heap objects

`Effects.viewProg a p` is what program `p` does on the heap of the objects attached as attribute `a`
(grid objects / Stokes vectors): `wavefront.copy()` and `Wavefront(…)` constructions share the grid
object and copy the Stokes vector, `inplaceAttr` updates one in place.  The same checker runs on the view. -/

/-- **A program whose views are accepted leaves the caller's grid and Stokes vector *contents*
intact**, whatever they were (`g`), for every meaning of the operations — although other wavefronts
created during the call may point to the very same grid object. -/
theorem safe_sound_attr (sem : Nat → List Int → Int) (a : Attr) (p : Prog) (hs : safeAttr a p = true)
    (v : InVal) (g : Int) : attrContentsAfter sem a p v g = some g := by
  unfold safeAttr at hs
  unfold attrContentsAfter
  cases hq : viewProg a p with
  | none => simp [hq] at hs
  | some q =>
    simp only [hq] at hs ⊢
    exact congrArg some (safe_sound sem q hs { v with field := g }).1

/-- all three heaps at once: field values, wavelength / pointers, grid contents, Stokes contents. -/
theorem safeAll_sound (sem : Nat → List Int → Int) (p : Prog) (hs : safeAll p = true) (v : InVal) (g st : Int) :
    (call sem p v).inputField = v.field ∧ (call sem p v).inputObj = v.obj ∧
      attrContentsAfter sem .grid p v g = some g ∧ attrContentsAfter sem .stokes p v st = some st := by
  simp only [safeAll, Bool.and_eq_true] at hs
  obtain ⟨⟨h1, h2⟩, h3⟩ := hs
  exact ⟨(safe_sound sem p h1 v).1, (safe_sound sem p h1 v).2, safe_sound_attr sem .grid p h2 v g,
    safe_sound_attr sem .stokes p h3 v st⟩

/-- Every shipped effect program is accepted on all three heaps. -/
theorem shipped_programs_safeAll : ∀ np ∈ programs, safeAll np.2 = true := by decide +kernel

/-- In particular every effect program shipped in `Model/Elements.lean` is accepted by the checker of the field arrays. -/
theorem shipped_programs_safe : ∀ np ∈ programs, safe np.2 = true := fun np h => by
  have := shipped_programs_safeAll np h
  simp only [safeAll, Bool.and_eq_true] at this
  exact this.1.1

example : safeAll magnifier = true := by decide

/-- The property **can fail** on the grid heap alone: a result that shares the caller's grid object,
rescaled in place.  The field-array checker accepts the program … -/
theorem scaleSharedGridOld_field_safe : safe scaleSharedGridOld = true := by decide
/-- … the grid view is rejected … -/
theorem scaleSharedGridOld_rejected : safeAttr .grid scaleSharedGridOld = false := by decide
/-- … and the caller's grid is indeed rewritten. -/
theorem scaleSharedGridOld_rewrites_grid (sem : Nat → List Int → Int) (v : InVal) (g : Int) :
    attrContentsAfter sem .grid scaleSharedGridOld v g = some (sem opMul [g]) := rfl

/-- `wavefront.copy()` does **not** help: the copy points to the same grid object
(`Field.__array_finalize__`), so rescaling the copy's grid in place is rejected as well … -/
theorem copy_shares_grid_rejected : safeAttr .grid ⟨[.copy 1 0, .inplaceAttr opMul 1 .grid], 1⟩ = false := by decide
/-- … what `Magnifier` does — re-point the copy to a *copy of the grid* first (`grid.scaled`) — is accepted. -/
example : safeAttr .grid ⟨[.copy 1 0, .copyAttr 1 .grid, .inplaceAttr opMul 1 .grid], 1⟩ = true := by decide

/-- In-place arithmetic on the argument's Stokes vector: rejected, and the vector is rewritten. -/
theorem stokesInplaceOld_rejected : safeAttr .stokes stokesInplaceOld = false := by decide
theorem stokesInplaceOld_rewrites_stokes (sem : Nat → List Int → Int) (v : InVal) (st : Int) :
    attrContentsAfter sem .stokes stokesInplaceOld v st = some (sem opMul [st]) := rfl

/-- A new wavefront gets a *copy* of the Stokes vector (`np.array(…)` in `Wavefront.__init__`), so
updating the result's Stokes vector in place is harmless — unlike the grid. -/
example : safeAttr .stokes ⟨[.newFrom 1 opJones [0] 0, .inplaceAttr opMul 1 .stokes], 1⟩ = true := by decide

/-! ### Loops: any number of scales / layers

`LoopProg.unroll n` is the program with `n` rounds of its loop body (`Model/Elements.lean:
loopPrograms` — the multi-scale coronagraphs, the vector vortex coronagraph in all its variants, the
layered atmosphere).  The driver op `C06 effects-loop NAME N` runs the unrolling for the number of
rounds of the element at hand; the harness compares the object trace and the number of wavefronts
created exactly. -/

/-- **Every shipped program with a loop is accepted on all three heaps for every number of rounds.**
(`loop_safeAll`: accepted with zero and one round, and the checker's state after one round is a
fixpoint of the loop body.) -/
theorem shipped_loop_programs_safeAll :
    ∀ np ∈ loopPrograms, ∀ n : Nat, safeAll (np.2.unroll n) = true :=
  fun np h n => loop_safeAll np.2 (loopPrograms_base np h) (loopPrograms_fix np h) n

/-- Hence, whatever the number of scales / layers: field, attributes, grid contents and Stokes
contents of the caller's wavefront are intact. -/
theorem loop_programs_input_intact (sem : Nat → List Int → Int) (np : String × LoopProg) (h : np ∈ loopPrograms)
    (n : Nat) (v : InVal) (g st : Int) :
    (call sem (np.2.unroll n) v).inputField = v.field ∧ (call sem (np.2.unroll n) v).inputObj = v.obj ∧
      attrContentsAfter sem .grid (np.2.unroll n) v g = some g ∧
      attrContentsAfter sem .stokes (np.2.unroll n) v st = some st :=
  safeAll_sound sem _ (shipped_loop_programs_safeAll np h n) v g st

example : (multiscaleFwdL.unroll 3).body.length = 17 := by decide

/-- One accepted round is not enough — the fixpoint condition matters: a loop that rebinds its
working name to the argument at the end of the round is accepted with one round and rejected with two
(the second round multiplies the caller's field in place). -/
theorem rebinding_loop_one_round_safe :
    safe (LoopProg.unroll ⟨[.copy 1 0], [.inplace opMul 1 [], .bind 1 0], [], 1⟩ 1) = true := by decide
theorem rebinding_loop_two_rounds_rejected :
    safe (LoopProg.unroll ⟨[.copy 1 0], [.inplace opMul 1 [], .bind 1 0], [], 1⟩ 2) = false := by decide

/-- The checker is not vacuous: dropping the copy before an in-place multiply is rejected … -/
theorem dropped_copy_unsafe : safe ⟨[.inplace opMul 0 []], 0⟩ = false := by decide
/-- … and indeed overwrites the caller's field. -/
theorem dropped_copy_overwrites (sem : Nat → List Int → Int) (v : InVal) :
    (call sem ⟨[.inplace opMul 0 []], 0⟩ v).inputField = sem opMul [v.field] := rfl

/-- writing into a wavefront that merely wraps the input's array is rejected as well. -/
theorem wrapped_inplace_unsafe : safe ⟨[.wrap 1 0, .inplace opMul 1 []], 1⟩ = false := by decide
theorem wrapped_inplace_overwrites (sem : Nat → List Int → Int) (v : InVal) :
    (call sem ⟨[.wrap 1 0, .inplace opMul 1 []], 1⟩ v).inputField = sem opMul [v.field] := rfl

/-! ### `FourierFilter._operation` and the field styles (seeded class C06-10) -/

/-- The shipped filter, with and without zero padding, is accepted on all three heaps (hence `safeAll_sound`: the
caller's array, grid and Stokes vector are what they were, for every input and every meaning of the array operations). -/
theorem fourierFilter_safeAll (padded : Bool) : safeAll (fourierFilter padded) = true := by
  cases padded <;> decide

/-- What the shipped filter hands to its first FFT, for every input value and every meaning of the array operations:
a view of the caller's buffer exactly when there is no zero padding, and permission to overwrite exactly when
there is — never both (this is the pair the harness observes on the running code). -/
theorem fourierFilter_firstFft (sem : Nat → List Int → Int) (padded : Bool) (v : InVal) :
    firstFft sem (fourierFilter padded) v = some (!padded, padded) := by
  cases padded <;> rfl

/-- The identity test `cast is not field` is right unless the cast is a new wrapper around the same buffer (a new-style
field that already has the dtype) **and** nothing is padded: exactly then the program is rejected … -/
theorem fourierFilterIdentityTestOld_safe_iff (c : Cast) (padded : Bool) :
    safe (fourierFilterIdentityTestOld c padded) = (padded || c != .wrapper) := by
  cases c <;> cases padded <;> decide

/-- … which is the case `core.use_new_style_fields = True`, complex input, q = 1 … -/
theorem fourierFilterIdentityTestOld_unsafe_newStyle :
    safe (fourierFilterIdentityTestOld (castOf true true) false) = false := by decide

/-- … and the old-style configuration hides it for every dtype and padding. -/
theorem fourierFilterIdentityTestOld_safe_oldStyle (sameDtype padded : Bool) :
    safe (fourierFilterIdentityTestOld (castOf false sameDtype) padded) = true := by
  cases sameDtype <;> cases padded <;> decide

/-- The rejected program hands its first FFT the caller's buffer with permission to overwrite, and the caller's field is
its own unnormalised transform afterwards. -/
theorem fourierFilterIdentityTestOld_overwrites (sem : Nat → List Int → Int) (v : InVal) :
    firstFft sem (fourierFilterIdentityTestOld .wrapper false) v = some (true, true) ∧
    (call sem (fourierFilterIdentityTestOld .wrapper false) v).inputField = sem opFft [v.field] :=
  ⟨rfl, rfl⟩

/-- an attribute overwritten and not restored is rejected. -/
theorem unrestored_unsafe : safe ⟨[.setAttrConst 0 .wavelength 1, .newFrom 1 opProp [0] 0], 1⟩ = false := by decide

/-- **The defect of the pinned tree** (`VectorVortexCoronagraph.backward`, scalar input, no Lyot
stop): the checker rejects the program as written … -/
theorem vvcBwdScalarOld_unsafe : safe vvcBwdScalarOld = false := by decide

/-- … and running it leaves the caller's wavefront with wavelength 1 whatever it was. -/
theorem vvcBwdScalarOld_clobbers_wavelength (sem : Nat → List Int → Int) (v : InVal) :
    (call sem vvcBwdScalarOld v).inputObj.wavelength = 1 := rfl

/-- The repaired program restores it (instance of `safe_sound`). -/
theorem vvcBwdScalar_restores (sem : Nat → List Int → Int) (v : InVal) :
    (call sem vvcBwdScalar v).inputObj = v.obj :=
  (safe_sound sem vvcBwdScalar (by decide) v).2

/-! ## Element-internal state: history independence

`Effects.IProg` adds what a call may keep inside the element: memo cells (value + the key it was
computed for) and scratch buffers.  `safeInternal` accepts a program iff every fill and every
fallback of a cell is literally the cell's specification, the specification mentions only the key
atoms of the cell (element parameters, the input's grid, the input's wavelength — never field
values or locals), nothing is updated in place or read without comparing keys, and scratch is
written before it is read. -/

/-- **History independence.**  For an accepted program, whatever happened to the element before —
any sequence of calls with any wavefronts and of parameter changes — the next call returns what a
freshly constructed element with the same parameters returns. -/
theorem history_independent (S : ISem) (p : IProg) (hs : safeInternal p = true) (params : Nat → Int)
    (h : List Event) (v : InVal) :
    (callI S p (runHistory S p (EState.fresh params) h) v).1
      = (callI S p (EState.fresh (runHistory S p (EState.fresh params) h).params) v).1 :=
  callI_result_eq S p hs (runHistory S p (EState.fresh params) h)
    (EState.fresh (runHistory S p (EState.fresh params) h).params) v rfl
    (runHistory_inv S p hs h _ (memoInv_fresh S p)) (memoInv_fresh S p)

/-- Calls do not change the parameters, so with calls only the comparison is with a fresh element
built from the original parameters. -/
theorem history_independent_calls (S : ISem) (p : IProg) (hs : safeInternal p = true) (params : Nat → Int)
    (vs : List InVal) (v : InVal) :
    (callI S p (runHistory S p (EState.fresh params) (vs.map Event.call)) v).1
      = (callI S p (EState.fresh params) v).1 := by
  have := history_independent S p hs params (vs.map Event.call) v
  rwa [runHistory_calls_params] at this

/-- The invariant behind it: after any history every filled memo cell holds its specification
evaluated at an environment whose key atoms have the stored tag — "every filled cell holds
f(params, key)". -/
theorem memo_cells_hold_spec (S : ISem) (p : IProg) (hs : safeInternal p = true) (params : Nat → Int)
    (h : List Event) (c : Nat) (tag : List Int) (val : Int)
    (hc : (tag, val) ∈ (runHistory S p (EState.fresh params) h).cells c) :
    ∃ ρ' : Atom → Int, (p.keyAtoms c).map ρ' = tag ∧ val = evalI S ρ' 0 (fun _ => 0) (p.spec c) :=
  runHistory_inv S p hs h _ (memoInv_fresh S p) c tag val hc

/-- The internal programs of the stateful families are accepted. -/
theorem shipped_internal_programs_safe : ∀ np ∈ internalPrograms, safeInternal np.2.1 = true := by decide +kernel

example : safeInternal iMirror = true := by decide

/-- An interpretation under which the counterexamples below are computed: operation `opSub` is
subtraction, `opMul` multiplication, every other binary operation addition, unary ones identity. -/
def demoISem : ISem :=
  { s1 := fun _ a => a, s2 := fun f a b => if f = opSub then a - b else if f = opMul then a * b else a + b }

/-- **Classic failure 1: a cell filled with a value that depends on the calls made** (stored screen
corrected in place per call — the `ModalAdaptiveOpticsLayer` at λ = 1 seeded defect): rejected … -/
theorem modalAOOld_unsafe : safeInternal iModalAOOld = false := by decide

/-- … and the second identical call indeed returns something else than a fresh element does. -/
theorem modalAOOld_history_dependent :
    let v : InVal := ⟨1, 1, 0, 0⟩
    let params : Nat → Int := fun i => if i = 0 then 10 else 3
    (callI demoISem iModalAOOld (runHistory demoISem iModalAOOld (EState.fresh params) [.call v]) v).1
      ≠ (callI demoISem iModalAOOld (EState.fresh params) v).1 := by decide

/-- **Classic failure 2: a cell not keyed by what its contents depend on** (wavelength-dependent
instance data stored under the grid alone): rejected … -/
theorem unkeyed_unsafe : safeInternal iUnkeyed = false := by decide

/-- … and after a call at wavelength 1 a call at wavelength 2 on the same grid gets the data of
wavelength 1. -/
theorem unkeyed_history_dependent :
    let v1 : InVal := ⟨1, 1, 0, 0⟩
    let v2 : InVal := ⟨1, 2, 0, 0⟩
    let params : Nat → Int := fun _ => 0
    (callI demoISem iUnkeyed (runHistory demoISem iUnkeyed (EState.fresh params) [.call v1]) v2).1
      ≠ (callI demoISem iUnkeyed (EState.fresh params) v2).1 := by decide

/-- A work buffer read before it is written: rejected, and the result depends on the previous call. -/
theorem staleScratch_unsafe : safeInternal iStaleScratch = false := by decide

theorem staleScratch_history_dependent :
    let v : InVal := ⟨5, 1, 0, 0⟩
    let params : Nat → Int := fun _ => 0
    (callI demoISem iStaleScratch (runHistory demoISem iStaleScratch (EState.fresh params) [.call v]) v).1
      ≠ (callI demoISem iStaleScratch (EState.fresh params) v).1 := by decide

/-- **Classic failure 3 (seeded C06-8): a work buffer allocated once instead of per precision.**  The
matrix Fourier transform keeps its matrices *and* its preallocated intermediate array per working
precision (`iMft`: accepted, hence history independent by `history_independent` — any sequence of
calls in any precisions); with the intermediate array allocated only when there is none
(`iMftAllocOnceOld`) the cell is keyed by nothing while its content depends on the precision: rejected … -/
theorem mftAllocOnceOld_unsafe : safeInternal iMftAllocOnceOld = false := by decide

theorem mft_safe : safeInternal iMft = true := by decide

/-- … and after a call in precision 1 a call in precision 2 on the same object returns something else
than a fresh object does (the first product lands in a buffer of the wrong kind). -/
theorem mftAllocOnceOld_history_dependent :
    let v : InVal := ⟨5, 1, 0, 0⟩
    let p1 : Nat → Int := fun _ => 1
    (callI demoISem iMftAllocOnceOld
        (runHistory demoISem iMftAllocOnceOld (EState.fresh p1) [.call v, .setParam 0 2]) v).1
      ≠ (callI demoISem iMftAllocOnceOld (EState.fresh (fun _ => 2)) v).1 := by decide

/-- the correct program on the same history: equal (instance of `history_independent`). -/
example :
    let v : InVal := ⟨5, 1, 0, 0⟩
    (callI demoISem iMft (runHistory demoISem iMft (EState.fresh fun _ => 1) [.call v, .setParam 0 2]) v).1
      = (callI demoISem iMft (EState.fresh (fun _ => 2)) v).1 := by decide

end HcipyVerif.C06
