import Mathlib.Tactic.Linarith
import Mathlib.Tactic.Ring
import Mathlib.Algebra.Order.Field.Basic
import HcipyVerif.Lemmas.ApertureList

/-!
# C12 — the bounding box of the irregular polygon is sound

`containsPt vs p` (odd number of edges crossing the horizontal ray from `p` towards `+x`) implies
that `p` lies within the bounding box of the vertices (`bounding_box_irregular`, Properties/C12.lean):

* `y`: some edge is crossed, and a crossed edge straddles the horizontal line through `p`;
* `+x` side: the x-intercept of a straddling edge is a convex combination of its end points, so a
  point to the right of every vertex is crossed by no edge;
* `−x` side: a point to the left of every vertex is crossed by exactly the straddling edges, and a
  closed polygon straddles a horizontal line an even number of times (parity of side changes along
  a closed walk).
-/

namespace HcipyVerif.Aperture

theorem mem_of_mem_edges {vs : List Pt} {e : Pt × Pt} (he : e ∈ edges vs) :
    e.1 ∈ vs ∧ e.2 ∈ vs := by
  cases vs with
  | nil => simp [edges] at he
  | cons v vs =>
    obtain ⟨a, b⟩ := e
    have := List.of_mem_zip he
    refine ⟨this.1, ?_⟩
    have h2 := this.2
    simp only [List.mem_append, List.mem_singleton] at h2
    rcases h2 with h2 | h2
    · exact List.mem_cons_of_mem _ h2
    · rw [h2]; exact List.mem_cons_self

/-- the side of the horizontal line through `p` a vertex is on -/
def below (p v : Pt) : Bool := decide (v.2 ≤ p.2)

def straddle (p : Pt) (e : Pt × Pt) : Bool := below p e.1 != below p e.2

/-- x-intercept of the edge `v w` with the horizontal line through `p` -/
def xint (p v w : Pt) : Rat := (w.1 - v.1) * (p.2 - v.2) / (w.2 - v.2) + v.1

theorem edgeCross_eq (p v w : Pt) :
    edgeCross p v w = (straddle p (v, w) && decide (p.1 < xint p v w)) := rfl

theorem straddle_cases {p v w : Pt} (h : straddle p (v, w) = true) :
    (v.2 ≤ p.2 ∧ p.2 < w.2) ∨ (w.2 ≤ p.2 ∧ p.2 < v.2) := by
  simp only [straddle, below, bne_iff_ne, ne_eq, decide_eq_decide] at h
  by_cases hv : v.2 ≤ p.2
  · exact Or.inl ⟨hv, not_le.mp fun hw => h ⟨fun _ => hw, fun _ => hv⟩⟩
  · exact Or.inr ⟨not_not.mp fun hw => h ⟨fun h' => absurd h' hv, fun h' => absurd h' hw⟩,
      not_le.mp hv⟩

theorem convex_between {a b lo hi t : Rat} (ht0 : 0 ≤ t) (ht1 : t ≤ 1) (ha : lo ≤ a ∧ a ≤ hi)
    (hb : lo ≤ b ∧ b ≤ hi) : lo ≤ a + t * (b - a) ∧ a + t * (b - a) ≤ hi := by
  have h1 := mul_le_mul_of_nonneg_left ha.1 (sub_nonneg.mpr ht1)
  have h2 := mul_le_mul_of_nonneg_left hb.1 ht0
  have h3 := mul_le_mul_of_nonneg_left ha.2 (sub_nonneg.mpr ht1)
  have h4 := mul_le_mul_of_nonneg_left hb.2 ht0
  constructor <;> linarith

theorem xint_between {p v w : Pt} (h : straddle p (v, w) = true) :
    min v.1 w.1 ≤ xint p v w ∧ xint p v w ≤ max v.1 w.1 := by
  have ht : 0 ≤ (p.2 - v.2) / (w.2 - v.2) ∧ (p.2 - v.2) / (w.2 - v.2) ≤ 1 := by
    rcases straddle_cases h with ⟨h1, h2⟩ | ⟨h1, h2⟩
    · have hd := sub_pos.mpr (h1.trans_lt h2)
      exact ⟨div_nonneg (sub_nonneg.mpr h1) hd.le, (div_le_one hd).mpr (sub_le_sub_right h2.le _)⟩
    · have hd := sub_neg.mpr (h1.trans_lt h2)
      exact ⟨div_nonneg_of_nonpos (sub_nonpos.mpr h2.le) hd.le,
        (div_le_one_of_neg hd).mpr (sub_le_sub_right h1 _)⟩
  have hx : xint p v w = v.1 + (p.2 - v.2) / (w.2 - v.2) * (w.1 - v.1) := by unfold xint; ring
  rw [hx]
  exact convex_between ht.1 ht.2 ⟨min_le_left _ _, le_max_left _ _⟩ ⟨min_le_right _ _, le_max_right _ _⟩

theorem crossings_eq_zero_of_right {vs : List Pt} {p : Pt} (h : ∀ v ∈ vs, v.1 ≤ p.1) :
    crossings vs p = 0 := by
  unfold crossings
  rw [List.length_eq_zero_iff, List.filter_eq_nil_iff]
  intro e he hc
  obtain ⟨h1, h2⟩ := mem_of_mem_edges he
  rw [edgeCross_eq] at hc
  simp only [Bool.and_eq_true, decide_eq_true_eq] at hc
  exact absurd hc.2 (not_lt.mpr ((xint_between hc.1).2.trans (max_le (h _ h1) (h _ h2))))

/-- parity of the number of side changes along a walk `a, l…, b` -/
theorem walk_parity {α : Type} (s : α → Bool) (l : List α) (a b : α) :
    (((a :: l).zip (l ++ [b])).filter fun e => s e.1 != s e.2).length % 2
      = (if s a != s b then 1 else 0) := by
  rw [← List.countP_eq_length_filter]
  induction l generalizing a with
  | nil =>
    rw [List.nil_append, List.zip_cons_cons, List.zip_nil_right, List.countP_cons, List.countP_nil]
    cases s a != s b <;> rfl
  | cons c l ih =>
    rw [List.cons_append, List.zip_cons_cons, List.countP_cons, Nat.add_mod, ih c]
    cases s a <;> cases s c <;> cases s b <;> rfl

theorem straddles_even (vs : List Pt) (p : Pt) :
    ((edges vs).filter (straddle p)).length % 2 = 0 := by
  cases vs with
  | nil => simp [edges]
  | cons v vs =>
    have := walk_parity (below p) vs v v
    simp only [bne_self_eq_false, Bool.false_eq_true, if_false] at this
    exact this

theorem crossings_even_of_left {vs : List Pt} {p : Pt} (h : ∀ v ∈ vs, p.1 < v.1) :
    crossings vs p % 2 = 0 := by
  unfold crossings
  have : ((edges vs).filter fun e => edgeCross p e.1 e.2) = (edges vs).filter (straddle p) := by
    apply List.filter_congr
    intro e he
    obtain ⟨h1, h2⟩ := mem_of_mem_edges he
    rw [edgeCross_eq]
    cases hs : straddle p (e.1, e.2) with
    | false => simp [straddle] at hs ⊢
    | true =>
      have hlt : p.1 < xint p e.1 e.2 := (lt_min (h _ h1) (h _ h2)).trans_le (xint_between hs).1
      simp [hlt, straddle] at hs ⊢
  rw [this]
  exact straddles_even vs p

theorem abs_sub_le_of_between {a b p c h : Rat} (ha : |a - c| ≤ h) (hb : |b - c| ≤ h) (hap : a ≤ p)
    (hpb : p ≤ b) : |p - c| ≤ h :=
  abs_le.mpr ⟨by linarith [(abs_le.mp ha).1], by linarith [(abs_le.mp hb).2]⟩

end HcipyVerif.Aperture
