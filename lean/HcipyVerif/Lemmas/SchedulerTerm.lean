import HcipyVerif.Lemmas.SchedulerLoop
import Mathlib.Data.Rat.Floor

/-! C20, termination: a weight (potential) on the queue that every executed callback strictly
decreases, and the two concrete weights (levels of a progressing system, ids along a DAG). -/

namespace HcipyVerif.Scheduler

/-- total weight of a queue -/
def potential (w : Entry → Nat) (l : List Entry) : Nat := (l.map w).sum

theorem potential_cons (w : Entry → Nat) (e : Entry) (l : List Entry) :
    potential w (e :: l) = w e + potential w l := by simp [potential]

theorem potential_append (w : Entry → Nat) (a b : List Entry) :
    potential w (a ++ b) = potential w a + potential w b := by simp [potential]

theorem potential_perm (w : Entry → Nat) {a b : List Entry} (h : a.Perm b) :
    potential w a = potential w b :=
  (h.map w).sum_nat

theorem potential_le_length_mul (w : Entry → Nat) (l : List Entry) (M : Nat) (h : ∀ q ∈ l, w q ≤ M) :
    potential w l ≤ l.length * M := by
  induction l with
  | nil => simp [potential]
  | cons x xs ih =>
    have h1 := h x (by simp)
    have h2 := ih (fun q hq => h q (by simp [hq]))
    simp only [potential_cons, List.length_cons, Nat.succ_mul]
    omega

theorem potential_mkEntries_lt (w : Entry → Nat) {c : Nat} {l : List (Rat × Nat)} {B M W : Nat}
    (hl : l.length ≤ B) (hM : ∀ q ∈ mkEntries c l, w q ≤ M) (hW : B * M < W) :
    potential w (mkEntries c l) < W := by
  have := potential_le_length_mul w (mkEntries c l) M hM
  rw [mkEntries_length] at this
  exact lt_of_le_of_lt (this.trans (Nat.mul_le_mul_right _ hl)) hW

theorem Runs.terminates_of_weight {kids : Entry → List (Rat × Nat)} {T : Rat} {fuel : Nat} {s : Sys} {r : Run}
    (h : Runs (fun _ => kids) T fuel s r) (w : Entry → Nat)
    (hw : ∀ e c, e.time < T → potential w (mkEntries c (kids e)) < w e)
    (hf : potential w s.queue < fuel) : r.status = .ok := by
  induction h with
  | zero => exact absurd hf (Nat.not_lt_zero _)
  | stop => rfl
  | @step _ s e rest _ hq ht _ ih =>
    apply ih
    rw [potential_perm w (next_queue_perm kids s e rest), potential_append]
    rw [hq, potential_cons] at hf
    have := hw e s.ctr ht
    omega

/-- number of nodes of the complete `B`-ary tree of depth `n`: `1 + B + … + B^(n-1)` -/
def geom (B : Nat) : Nat → Nat
  | 0 => 0
  | n + 1 => 1 + B * geom B n

theorem geom_one (n : Nat) : geom 1 n = n := by
  induction n with
  | zero => rfl
  | succ n ih => rw [geom, ih, Nat.one_mul, Nat.add_comm]

theorem geom_le_succ (B n : Nat) : geom B n ≤ geom B (n + 1) := by
  induction n with
  | zero => simp [geom]
  | succ n ih =>
    have : B * geom B n ≤ B * geom B (n + 1) := Nat.mul_le_mul_left B ih
    simp only [geom] at this ⊢
    omega

theorem geom_mono (B : Nat) {m n : Nat} (h : m ≤ n) : geom B m ≤ geom B n :=
  monotone_nat_of_le_succ (geom_le_succ B) h

/-- how many periods of length `δ` fit (rounded up) between `time` and the horizon; `0` at or
beyond the horizon -/
def level (δ T time : Rat) : Nat := ⌈(T - time) / δ⌉₊

/-- the level is the least number of periods that reach the horizon -/
theorem level_le_iff {δ T t : Rat} (hδ : 0 < δ) {n : Nat} : level δ T t ≤ n ↔ T - t ≤ n * δ := by
  rw [level, Nat.ceil_le, div_le_iff₀ hδ]

theorem level_pos {δ T time : Rat} (hδ : 0 < δ) (h : time < T) : 1 ≤ level δ T time :=
  Nat.ceil_pos.mpr (div_pos (sub_pos.mpr h) hδ)

theorem level_eq_zero {δ T time : Rat} (hδ : 0 < δ) (h : T ≤ time) : level δ T time = 0 :=
  Nat.ceil_eq_zero.mpr (div_nonpos_of_nonpos_of_nonneg (sub_nonpos.mpr h) hδ.le)

theorem level_child {δ T t t' : Rat} (hδ : 0 < δ) (h : t + δ ≤ t') {n : Nat}
    (hn : level δ T t = n + 1) : level δ T t' ≤ n := by
  have := (level_le_iff hδ).mp hn.le
  rw [Nat.cast_succ, add_mul, one_mul] at this
  exact (level_le_iff hδ).mpr (by linarith)

theorem level_anti {δ T t t' : Rat} (hδ : 0 < δ) (h : t ≤ t') : level δ T t' ≤ level δ T t :=
  Nat.ceil_mono (div_le_div_of_nonneg_right (sub_le_sub_left h T) hδ.le)

theorem progress_weight {kids : Entry → List (Rat × Nat)} {δ T : Rat} {B : Nat} (hδ : 0 < δ)
    (hprog : ∀ e, e.time < T → ∀ c ∈ kids e, e.time + δ ≤ c.1)
    (hB : ∀ e, e.time < T → (kids e).length ≤ B) :
    ∀ e c, e.time < T → potential (fun q => geom B (level δ T q.time)) (mkEntries c (kids e)) <
      geom B (level δ T e.time) := by
  intro e c ht
  obtain ⟨n, hn⟩ := Nat.exists_eq_succ_of_ne_zero (Nat.pos_iff_ne_zero.mp (level_pos hδ ht))
  rw [hn]
  -- an executed callback of level `n + 1` is replaced by at most `B` callbacks of level at most `n`
  exact potential_mkEntries_lt _ (hB e ht) (M := geom B n)
    (fun q hq => geom_mono B (level_child hδ (hprog e ht (q.time, q.id) (mem_mkEntries hq).1) hn))
    (Nat.lt_add_of_pos_left Nat.one_pos)

theorem wf_of_progress {kids : Entry → List (Rat × Nat)} {δ : Rat} (hδ : 0 ≤ δ)
    (hprog : ∀ e, ∀ c ∈ kids e, e.time + δ ≤ c.1) : WF kids :=
  fun e c hc => le_trans (le_add_of_nonneg_right hδ) (hprog e c hc)

/-- the docstring idiom: the callbacks in `p` re-insert themselves (as `i`) a period `d` later, the
others schedule nothing -/
theorem reinsert_progress {kids : Entry → List (Rat × Nat)} {p : Entry → Prop} [DecidablePred p]
    {d : Rat} {i : Nat} (hk : ∀ e, kids e = if p e then [(e.time + d, i)] else []) :
    (∀ e, ∀ c ∈ kids e, e.time + d ≤ c.1) ∧ ∀ e, (kids e).length ≤ 1 := by
  refine ⟨fun e c hc => ?_, fun e => by rw [hk]; split <;> simp⟩
  rw [hk] at hc
  split at hc
  · rw [List.mem_singleton.mp hc]
  · nomatch hc

/-- the weight for callbacks that schedule only larger ids below `N`, at most `B` each, at any delay -/
def dagWeight (B N : Nat) (q : Entry) : Nat := (B + 1) ^ (N - q.id)

theorem dag_weight {kids : Entry → List (Rat × Nat)} {T : Rat} {B N : Nat}
    (hB : ∀ e, e.time < T → (kids e).length ≤ B)
    (hdag : ∀ e, e.time < T → ∀ c ∈ kids e, e.id < c.2 ∧ c.2 < N) :
    ∀ e c, e.time < T → potential (dagWeight B N) (mkEntries c (kids e)) < dagWeight B N e := by
  intro e c ht
  cases hk : kids e with
  | nil => exact Nat.pow_pos (Nat.succ_pos B)
  | cons c0 cs =>
    -- there is a child, so `e.id < N` and the weight of `e` is `(B+1) · (B+1)^m`; each child weighs
    -- at most `(B+1)^m`
    have hlt : e.id < N := lt_trans (hdag e ht c0 (hk ▸ List.mem_cons_self ..)).1
      (hdag e ht c0 (hk ▸ List.mem_cons_self ..)).2
    obtain ⟨m, hm⟩ := Nat.exists_eq_succ_of_ne_zero (Nat.sub_ne_zero_of_lt hlt)
    rw [← hk]
    refine potential_mkEntries_lt _ (hB e ht) (M := (B + 1) ^ m) (fun q hq => ?_) ?_
    · exact Nat.pow_le_pow_right (Nat.succ_pos B) (Nat.le_of_lt_succ (hm ▸
        Nat.sub_lt_sub_left hlt (hdag e ht (q.time, q.id) (mem_mkEntries hq).1).1))
    · rw [dagWeight, hm, Nat.pow_succ, Nat.mul_comm]
      exact Nat.mul_lt_mul_of_pos_left (Nat.lt_succ_self B) (Nat.pow_pos (Nat.succ_pos B))

end HcipyVerif.Scheduler
