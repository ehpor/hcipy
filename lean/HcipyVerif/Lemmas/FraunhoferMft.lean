import HcipyVerif.Lemmas.Mft
import HcipyVerif.Lemmas.FourierLink

/-!
# Link C01 → C03: the model of `MatrixFourierTransform` satisfies the Fourier hypotheses of the lens theorems

`make_fourier_transform` hands every focal grid that is not FFT-native (and every FFT-native one for which
the planner's estimate prefers it — which is the case for all grids of `make_focal_grid`) to
`MatrixFourierTransform`.  `mftTransform2` packages C01's model `mftForward`/`mftBackward`
(`Model/Mft.lean`: the two BLAS `gemm` calls with their transposes, both weight branches) as a C03
`FourierTransform`.  The character is `expT` (argument in turns): the output coordinates are carried
*in units of 2π*, `u = 2π·ut`, exactly as the executable lens model (`Model/FraunhoferPipe.lean`,
`uvGridTurns`) carries them — the driver runs the same `mftForward` at `T = PSum.turns`.

* `mft2_evaluates` — `EvaluatesFourierSum` on **any** pair of separated Cartesian grids (regular or not,
  any weights), the output grid scaled by `2π/lf`;
* `mft2_adjoint`   — `EvaluatesAdjointSum` (the `trans=2` products);
* `naiveTransform` — `NaiveFourierTransform`, the two sums themselves.
-/

namespace HcipyVerif.FourierLink
open HcipyVerif.Fft HcipyVerif.Fraunhofer HcipyVerif.ListFacts

/-- the flat (row-major, x fastest) array of a field on the `(n, m)` grid (zero outside) -/
noncomputable def flat2 {n m : ℕ} (E : Fin n × Fin m → ℂ) (k : ℕ) : ℂ := ext2 E (k / m) (k % m)

theorem flat2_flat {n m : ℕ} (E : Fin n × Fin m → ℂ) (i : ℕ) {j : ℕ} (hj : j < m) :
    flat2 E (i * m + j) = ext2 E i j := by
  unfold flat2
  rw [flat_div hj, Nat.mul_add_mod_of_lt hj]

theorem flat2_add {n m : ℕ} (E G : Fin n × Fin m → ℂ) (k : ℕ) : flat2 (E + G) k = flat2 E k + flat2 G k := by
  unfold flat2; rw [ext2_add]

theorem flat2_smul {n m : ℕ} (a : ℂ) (E : Fin n × Fin m → ℂ) (k : ℕ) : flat2 (a • E) k = a * flat2 E k := by
  unfold flat2; rw [ext2_smul]

/-- A grid that is separated in Cartesian coordinates: points `(x_ix, y_iy)`, arbitrary weights. -/
def sepGrid {Ny Nx : ℕ} (x y : ℕ → ℝ) (w : Fin Ny × Fin Nx → ℝ) : Grid (Fin Ny × Fin Nx) 2 :=
  { pts := fun p => ![x p.2, y p.1], weights := w }

/-- **The model of `MatrixFourierTransform` (ndim = 2) as a C03 `FourierTransform`.**  `x y` input
coordinates, `ut vt` output coordinates in units of 2π, `w`/`wOut` the `weights_input`/`weights_output`
of `_compute_matrices` (scalar or array branch). -/
noncomputable def mftTransform2 (Nx Ny Nu Nv : ℕ) (x y ut vt : ℕ → ℝ) (w wOut : Weights ℂ) :
    FourierTransform (Fin Ny × Fin Nx) (Fin Nv × Fin Nu) where
  fwd :=
    { toFun := fun E k => mftForward expT Nx Ny Nu Nv x y ut vt w (flat2 E) (k.1 * Nu + k.2)
      map_add' := by
        intro E G; funext k
        show mftForward expT Nx Ny Nu Nv x y ut vt w (flat2 (E + G)) (k.1 * Nu + k.2)
          = mftForward expT Nx Ny Nu Nv x y ut vt w (flat2 E) (k.1 * Nu + k.2)
            + mftForward expT Nx Ny Nu Nv x y ut vt w (flat2 G) (k.1 * Nu + k.2)
        rw [mft_forward_eq_sum_2d_get expT_isChar _ _ _ _ _ _ _ _ _ _ k.2.2,
          mft_forward_eq_sum_2d_get expT_isChar _ _ _ _ _ _ _ _ _ _ k.2.2,
          mft_forward_eq_sum_2d_get expT_isChar _ _ _ _ _ _ _ _ _ _ k.2.2]
        simp only [flat2_add, add_mul, Finset.sum_add_distrib]
      map_smul' := by
        intro a E; funext k
        show mftForward expT Nx Ny Nu Nv x y ut vt w (flat2 (a • E)) (k.1 * Nu + k.2)
          = a * mftForward expT Nx Ny Nu Nv x y ut vt w (flat2 E) (k.1 * Nu + k.2)
        rw [mft_forward_eq_sum_2d_get expT_isChar _ _ _ _ _ _ _ _ _ _ k.2.2,
          mft_forward_eq_sum_2d_get expT_isChar _ _ _ _ _ _ _ _ _ _ k.2.2]
        simp only [flat2_smul, Finset.mul_sum]
        apply Finset.sum_congr rfl; intro iy _
        apply Finset.sum_congr rfl; intro ix _
        ring }
  bwd :=
    { toFun := fun F j => mftBackward expT (starRingEnd ℂ) Nx Ny Nu Nv x y ut vt wOut (flat2 F) (j.1 * Nx + j.2)
      map_add' := by
        intro E G; funext j
        show mftBackward expT (starRingEnd ℂ) Nx Ny Nu Nv x y ut vt wOut (flat2 (E + G)) (j.1 * Nx + j.2)
          = mftBackward expT (starRingEnd ℂ) Nx Ny Nu Nv x y ut vt wOut (flat2 E) (j.1 * Nx + j.2)
            + mftBackward expT (starRingEnd ℂ) Nx Ny Nu Nv x y ut vt wOut (flat2 G) (j.1 * Nx + j.2)
        rw [mft_backward_eq_sum_2d_get expT_isChar _ expT_conj _ _ _ _ _ _ _ _ _ _ j.2.2,
          mft_backward_eq_sum_2d_get expT_isChar _ expT_conj _ _ _ _ _ _ _ _ _ _ j.2.2,
          mft_backward_eq_sum_2d_get expT_isChar _ expT_conj _ _ _ _ _ _ _ _ _ _ j.2.2]
        simp only [flat2_add, add_mul, Finset.sum_add_distrib]
      map_smul' := by
        intro a E; funext j
        show mftBackward expT (starRingEnd ℂ) Nx Ny Nu Nv x y ut vt wOut (flat2 (a • E)) (j.1 * Nx + j.2)
          = a * mftBackward expT (starRingEnd ℂ) Nx Ny Nu Nv x y ut vt wOut (flat2 E) (j.1 * Nx + j.2)
        rw [mft_backward_eq_sum_2d_get expT_isChar _ expT_conj _ _ _ _ _ _ _ _ _ _ j.2.2,
          mft_backward_eq_sum_2d_get expT_isChar _ expT_conj _ _ _ _ _ _ _ _ _ _ j.2.2]
        simp only [flat2_smul, Finset.mul_sum]
        apply Finset.sum_congr rfl; intro iv _
        apply Finset.sum_congr rfl; intro iu _
        ring }

/-- **C01 (`mft_eq_sum_2d`, both weight branches) ⇒ `EvaluatesFourierSum`** for the MFT model, on any pair of
separated Cartesian grids, in the shape `make_instance` uses it: output grid `focal.scaled(2π/lf)`, output coordinates
handed to the transform in units of 2π, `X/lf`.  `hw`: the `weights_input` the object holds are the input grid's weights
(array branch: always; scalar branch: when they are all equal — `Weights.get` is the broadcast). -/
theorem mft2_evaluates (Nx Ny Nu Nv : ℕ) (x y X Y : ℕ → ℝ) (lf : ℝ) (w wOut : Weights ℂ)
    (wr : Fin Ny × Fin Nx → ℝ) (wo : Fin Nv × Fin Nu → ℝ)
    (hw : ∀ p : Fin Ny × Fin Nx, w.get (p.1 * Nx + p.2) = ((wr p : ℝ) : ℂ)) :
    EvaluatesFourierSum (mftTransform2 Nx Ny Nu Nv x y (fun k => X k / lf) (fun k => Y k / lf) w wOut) (sepGrid x y wr)
      ((sepGrid X Y wo).scaled (2 * Real.pi / lf)) := by
  intro E k
  show mftForward expT Nx Ny Nu Nv x y _ _ w (flat2 E) (k.1 * Nu + k.2) = _
  rw [mft_forward_eq_sum_2d_get expT_isChar _ _ _ _ _ _ _ _ _ _ k.2.2, sum_range2]
  refine Finset.sum_congr rfl fun p _ => ?_
  rw [flat2_flat E p.1 p.2.2, ext2_apply, hw p, expT_eq_cexp, ← mul_neg, ← Complex.ofReal_neg]
  simp only [sepGrid, Grid.scaled, dot_smul_left, dot_pair]
  congr 4
  ring

/-- **C01 (`mft_backward_eq_sum_2d'`) ⇒ `EvaluatesAdjointSum`** for the MFT model.  `hwo`: the
`weights_output` the object holds are `output_grid.weights / (2π)²`. -/
theorem mft2_adjoint (Nx Ny Nu Nv : ℕ) (x y X Y : ℕ → ℝ) (lf : ℝ) (w wOut : Weights ℂ)
    (wr : Fin Ny × Fin Nx → ℝ) (wo : Fin Nv × Fin Nu → ℝ)
    (hwo : ∀ k : Fin Nv × Fin Nu, wOut.get (k.1 * Nu + k.2)
      = ((|2 * Real.pi / lf| ^ 2 * wo k : ℝ) : ℂ) / (((2 * Real.pi) ^ 2 : ℝ) : ℂ)) :
    EvaluatesAdjointSum (mftTransform2 Nx Ny Nu Nv x y (fun k => X k / lf) (fun k => Y k / lf) w wOut) (sepGrid x y wr)
      ((sepGrid X Y wo).scaled (2 * Real.pi / lf)) := by
  intro G j
  show _ * mftBackward expT (starRingEnd ℂ) Nx Ny Nu Nv x y _ _ wOut (flat2 G) (j.1 * Nx + j.2) = _
  rw [mft_backward_eq_sum_2d_get expT_isChar _ expT_conj _ _ _ _ _ _ _ _ _ _ j.2.2, sum_range2, Finset.mul_sum]
  refine Finset.sum_congr rfl fun k _ => ?_
  rw [flat2_flat G k.1 k.2.2, ext2_apply, hwo k, expT_eq_cexp]
  simp only [sepGrid, Grid.scaled, dot_smul_left, dot_pair]
  rw [mul_div_assoc', div_mul_eq_mul_div, mul_div_assoc', mul_div_cancel_left₀ _ (two_pi_pow_ne_zero 2)]
  congr 4
  ring

end HcipyVerif.FourierLink

namespace HcipyVerif.Fraunhofer
open Complex
variable {ι κ : Type*} [Fintype ι] [Fintype κ] {d : ℕ}

/-- The transform *defined* as the weighted Fourier sum / adjoint sum (`NaiveFourierTransform`, which builds
exactly this matrix).  It is the specification itself: theorems that use it say nothing about code. -/
noncomputable def naiveTransform (pupil : Grid ι d) (uv : Grid κ d) : FourierTransform ι κ :=
  { fwd := { toFun := fun E k => fourierSum pupil (uv.pts k) E
             map_add' := by
               intro x y; funext k
               simp only [fourierSum, Pi.add_apply, ← Finset.sum_add_distrib]
               apply Finset.sum_congr rfl; intro j _; ring
             map_smul' := by
               intro a x; funext k
               simp only [fourierSum, Pi.smul_apply, smul_eq_mul, RingHom.id_apply, Finset.mul_sum]
               apply Finset.sum_congr rfl; intro j _; ring }
    bwd := { toFun := fun G j => (((2 * Real.pi) ^ d : ℝ) : ℂ)⁻¹ *
                ∑ k, G k * (uv.weights k : ℂ) * cexp (I * ((dot (uv.pts k) (pupil.pts j) : ℝ) : ℂ))
             map_add' := by
               intro x y; funext j
               simp only [Pi.add_apply, ← mul_add, ← Finset.sum_add_distrib]
               congr 1
               apply Finset.sum_congr rfl; intro k _; ring
             map_smul' := by
               intro a x; funext j
               simp only [Pi.smul_apply, smul_eq_mul, RingHom.id_apply, Finset.mul_sum]
               apply Finset.sum_congr rfl; intro k _; ring } }

theorem naive_isFT (pupil : Grid ι d) (uv : Grid κ d) : IsFT (naiveTransform pupil uv) pupil uv :=
  ⟨fun _ _ => rfl, fun _ _ => mul_inv_cancel_left₀ (two_pi_pow_ne_zero d) _⟩

end HcipyVerif.Fraunhofer
