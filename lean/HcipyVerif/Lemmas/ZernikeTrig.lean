import HcipyVerif.Model.Zernike
import Mathlib.Analysis.Complex.Trigonometric
import Mathlib.Tactic.Ring

/-! `cisPow` is scalar-polymorphic: the driver runs it at `Rat`; here the same definition is instantiated at `ℝ`
(De Moivre for every real `θ`: `cisPow_cos_sin`), and the `Rat` instance is the restriction of the real one (`cisPow_cast`). -/

namespace HcipyVerif.Zernike

theorem cisPow_cos_sin (θ : ℝ) : ∀ k : Nat,
    cisPow (Real.cos θ) (Real.sin θ) k = (Real.cos (k * θ), Real.sin (k * θ))
  | 0 => by simp [cisPow]
  | k + 1 => by
    have ih := cisPow_cos_sin θ k
    have e : ((k + 1 : Nat) : ℝ) * θ = k * θ + θ := by push_cast; ring
    simp only [cisPow, ih]
    rw [e, Real.cos_add, Real.sin_add, add_comm (Real.sin (↑k * θ) * Real.cos θ)]

theorem cisPow_cast (c s : Rat) : ∀ k : Nat,
    (((cisPow c s k).1 : Rat) : ℝ) = (cisPow (c : ℝ) (s : ℝ) k).1 ∧
    (((cisPow c s k).2 : Rat) : ℝ) = (cisPow (c : ℝ) (s : ℝ) k).2
  | 0 => by simp [cisPow]
  | k + 1 => by
    obtain ⟨a, b⟩ := cisPow_cast c s k
    simp only [cisPow]
    push_cast
    rw [a, b]
    exact ⟨rfl, rfl⟩

theorem cisPow_trig (c s : Rat) (θ : ℝ) (hc : (c : ℝ) = Real.cos θ) (hs : (s : ℝ) = Real.sin θ) (k : Nat) :
    (((cisPow c s k).1 : Rat) : ℝ) = Real.cos (k * θ) ∧ (((cisPow c s k).2 : Rat) : ℝ) = Real.sin (k * θ) := by
  obtain ⟨a, b⟩ := cisPow_cast c s k
  rw [a, b, hc, hs, cisPow_cos_sin]
  exact ⟨rfl, rfl⟩

end HcipyVerif.Zernike
