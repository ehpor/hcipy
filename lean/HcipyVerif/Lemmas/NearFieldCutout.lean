import Mathlib.Data.Fintype.Card
import Mathlib.Data.Fintype.Prod
import HcipyVerif.Model.NearField
import HcipyVerif.Lemmas.FftPlan

/-! # C04 — the executable cut-out (`padded`, `cutStart`, `embAxis` of `Model/NearField.lean`) as an embedding of the input grid
into the internal grid: `cutoutEmb p h`, injective, bijective when `cutout p = none`. -/

namespace HcipyVerif.NearField

/-- `padded` is the padded size of the FFT plan (`Fft.paddedSize`), the same `round(q·N)`. -/
theorem padded_ge {q : ℚ} (hq : 1 ≤ q) (N : ℕ) : N ≤ padded q N :=
  Fft.le_paddedSize N q hq

theorem padOK_iff (p : Params) :
    padOK p = true ↔ 0 < p.nx ∧ 0 < p.ny ∧ 1 ≤ effQx p ∧ 1 ≤ effQy p := by
  unfold padOK
  simp only [Bool.and_eq_true, decide_eq_true_eq, and_assoc]

theorem nx_le_mx {p : Params} (h : padOK p = true) : p.nx ≤ mx p :=
  padded_ge ((padOK_iff p).mp h).2.2.1 p.nx

theorem ny_le_my {p : Params} (h : padOK p = true) : p.ny ≤ my p :=
  padded_ge ((padOK_iff p).mp h).2.2.2 p.ny

theorem mx_pos {p : Params} (h : padOK p = true) : 0 < mx p :=
  lt_of_lt_of_le ((padOK_iff p).mp h).1 (nx_le_mx h)

theorem my_pos {p : Params} (h : padOK p = true) : 0 < my p :=
  lt_of_lt_of_le ((padOK_iff p).mp h).2.1 (ny_le_my h)

theorem embAxis_lt {M N i : ℕ} (hNM : N ≤ M) (hi : i < N) : embAxis M N i < M := by
  unfold embAxis cutStart
  omega

theorem embAxis_injective (M N : ℕ) : Function.Injective (embAxis M N) := by
  intro a b h
  unfold embAxis at h
  omega

/-- The executable cut-out as an embedding of the input grid into the internal grid: input pixel
`(iy, ix)` is written to (and read back from) internal pixel `(embY p iy, embX p ix)`. -/
def cutoutEmb (p : Params) (h : padOK p = true) : Fin p.ny × Fin p.nx → Fin (my p) × Fin (mx p) :=
  fun j => (⟨embY p j.1, embAxis_lt (ny_le_my h) j.1.2⟩, ⟨embX p j.2, embAxis_lt (nx_le_mx h) j.2.2⟩)

theorem cutoutEmb_val (p : Params) (h : padOK p = true) (j : Fin p.ny × Fin p.nx) :
    ((cutoutEmb p h j).1 : ℕ) = cutStart (my p) p.ny + j.1 ∧ ((cutoutEmb p h j).2 : ℕ) = cutStart (mx p) p.nx + j.2 :=
  ⟨rfl, rfl⟩

theorem cutoutEmb_injective (p : Params) (h : padOK p = true) : Function.Injective (cutoutEmb p h) := by
  intro a b hab
  have h1 := congrArg (fun t => (t.1 : ℕ)) hab
  have h2 := congrArg (fun t => (t.2 : ℕ)) hab
  simp only [cutoutEmb, embY, embX] at h1 h2
  exact Prod.ext (Fin.ext (embAxis_injective _ _ h1)) (Fin.ext (embAxis_injective _ _ h2))

theorem cutout_eq_none_iff (p : Params) : cutout p = none ↔ mx p = p.nx ∧ my p = p.ny := by
  unfold cutout
  split_ifs with h
  · simp [h]
  · simp [h]

theorem cutoutEmb_bijective (p : Params) (h : padOK p = true) (hc : cutout p = none) :
    Function.Bijective (cutoutEmb p h) := by
  rw [Fintype.bijective_iff_injective_and_card]
  refine ⟨cutoutEmb_injective p h, ?_⟩
  obtain ⟨hx, hy⟩ := (cutout_eq_none_iff p).mp hc
  simp only [Fintype.card_prod, Fintype.card_fin, hx, hy]

theorem cutoutEmb_val_of_none (p : Params) (h : padOK p = true) (hc : cutout p = none)
    (j : Fin p.ny × Fin p.nx) :
    ((cutoutEmb p h j).1 : ℕ) = j.1 ∧ ((cutoutEmb p h j).2 : ℕ) = j.2 := by
  obtain ⟨hx, hy⟩ := (cutout_eq_none_iff p).mp hc
  simp only [cutoutEmb, embY, embX, embAxis, cutStart, hx, hy]
  omega

/-- The slices `cutout p` reports are the image of the embedding: rows `y0 … y1`, columns `x0 … x1`. -/
theorem cutoutEmb_of_cutout (p : Params) (h : padOK p = true) {y0 y1 x0 x1 : ℕ}
    (hc : cutout p = some (y0, y1, x0, x1)) (j : Fin p.ny × Fin p.nx) :
    ((cutoutEmb p h j).1 : ℕ) = y0 + j.1 ∧ ((cutoutEmb p h j).2 : ℕ) = x0 + j.2 ∧
      y1 = y0 + p.ny ∧ x1 = x0 + p.nx := by
  unfold cutout at hc
  split_ifs at hc with hh
  simp only [Option.some.injEq, Prod.mk.injEq] at hc
  obtain ⟨rfl, rfl, rfl, rfl⟩ := hc
  exact ⟨rfl, rfl, rfl, rfl⟩

/-- What the driver prints (`emb`): the rows / columns of the embedding, in order. -/
theorem embRows_getElem (p : Params) (h : padOK p = true) (j : Fin p.ny × Fin p.nx) :
    (embRows p)[(j.1 : ℕ)]? = some ((cutoutEmb p h j).1 : ℕ) ∧
      (embCols p)[(j.2 : ℕ)]? = some ((cutoutEmb p h j).2 : ℕ) := by
  unfold embRows embCols
  simp [cutoutEmb, j.1.2, j.2.2]

end HcipyVerif.NearField
