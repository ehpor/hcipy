import HcipyVerif.Lemmas.Coronagraph
import HcipyVerif.Lemmas.CoronagraphLyot
import HcipyVerif.Lemmas.CoronagraphMS
import HcipyVerif.Lemmas.CoronagraphVV
import HcipyVerif.Lemmas.CoronagraphGeometry
import Mathlib.Data.Complex.Basic
import Mathlib.Tactic.LinearCombination
import Mathlib.Tactic.FieldSimp
import Mathlib.Data.Rat.Floor
import Mathlib.Tactic.Positivity

/-!
# C09 — coronagraphs null what they are designed to null and pass the rest

Theorems about the executable model `HcipyVerif/Model/Coronagraph.lean`.

* Perfect coronagraph (`perfect_coronagraph.py`), two models, both run by the driver.
  (a) `perfect`: exact Gram–Schmidt on the sampled modes; the `perfect_*` theorems hold for every
  list of modes over any ordered field (run at `ℚ`, read at `ℝ`).  For linearly *dependent* modes
  this is a statement about the model only (`0/0 = 0` makes a dependent step the identity, LAPACK's
  QR completes the basis with arbitrary directions): the harness compares (a) with the code only
  when the model finds full rank.
  (b) `perfectMat T T⁺ c E = E − T (c ∘ (T⁺ E))`: the expression `forward` evaluates, for
  arbitrary matrices; the `perfectMat_*` theorems derive the clauses from three decidable
  predicates (`LeftInv`, `WAdjoint`, `NullsModes`) that the driver evaluates on the real object's
  matrices on every run — dependent modes, complex apertures (real `2n × 2k` form), weighted
  grids and user-supplied `coeffs` included.  What stays an assumption is only that these
  predicates hold up to rounding (1e-9) for what LAPACK returns; their defects are reported.
  Complex fields are the pair (real part, imaginary part) of vectors.
* Lyot coronagraphs (`lyot.py`): identities of `forward` and `backward` for arbitrary matrices `F`, `B`
  over any commutative ring (run at the Gaussian rationals).
* Multi-scale coronagraphs (`multi_scale.py`, `vortex.py`): level bookkeeping, and the
  algebra of the constructor's mask recursion and of `forward` on arbitrary linear stand-ins for
  the Fourier operators (telescoping on nested supports, wavelength bookkeeping).  The clause
  "< 1 % on axis, > 50 % at 10 λ/D" is a statement about discretisation error with no identity
  behind it: it is **not decided by any theorem here**; the harness measures it.
* Vector vortex (`vortex.py`, `polarization.py`): the Jones algebra of the retarder (leak `cos²(δ/2)`), and
  one object used through a history of wavelengths and of parameter assignments.
-/
set_option linter.unusedSectionVars false

namespace HcipyVerif.Coronagraph

/-- The double loop appends `Σ_{i<order/2}(i+1) = (order/2)(order/2+1)/2` modes — for every order —
and for every even order this is exactly the length `int(order * (order / 2 + 1) / 4)` the code
gives `coeffs`. -/
theorem mode_count (order : ℕ) :
    modeCount order = ∑ i ∈ Finset.range (order / 2), (i + 1) ∧
    modeCount order = (order / 2) * (order / 2 + 1) / 2 ∧
    (order % 2 = 0 → coeffsLen order = modeCount order) := by
  have h1 := modeCount_eq_sum order
  have hs := two_mul_sum_succ (order / 2)
  refine ⟨h1, by omega, fun hev => ?_⟩
  -- `order = 2h`: `2h (2h + 2) / 8 = 4 (h (h + 1)) / 8 = 8 Σ / 8`
  obtain ⟨h, rfl⟩ : ∃ h, order = 2 * h := ⟨order / 2, by omega⟩
  rw [Nat.mul_div_cancel_left h two_pos] at h1 hs
  have e : 2 * h * (2 * h + 2) = 4 * (h * (h + 1)) := by ring
  rw [h1, coeffsLen, e, ← hs]
  omega

/-- After the repair D30 the number of coefficients used never exceeds the number of
orthogonalised modes, whatever the grid size; on a grid with at least as many points as modes
and an even order it is the full count. -/
theorem coeffs_used (order npix : ℕ) :
    coeffsUsed order npix ≤ min npix (modeCount order) ∧
    (order % 2 = 0 → modeCount order ≤ npix → coeffsUsed order npix = modeCount order) := by
  unfold coeffsUsed
  refine ⟨min_le_right _ _, fun hev hle => ?_⟩
  rw [(mode_count order).2.2 hev]
  omega

/-- The defect D30 in numbers: order 8 on a 3×3 grid asks for 10 coefficients but QR can return
only 9 modes. -/
theorem coeffs_old_mismatch : coeffsLen 8 = 10 ∧ min 9 (modeCount 8) = 9 := by decide

section Perfect
variable {K : Type} [Field K] [LinearOrder K] [IsStrictOrderedRing K] {n : ℕ}

/-- Every field in the linear span of the modes is mapped to zero — for any list of modes,
linearly dependent or not. -/
theorem perfect_nulls_span (ms : List (Vector K n)) (x : Vector K n)
    (hx : toFn x ∈ Submodule.span K {f | ∃ m ∈ ms, toFn m = f}) :
    perfect ms x = zeroVec K n := by
  apply toFn_injective
  rw [toFn_perfect, toFn_zeroVec]
  refine (perfectF_isLinear _).eq_zero_of_mem_span ?_ hx
  rintro f ⟨m, hm, rfl⟩
  exact perfectF_mem _ _ (List.mem_map_of_mem hm)

/-- **Aperture × any polynomial of total degree below `order/2` is nulled**, for every aperture,
every sampling `(x, y)` of the grid, every order and every coefficient table `c`. -/
theorem perfect_nulls_polynomial (a x y : Vector K n) (order : ℕ) (c : ℕ → ℕ → K) (E : Vector K n)
    (hE : ∀ i : Fin n, E[i] = a[i] * ∑ d ∈ Finset.range (order / 2), ∑ j ∈ Finset.range (d + 1),
      c j (d - j) * x[i] ^ j * y[i] ^ (d - j)) :
    perfectCoronagraph a x y order E = zeroVec K n :=
  perfect_nulls_span _ E (poly_mem_span_modes a x y order c E hE)

/-- **The flat wavefront over the aperture is nulled** (any order ≥ 2). -/
theorem perfect_nulls_flat (a x y : Vector K n) (order : ℕ) (ho : 2 ≤ order) :
    perfectCoronagraph a x y order a = zeroVec K n :=
  perfect_nulls_span _ a (Submodule.subset_span
    ⟨a, List.mem_map.2 ⟨(0, 0), mem_modeExps (by omega), mode_zero a x y⟩, rfl⟩)

/-- **Idempotent**: `P (P E) = P E`. -/
theorem perfect_idempotent (ms : List (Vector K n)) (x : Vector K n) :
    perfect ms (perfect ms x) = perfect ms x := by
  apply toFn_injective
  rw [toFn_perfect, toFn_perfect, perfectF_idem]

/-- **Power never increases** (one real component). -/
theorem perfect_power_le (ms : List (Vector K n)) (x : Vector K n) :
    power (perfect ms x) ≤ power x := by
  unfold power
  rw [dot_eq_ip, dot_eq_ip, toFn_perfect]
  exact perfectF_power_le _ _

/-- Power of a complex field `re + i·im` never increases. -/
theorem perfect_power_le_complex (ms : List (Vector K n)) (re im : Vector K n) :
    power (perfect ms re) + power (perfect ms im) ≤ power re + power im :=
  add_le_add (perfect_power_le ms re) (perfect_power_le ms im)

/-- The operator is linear. -/
theorem perfect_linear (ms : List (Vector K n)) (x y : Vector K n) (c : K) :
    toFn (perfect ms (Vector.ofFn fun i => x[i] + c * y[i])) =
      toFn (perfect ms x) + c • toFn (perfect ms y) := by
  rw [toFn_perfect, toFn_perfect, toFn_perfect, toFn_ofFn, ← (perfectF_isLinear _).map_smul, ← (perfectF_isLinear _).map_add]
  rfl

end Perfect

/-- Non-vacuity / executable sanity at `ℚ`: on the three points `x = -1, 0, 1` with full aperture,
order 4 nulls `1 + 2x` and leaves `x²`'s residual. -/
example : (perfectCoronagraph (K := Rat) #v[1, 1, 1] #v[-1, 0, 1] #v[0, 0, 0] 4 #v[-1, 1, 3]).toList
    = [0, 0, 0] := by decide +kernel

/-! ## perfect coronagraph: the operator the code literally evaluates

`perfectMat T T⁺ c E = E − T (c ∘ (T⁺ E))` is `PerfectCoronagraph.forward` for *arbitrary*
matrices.  The driver runs this very definition on the real object's `transformation`,
`transformation_inverse`, `coeffs` (exact rationals; complex matrices in their real `2n × 2k`
form) and reports the defects of the three hypotheses below for them (op `pmat`), so the clauses
are tied to the code through the predicates `LeftInv` (`T⁺ T = I`), `WAdjoint` (`T⁺ = μ Tᵀ W`,
i.e. `T⁺ = Tᴴ` on a regular grid) and `NullsModes` (`span(modes) ⊆ range T`, stated as "every
mode is mapped to zero") — whatever QR did with linearly dependent modes. -/
section Literal
variable {K : Type} {n k : ℕ}

/-- The operator is linear (any commutative ring, any matrices, any `coeffs`). -/
theorem perfectMat_linear [CommRing K] (T : Vector (Vector K k) n) (Tinv : Vector (Vector K n) k)
    (c : Vector K k) (x y : Vector K n) (a : K) :
    toFn (perfectMat T Tinv c (Vector.ofFn fun i => x[i] + a * y[i])) =
      toFn (perfectMat T Tinv c x) + a • toFn (perfectMat T Tinv c y) := by
  rw [toFn_perfectMat, toFn_perfectMat, toFn_perfectMat, toFn_ofFn, ← (rejectF_isLinear _ _ _).map_smul,
    ← (rejectF_isLinear _ _ _).map_add]
  rfl

/-- **Aperture × any polynomial of total degree below `order/2` is nulled** by the code's operator
as soon as it nulls the `order/2·(order/2+1)/2` modes themselves (`NullsModes`: decidable, reported
by the driver for the real matrices). -/
theorem perfectMat_nulls_polynomial [CommRing K] (T : Vector (Vector K k) n) (Tinv : Vector (Vector K n) k)
    (cf : Vector K k) (a x y : Vector K n) (order : ℕ) (hm : NullsModes T Tinv cf a x y order)
    (c : ℕ → ℕ → K) (E : Vector K n)
    (hE : ∀ i : Fin n, E[i] = a[i] * ∑ d ∈ Finset.range (order / 2), ∑ j ∈ Finset.range (d + 1),
      c j (d - j) * x[i] ^ j * y[i] ^ (d - j)) :
    perfectMat T Tinv cf E = zeroVec K n := by
  apply toFn_injective
  rw [toFn_perfectMat, toFn_zeroVec]
  refine (rejectF_isLinear _ _ _).eq_zero_of_mem_span ?_ (poly_mem_span_modes a x y order c E hE)
  rintro f ⟨m, hmem, rfl⟩
  obtain ⟨e, he, rfl⟩ := List.mem_map.1 hmem
  rw [← toFn_perfectMat, hm e he, toFn_zeroVec]

/-- **The flat wavefront over the aperture is nulled** (any order ≥ 2) under `NullsModes`. -/
theorem perfectMat_nulls_flat [CommRing K] (T : Vector (Vector K k) n) (Tinv : Vector (Vector K n) k)
    (cf : Vector K k) (a x y : Vector K n) (order : ℕ) (ho : 2 ≤ order)
    (hm : NullsModes T Tinv cf a x y order) : perfectMat T Tinv cf a = zeroVec K n := by
  have := hm (0, 0) (mem_modeExps (by omega))
  rwa [mode_zero] at this

/-- Everything in the range of `T` is nulled when `T⁺ T = I` and `coeffs = 1`. -/
theorem perfectMat_nulls_range [CommRing K] (T : Vector (Vector K k) n) (Tinv : Vector (Vector K n) k)
    (h : LeftInv T Tinv) (b : Vector K k) :
    perfectMat T Tinv (onesVec K k) (matVec T b) = zeroVec K n := by
  apply toFn_injective
  rw [toFn_perfectMat, toFn_onesVec, toFn_zeroVec, toFn_matVec, rejectF_range _ ((leftInv_iff T Tinv).1 h), sub_self,
    zero_mul, Matrix.mulVec_zero]

/-- **Partial suppression** (user-supplied `coeffs`, [Guyon2006]): when `T⁺ T = I` the `l`-th
orthogonalised mode is attenuated by exactly `1 − coeffs_l`, for every combination `T b` of them:
`P_c (T b) = T ((1 − c) ∘ b)`.  (`coeffs = 1`: nulled — `perfectMat_nulls_range`; `coeffs = 0`: passed.)
Tied by harness part B, cases with user coefficients: op `papply` on the columns of the real
`transformation` with the real `coeffs`. -/
theorem perfectMat_partial_suppression [CommRing K] (T : Vector (Vector K k) n) (Tinv : Vector (Vector K n) k)
    (h : LeftInv T Tinv) (c b : Vector K k) :
    perfectMat T Tinv c (matVec T b) = matVec T (Vector.ofFn fun j => (1 - c[j]) * b[j]) := by
  apply toFn_injective
  rw [toFn_perfectMat, toFn_matVec, toFn_matVec, toFn_ofFn]
  exact rejectF_range _ ((leftInv_iff T Tinv).1 h) (toFn b)

/-- **The matrix the object reports for itself is the operator `forward` applies**:
`get_transformation_matrix_forward() · E = forward(E)` for any matrices and coefficients
(`perfectMatrix` = `np.eye(n) − T.dot(coeffs[:, None] * T⁺)`, the expression after D109; op `pmatrix`
compares it entry by entry with what the real method returns). -/
theorem perfectMatrix_apply [CommRing K] (T : Vector (Vector K k) n) (Tinv : Vector (Vector K n) k)
    (c : Vector K k) (E : Vector K n) :
    matVec (perfectMatrix T Tinv c) E = perfectMat T Tinv c E := by
  apply toFn_injective
  rw [toFn_matVec, toFn_perfectMat, toFn2_perfectMatrix, Matrix.sub_mulVec, Matrix.one_mulVec, ← Matrix.mulVec_mulVec,
    ← Matrix.mulVec_mulVec]
  unfold rejectF
  congr 2
  funext j
  exact Matrix.mulVec_diagonal _ _ j

/-- **Idempotent** when `T⁺ T = I` and `coeffs = 1` (any commutative ring: no orthogonality is
needed, so this covers complex apertures directly). -/
theorem perfectMat_idempotent [CommRing K] (T : Vector (Vector K k) n) (Tinv : Vector (Vector K n) k)
    (h : LeftInv T Tinv) (E : Vector K n) :
    perfectMat T Tinv (onesVec K k) (perfectMat T Tinv (onesVec K k) E) =
      perfectMat T Tinv (onesVec K k) E := by
  apply toFn_injective
  rw [toFn_perfectMat, toFn_perfectMat, toFn_onesVec]
  exact rejectF_idem ((leftInv_iff T Tinv).1 h) _

/-- **Weighted power never increases** — `total_power = Σ w_i |E_i|²` with the grid weights `w ≥ 0` —
when `T⁺ T = I` and `T⁺` is (a positive multiple `μ` of) the adjoint of `T` *in the inner product
weighted by `w`*.  For the code (`T⁺ = Tᴴ`, unweighted QR) `WAdjoint` holds exactly when the
weights are constant on the support of `T`: this is the restriction to regular grids, and
`perfectMat_weighted_power_counterexample` shows it cannot be dropped. -/
theorem perfectMat_power_le [Field K] [LinearOrder K] [IsStrictOrderedRing K]
    (T : Vector (Vector K k) n) (Tinv : Vector (Vector K n) k) (w : Vector K n) (mu : K)
    (h : LeftInv T Tinv) (hadj : WAdjoint T Tinv w mu) (hmu : 0 < mu) (hw : ∀ i : Fin n, 0 ≤ w[i])
    (E : Vector K n) :
    powerW w (perfectMat T Tinv (onesVec K k) E) ≤ powerW w E := by
  rw [powerW_eq, powerW_eq, toFn_perfectMat, toFn_onesVec]
  exact rejectF_pw_le _ _ (toFn w) mu ((leftInv_iff T Tinv).1 h) ((wAdjoint_iff T Tinv w mu).1 hadj) hmu hw _

/-- The hypotheses are satisfiable: two points, the normalised constant mode, unit weights. -/
example : let T : Vector (Vector ℚ 1) 2 := #v[#v[1], #v[1]]
    let Tinv : Vector (Vector ℚ 2) 1 := #v[#v[1/2, 1/2]]
    LeftInv T Tinv ∧ WAdjoint T Tinv #v[1, 1] (1/2) ∧
      NullsModes T Tinv (onesVec ℚ 1) #v[1, 1] #v[0, 1] #v[0, 0] 2 := by decide +kernel

/-- **The restriction to constant weights is necessary**: on the two-point grid with weights
`(1, 8)` the projector onto the complement of the flat mode — orthogonal in the *unweighted*
product, as the code's QR makes it — maps `E = (1, 0)` (power 1) to `(1/2, −1/2)` (power 9/4).
The same numbers come out of the real `PerfectCoronagraph` (harness part B, weighted grids). -/
theorem perfectMat_weighted_power_counterexample :
    let T : Vector (Vector ℚ 1) 2 := #v[#v[1], #v[1]]
    let Tinv : Vector (Vector ℚ 2) 1 := #v[#v[1/2, 1/2]]
    let w : Vector ℚ 2 := #v[1, 8]
    LeftInv T Tinv ∧ WAdjoint T Tinv #v[1, 1] (1/2) ∧
      powerW w #v[1, 0] = 1 ∧ powerW w (perfectMat T Tinv (onesVec ℚ 1) #v[1, 0]) = 9 / 4 ∧
      powerW w (perfect [#v[1, 1]] #v[1, 0]) = 9 / 4 := by decide +kernel

end Literal

section Lyot
variable {K : Type} [CommRing K] {m n : ℕ}

/-- **A fully transmissive focal-plane mask** (`m = 1`): the Lyot coronagraph returns the input
times its Lyot stop — for arbitrary `F`, `B` (nothing about `B ∘ F` is needed: the subtracted
term is `B` applied to the zero field). -/
theorem lyot_transparent_mask (F : Vector (Vector K n) m) (B : Vector (Vector K m) n)
    (mask : Vector K m) (stop : Option (Vector K n)) (E : Vector K n)
    (h : ∀ k : Fin m, mask[k] = 1) :
    lyotForward F B mask stop E =
      match stop with
      | none => E
      | some s => Vector.ofFn fun i => E[i] * s[i] := by
  have hm : toFn mask = 1 := funext h
  have h0 : lyotForward F B mask none E = E :=
    toFn_injective (by rw [toFn_lyotForward_none, hm, sub_self, rejectF_coeffs_zero])
  cases stop with
  | none => exact h0
  | some s => rw [lyotForward_some, h0]; rfl

/-! ### `backward`

`lyotBackward` / `occultedBackward` are the literal `backward` methods (the stop acts first and
conjugated, the mask conjugated, the propagator pair used in the same order); ops `lyotb`,
`occultedb` run them on the stand-ins of harness part C next to the real methods. -/

/-- `backward` is `forward` through the conjugated mask, without a stop, applied to the field
already multiplied by the conjugated stop. -/
theorem lyot_backward_eq_forward (cj : K → K) (F : Vector (Vector K n) m) (B : Vector (Vector K m) n)
    (mask : Vector K m) (stop : Option (Vector K n)) (y : Vector K n) :
    lyotBackward cj F B mask stop y =
      lyotForward F B (Vector.ofFn fun k => cj mask[k]) none
        (match stop with
         | none => y
         | some s => Vector.ofFn fun i => y[i] * cj s[i]) := by
  have h0 : ∀ y', lyotBackward cj F B mask none y' = lyotForward F B (Vector.ofFn (cj ∘ toFn mask)) none y' :=
    fun y' => toFn_injective (by rw [toFn_lyotBackward_none, toFn_lyotForward_none, toFn_ofFn])
  -- the stop acts first: `backward` with a stop is by definition `backward` without one on the stopped field
  exact h0 _

/-- **Fully transmissive mask, backward**: the input times the conjugated Lyot stop (arbitrary `F`, `B`). -/
theorem lyot_backward_transparent_mask (cj : K → K) (hcj : cj 1 = 1) (F : Vector (Vector K n) m)
    (B : Vector (Vector K m) n) (mask : Vector K m) (stop : Option (Vector K n)) (y : Vector K n)
    (h : ∀ k : Fin m, mask[k] = 1) :
    lyotBackward cj F B mask stop y =
      match stop with
      | none => y
      | some s => Vector.ofFn fun i => y[i] * cj s[i] := by
  have hm : cj ∘ toFn mask = 1 := funext fun k => (congrArg cj (h k)).trans hcj
  have h0 : ∀ y', lyotBackward cj F B mask none y' = y' := fun y' =>
    toFn_injective (by rw [toFn_lyotBackward_none, hm, sub_self, rejectF_coeffs_zero])
  cases stop with
  | none => exact h0 y
  | some s => exact (lyotBackward_some cj F B mask s y).trans (h0 _)

/-- **Fully opaque mask, backward**: the occulting Lyot coronagraph returns nothing. -/
theorem occulted_backward_opaque_mask (cj : K → K) (hcj : cj 0 = 0) (F : Vector (Vector K n) m)
    (B : Vector (Vector K m) n) (mask : Vector K m) (y : Vector K n) (h : ∀ k : Fin m, mask[k] = 0) :
    occultedBackward cj F B mask y = zeroVec K n := by
  have hm : cj ∘ toFn mask = 0 := funext fun k => (congrArg cj (h k)).trans hcj
  apply toFn_injective
  rw [toFn_occultedBackward, hm, mul_zero, Matrix.mulVec_zero, toFn_zeroVec]

/-- **A fully opaque mask** (`m = 0`): the occulting Lyot coronagraph returns nothing (`forward` is `backward`
with the identity for the conjugation). -/
theorem occulted_opaque_mask (F : Vector (Vector K n) m) (B : Vector (Vector K m) n)
    (mask : Vector K m) (E : Vector K n) (h : ∀ k : Fin m, mask[k] = 0) :
    occultedForward F B mask E = zeroVec K n :=
  occulted_backward_opaque_mask id rfl F B mask E h

/-- **`backward` is the adjoint of `forward`** in `⟨u, v⟩ = Σ conj(u_i) v_i` whenever the
propagator's `backward` is the adjoint of its `forward` (`B = Fᴴ`: the decidable predicate
`propAdjointDefect = 0`, reported by op `lyotadj` for the stand-ins), for every mask, stop and
conjugation `cj` (an involutive ring homomorphism): `⟨y, forward x⟩ = ⟨backward y, x⟩`. -/
theorem lyot_backward_adjoint (cj : K →+* K) (hinv : ∀ a, cj (cj a) = a)
    (F : Vector (Vector K n) m) (B : Vector (Vector K m) n) (mask : Vector K m) (stop : Option (Vector K n))
    (x y : Vector K n) (hadj : ∀ (i : Fin n) (k : Fin m), propAdjointDefect cj F B i k = 0) :
    cdot cj y (lyotForward F B mask stop x) = cdot cj (lyotBackward cj F B mask stop y) x := by
  have hb : ∀ i k, toFn2 B i k = cj (toFn2 F k i) := fun i k => sub_eq_zero.1 (hadj i k)
  have hg : (1 : Fin m → K) - cj ∘ toFn mask = cj ∘ (1 - toFn mask) := funext fun k => by
    simp only [Function.comp, Pi.sub_apply, Pi.one_apply, map_sub, map_one]
  rw [cdot_eq, cdot_eq]
  cases stop with
  | none =>
    rw [toFn_lyotForward_none, toFn_lyotBackward_none, hg]
    exact rejectF_adjoint cj hinv _ _ hb _ _ _
  | some s =>
    -- the stop moves to the other side of the product: `conj(y)·(r s) = conj(y conj(s))·r`
    have hs : cj ∘ (toFn y * cj ∘ toFn s) = toFn s * cj ∘ toFn y := funext fun i => by
      simp only [Function.comp, Pi.mul_apply, map_mul, hinv, mul_comm]
    rw [lyotForward_some, lyotBackward_some, toFn_ofFn, toFn_lyotForward_none, toFn_lyotBackward_none, toFn_ofFn,
      hg, ← rejectF_adjoint cj hinv _ _ hb, hs, mul_comm, dotProduct_mul_left]

/-- The hypothesis is satisfiable and the identity evaluated at the Gaussian rationals is checked by the
driver on every run (op `lyotadj`); here over `ℚ` with the trivial conjugation. -/
example : ∀ (i : Fin 2) (k : Fin 1), propAdjointDefect (K := ℚ) id #v[#v[1, 2]] #v[#v[1], #v[2]] i k = 0 := by
  decide +kernel

end Lyot

section MultiScale

/-- **Number of levels**: the finest level reaches the requested sampling `q`, and no smaller
number of levels does (whenever the search ended within its fuel). -/
theorem levels_spec (q s : ℚ) (fuel : ℕ) (hfuel : levels q s fuel ≤ fuel) :
    q ≤ qLevel s (levels q s fuel - 1) ∧ ∀ j, j + 1 < levels q s fuel → qLevel s j < q := by
  unfold levels at *
  obtain ⟨h1, h2⟩ := levelSearch_spec (q / 2) s fuel 0 1 (pow_zero s).symm (by omega)
  refine ⟨?_, fun j hj => ?_⟩
  · simp only [Nat.add_sub_cancel]; unfold qLevel; linarith
  · have := h2 j (Nat.zero_le _) (by omega)
    unfold qLevel; linarith

example : levels 32 4 = 3 ∧ levels 1024 2 = 10 ∧ levels 2 4 = 1 := by decide +kernel

/-- Pixel counts: level 0 has `2·shape` pixels, every finer level `⌊window·s⌋` on both axes. -/
theorem level_dims (p : MSParams) (hs : 0 < p.s) :
    dimsLevel p 0 = (2 * p.ny, 2 * p.nx) ∧ ∀ i, dimsLevel p (i + 1) = (levelPix p, levelPix p) :=
  ⟨dimsLevel_zero p, fun i => dimsLevel_succ p i hs⟩

/-- **Each level covers exactly the window of the previous one** when `window·s` is an integer
(every integer scaling factor, and e.g. `s = 5/2` with an even window): `dims_i · δ_i = window · δ_{i-1}`
on both axes, for every level. -/
theorem level_extent (p : MSParams) (i m : ℕ) (hs : 0 < p.s) (hm : (p.w : ℚ) * p.s = m) :
    dimsLevel p (i + 1) = (m, m) ∧
    (m : ℚ) * (deltaLevel p (i + 1)).1 = p.w * (deltaLevel p i).1 ∧
    (m : ℚ) * (deltaLevel p (i + 1)).2 = p.w * (deltaLevel p i).2 := by
  have hL : levelPix p = m := by unfold levelPix; rw [hm]; exact floor_natCast' m
  obtain ⟨h1, h2⟩ := deltaLevel_succ p i hs
  refine ⟨by rw [dimsLevel_succ p i hs, hL], ?_, ?_⟩
  · rw [← hm, h1]; exact mul_assoc _ _ _
  · rw [← hm, h2]; exact mul_assoc _ _ _

/-- In general a finer level covers the window up to less than one of its own pixels. -/
theorem level_extent_bounds (p : MSParams) (i : ℕ) (hs : 0 < p.s) (hny : 0 < p.ny) (hdx : 0 < p.dx) :
    ((dimsLevel p (i + 1)).1 : ℚ) * (deltaLevel p (i + 1)).1 ≤ p.w * (deltaLevel p i).1 ∧
    (p.w : ℚ) * (deltaLevel p i).1 < ((dimsLevel p (i + 1)).1 + 1) * (deltaLevel p (i + 1)).1 := by
  rw [dimsLevel_succ p i hs]
  -- `levelPix` is the natural-number floor of `w s`
  have hfl : levelPix p = ⌊(p.w : ℚ) * p.s⌋₊ := Int.floor_toNat ((p.w : ℚ) * p.s)
  have hd : 0 < (deltaLevel p (i + 1)).1 := by
    unfold deltaLevel; simp only
    have := qLevel_pos p.s hs (i + 1)
    have hn : (0 : ℚ) < p.ny := by exact_mod_cast hny
    positivity
  have hr : (p.w : ℚ) * (deltaLevel p i).1 = (p.w * p.s) * (deltaLevel p (i + 1)).1 := by
    rw [(deltaLevel_succ p i hs).1, mul_assoc]
  simp only
  rw [hr, hfl]
  exact ⟨mul_le_mul_of_nonneg_right (Nat.floor_le (by positivity)) hd.le,
    mul_lt_mul_of_pos_right (Nat.lt_floor_add_one _) hd⟩

/-- The recursion the code used before D32 gives, in exact arithmetic, the same pixel counts: the
defect was purely one of float rounding followed by truncation. -/
theorem dims_old_eq (p : MSParams) (hs : 0 < p.s) (hny : 0 < p.ny) (hnx : 0 < p.nx) (hw : 0 < p.w)
    (i : ℕ) : dimsLevelOld p i = dimsLevel p i := by
  have hwq : (0 : ℚ) < p.w := by exact_mod_cast hw
  -- `numAiryOld` (`a ↦ a w / (2 q a)`) never reaches `0`, which is all that cancelling `a` needs
  have hpos : ∀ i, 0 < (numAiryOld p i).1 ∧ 0 < (numAiryOld p i).2 := by
    intro i
    fun_induction numAiryOld p i with
    | case1 => exact ⟨by positivity, by positivity⟩
    | case2 k prev ih =>
      obtain ⟨h1, h2⟩ := ih
      have := qLevel_pos p.s hs k
      exact ⟨by positivity, by positivity⟩
  cases i with
  | zero => rfl
  | succ k =>
    have key : ∀ a : ℚ, 0 < a → 2 * (a * p.w / (2 * qLevel p.s k * a)) * qLevel p.s (k + 1) = p.w * p.s := by
      intro a ha
      have hp : p.s ^ k ≠ 0 := pow_ne_zero _ hs.ne'
      unfold qLevel; rw [pow_succ]; field_simp
    rw [dimsLevel_succ p k hs]
    unfold dimsLevelOld
    rw [numAiryOld]
    simp only [key _ (hpos k).1, key _ (hpos k).2]
    rfl

/-- **Window padding** on a square level grid of `d` pixels with a window of `w ≥ 2` samples: the
constructor succeeds exactly when the window fits and `d − w` is even, and then pads the same
number of samples `(d − w)/2` before and after (so the padded window has exactly `d` samples);
in every other case the real code raises — it never produces a shifted window. -/
theorem window_padding (d w : ℕ) (hw : 2 ≤ w) :
    (w ≤ d ∧ (d - w) % 2 = 0 →
      padWindow (d, d) w = .ok ((d - w) / 2) ((d - w) / 2) ∧ w + 2 * ((d - w) / 2) = d) ∧
    (¬ (w ≤ d ∧ (d - w) % 2 = 0) → padWindow (d, d) w = .raises) := by
  rw [padWindow_square d w hw]
  constructor
  · intro h; rw [if_pos h]; exact ⟨rfl, by omega⟩
  · intro h; rw [if_neg h]

/-- **Level geometry of every accepted configuration** (square pupil, window ≥ 2, at least two
levels): the window size is even, and at every level that applies a window the grid is square
with an even number of pixels, the window is padded symmetrically to exactly the grid shape, and
the window's peak sample `before + w/2` is the grid's origin sample `d/2`. -/
theorem level_geometry (p : MSParams) (lv : ℕ) (hsq : p.ny = p.nx) (hs : 0 < p.s) (hw : 2 ≤ p.w)
    (hlv : 2 ≤ lv) (hacc : accepted p lv = true) :
    p.w % 2 = 0 ∧ ∀ i, i + 1 < lv →
      (dimsLevel p i).2 = (dimsLevel p i).1 ∧ p.w ≤ (dimsLevel p i).1 ∧ (dimsLevel p i).1 % 2 = 0 ∧
      padWindow (dimsLevel p i) p.w =
        .ok (((dimsLevel p i).1 - p.w) / 2) (((dimsLevel p i).1 - p.w) / 2) ∧
      p.w + 2 * (((dimsLevel p i).1 - p.w) / 2) = (dimsLevel p i).1 ∧
      ((dimsLevel p i).1 - p.w) / 2 + p.w / 2 = originIndex (dimsLevel p i).1 := by
  -- every level grid is square, so `window_padding` says what `padWindow` does on it
  have hd : ∀ i, dimsLevel p i = ((dimsLevel p i).1, (dimsLevel p i).1) := fun i =>
    Prod.ext rfl (by cases i with
      | zero => rw [dimsLevel_zero, hsq]
      | succ k => rw [dimsLevel_succ p k hs])
  have hfit : ∀ i, i + 1 < lv → p.w ≤ (dimsLevel p i).1 ∧ ((dimsLevel p i).1 - p.w) % 2 = 0 := by
    intro i hi
    by_contra hcon
    have hr : padWindow (dimsLevel p i) p.w = .raises := hd i ▸ (window_padding _ _ hw).2 hcon
    have := List.all_eq_true.1 hacc _ (List.mem_map.2 ⟨i, List.mem_range.2 (by omega), hr⟩)
    exact absurd this (by decide)
  have hw2 : p.w % 2 = 0 := by
    have h0 := hfit 0 (by omega)
    rw [dimsLevel_zero] at h0
    omega
  refine ⟨hw2, fun i hi => ?_⟩
  obtain ⟨h1, h2⟩ := hfit i hi
  obtain ⟨hp, hsum⟩ := (window_padding _ _ hw).1 ⟨h1, h2⟩
  exact ⟨congrArg Prod.snd (hd i), h1, by omega, hd i ▸ hp, hsum, by unfold originIndex; omega⟩

/-- Non-vacuity: the default configuration (`q = 1024, s = 4, window 32`) on a 32-pixel pupil is
accepted with six levels; an odd window is refused at level 0. -/
example : let p : MSParams := ⟨32, 32, 1/32, 1/32, 1024, 4, 32⟩
    levels p.q p.s = 6 ∧ accepted p 6 = true ∧ accepted { p with w := 31 } 6 = false := by
  decide +kernel

end MultiScale

/-! ## multi-scale coronagraphs: the algebra of the construction

`msMasks` / `msForward` model the constructor's mask recursion (`focal_mask *= 1 - w`,
`focal_mask -= resample(focal_masks[j])`) and `forward` (`Σ_i prop_i.backward(mask_i · prop_i(E))`,
Lyot stop) for arbitrary linear stand-ins of the propagators and resamplers; the driver op
`msalg` runs them and the harness compares masks level by level and the output with the real
`MultiScaleCoronagraph` / `VortexCoronagraph` / `FQPMCoronagraph` running on the same stand-ins. -/
section MultiScaleAlgebra
variable {K : Type} {d n : ℕ}

/-- **Telescoping — the design invariant behind the window and padding arithmetic.**  When every
level samples the same mask `m` on one focal plane, sees the samples of its support `S_i` through
the restrictions of one pair of operators `F`, `B`, resampling between levels is exact, and the
windows are nested in the supports (`nestedOK`: the window of level `i` vanishes outside `S_i` and
outside `S_{i+1}`; `S_0` is everything) — then the masks the constructor's recursion arrives at
are `m (w_{i-1} − w_i)` and the sum over the levels collapses:
`Σ_i B_i (M_i · F_i E) = B (m · F E)`, whatever the windows, for any number of levels.
`level_extent` / `level_geometry` are what makes the real level grids satisfy the hypotheses
(finer level = exactly the window of the coarser one, window centred on the origin sample). -/
theorem multiscale_telescopes [CommRing K] [BEq K] [LawfulBEq K]
    (m : Vector K d) (F : Vector (Vector K n) d) (B : Vector (Vector K d) n)
    (sps : List (Vector Bool d × Vector K d)) (hne : sps ≠ [])
    (hok : nestedOK (onesVec K d) sps = true) (stop : Option (Vector K n)) (E : Vector K n) :
    msForward (exactLevels m F B sps) stop E =
      match stop with
      | none => idealForward m F B E
      | some s => Vector.ofFn fun i => (idealForward m F B E)[i] * s[i] := by
  have h : msForward (exactLevels m F B sps) none E = idealForward m F B E :=
    toFn_injective ((msSum_map_exact (RingHom.id K) m F B sps hne hok _
      (by rw [msMasks_exact]; exact (List.map_id _).symm) E).trans (toFn_idealForward m F B E).symm)
  cases stop with
  | none => exact h
  | some s => rw [msForward_some, h]; rfl

/-- The masks themselves: on the exact design the recursion yields `m (w_{i-1} − w_i)` (with
`w_{-1} = 1`) and `m w_{L-2}` on the last level. -/
theorem multiscale_masks [CommRing K] (m : Vector K d) (F : Vector (Vector K n) d) (B : Vector (Vector K d) n)
    (sps : List (Vector Bool d × Vector K d)) :
    (msMasks (exactLevels m F B sps)).map toFn = expMasks (toFn m) (fun _ => 1) sps :=
  msMasks_exact m F B sps

/-- Hypotheses satisfiable, and the identity evaluated: three levels on a six-sample plane with
supports `6 ⊇ 4 ⊇ 2`, windows supported in the next level, arbitrary `F`, `B`, mask. -/
example : let m : Vector ℚ 6 := #v[2, -1, 3, 5, -2, 7]
    let F : Vector (Vector ℚ 2) 6 := #v[#v[1, 2], #v[0, 1], #v[3, -1], #v[1, 1], #v[2, 0], #v[-1, 4]]
    let B : Vector (Vector ℚ 6) 2 := #v[#v[1, 0, 2, -1, 3, 1], #v[0, 1, 1, 2, -2, 5]]
    let sps : List (Vector Bool 6 × Vector ℚ 6) :=
      [(#v[true, true, true, true, true, true], #v[0, 1/2, 1, 1, 1/2, 0]),
       (#v[false, true, true, true, true, false], #v[0, 0, 1/3, 1, 0, 0]),
       (#v[false, false, true, true, false, false], #v[0, 0, 0, 0, 0, 0])]
    nestedOK (onesVec ℚ 6) sps = true ∧
      msForward (exactLevels m F B sps) none #v[1, 3] = idealForward m F B #v[1, 3] := by
  decide +kernel

/-- **Telescoping for `backward`.**  `msBackward` is the literal `MultiScaleCoronagraph.backward`
(conjugated Lyot stop first, every stored mask conjugated).  On the exact design the conjugated
masks `conj(m)(conj w_{i-1} − conj w_i)` telescope exactly like the masks themselves (windows real
or not): `backward(y) = B (conj(m) · F (conj(stop) · y))`, for any number of levels and any ring
homomorphism `cj`.  Ops `msalgb` (real constructor + real `backward` on
stand-ins) and `msteleb` (this identity at the Gaussian rationals). -/
theorem multiscale_backward_telescopes [CommRing K] [BEq K] [LawfulBEq K] (cj : K →+* K)
    (m : Vector K d) (F : Vector (Vector K n) d) (B : Vector (Vector K d) n)
    (sps : List (Vector Bool d × Vector K d)) (hne : sps ≠ [])
    (hok : nestedOK (onesVec K d) sps = true)
    (stop : Option (Vector K n)) (y : Vector K n) :
    msBackward cj (exactLevels m F B sps) stop y =
      idealForward (Vector.ofFn fun p => cj m[p]) F B
        (match stop with
         | none => y
         | some s => Vector.ofFn fun i => y[i] * cj s[i]) := by
  apply toFn_injective
  -- `msBackward` unfolded: the conjugated masks, applied to the field behind the conjugated stop
  show toFn (msSum _ ((msMasks (exactLevels m F B sps)).map fun M => Vector.ofFn (cj ∘ toFn M)) _)
    = toFn (idealForward (Vector.ofFn (cj ∘ toFn m)) F B _)
  rw [toFn_idealForward, toFn_ofFn]
  refine msSum_map_exact cj m F B sps hne hok _ ?_ _
  rw [List.map_map, ← msMasks_exact m F B, List.map_map]
  exact List.map_congr_left fun M _ => toFn_ofFn _

/-- **Achromaticity after rescaling**: `forward` calls its propagators at wavelength 1 whatever
the wavelength of the input, so the output field does not depend on the wavelength, and the output
carries the input's wavelength.  (Tied by op `msalg`: the stand-in propagators record the
wavelength they are called with.) -/
theorem multiscale_wavelength_free [OfNat K 0] [OfNat K 1] [Add K] [Sub K] [Mul K] [Div K] [Pow K ℕ]
    (lsAt : K → List (MSLevel K d n)) (stop : Option (Vector K n)) (E : Vector K n) (wl wl' : K) :
    (msForwardWf lsAt stop ⟨E, wl⟩).E = (msForwardWf lsAt stop ⟨E, wl'⟩).E ∧
    (msForwardWf lsAt stop ⟨E, wl⟩).E = msForward (lsAt 1) stop E ∧
    (msForwardWf lsAt stop ⟨E, wl⟩).wavelength = wl := ⟨rfl, rfl, rfl⟩

/-- Without the rescaling the output does depend on the wavelength (so the previous theorem is a
statement about the bookkeeping, not an artefact of the model): one level, one sample, a
propagator that scales with the wavelength. -/
theorem multiscale_wavelength_bad_counterexample :
    let lsAt : ℚ → List (MSLevel ℚ 1 1) := fun wl =>
      [{ raw := #v[1], win := #v[0], R := [], F := #v[#v[wl]], B := #v[#v[1]] }]
    (msForwardWfBad lsAt none ⟨#v[1], 1⟩).E ≠ (msForwardWfBad lsAt none ⟨#v[1], 2⟩).E ∧
    (msForwardWf lsAt none ⟨#v[1], 1⟩).E = (msForwardWf lsAt none ⟨#v[1], 2⟩).E := by
  decide +kernel

end MultiScaleAlgebra

section GramSchmidtOutput
variable {K : Type} [Field K] [LinearOrder K] [IsStrictOrderedRing K] {n : ℕ}

/-- **The executed Gram–Schmidt returns an orthogonal family** — for every list of modes (dependent
or not; the model's `gs` is total, a dependent mode contributes the zero vector).  `gs` is the
definition the driver runs in `setup` / `apply`. -/
theorem gs_orthogonal (ms : List (Vector K n)) :
    (gs ms).Pairwise (fun u v => dot u v = 0) := by
  have h := gsAuxF_pairwise [] (ms.map toFn) List.Pairwise.nil
  rw [← map_gs, List.pairwise_map] at h
  exact h.imp (fun {u v} huv => by rw [dot_eq_ip]; exact huv)

/-- **The executed `perfect` is the orthogonal projector of the executed Gram–Schmidt family**:
`perfect ms x = x − Σ_{u ∈ gs ms} (⟨u,x⟩/⟨u,u⟩) u` (a zero `u` contributes nothing, `0/0 = 0`).
This instantiates the abstract `x ↦ x − Σ⟪v i, x⟫ v i` of `Lemmas.orthonormal_*` at the family the
driver computes, with `v = u/‖u‖` written without square roots. -/
theorem perfect_eq_orthogonal_projector (ms : List (Vector K n)) (x : Vector K n) :
    toFn (perfect ms x) = projOutList ((gs ms).map toFn) (toFn x) := by
  rw [toFn_perfect, map_gs]
  exact residualF_eq_projOutList _ (gsAuxF_pairwise [] _ List.Pairwise.nil) _

/-- **What holds on a grid with non-constant weights**: the code orthogonalises in the unweighted
product (`T⁺ = μ Tᵀ`, `WAdjoint` with unit weights — evaluated by op `pmat` on the real matrices of
every weighted-grid case), so the *unweighted* `Σ E_i²` never increases, whatever the grid weights.
What can increase is `total_power = Σ w_i E_i²` (`perfectMat_weighted_power_counterexample`). -/
theorem perfectMat_unweighted_power_le {k : ℕ}
    (T : Vector (Vector K k) n) (Tinv : Vector (Vector K n) k) (mu : K)
    (h : LeftInv T Tinv) (hadj : WAdjoint T Tinv (onesVec K n) mu) (hmu : 0 < mu) (E : Vector K n) :
    powerW (onesVec K n) (perfectMat T Tinv (onesVec K k) E) ≤ powerW (onesVec K n) E :=
  perfectMat_power_le T Tinv (onesVec K n) mu h hadj hmu (by intro i; simp [onesVec]) E

/-- Satisfiable on the very grid of the counterexample (weights 1 and 8 are irrelevant here). -/
example : let T : Vector (Vector ℚ 1) 2 := #v[#v[1], #v[1]]
    let Tinv : Vector (Vector ℚ 2) 1 := #v[#v[1/2, 1/2]]
    LeftInv T Tinv ∧ WAdjoint T Tinv (onesVec ℚ 2) (1/2) ∧
      powerW (onesVec ℚ 2) (perfectMat T Tinv (onesVec ℚ 1) #v[1, 0]) = 1 / 2 := by decide +kernel

end GramSchmidtOutput

section Partition
variable {K : Type} {d n : ℕ}

/-- **The level masks tile the focal plane.**  On the exact design the masks the constructor's
recursion arrives at add up to the mask itself, sample by sample — the window complements
`(1 − w₀), (w₀ − w₁), …, w_{L−2}` are a partition of unity — for every number of levels and any
windows (hence any scaling factor and window size).  About `msMasks`, the definition op `msalg` runs
against the real constructors. -/
theorem levels_partition [CommRing K] (m : Vector K d) (F : Vector (Vector K n) d) (B : Vector (Vector K d) n)
    (sps : List (Vector Bool d × Vector K d)) (hne : sps ≠ []) :
    ((msMasks (exactLevels m F B sps)).map toFn).sum = toFn m := by
  rw [msMasks_exact, expMasks_sum _ _ _ hne, mul_one]

end Partition

section VectorVortex
variable {K : Type}

/-- **Jones algebra of the vortex plate**: a linear retarder with retardance `δ` and fast axis `φ`
acts as `cos(δ/2)·E + i sin(δ/2)·V(φ) E`, `V` the pure vortex term.  (`retarderJones` is compared
entry by entry with the real `LinearRetarder.jones_matrix` and, through the linear closed form
`out(δ) = cos(δ/2) out(0) + sin(δ/2) out(π)`, with the real `VectorVortexCoronagraph.forward`, op `vvrun`.) -/
theorem vector_vortex_decomposition [CommRing K] (i ch sh c2 s2 : K) (e : K × K) :
    (retarderJones i ch sh c2 s2).apply e =
      (ch * e.1 + i * sh * ((vortexTerm c2 s2).apply e).1,
       ch * e.2 + i * sh * ((vortexTerm c2 s2).apply e).2) := by
  simp only [retarderJones, vortexTerm, Jones.apply, Prod.mk.injEq]
  constructor <;> ring

/-- **The multi-scale construction is linear in the mask.**  Take any levels (windows, resamplers,
propagator stand-ins) and two families of raw masks `m₁`, `m₂`; build the stored masks with the
constructor's recursion and run `forward`: the result for the raw masks `a·m₁ + b·m₂` is
`a·forward₁ + b·forward₂` — for every number of levels, with or without Lyot stop.  With
`vector_vortex_decomposition` (every Jones component of the raw vortex mask is
`cos(δ/2)·(identity part) + sin(δ/2)·(i·vortex part)`) this is the closed form the harness checks on
the real `VectorVortexCoronagraph` at every wavelength of a history:
`out(δ) = cos(δ/2)·out(0) + sin(δ/2)·out(π)`.  About `msForward` / `msMasks`, the definitions op
`msalg` runs against the real constructors and `VectorVortexCoronagraph.make_instance`. -/
theorem multiscale_linear_in_mask [CommRing K] {d n : ℕ} (a b : K)
    (ts : List (MSLevel K d n × Vector K d × Vector K d)) (stop : Option (Vector K n)) (E : Vector K n) :
    toFn (msForward (ts.map fun t => { t.1 with raw := Vector.ofFn fun p => a * t.2.1[p] + b * t.2.2[p] }) stop E) =
      a • toFn (msForward (ts.map fun t => { t.1 with raw := t.2.1 }) stop E) +
      b • toFn (msForward (ts.map fun t => { t.1 with raw := t.2.2 }) stop E) := by
  have hnone : toFn (msForward (ts.map (mkc a b)) none E) =
      a • toFn (msForward (ts.map mk1) none E) + b • toFn (msForward (ts.map mk2) none E) := by
    obtain ⟨qs, h1, h2, h3⟩ := msMasksAux_comb a b ts ([] : List (Vector K d × Vector K d))
    rw [List.map_nil] at h1 h2 h3
    unfold msForward msMasks
    rw [h1, h2, h3]
    exact toFn_msSum_comb a b E ts qs
  cases stop with
  | none => exact hnone
  | some s =>
    rw [msForward_some, msForward_some, msForward_some, toFn_ofFn, toFn_ofFn, toFn_ofFn, ← smul_mul_assoc,
      ← smul_mul_assoc, ← add_mul]
    exact congrArg (· * toFn s) hnone

/-- A circular state `(1, ±i)` keeps the amplitude `cos(δ/2)` in its own state, without any
dependence on the fast-axis angle (no vortex phase: this part is not nulled), and `i sin(δ/2) e^{±2iφ}`
goes to the opposite state (the vortex of charge `2φ/θ`). -/
theorem vector_vortex_co_cross [CommRing K] (cj : K →+* K) (i ch sh c2 s2 : K) (hi : i * i = -1)
    (hci : cj i = -i) (plus : Bool) :
    coPolar cj i ch sh c2 s2 plus = 2 * ch ∧
    crossPolar cj i ch sh c2 s2 plus = 2 * (i * sh * (c2 + (if plus then i else -i) * s2)) := by
  cases plus <;>
    simp only [coPolar, crossPolar, cdot2, circ, retarderJones, Jones.apply, Bool.not_false, Bool.not_true,
      if_true, if_false, Bool.false_eq_true, map_one, zero_sub, map_neg, hci, neg_neg] <;>
    exact ⟨by linear_combination (-ch + i*sh*c2) * hi, by linear_combination (ch - i*sh*c2) * hi⟩

/-- **The leak of a vector vortex that is not half wave is `cos²(δ/2)`** of the input power, for
every fast-axis angle (every focal-plane position and charge) and both circular states. -/
theorem vector_vortex_leak_eq_cos_sq [Field K] [CharZero K] (cj : K →+* K) (i ch sh c2 s2 : K)
    (hi : i * i = -1) (hci : cj i = -i)
    (hch : cj ch = ch) (hsh : cj sh = sh) (hc2 : cj c2 = c2) (hs2 : cj s2 = s2)
    (hd : ch ^ 2 + sh ^ 2 = 1) (hf : c2 ^ 2 + s2 ^ 2 = 1) (plus : Bool) :
    vvLeak cj i ch sh c2 s2 plus = ch ^ 2 := by
  obtain ⟨ha, hb⟩ := vector_vortex_co_cross cj i ch sh c2 s2 hi hci plus
  have hA : cj (coPolar cj i ch sh c2 s2 plus) * coPolar cj i ch sh c2 s2 plus = 4 * ch ^ 2 := by
    rw [ha, map_mul, map_ofNat, hch]; ring
  -- `|2 i sin(δ/2) (cos 2φ + e sin 2φ)|² = 4 sin²(δ/2)` for `e = ±i`
  have he : ∀ e : K, e * e = -1 → cj e = -e →
      cj (2 * (i * sh * (c2 + e * s2))) * (2 * (i * sh * (c2 + e * s2))) = 4 * sh ^ 2 := fun e he hce => by
    simp only [map_mul, map_add, map_ofNat, hci, hce, hsh, hc2, hs2]
    linear_combination (-4 * sh ^ 2 * (c2 ^ 2 - e * e * s2 ^ 2)) * hi + (4 * sh ^ 2) * hf - (4 * sh ^ 2 * s2 ^ 2) * he
  have hB : cj (crossPolar cj i ch sh c2 s2 plus) * crossPolar cj i ch sh c2 s2 plus = 4 * sh ^ 2 := by
    rw [hb]
    cases plus
    · exact he (-i) (by rw [neg_mul_neg, hi]) (by rw [map_neg, hci])
    · exact he i hi hci
  simp only [vvLeak, hA, hB]
  rw [← mul_add, hd, mul_one]
  exact mul_div_cancel_left₀ _ (OfNat.ofNat_ne_zero 4)

/-- The hypotheses are satisfiable (complex numbers, `cos(δ/2) = 3/5`, `cos 2φ = 5/13`). -/
example : ∃ (cj : ℂ →+* ℂ) (i ch sh c2 s2 : ℂ), i * i = -1 ∧ cj i = -i ∧ cj ch = ch ∧ cj sh = sh ∧
    cj c2 = c2 ∧ cj s2 = s2 ∧ ch ^ 2 + sh ^ 2 = 1 ∧ c2 ^ 2 + s2 ^ 2 = 1 ∧ ch ≠ 0 ∧ sh ≠ 0 :=
  ⟨starRingEnd ℂ, Complex.I, 3 / 5, 4 / 5, 5 / 13, 12 / 13, Complex.I_mul_I, Complex.conj_I,
    by simp only [map_div₀, map_ofNat], by simp only [map_div₀, map_ofNat],
    by simp only [map_div₀, map_ofNat], by simp only [map_div₀, map_ofNat],
    by norm_num, by norm_num, by norm_num, by norm_num⟩

/-- **One object, any history of wavelengths**: with one instance per wavelength, made by evaluating
the wavelength-dependent parameter at *that* wavelength, the instance data `forward` runs with at
every step is the parameter at the wavelength of that step — whatever was propagated before, in
whatever order, with repetitions.  (`chromRun` is executed by op `vvrun` on the history the real
object is driven through.) -/
theorem chromatic_history_free {P : Type} [BEq K] [LawfulBEq K] (param : K → P) (wls : List K) :
    chromRun param wls = wls.map param :=
  chromRunFrom_step param wls [] (fun _ he => nomatch he)

/-- Sharing the instance data of another wavelength (the seeded "masks are in λ/D" shortcut) breaks
exactly this: the second wavelength runs with the first one's parameter. -/
theorem chromatic_shared_counterexample :
    chromRunShared (K := ℕ) (fun wl => wl) [22, 16] = [22, 22] ∧
    chromRun (K := ℕ) (fun wl => wl) [22, 16] = [22, 16] := by
  decide

/-- Together: the leak of one chromatic vortex object at every step of any history is
`cos²(δ(λ)/2)` of the wavelength of that step — in particular zero wherever the plate is half wave,
whether or not that wavelength came first. -/
theorem vector_vortex_history_leak [Field K] [CharZero K] [BEq K] [LawfulBEq K] (cj : K →+* K) (i c2 s2 : K)
    (hi : i * i = -1) (hci : cj i = -i) (hc2 : cj c2 = c2) (hs2 : cj s2 = s2) (hf : c2 ^ 2 + s2 ^ 2 = 1)
    (param : K → K × K) (hreal : ∀ wl, cj (param wl).1 = (param wl).1 ∧ cj (param wl).2 = (param wl).2)
    (hunit : ∀ wl, (param wl).1 ^ 2 + (param wl).2 ^ 2 = 1) (plus : Bool) (wls : List K) :
    (chromRun param wls).map (fun p => vvLeak cj i p.1 p.2 c2 s2 plus) = wls.map (fun wl => (param wl).1 ^ 2) := by
  rw [chromatic_history_free, List.map_map]
  apply List.map_congr_left
  intro wl _
  exact vector_vortex_leak_eq_cos_sq cj i _ _ c2 s2 hi hci (hreal wl).1 (hreal wl).2 hc2 hs2 (hunit wl) hf plus

/-- The hypotheses on `param` are satisfiable together with those of the `example` above (a plate
whose retardance does not depend on the wavelength; any real-valued unit `(cos, sin)` table does). -/
example : ∃ param : ℂ → ℂ × ℂ,
    (∀ wl, (starRingEnd ℂ) (param wl).1 = (param wl).1 ∧ (starRingEnd ℂ) (param wl).2 = (param wl).2) ∧
    ∀ wl, (param wl).1 ^ 2 + (param wl).2 ^ 2 = 1 :=
  ⟨fun _ => (3 / 5, 4 / 5), fun _ => ⟨by simp only [map_div₀, map_ofNat], by simp only [map_div₀, map_ofNat]⟩,
    fun _ => by norm_num⟩

/-- **Setter histories are history-free.**  One object, any initial parameter (constant or function of
wavelength), any sequence of uses and of assignments (each followed by `clear_cache()`) — constant → function,
function → constant, function → another function, repeated wavelengths, in any order: the instance data
`forward` runs with at every use is the *current* parameter evaluated at the wavelength of that use, i.e.
what a freshly constructed object would use (`setSpec`).  (`setRun` is executed by op `vvset` on the event
list the real object is driven through.) -/
theorem setter_history_free {P : Type} [BEq K] [LawfulBEq K] (p0 : Param K P) (evs : List (Ev K P)) :
    setRun p0 evs = setSpec p0 evs :=
  setRunFrom_step evs (ObjSt.init p0) (by intro e he; cases he)

/-- Deciding the kind of the parameter once, in the constructor (the seeded "achromatic ⇒ one shared
instance" shortcut) breaks exactly this: built with a constant, later given a function of wavelength, the
object evaluates the function at the dummy wavelength. -/
theorem setter_frozen_kind_counterexample :
    setRunFrozen (K := ℕ) 1 (.const 0) [.use 5, .set (.fn fun wl => wl), .use 5] = [0, 1] ∧
    setRun (K := ℕ) (.const 0) [.use 5, .set (.fn fun wl => wl), .use 5] = [0, 5] := by
  decide

/-- A setter that does not invalidate the instances (no `clear_cache()`) breaks it too: the wavelength that
was used before the assignment keeps running with the old parameter. -/
theorem setter_no_clear_counterexample :
    setRunNoClear (K := ℕ) (.fn fun wl => wl) [.use 5, .set (.const 0), .use 5, .use 7] = [5, 5, 0] ∧
    setRun (K := ℕ) (.fn fun wl => wl) [.use 5, .set (.const 0), .use 5, .use 7] = [5, 0, 0] := by
  decide

/-- Together with the Jones algebra: the leak of one vector-vortex object at every use of any setter
history is `cos²(δ/2)` of the retardance that is *current* at that use, at the wavelength of that use — zero
wherever the current plate is half wave, whatever the object was constructed with. -/
theorem vector_vortex_setter_history_leak [Field K] [CharZero K] [BEq K] [LawfulBEq K] (cj : K →+* K) (i c2 s2 : K)
    (hi : i * i = -1) (hci : cj i = -i) (hc2 : cj c2 = c2) (hs2 : cj s2 = s2) (hf : c2 ^ 2 + s2 ^ 2 = 1)
    (p0 : Param K (K × K)) (evs : List (Ev K (K × K)))
    (hp : ∀ p ∈ setSpec p0 evs, cj p.1 = p.1 ∧ cj p.2 = p.2 ∧ p.1 ^ 2 + p.2 ^ 2 = 1) (plus : Bool) :
    (setRun p0 evs).map (fun p => vvLeak cj i p.1 p.2 c2 s2 plus) = (setSpec p0 evs).map (fun p => p.1 ^ 2) := by
  rw [setter_history_free]
  apply List.map_congr_left
  intro p hmem
  obtain ⟨h1, h2, h3⟩ := hp p hmem
  exact vector_vortex_leak_eq_cos_sq cj i _ _ c2 s2 hi hci h1 h2 hc2 hs2 h3 hf plus

/-- The hypothesis on the history is satisfiable with a genuine change of kind (constant quarter-wave-like
plate, then a function of wavelength). -/
example : ∃ (p0 : Param ℂ (ℂ × ℂ)) (evs : List (Ev ℂ (ℂ × ℂ))), (setSpec p0 evs).length = 2 ∧
    ∀ p ∈ setSpec p0 evs, (starRingEnd ℂ) p.1 = p.1 ∧ (starRingEnd ℂ) p.2 = p.2 ∧ p.1 ^ 2 + p.2 ^ 2 = 1 := by
  refine ⟨.const (3 / 5, 4 / 5), [.use 1, .set (.fn fun _ => (0, 1)), .use 2], rfl, ?_⟩
  intro p hmem
  simp only [setSpec, Param.eval, List.mem_cons, List.not_mem_nil, or_false] at hmem
  rcases hmem with h | h <;> subst h
  · exact ⟨by simp only [map_div₀, map_ofNat], by simp only [map_div₀, map_ofNat], by norm_num⟩
  · exact ⟨map_zero _, map_one _, by norm_num⟩

end VectorVortex

end HcipyVerif.Coronagraph
