import HcipyVerif.Model.GridOps
import Mathlib.Data.List.Forall2

/-! The array comparisons of `Coords.__eq__` decide structural equality; the two branches of `Grid.scale` as equations. -/
set_option linter.dupNamespace false

namespace HcipyVerif.Grid

theorem allZip_iff {α} {p : α → α → Bool} (hp : ∀ x y, p x y = true ↔ x = y) (a b : List α) :
    allZip p a b = true ↔ a = b := by
  -- same length and `p` on every pair of the zip: that is `List.Forall₂`, here of equality
  rw [allZip, ← List.map_uncurry_zip_eq_zipWith, ← List.forall₂_eq_eq_eq, List.forall₂_iff_zip]
  simp only [Bool.and_eq_true, beq_iff_eq, List.all_map, List.all_eq_true, Function.comp, id, Function.uncurry, hp, Prod.forall]

theorem arrEq_iff (a b : List Rat) : arrEq a b = true ↔ a = b :=
  allZip_iff (fun x y => by simp only [decide_eq_true_eq]) a b

theorem natArrEq_iff (a b : List Nat) : natArrEq a b = true ↔ a = b :=
  allZip_iff (fun x y => by simp only [decide_eq_true_eq]) a b

theorem zip3_maps (a : List RegAxis) :
    zip3? (a.map (·.delta)) (a.map (·.dim)) (a.map (·.zero)) = some a := by
  simp only [zip3?, List.length_map, and_self, if_true, Option.some.injEq]
  induction a with
  | nil => rfl
  | cons x xs ih => simp only [List.map_cons, List.zip_cons_cons, List.zipWith_cons_cons, ih]

theorem regEq_iff (a b : List RegAxis) : regEq a b = true ↔ a = b := by
  unfold regEq
  simp only [Bool.and_eq_true, arrEq_iff, natArrEq_iff]
  constructor
  · -- the three arrays determine the axes: `zip3?` rebuilds them
    rintro ⟨⟨h1, h2⟩, h3⟩
    exact Option.some.inj (by rw [← zip3_maps a, h1, h2, h3, zip3_maps b])
  · rintro rfl; simp only [and_self]

theorem sepEq_iff (a b : List (List Rat)) : allZip arrEq a b = true ↔ a = b :=
  allZip_iff arrEq_iff a b

theorem Coords.eq_true_imp : ∀ {a b : Coords}, a.eq b = true → a = b
  | .regular _, .regular _, h => congrArg _ ((regEq_iff _ _).mp h)
  | .separated _, .separated _, h => congrArg _ ((sepEq_iff _ _).mp h)
  | .unstructured _, .unstructured _, h => congrArg _ ((sepEq_iff _ _).mp (Bool.and_eq_true_iff.mp h).2)

theorem Coords.eq_self {a : Coords} (h : a.WF) : a.eq a = true := by
  cases a with
  | regular a => exact (regEq_iff a a).mpr rfl
  | separated a => exact (sepEq_iff a a).mpr rfl
  | unstructured c =>
    simp only [Coords.eq, Bool.and_eq_true]
    exact ⟨⟨h.2, h.2⟩, (sepEq_iff c c).mpr rfl⟩

theorem Coords.eq_iff {a b : Coords} (h : a.WF) : a.eq b = true ↔ a = b :=
  ⟨Coords.eq_true_imp, fun e => e ▸ Coords.eq_self h⟩

theorem Grid.eq_true_imp {a b : Grid} (h : a.eq b = true) : a.system = b.system ∧ a.coords = b.coords := by
  simp only [Grid.eq, Bool.and_eq_true, decide_eq_true_eq] at h
  exact ⟨h.1, Coords.eq_true_imp h.2⟩

theorem Grid.eq_false_of_coords_ne {a b : Grid} (h : a.coords ≠ b.coords) : a.eq b = false ∧ b.eq a = false :=
  ⟨Bool.eq_false_iff.mpr fun e => h (Grid.eq_true_imp e).2, Bool.eq_false_iff.mpr fun e => h (Grid.eq_true_imp e).2.symm⟩

theorem Grid.scale_cartesian {g g' : Grid} {s : ScaleArg} (hc : g.system = .cartesian) (h : g.scale s = some g') :
    ∃ w, g.getWeights = some w ∧
      g' = { g with weights := w.mul (s.weightFactor g.coords.ndim), coords := g.coords.scale (s.factors g.coords.ndim) } := by
  simp only [Grid.scale, hc, Option.map_eq_some_iff] at h
  obtain ⟨w, hw, rfl⟩ := h
  exact ⟨w, hw, by rw [hc]⟩

theorem Grid.scale_polar {g g' : Grid} {k : Rat} (hp : g.system = .polar) (h : g.scale (.scalar k) = some g') :
    ∃ w, g.getWeights = some w ∧
      g' = { g with weights := w.mul (absQ k ^ g.coords.ndim), coords := g.coords.scale [k, 1] } := by
  simp only [Grid.scale, hp, Option.map_eq_some_iff] at h
  obtain ⟨w, hw, rfl⟩ := h
  exact ⟨w, hw, by rw [hp]⟩

end HcipyVerif.Grid
