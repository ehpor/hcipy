import HcipyVerif.Model.MultiLayer
import HcipyVerif.Lemmas.Shift
import HcipyVerif.Lemmas.ListFacts
import HcipyVerif.Lemmas.FftPlan

/-! The layers of `Model/Layer.lean` as state machines (C15): what a run keeps (`AnyL.ident`, `AnyL.vp`), replay
(`run_reset`), the invariants of the resets, whole-pixel displacements, scaling of the numeric extrusion. -/
namespace HcipyVerif.Layer
open HcipyVerif.Shift

def Op.isIndep : Op → Bool
  | .reset true => true
  | _ => false

def Op.isSet : Op → Bool
  | .setCn2 _ | .setL0 _ | .setVel _ => true
  | _ => false

theorem foldl_keeps {σ ω β : Type} (step : σ → ω → σ) (π : σ → β) (Q : ω → Prop)
    (hstep : ∀ s o, Q o → π (step s o) = π s) (h : List ω) (s : σ) (hh : ∀ o ∈ h, Q o) : π (h.foldl step s) = π s :=
  List.foldlRecOn (motive := (π · = π s)) h step rfl fun s' hs o ho => (hstep s' o (hh o ho)).trans hs

theorem InfL.extrudeN_params (w : Where) (k : Nat) (L : InfL) :
    (InfL.extrudeN w k L).nx = L.nx ∧ (InfL.extrudeN w k L).ny = L.ny ∧ (InfL.extrudeN w k L).delta = L.delta ∧
    (InfL.extrudeN w k L).vel = L.vel ∧ (InfL.extrudeN w k L).orig = L.orig ∧
    (InfL.extrudeN w k L).start = L.start ∧ (InfL.extrudeN w k L).par = L.par := by
  fun_induction InfL.extrudeN w k L with
  | case1 => exact ⟨rfl, rfl, rfl, rfl, rfl, rfl, rfl⟩
  | case2 k L ih => exact ih

theorem InfL.step_evolve_params (L : InfL) (t : Rat) :
    (L.step (.evolve t)).nx = L.nx ∧ (L.step (.evolve t)).ny = L.ny ∧ (L.step (.evolve t)).delta = L.delta ∧
    (L.step (.evolve t)).vel = L.vel ∧ (L.step (.evolve t)).orig = L.orig ∧
    (L.step (.evolve t)).start = L.start ∧ (L.step (.evolve t)).par = L.par := by
  simp only [InfL.step, InfL.evolve]
  split
  · exact ⟨rfl, rfl, rfl, rfl, rfl, rfl, rfl⟩
  · simp only [Option.getD_some, InfL.evolveWith, InfL.extrudeN_params, and_self]

/-- velocity and parameters: what only the setters change -/
def AnyL.vp (a : AnyL) : V2 × Par := (a.vel, a.par)

theorem AnyL.reset_keeps (a : AnyL) (b : Bool) :
    (a.step (.reset b)).vp = a.vp ∧ (b = false → (a.step (.reset b)).ident = a.ident) := by
  cases a <;> cases b <;>
    simp only [AnyL.step, AnyL.vp, AnyL.vel, AnyL.par, AnyL.ident, FinL.step, FinL.reset, FinL.pickRng, FinL.makeNoise,
      InfL.step, InfL.reset, InfL.pickRng, InfL.initScreen, if_true, if_false, reduceCtorEq,
      false_imp_iff, imp_self, and_self]

theorem AnyL.step_ident (a : AnyL) (o : Op) (h : o.isIndep = false) : (a.step o).ident = a.ident := by
  cases o with
  | evolve t => cases a with
    | fin L => rfl
    | inf L =>
      obtain ⟨h1, h2, h3, _, h5, _⟩ := L.step_evolve_params t
      simp only [AnyL.step, AnyL.ident, h1, h2, h3, h5]
  | reset b => cases b with
    | false => exact (a.reset_keeps false).2 rfl
    | true => cases h
  | _ => cases a <;> rfl

theorem AnyL.step_vp (a : AnyL) (o : Op) (h : o.isSet = false) : (a.step o).vp = a.vp := by
  cases o with
  | evolve t => cases a with
    | fin L => rfl
    | inf L =>
      obtain ⟨_, _, _, h4, _, _, h7⟩ := L.step_evolve_params t
      simp only [AnyL.step, AnyL.vp, AnyL.vel, AnyL.par, h4, h7]
  | reset b => exact (a.reset_keeps b).1
  | _ => cases h

theorem FinL.run_ident (L : FinL) (h : List Op) (hh : ∀ o ∈ h, o.isIndep = false) :
    (AnyL.fin (L.run h)).ident = (AnyL.fin L).ident :=
  foldl_keeps FinL.step (fun L => (AnyL.fin L).ident) _ (fun L => (AnyL.fin L).step_ident) h L hh

theorem FinL.run_vp (L : FinL) (h : List Op) (hh : ∀ o ∈ h, o.isSet = false) : (AnyL.fin (L.run h)).vp = (AnyL.fin L).vp :=
  foldl_keeps FinL.step (fun L => (AnyL.fin L).vp) _ (fun L => (AnyL.fin L).step_vp) h L hh

/-- a plain reset reads only identity, velocity and parameters; `L'` is the run itself, or the run after a setter (which keeps
the identity by `rfl`) -/
theorem FinL.run_reset (nx ny : Nat) (vel : V2) (par : Par) (o : Rng) (h : List Op)
    (hh : ∀ o ∈ h, o.isIndep = false) (L' : FinL)
    (hi : (AnyL.fin L').ident = (AnyL.fin ((FinL.fresh nx ny vel par o).run h)).ident) :
    L'.reset false = FinL.fresh nx ny L'.vel L'.par o :=
  congrArg (fun i : Ident => FinL.fresh i.nx i.ny L'.vel L'.par i.orig)
    (hi.trans ((FinL.fresh nx ny vel par o).run_ident h hh))

theorem FinL.run_append (L : FinL) (h₁ h₂ : List Op) : L.run (h₁ ++ h₂) = (L.run h₁).run h₂ := by
  simp [FinL.run, List.foldl_append]

/-- what every reset establishes: the noise was drawn from the original generator's state and
the working generator is exactly past that draw -/
def FinL.Inv (L : FinL) : Prop := L.noise = L.orig ∧ L.rng = L.orig.draw L.draws

theorem FinL.reset_inv (L : FinL) (b : Bool) : (L.reset b).Inv := by
  cases b <;> exact ⟨rfl, rfl⟩

theorem FinL.step_inv (L : FinL) (o : Op) (hi : L.Inv) : (L.step o).Inv := by
  cases o with
  | reset b => exact L.reset_inv b
  | _ => exact hi

theorem FinL.run_inv (h : List Op) (L : FinL) (hi : L.Inv) : (L.run h).Inv :=
  List.foldlRecOn (motive := FinL.Inv) h FinL.step hi fun s hs o _ => s.step_inv o hs

theorem InfL.extrudeN_length (w : Where) (k : Nat) (L : InfL) (hs : L.screen.length = L.ny * L.nx)
    (hW : 0 < L.nx) (hH : 0 < L.ny) : (InfL.extrudeN w k L).screen.length = L.ny * L.nx := by
  fun_induction InfL.extrudeN w k L with
  | case1 => exact hs
  | case2 k L ih =>
    refine ih (extrude_length w L.nx L.ny _ _ hs ?_ hW hH) hW hH
    rw [List.length_map, List.length_range]; rfl

theorem InfL.run_ident (L : InfL) (h : List Op) (hh : ∀ o ∈ h, o.isIndep = false) :
    (AnyL.inf (L.run h)).ident = (AnyL.inf L).ident :=
  foldl_keeps InfL.step (fun L => (AnyL.inf L).ident) _ (fun L => (AnyL.inf L).step_ident) h L hh

theorem InfL.run_vp (L : InfL) (h : List Op) (hh : ∀ o ∈ h, o.isSet = false) : (AnyL.inf (L.run h)).vp = (AnyL.inf L).vp :=
  foldl_keeps InfL.step (fun L => (AnyL.inf L).vp) _ (fun L => (AnyL.inf L).step_vp) h L hh

theorem InfL.run_reset (nx ny : Nat) (delta vel : V2) (par : Par) (o : Rng) (h : List Op)
    (hh : ∀ o ∈ h, o.isIndep = false) (L' : InfL)
    (hi : (AnyL.inf L').ident = (AnyL.inf ((InfL.fresh nx ny delta vel par o).run h)).ident) :
    L'.reset false = InfL.fresh nx ny delta L'.vel L'.par o :=
  congrArg (fun i : Ident => InfL.fresh i.nx i.ny i.delta L'.vel L'.par i.orig)
    (hi.trans ((InfL.fresh nx ny delta vel par o).run_ident h hh))

/-- what every reset establishes and every operation keeps: the realisation key is the position of the original
generator, and the working generator is past the draw of the initial screen -/
def InfL.Inv (L : InfL) : Prop :=
  L.start = L.orig.pos ∧ L.orig.pos + 4 * (L.nx * L.ny) ≤ L.rng.pos ∧ L.rng.seed = L.orig.seed

theorem InfL.reset_inv (L : InfL) (b : Bool) (hs : L.rng.seed = L.orig.seed) : (L.reset b).Inv := by
  cases b <;> simp [InfL.Inv, InfL.reset, InfL.pickRng, InfL.initScreen, Rng.draw, hs]

theorem InfL.extrudeN_rng (w : Where) (k : Nat) (L : InfL) :
    L.rng.pos ≤ (InfL.extrudeN w k L).rng.pos ∧ (InfL.extrudeN w k L).rng.seed = L.rng.seed := by
  fun_induction InfL.extrudeN w k L with
  | case1 => exact ⟨Nat.le_refl _, rfl⟩
  -- one extrusion draws a row or a column: the position grows, the seed stays
  | case2 k L ih => exact ⟨(Nat.le_add_right _ _).trans ih.1, ih.2⟩

theorem InfL.step_evolve_rng (L : InfL) (t : Rat) :
    L.rng.pos ≤ (L.step (.evolve t)).rng.pos ∧ (L.step (.evolve t)).rng.seed = L.rng.seed := by
  simp only [InfL.step, InfL.evolve]
  split
  · exact ⟨Nat.le_refl _, rfl⟩
  · have r1 := InfL.extrudeN_rng
    exact ⟨(r1 _ _ L).1.trans (r1 _ _ _).1, (r1 _ _ _).2.trans (r1 _ _ L).2⟩

theorem InfL.step_inv (L : InfL) (o : Op) (hi : L.Inv) : (L.step o).Inv := by
  cases o with
  | evolve t =>
    obtain ⟨h1, h2, h3⟩ := hi
    obtain ⟨pnx, pny, _, _, porig, pstart, _⟩ := L.step_evolve_params t
    obtain ⟨r1, r2⟩ := L.step_evolve_rng t
    exact ⟨by rw [pstart, porig, h1], by rw [porig, pnx, pny]; exact h2.trans r1, by rw [r2, porig, h3]⟩
  | reset b => exact L.reset_inv b hi.2.2
  | _ => exact hi

theorem InfL.run_inv (h : List Op) (L : InfL) (hi : L.Inv) : (L.run h).Inv :=
  List.foldlRecOn (motive := InfL.Inv) h InfL.step hi fun s hs o _ => s.step_inv o hs

/-- the side tables of `evolve_until` before the repair D18 (no longer in /repo); not part of the executed model:
`C15.direction_old_counterexample` runs the executed `InfL.evolveWith` on them -/
def Old.sideX (d : Int) : Where := if d < 0 then .left else .right
def Old.sideY (d : Int) : Where := if d < 0 then .bottom else .top

theorem sqrt_strength_amplitude {K : Type} [Field K] [LinearOrder K] [IsStrictOrderedRing K] (c k a₁ a₂ : K)
    (hk : 0 ≤ k) (h₁ : 0 ≤ a₁) (h₂ : 0 ≤ a₂) (e₁ : a₁ ^ 2 = c) (e₂ : a₂ ^ 2 = k ^ 2 * c) : a₂ = k * a₁ :=
  (sq_eq_sq₀ h₂ (mul_nonneg hk h₁)).1 (by rw [e₂, ← e₁, mul_pow])

theorem pixel_whole (a : Int) (δ : Rat) (hδ : δ ≠ 0) : pixel (a * δ) δ = a := by
  rw [pixel, mul_div_assoc, div_self hδ, mul_one]
  -- the layer's `np.round` is, as a term, the one of the sampling plans
  exact Fft.roundHalfEven_intCast a

theorem sideX_off (d : Int) : (d.natAbs : Int) * (sideX d).off.1 = d ∧ (d.natAbs : Int) * (sideX d).off.2 = 0 := by
  unfold sideX; split <;> simp only [Where.off] <;> omega

theorem sideY_off (d : Int) : (d.natAbs : Int) * (sideY d).off.1 = 0 ∧ (d.natAbs : Int) * (sideY d).off.2 = d := by
  unfold sideY; split <;> simp only [Where.off] <;> omega

theorem dot_scale {K : Type} [CommRing K] (k : K) : ∀ (A st : List K), dot A (st.map (k * ·)) = k * dot A st
  | [], _ => by simp only [dot, mul_zero]
  | _ :: _, [] => by simp only [List.map_nil, dot, mul_zero]
  | a :: A, b :: st => by simp only [List.map_cons, dot, dot_scale k A st]; ring

theorem shaped_map {α β : Type} (f : α → β) (W H : Nat) (s : List α) :
    shaped W H (s.map f) = (shaped W H s).map (List.map f) := by
  rw [shaped_eq_chunks, shaped_eq_chunks, Binning.chunks_map]

theorem vstackNew_map {α β : Type} (f : α → β) (new : List α) (rows : List (List α)) :
    vstackNew (new.map f) (rows.map (List.map f)) = (vstackNew new rows).map (List.map f) := by
  simp [vstackNew, List.map_dropLast]

theorem flip2_map {α β : Type} (f : α → β) (rows : List (List α)) :
    flip2 (rows.map (List.map f)) = (flip2 rows).map (List.map f) := by
  unfold flip2
  simp [List.map_reverse, Function.comp_def]

theorem ravel_map {α β : Type} (f : α → β) (rows : List (List α)) :
    ravel (rows.map (List.map f)) = (ravel rows).map f := by
  simp [ravel, List.map_flatten]

theorem hstackNew_map {α β : Type} (f : α → β) (new : List α) (rows : List (List α)) :
    hstackNew (new.map f) (rows.map (List.map f)) = (hstackNew new rows).map (List.map f) := by
  simp only [hstackNew, List.zipWith_map, List.map_zipWith, List.map_cons, List.map_dropLast]

theorem extrude_map {α β : Type} (f : α → β) (w : Where) (W H : Nat) (new s : List α) :
    extrude w W H (new.map f) (s.map f) = (extrude w W H new s).map f := by
  have hr : (s.map f).reverse = s.reverse.map f := List.map_reverse.symm
  cases w <;>
    simp only [extrude, Where.flipped, Where.horizontal, if_true, if_false, Bool.false_eq_true, hr, shaped_map,
      hstackNew_map, vstackNew_map, flip2_map, ravel_map]

theorem arSample_scale {K : Type} [CommRing K] (k amp : K) (A st B rnd : List K) :
    arSample A (st.map (k * ·)) B rnd (k * amp) = k * arSample A st B rnd amp := by
  simp only [arSample, dot_scale]; ring

theorem arExtrude_scale {K : Type} [CommRing K] (k amp : K) (w : Where) (W H : Nat) (A B : List (List K))
    (idx : List Nat) (rnd s : List K) :
    arExtrude w W H A B idx rnd (k * amp) (s.map (k * ·)) = (arExtrude w W H A B idx rnd amp s).map (k * ·) := by
  have hst : (idx.map fun i => (stencilView w (s.map (k * ·))).getD i 0)
      = (idx.map fun i => (stencilView w s).getD i 0).map (k * ·) := by
    rw [List.map_map]
    apply List.map_congr_left
    intro i _
    have : stencilView w (s.map (k * ·)) = (stencilView w s).map (k * ·) := by
      unfold stencilView; split <;> simp [List.map_reverse]
    rw [this]; exact ListFacts.getD_map_of_eq (k * ·) (mul_zero k) _ i
  simp only [arExtrude, hst, arSample_scale]
  rw [← extrude_map]
  congr 1
  rw [List.map_zipWith]

end HcipyVerif.Layer
