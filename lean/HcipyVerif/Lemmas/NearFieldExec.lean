import HcipyVerif.Lemmas.NearField
import HcipyVerif.Lemmas.NearFieldCutout
import HcipyVerif.Lemmas.FourierLinkC04

/-!
# C04 — the executable bookkeeping (`Model/NearField.lean`) as the data of the `FourierFilter` operator

`Lemmas/NearFieldAbstract.lean` proves the clauses for `filter P e D` with an abstract cut-out `e` and an abstract
transfer function `D`.  Here both are *built from the definitions the driver runs*:

* `cutoutEmb p h` (`Lemmas/NearFieldCutout.lean`) — the cut-out as the product of `embY p`, `embX p` (= `cutStart` + index,
  what the driver op `emb` prints and the harness lays the input out with), injective, bijective when `cutout p = none`;
* `sampledTF p iy ix` — the mean over the executable `subFreqs p ix iy` of `fresnelD` / `angularD` at the
  wavenumber `2πn/λ` and the spatial frequencies `2πν` (the same `subFreqs` whose phases the driver op `tf`
  prints), `modelD p Dir` — what `make_instance` selects: `Dir` (the impulse-response transfer function,
  left arbitrary) when `impulseBranch p`, the sampled transfer function (at the `ifftshift`ed index) otherwise;
* `propagate p h Dir = filter (dftPair2 (my p) (mx p)) (cutoutEmb p h) (modelD p Dir)`.
-/

open Complex ComplexConjugate

namespace HcipyVerif.NearField

noncomputable def listMean (l : List ℂ) : ℂ := l.sum / (l.length : ℂ)

theorem listMean_singleton (a : ℂ) : listMean [a] = a := by
  simp [listMean]

/-- A list mean is a `meanOver` (over the positions of the list), so the `meanOver` theorems apply to it. -/
theorem listMean_map_eq_meanOver {α : Type*} (l : List α) (f : α → ℂ) :
    listMean (l.map f) = meanOver (Finset.univ : Finset (Fin l.length)) (fun i => f l[i]) := by
  unfold listMean meanOver
  rw [← Fin.sum_univ_fun_getElem l f]
  simp

theorem norm_listMean_map_le_one {α : Type*} (l : List α) (f : α → ℂ) (h : ∀ a ∈ l, ‖f a‖ ≤ 1) :
    ‖listMean (l.map f)‖ ≤ 1 := by
  rw [listMean_map_eq_meanOver]
  exact norm_meanOver_le_one _ _ fun i _ => h _ (List.getElem_mem i.2)

theorem conj_listMean_map {α : Type*} (l : List α) (f : α → ℂ) :
    conj (listMean (l.map f)) = listMean (l.map fun a => conj (f a)) := by
  rw [listMean_map_eq_meanOver, listMean_map_eq_meanOver, conj_meanOver]

/-- `k = 2π n / λ`. -/
noncomputable def waveK (p : Params) : ℝ := 2 * Real.pi * (p.n : ℝ) / (p.lam : ℝ)

/-- `transfer_function_native` of `FresnelPropagator` at the spatial frequency `ν` (cycles per unit). -/
noncomputable def fresnelAt (p : Params) (ν : ℚ × ℚ) : ℂ :=
  fresnelD (waveK p) (p.z : ℝ) (2 * Real.pi * (ν.1 : ℝ)) (2 * Real.pi * (ν.2 : ℝ))

/-- `transfer_function_native` of `AngularSpectrumPropagator` (repaired) at the spatial frequency `ν`. -/
noncomputable def angularAt (p : Params) (ν : ℚ × ℚ) : ℂ :=
  angularD (waveK p) (p.z : ℝ) ((2 * Real.pi * (ν.1 : ℝ)) ^ 2 + (2 * Real.pi * (ν.2 : ℝ)) ^ 2)

noncomputable def nativeAt (p : Params) : ℚ × ℚ → ℂ :=
  match p.kind with
  | .fresnel => fresnelAt p
  | .angular => angularAt p

theorem nativeAt_fresnel {p : Params} (hk : p.kind = .fresnel) : nativeAt p = fresnelAt p := by
  unfold nativeAt
  rw [hk]

theorem nativeAt_angular {p : Params} (hk : p.kind = .angular) : nativeAt p = angularAt p := by
  unfold nativeAt
  rw [hk]

/-- `evaluate_supersampled(transfer_function_native, internal_grid, s)` at the centred internal pixel
`(iy, ix)`: the mean over the executable sub-sample frequencies. -/
noncomputable def sampledTF (p : Params) (iy ix : ℕ) : ℂ :=
  listMean ((subFreqs p ix iy).map (nativeAt p))

/-- The array `FourierFilter` multiplies the FFT with (after its `ifftshift`), as `make_instance` selects it:
the impulse-response transfer function `Dir` (not modelled over `ℂ`: any function) when the transfer function
would be under-sampled, the sampled transfer function otherwise. -/
noncomputable def modelD (p : Params) (Dir : Fin (my p) × Fin (mx p) → ℂ) : Fin (my p) × Fin (mx p) → ℂ :=
  fun m => if impulseBranch p = true then Dir m
    else sampledTF p (ifftshiftIdx (my p) m.1) (ifftshiftIdx (mx p) m.2)

theorem modelD_of_tf {p : Params} (hb : impulseBranch p = false) (Dir : Fin (my p) × Fin (mx p) → ℂ)
    (m : Fin (my p) × Fin (mx p)) :
    modelD p Dir m = sampledTF p (ifftshiftIdx (my p) m.1) (ifftshiftIdx (mx p) m.2) := by
  unfold modelD
  rw [if_neg (by rw [hb]; exact Bool.false_ne_true)]

theorem statedRegime_tf {p : Params} (h : statedRegime p = true) : impulseBranch p = false := by
  unfold statedRegime at h
  simp only [Bool.and_eq_true, Bool.not_eq_true'] at h
  exact h.1.1

theorem norm_nativeAt_le_one (p : Params) (ν : ℚ × ℚ) : ‖nativeAt p ν‖ ≤ 1 := by
  unfold nativeAt
  cases p.kind with
  | fresnel => exact (norm_fresnelD _ _ _ _).le
  | angular => exact angularD_norm_le_one _ _ _

theorem norm_sampledTF_le_one (p : Params) (iy ix : ℕ) : ‖sampledTF p iy ix‖ ≤ 1 :=
  norm_listMean_map_le_one _ _ fun ν _ => norm_nativeAt_le_one p ν

theorem norm_modelD_le_one {p : Params} (hb : impulseBranch p = false) (Dir : Fin (my p) × Fin (mx p) → ℂ)
    (m : Fin (my p) × Fin (mx p)) : ‖modelD p Dir m‖ ≤ 1 := by
  rw [modelD_of_tf hb]
  exact norm_sampledTF_le_one p _ _

theorem dithers_one : dithers 1 = [0] := by
  unfold dithers
  simp [List.range_succ]

theorem subFreqs_of_no_oversampling {p : Params} (hx : p.sx = 1) (hy : p.sy = 1) (ix iy : ℕ) :
    subFreqs p ix iy = [(nu p.dx (mx p) ix 0, nu p.dy (my p) iy 0)] := by
  unfold subFreqs
  rw [hx, hy, dithers_one]
  simp

theorem sampledTF_of_no_oversampling {p : Params} (hx : p.sx = 1) (hy : p.sy = 1) (iy ix : ℕ) :
    sampledTF p iy ix = nativeAt p (nu p.dx (mx p) ix 0, nu p.dy (my p) iy 0) := by
  unfold sampledTF
  rw [subFreqs_of_no_oversampling hx hy, List.map_singleton, listMean_singleton]

theorem modelD_fresnel_of_no_oversampling {p : Params} (hk : p.kind = .fresnel) (hx : p.sx = 1) (hy : p.sy = 1)
    (hb : impulseBranch p = false) (Dir : Fin (my p) × Fin (mx p) → ℂ) (m : Fin (my p) × Fin (mx p)) :
    modelD p Dir m = fresnelAt p
      (nu p.dx (mx p) (ifftshiftIdx (mx p) m.2) 0, nu p.dy (my p) (ifftshiftIdx (my p) m.1) 0) := by
  rw [modelD_of_tf hb, sampledTF_of_no_oversampling hx hy, nativeAt_fresnel hk]

theorem norm_modelD_fresnel_unpadded {p : Params} (hk : p.kind = .fresnel) (hx : p.sx = 1) (hy : p.sy = 1)
    (hb : impulseBranch p = false) (Dir : Fin (my p) × Fin (mx p) → ℂ) (m : Fin (my p) × Fin (mx p)) :
    ‖modelD p Dir m‖ = 1 := by
  rw [modelD_fresnel_of_no_oversampling hk hx hy hb]
  exact norm_fresnelD _ _ _ _

theorem impulseBranch_neg_z (p : Params) :
    impulseBranch (withParam p (.distance (-p.z))) = impulseBranch p := by
  unfold impulseBranch threshold withParam lmax
  simp only [ratAbs_eq_abs, abs_neg]

theorem withParam_distance_self (p : Params) : withParam p (.distance p.z) = p := rfl

theorem afterSetters_grid (p : Params) (l : List Setter) :
    (afterSetters p l).nx = p.nx ∧ (afterSetters p l).ny = p.ny ∧ (afterSetters p l).dx = p.dx ∧
      (afterSetters p l).dy = p.dy := by
  induction l generalizing p with
  | nil => exact ⟨rfl, rfl, rfl, rfl⟩
  | cons su l ih =>
    have h := ih (withParam p su)
    cases su <;> exact h

theorem fresnelAt_neg_z (p : Params) (ν : ℚ × ℚ) :
    fresnelAt (withParam p (.distance (-p.z))) ν = conj (fresnelAt p ν) := by
  show fresnelD (waveK p) (((-p.z : ℚ)) : ℝ) _ _ = conj (fresnelD (waveK p) (p.z : ℝ) _ _)
  rw [Rat.cast_neg, fresnelD_neg]

theorem angularAt_neg_z (p : Params) (ν : ℚ × ℚ) :
    angularAt (withParam p (.distance (-p.z))) ν = conj (angularAt p ν) := by
  show angularD (waveK p) (((-p.z : ℚ)) : ℝ) _ = conj (angularD (waveK p) (p.z : ℝ) _)
  rw [Rat.cast_neg, angular_neg_z]

theorem nativeAt_neg_z (p : Params) (ν : ℚ × ℚ) :
    nativeAt (withParam p (.distance (-p.z))) ν = conj (nativeAt p ν) := by
  cases hk : p.kind with
  | fresnel =>
    rw [nativeAt_fresnel (p := withParam p (.distance (-p.z))) hk, nativeAt_fresnel hk]
    exact fresnelAt_neg_z p ν
  | angular =>
    rw [nativeAt_angular (p := withParam p (.distance (-p.z))) hk, nativeAt_angular hk]
    exact angularAt_neg_z p ν

theorem sampledTF_neg_z (p : Params) (iy ix : ℕ) :
    sampledTF (withParam p (.distance (-p.z))) iy ix = conj (sampledTF p iy ix) := by
  unfold sampledTF
  rw [conj_listMean_map]
  exact congrArg listMean (List.map_congr_left fun ν _ => nativeAt_neg_z p ν)

theorem fresnelAt_mul (p : Params) (z₁ z₂ : ℚ) (ν : ℚ × ℚ) :
    fresnelAt (withParam p (.distance z₂)) ν * fresnelAt (withParam p (.distance z₁)) ν
      = fresnelAt (withParam p (.distance (z₁ + z₂))) ν := by
  show fresnelD (waveK p) (z₂ : ℝ) _ _ * fresnelD (waveK p) (z₁ : ℝ) _ _
      = fresnelD (waveK p) ((z₁ + z₂ : ℚ) : ℝ) _ _
  rw [mul_comm, fresnelD_add, Rat.cast_add]

/-- `FresnelPropagator.forward` / `AngularSpectrumPropagator.forward` on a scalar field: the `FourierFilter`
with the executable cut-out, the DFT of C01/C02 on the internal grid and the transfer function `modelD`. -/
noncomputable def propagate (p : Params) (h : padOK p = true) (Dir : Fin (my p) × Fin (mx p) → ℂ)
    (x : Fin p.ny × Fin p.nx → ℂ) : Fin p.ny × Fin p.nx → ℂ :=
  filter (dftPair2 (my p) (mx p) (my_pos h) (mx_pos h)) (cutoutEmb p h) (modelD p Dir) x

/-- `.backward`: the same with the conjugated transfer function. -/
noncomputable def propagateBack (p : Params) (h : padOK p = true) (Dir : Fin (my p) × Fin (mx p) → ℂ)
    (x : Fin p.ny × Fin p.nx → ℂ) : Fin p.ny × Fin p.nx → ℂ :=
  filterBackward (dftPair2 (my p) (mx p) (my_pos h) (mx_pos h)) (cutoutEmb p h) (modelD p Dir) x

/-- The propagator built for another distance is a filter on `p`'s own grids — the padded sizes and the cut-out do not depend
on the distance — with the transfer function `modelD` has there. -/
theorem propagate_withZ (p : Params) (h : padOK p = true) (z : ℚ) (Dir : Fin (my p) × Fin (mx p) → ℂ)
    (x : Fin p.ny × Fin p.nx → ℂ) {D : Fin (my p) × Fin (mx p) → ℂ}
    (hD : ∀ m : Fin (my p) × Fin (mx p), modelD (withParam p (.distance z)) Dir m = D m) :
    propagate (withParam p (.distance z)) h Dir x
      = filter (dftPair2 (my p) (mx p) (my_pos h) (mx_pos h)) (cutoutEmb p h) D x :=
  congrArg (fun D => filter _ (cutoutEmb p h) D x) (funext hD)

theorem pad_cutoutEmb (p : Params) (h : padOK p = true) (x : Fin p.ny × Fin p.nx → ℂ)
    (m : Fin (my p) × Fin (mx p)) :
    pad (cutoutEmb p h) x m
      = padAt (cutStart (my p) p.ny) (cutStart (mx p) p.nx) p.ny p.nx (ext2 x) (m.1 : ℕ) (m.2 : ℕ) := by
  unfold padAt
  split_ifs with hc
  · -- inside the window `m` is the image of `j = m - start`
    obtain ⟨j, rfl⟩ : ∃ j, cutoutEmb p h j = m :=
      ⟨(⟨m.1 - cutStart (my p) p.ny, by omega⟩, ⟨m.2 - cutStart (mx p) p.nx, by omega⟩),
        Prod.ext (Fin.ext (Nat.add_sub_cancel' hc.1.1)) (Fin.ext (Nat.add_sub_cancel' hc.2.1))⟩
    rw [pad_apply_of_inj (cutoutEmb_injective p h)]
    show x j = ext2 x (cutStart (my p) p.ny + j.1 - cutStart (my p) p.ny)
      (cutStart (mx p) p.nx + j.2 - cutStart (mx p) p.nx)
    rw [Nat.add_sub_cancel_left, Nat.add_sub_cancel_left, ext2_fin]
  · refine pad_apply_of_forall_ne (fun b hbm => hc ?_) x
    rw [← hbm]
    exact ⟨⟨Nat.le_add_right _ _, Nat.add_lt_add_left b.1.2 _⟩, Nat.le_add_right _ _, Nat.add_lt_add_left b.2.2 _⟩

theorem F_pad_cutoutEmb (p : Params) (h : padOK p = true) (x : Fin p.ny × Fin p.nx → ℂ)
    (py : Fin (my p)) (px : Fin (mx p)) :
    (dftPair2 (my p) (mx p) (my_pos h) (mx_pos h)).F (pad (cutoutEmb p h) x) (py, px)
      = Fft.dft2 (my p) (mx p) (kF (my p)) (kF (mx p))
          (padAt (cutStart (my p) p.ny) (cutStart (mx p) p.nx) p.ny p.nx (ext2 x)) (py : ℕ) (px : ℕ) :=
  dftPair2_F_eq_dft2 _ _ _ _ _ (fun a ha b hb => (pad_cutoutEmb p h x (⟨a, ha⟩, ⟨b, hb⟩)).symm) py px

/-- The operator of the theorems is the pipeline the driver op `filt` runs: `filterP` (`padAt`, `Fft.dft2`, multiply,
`Fft.dft2`, `cropAt`) at `ℂ` with the kernels `exp(∓2πi n/M)` and the scale `1/(My·Mx)` is `filter` with the DFT of C01/C02
and the executable cut-out.  The pipeline reads its transfer function on the internal grid only, so `D` is any function on
`ℕ × ℕ`: a grid function extended by zero (`ext2`), its conjugate, or the samples of the `Scalar` pipeline are instances. -/
theorem filterP_eq_filter (p : Params) (h : padOK p = true) (D : ℕ → ℕ → ℂ) (x : Fin p.ny × Fin p.nx → ℂ)
    (j : Fin p.ny × Fin p.nx) :
    filterP p (kF (my p)) (kF (mx p)) (kB (my p)) (kB (mx p)) (((my p * mx p : ℕ) : ℂ)⁻¹) D (ext2 x) (j.1 : ℕ) (j.2 : ℕ)
      = filter (dftPair2 (my p) (mx p) (my_pos h) (mx_pos h)) (cutoutEmb p h) (fun m => D (m.1 : ℕ) (m.2 : ℕ)) x j := by
  -- `ifftn` of the abstract pair is the inverse `Fft.dft2`; on the grid its argument is `D · fftn (padAt x)`
  refine (dftPair2_Finv_eq_dft2 (my p) (mx p) (my_pos h) (mx_pos h) _ (fun a ha b hb => ?_)
    (cutoutEmb p h j).1 (cutoutEmb p h j).2).symm
  exact congrArg _ (F_pad_cutoutEmb p h x ⟨a, ha⟩ ⟨b, hb⟩).symm

end HcipyVerif.NearField
