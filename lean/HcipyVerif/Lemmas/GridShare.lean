import HcipyVerif.Model.GridShare
import HcipyVerif.Lemmas.OptionRules

/-! `stepWorld` by cases; what the invariant `SWorld.Inv` of `stepShare` needs about `shareCoords`, `SWorld.sync` and
`changedSlot`: coherence is carried over by `cohEx_transfer` where a step writes no coordinates and re-established by
`shareCoords_coherent_of` where it writes one `Coords` object.  At the head, the defect class "memoised hash with incomplete invalidation" as definitions: documentation for
the counterexample `Bad.memo_hash_stale` (Properties/C10.lean), not a model of the code; no driver runs it. -/

namespace HcipyVerif.Grid

namespace Bad
/-- The defect class of a *memoised* hash: a grid remembers the hash input it computed and drops it
only when its own API changes the coordinates. -/
structure MGrid where
  grid : Grid
  memo : Option (List Tok) := none

/-- `hash(g)`: the remembered value if there is one -/
def MGrid.hash (m : MGrid) : List Tok × MGrid :=
  match m.memo with
  | some h => (h, m)
  | none => (m.grid.hashInput, { m with memo := some m.grid.hashInput })

/-- another holder wrote through the shared `Coords` object: the coordinates follow, the memo stays -/
def MGrid.follow (m : MGrid) (co : Coords) : MGrid := { m with grid := { m.grid with coords := co } }
end Bad

theorem stepWorld_returns (w : World) (toks : List String) (hr : toks ≠ ["reset"]) :
    Returns (stepWorld w toks) fun r =>
      (∃ l, r.1 = { w with arrays := w.arrays ++ [l] }) ∨ r.1 = w ∨ (∃ g, r.1 = { w with grids := w.grids.push g }) ∨
        ∃ st', stepStore w.grids toks = some (st', r.2) ∧ r.1 = { w with grids := st' } := by
  unfold stepWorld
  split
  · exact absurd rfl hr
  · exact .map fun l _ => .inl ⟨l, rfl⟩
  · exact .pure (.inr (.inl rfl))
  · split
    · exact .map fun _ _ => .inr (.inr (.inl ⟨_, rfl⟩))
    · exact .none
  · exact .map fun r hs => .inr (.inr (.inr ⟨r.1, hs, rfl⟩))

theorem shareCoords_getElem? (grids : Store) (cell : List Nat) (c : Nat) (co : Coords) (j : Nat) :
    (shareCoords grids cell c co)[j]? =
      (grids[j]?).map fun h => if cell[j]? = some c then { h with coords := co } else h := by
  simp only [shareCoords, List.getElem?_mapIdx]

theorem shareCoords_length (grids : Store) (cell : List Nat) (c : Nat) (co : Coords) :
    (shareCoords grids cell c co).length = grids.length := by simp only [shareCoords, List.length_mapIdx]

/-- coherent except possibly for slot `i` -/
def CohEx (i : Option Nat) (grids : Store) (cell : List Nat) : Prop :=
  ∀ (j k : Nat) (g h : Grid), some j ≠ i → some k ≠ i → cell[j]? = cell[k]? → cell[j]? ≠ none →
    grids[j]? = some g → grids[k]? = some h → g.coords = h.coords

theorem cohEx_none (grids : Store) (cell : List Nat) : CohEx none grids cell ↔ Coherent grids cell := by
  constructor
  · intro h j k g g' a b c d; exact h j k g g' (Option.some_ne_none j) (Option.some_ne_none k) a b c d
  · intro h j k g g' _ _ a b c d; exact h j k g g' a b c d

/-- Outside `i'`, every slot of the new state either reads the coordinates of a slot `src j` of the old state (outside `i`) that held
the same id, or holds a fresh id (`F`), and a fresh id names its slot (`pos`).  So two slots that share an id are one slot, or read
what two old slots sharing that id read. -/
theorem cohEx_transfer {grids grids' : Store} {cell cell' : List Nat} (F : Nat → Prop) (pos src : Nat → Nat) {i i' : Option Nat}
    (h : ∀ j c g, some j ≠ i' → cell'[j]? = some c → grids'[j]? = some g →
      ¬ F c ∧ cell[src j]? = some c ∧ some (src j) ≠ i ∧ (∃ g0, grids[src j]? = some g0 ∧ g0.coords = g.coords) ∨ F c ∧ j = pos c)
    (hco : CohEx i grids cell) : CohEx i' grids' cell' := by
  intro j k g g' hj hk hjk hn hg hg'
  obtain ⟨c, hc⟩ := Option.ne_none_iff_exists'.mp hn
  rcases h j c g hj hc hg, h k c g' hk (hjk ▸ hc) hg' with
    ⟨⟨a1, a2, a3, g0, a4, a5⟩ | ⟨a1, a2⟩, ⟨b1, b2, b3, g0', b4, b5⟩ | ⟨b1, b2⟩⟩
  · rw [← a5, ← b5]
    exact hco _ _ g0 g0' a3 b3 (a2.trans b2.symm) (a2 ▸ Option.some_ne_none c) a4 b4
  · exact absurd b1 a1
  · exact absurd a1 b1
  · obtain rfl := a2.trans b2.symm
    exact congrArg Grid.coords (Option.some.inj (hg.symm.trans hg'))

theorem changedSlot_some (old new : Store) (i : Nat) (h : changedSlot old new = some i) :
    i < old.length ∧ new[i]? ≠ old[i]? := by
  unfold changedSlot at h
  have := List.find?_some h
  have hm := List.mem_of_find?_eq_some h
  simp only [ne_eq, decide_not, Bool.not_eq_eq_eq_not, Bool.not_true, decide_eq_false_iff_not,
    List.mem_range] at this hm
  exact ⟨hm, this⟩

theorem changedSlot_none (old new : Store) (h : changedSlot old new = none) (j : Nat) (hj : j < old.length) :
    new[j]? = old[j]? := by
  unfold changedSlot at h
  rw [List.find?_eq_none] at h
  have := h j (by simp only [List.mem_range, hj])
  simpa only [ne_eq, decide_not, Bool.not_eq_eq_eq_not, Bool.not_true, decide_eq_false_iff_not,
    Decidable.not_not] using this

theorem frame_changed (old new : Store) (hf : ∃ i, ∀ j, j < old.length → j ≠ i → new[j]? = old[j]?)
    (j : Nat) (hj : j < old.length) (hne : some j ≠ changedSlot old new) : new[j]? = old[j]? := by
  cases hc : changedSlot old new with
  | none => exact changedSlot_none old new hc j hj
  | some i =>
    obtain ⟨hi, hd⟩ := changedSlot_some old new i hc
    obtain ⟨i0, hf⟩ := hf
    by_cases h0 : i = i0
    · subst h0; exact hf j hj (by rw [hc] at hne; intro e; exact hne (by rw [e]))
    · exact absurd (hf i hi h0) hd

theorem cohEx_of_frame (old new : Store) (cell : List Nat) (hl : cell.length = old.length)
    (hco : Coherent old cell) (hf : ∃ i, ∀ j, j < old.length → j ≠ i → new[j]? = old[j]?) :
    CohEx (changedSlot old new) new cell :=
  cohEx_transfer (fun _ => False) id id (fun j _ g hj hc hg => .inl ⟨id, hc, Option.some_ne_none j, g,
    frame_changed old new hf j (hl ▸ (List.getElem?_eq_some_iff.mp hc).1) hj ▸ hg, rfl⟩) ((cohEx_none _ _).mpr hco)

theorem sync_inv (grids : Store) (cell : List Nat) (next : Nat) (i : Option Nat)
    (hlt : ∀ c ∈ cell, c < next) (hco : CohEx i grids cell) :
    let cell' := cell.take grids.length ++ List.range' next (grids.length - cell.length)
    cell'.length = grids.length ∧ (∀ c ∈ cell', c < next + (grids.length - cell.length)) ∧ CohEx i grids cell' := by
  intro cell'
  -- the new slots `cell.length, cell.length + 1, …` get the ids `next, next + 1, …`
  refine ⟨?_, ?_, cohEx_transfer (next ≤ ·) (fun c => cell.length + (c - next)) id (fun j c g hj hc hg => ?_) hco⟩
  · rw [List.length_append, List.length_take, List.length_range', Nat.add_comm]
    exact Nat.sub_add_min_cancel _ _
  · intro c hc
    rcases List.mem_append.mp hc with hc | hc
    · exact Nat.lt_add_right _ (hlt c (List.mem_of_mem_take hc))
    · exact (List.mem_range'_1.mp hc).2
  · simp only [cell', List.getElem?_append, List.getElem?_take] at hc
    split at hc
    · split at hc
      · exact .inl ⟨Nat.not_le_of_lt (hlt c (List.mem_of_getElem? hc)), hc, hj, g, hg, rfl⟩
      · cases hc
    · rename_i hjl
      obtain ⟨hm, rfl⟩ := List.getElem?_eq_some_iff.mp hc
      -- there is such a slot, so all of `cell` was taken
      have hle : cell.length ≤ grids.length :=
        Nat.le_of_lt (Nat.lt_of_sub_pos (Nat.zero_lt_of_lt (List.length_range' ▸ hm)))
      rw [List.length_take, Nat.min_eq_right hle] at hjl
      rw [List.getElem_range', List.length_take, Nat.min_eq_right hle, Nat.one_mul, Nat.add_sub_cancel_left]
      exact .inr ⟨Nat.le_add_right _ _, (Nat.add_sub_cancel' (Nat.le_of_not_lt hjl)).symm⟩

theorem shareCoords_coherent_of (grids : Store) (cell : List Nat) (c : Nat) (co : Coords)
    (hco : ∀ (j k : Nat) (g h : Grid), cell[j]? ≠ some c → cell[j]? = cell[k]? → cell[j]? ≠ none → grids[j]? = some g → grids[k]? = some h →
      g.coords = h.coords) : Coherent (shareCoords grids cell c co) cell := by
  intro j k g h hjk hn hg hh
  simp only [shareCoords_getElem?, Option.map_eq_some_iff] at hg hh
  obtain ⟨g0, hgj, rfl⟩ := hg
  obtain ⟨h0, hgk, rfl⟩ := hh
  by_cases hc : cell[j]? = some c
  · rw [if_pos hc, if_pos (hjk ▸ hc)]
  · rw [if_neg hc, if_neg (hjk ▸ hc)]
    exact hco j k _ _ hc hjk hn hgj hgk

theorem shareCoords_keeps_coherent (grids : Store) (cell : List Nat) (c : Nat) (co : Coords)
    (hco : Coherent grids cell) : Coherent (shareCoords grids cell c co) cell :=
  shareCoords_coherent_of grids cell c co fun j k g h _ => hco j k g h

theorem inv_empty : ({} : SWorld).Inv :=
  ⟨rfl, fun _ hc => (nomatch hc), fun _ _ _ _ _ hn => absurd List.getElem?_nil hn⟩

end HcipyVerif.Grid
