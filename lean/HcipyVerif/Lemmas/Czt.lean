import Mathlib.Algebra.BigOperators.Intervals
import Mathlib.Algebra.BigOperators.Ring.Finset
import Mathlib.Algebra.Field.Basic
import Mathlib.Tactic.Ring
import Mathlib.Tactic.FieldSimp
import HcipyVerif.Model.Czt
import HcipyVerif.Lemmas.FftIndex

/-!
# Bluestein's identity for `ChirpZTransform` (`czt_eq_sum`), the circular convolution it rests
on (`circ_conv_theorem`), and one axis of the Zoom FFT (`zoom_axis_eq_sum`)
-/

namespace HcipyVerif.Fft
open Finset

section czt
variable {K C : Type} [Field K] [Field C]

/-- zero padding at the end (`fft(y, nfft)`) is `padAt` at offset `0` -/
theorem sum_padEnd (n M : ℕ) (h : n ≤ M) (y g : ℕ → C) :
    ∑ r ∈ range M, padEnd n y r * g r = ∑ j ∈ range n, y j * g j := by
  simpa [padAt, padEnd] using sum_padAt 0 n M (by omega) y g

/-- The kernel entry hit by output `k` and input `r`: the lag is `k - r`. -/
theorem cztKernel_at (n m : ℕ) (g : ℕ → C) (k r : ℕ) (hk : k < m) (hr : r < n) :
    cztKernel n m g (n - 1 + k - r) = g ((k : ℤ) - r).natAbs := by
  unfold cztKernel
  rw [if_pos (by omega)]
  split_ifs <;> congr 1 <;> omega

/-- Bluestein's exponent identity `i²/2 - (k-i)²/2 + k²/2 = i·k` at the level of the character. -/
theorem bluestein_phase {W : K → C} (hW : IsChar W) (h2 : (2 : K) ≠ 0) (ω : K) (i k : K) :
    W (ω * (i * i) / 2) * (W (ω * ((k - i) * (k - i)) / 2))⁻¹ * W (ω * (k * k) / 2)
      = W (ω * i * k) := by
  rw [hW.inv, ← hW.add, ← hW.add]
  congr 1
  field_simp
  ring

/-- **Bluestein's identity** (`ChirpZTransform.__call__`, one axis): for every `0 < n`, every
`nfft ≥ n + m - 1` and every `k < m` the pipeline equals the defining sum
`Σ_{i<n} x_i·a^{-i}·w^{i·k}`. -/
theorem czt_eq_sum {W : K → C} (hW : IsChar W) (h2 : (2 : K) ≠ 0) (n m nfft : ℕ) (hn : 0 < n)
    (hnfft : n + m - 1 ≤ nfft) (ω α : K) (x : ℕ → C) (k : ℕ) (hk : k < m) :
    cztBluestein n m nfft W ω α x k = cztSum n W ω α x k := by
  simp only [cztBluestein, cztSum, circConv, sumRange_eq]
  rw [sum_padEnd n nfft (by omega), Finset.sum_mul]
  refine Finset.sum_congr rfl fun r hr => ?_
  have hr := mem_range.mp hr
  have hidx : (n - 1 + k + nfft - r) % nfft = n - 1 + k - r := by
    have e : n - 1 + k + nfft - r = (n - 1 + k - r) + nfft := by omega
    rw [e, Nat.add_mod_right, Nat.mod_eq_of_lt (by omega)]
  -- the chirp is even in the lag
  have hdd : ((((k : ℤ) - r).natAbs * ((k : ℤ) - r).natAbs : ℕ) : K)
      = ((k : K) - r) * ((k : K) - r) := by
    rw [← Int.cast_natCast, Int.natAbs_mul_self]; push_cast; ring
  rw [hidx, cztKernel_at n m _ k r hk hr]
  unfold cztAwk2 cztWk2
  rw [hdd, ← bluestein_phase hW h2 ω r k]
  simp only [Nat.cast_mul, Nat.cast_ofNat]
  ring

/-- The defining sum only depends on `w = W ω` and `a = W α` (not on the representatives `ω, α`):
this is what makes the principal-branch choice in `w**(k²/2)` harmless. -/
theorem cztSum_congr {W : K → C} (hW : IsChar W) (n : ℕ) (ω ω' α α' : K) (hω : W ω = W ω')
    (hα : W α = W α') (x : ℕ → C) (k : ℕ) :
    cztSum n W ω α x k = cztSum n W ω' α' x k := by
  simp only [cztSum, sumRange_eq]
  apply Finset.sum_congr rfl
  intro i _
  have e1 : W (ω * (i : K) * (k : K)) = W (ω' * (i : K) * (k : K)) := by
    have : ∀ o : K, o * (i : K) * (k : K) = o * ((i * k : ℕ) : K) := by
      intro o; rw [Nat.cast_mul]; ring
    rw [this, this, hW.mul_nat, hW.mul_nat, hω]
  have e2 : W (-(α * (i : K))) = W (-(α' * (i : K))) := by
    rw [← hW.inv, ← hW.inv, hW.mul_nat, hW.mul_nat, hα]
  rw [e1, e2]

/-- **Zoom FFT, one axis**: with `w = E(-(Δ·δ))`, `a = E(u0·δ)`, `shift_k = E(-(u_k·x0))`
(`_compute_shifts_and_weights`) the CZT defining sum times the shift is the Fourier sum
`Σ_i f_i·E(-(u_k·x_i))`, `x_i = x0 + i·δ`, `u_k = u0 + k·Δ`. -/
theorem cztSum_shift_eq_zoomSum {E : K → C} (hE : IsChar E) (n : ℕ) (x0 δ u0 Δ : K)
    (f : ℕ → C) (k : ℕ) :
    cztSum n E (-(Δ * δ)) (u0 * δ) f k * E (-((u0 + (k : K) * Δ) * x0))
      = zoomSum n E x0 δ u0 Δ f k := by
  simp only [cztSum, zoomSum, sumRange_eq]
  rw [Finset.sum_mul]
  apply Finset.sum_congr rfl
  intro i _
  rw [mul_assoc, mul_assoc, ← hE.add, ← hE.add]
  congr 2
  ring

/-- **Zoom FFT, one axis**: `czt(f) * shift` evaluates the Fourier sum on the output grid. -/
theorem zoom_axis_eq_sum {E : K → C} (hE : IsChar E) (h2 : (2 : K) ≠ 0) (n m nfft : ℕ) (hn : 0 < n)
    (hnfft : n + m - 1 ≤ nfft) (x0 δ u0 Δ : K) (f : ℕ → C) (k : ℕ) (hk : k < m) :
    zoomAxis n m nfft E x0 δ u0 Δ f k = zoomSum n E x0 δ u0 Δ f k := by
  unfold zoomAxis
  rw [czt_eq_sum hE h2 n m nfft hn hnfft _ _ f k hk]
  exact cztSum_shift_eq_zoomSum hE n x0 δ u0 Δ f k

theorem IsChar.comp_neg {E : K → C} (hE : IsChar E) : IsChar (fun r => E (-r)) :=
  ⟨hE.map_neg_add, by show E (-0) = 1; rw [neg_zero, hE.zero]⟩

/-- **Zoom FFT, backward, one axis**: `inv_czt(F) * inv_shift` with `inv_w = exp(i·δ·Δ)`,
`inv_a = exp(-i·x0·Δ)`, `inv_shift_j = exp(i·x_j·u0)` is the forward axis with the two grids
swapped and the conjugate character; it evaluates `Σ_k F_k·exp(+i·u_k·x_j)`
(`n` = number of `u` samples, `m` = number of `x` samples). -/
theorem zoom_axis_backward_eq_sum {E : K → C} (hE : IsChar E) (h2 : (2 : K) ≠ 0) (n m nfft : ℕ)
    (hn : 0 < n) (hnfft : n + m - 1 ≤ nfft) (x0 δ u0 Δ : K) (F : ℕ → C) (j : ℕ) (hj : j < m) :
    zoomAxis n m nfft (fun r => E (-r)) u0 Δ x0 δ F j
      = ∑ k ∈ range n, F k * E ((u0 + (k : K) * Δ) * (x0 + (j : K) * δ)) := by
  rw [zoom_axis_eq_sum hE.comp_neg h2 n m nfft hn hnfft u0 Δ x0 δ F j hj]
  simp only [zoomSum, sumRange_eq]
  apply Finset.sum_congr rfl
  intro k _
  congr 2
  ring

end czt

section conv
variable {C : Type} [Field C]

/-- **Convolution theorem** justifying the `circConv` specification: with the DFT specification
`dft` for `fft` (kernel `χ`) and for `ifft` (kernel `χ(-·)`, factor `1/N`), and a *primitive*
`N`-periodic character (`horth`: `Σ_{q<N} χ(q·d) = N` if `N ∣ d`, else `0`),
`ifft(fft y · fft v)[t] = Σ_{r<N} y r · v ((t - r) mod N)`. -/
theorem circ_conv_theorem {N : ℕ} (c : PChar C N) (hN : 0 < N) (hNC : (N : C) ≠ 0)
    (horth : ∀ d : ℤ, ∑ q ∈ range N, c.χ ((q : ℤ) * d) = if (N : ℤ) ∣ d then (N : C) else 0)
    (y v : ℕ → C) (t : ℕ) :
    (N : C)⁻¹ * dft N (fun n => c.χ (-n)) (fun q => dft N c.χ y q * dft N c.χ v q) t
      = circConv N y v t := by
  simp only [dft, circConv, sumRange_eq]
  -- for each `p`, roll `v` by `t - p`: the phases of `p`, of the roll and of `t` cancel
  have hq : ∀ q ∈ range N,
      (∑ p ∈ range N, y p * c.χ ((p : ℤ) * q)) * (∑ s ∈ range N, v s * c.χ ((s : ℤ) * q))
        * c.χ (-((q : ℤ) * t))
      = ∑ p ∈ range N, ∑ s ∈ range N, y p * v ((s + (t + N - p)) % N) * c.χ ((q : ℤ) * s) := by
    intro q _
    rw [Finset.sum_mul, Finset.sum_mul]
    refine Finset.sum_congr rfl fun p hp => ?_
    have hpN : p ≤ t + N := (mem_range.mp hp).le.trans (Nat.le_add_left _ _)
    simp only [mul_assoc, ← Finset.mul_sum, mul_comm (q : ℤ)]
    rw [sum_roll c hN, Finset.sum_mul, Finset.mul_sum]
    refine congrArg _ (Finset.sum_congr rfl fun s _ => ?_)
    have : ((s : ℤ) - (t + N - p : ℕ)) * q = p * q + (s * q + (-(t * q) + N * (-q))) := by
      push_cast [Nat.cast_sub hpN]; ring
    rw [this, c.add, c.add, c.add, c.period]
    ring
  rw [Finset.sum_congr rfl hq, Finset.sum_comm]
  -- orthogonality leaves the term `s = 0` of the rolled sum
  have hp : ∀ p ∈ range N,
      ∑ q ∈ range N, ∑ s ∈ range N, y p * v ((s + (t + N - p)) % N) * c.χ ((q : ℤ) * s)
        = y p * v ((t + N - p) % N) * (N : C) := by
    intro p _
    rw [Finset.sum_comm]
    simp only [← Finset.mul_sum, horth]
    rw [Finset.sum_eq_single_of_mem 0 (mem_range.mpr hN), Nat.cast_zero, if_pos (dvd_zero _),
      zero_add]
    intro s hs hne
    rw [if_neg, mul_zero]
    exact fun hd => hne (Nat.eq_zero_of_dvd_of_lt (Int.natCast_dvd_natCast.mp hd) (mem_range.mp hs))
  rw [Finset.sum_congr rfl hp, ← Finset.sum_mul]
  field_simp

/-- Bluestein's identity with `fft`/`ifft` given by their DFT specification (primitive
`nfft`-periodic kernel) rather than by the circular-convolution specification. -/
theorem czt_fft_eq_sum {K : Type} [Field K] {W : K → C} (hW : IsChar W) (h2 : (2 : K) ≠ 0)
    (n m nfft : ℕ) (hn : 0 < n) (hnfft : n + m - 1 ≤ nfft) (c : PChar C nfft)
    (hNC : (nfft : C) ≠ 0)
    (horth : ∀ d : ℤ, ∑ q ∈ range nfft, c.χ ((q : ℤ) * d) = if (nfft : ℤ) ∣ d then (nfft : C) else 0)
    (ω α : K) (x : ℕ → C) (k : ℕ) (hk : k < m) :
    cztBluesteinFft n m nfft c.χ W ω α x k = cztSum n W ω α x k := by
  rw [← czt_eq_sum hW h2 n m nfft hn hnfft ω α x k hk]
  unfold cztBluesteinFft cztBluestein
  rw [circ_conv_theorem c (by omega) hNC horth]

end conv

end HcipyVerif.Fft

