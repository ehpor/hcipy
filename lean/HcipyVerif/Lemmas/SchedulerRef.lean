import HcipyVerif.Model.SchedulerRef
import HcipyVerif.Lemmas.SchedulerClock

/-! C20, the variants of the loop in Model/SchedulerRef.lean: the reference machine (`runG`), a
callback that raises at once (`loopXC`, of which `loopX` is the clock-blind case: its interrupted run
is a `Runs`), and callbacks that re-enter `evolve_until` (`loopR`). -/

namespace HcipyVerif.Scheduler

/-- does the op read cell `c`? -/
def ROp.reads (c : Nat) : ROp → Bool
  | .add (.ref c') _ => c' = c
  | .evolve (.ref c') => c' = c
  | _ => false

/-- the lookup in an empty registry computes to `none`: every entry is left as it is -/
theorem refresh_nil (cells : Nat → Rat) (q : List Entry) : refresh [] cells q = q :=
  List.map_id' q

theorem refreshH_nil (w : World) (h : w.refs = []) : refreshH w = w.h := by
  unfold refreshH
  rw [h, refresh_nil]

/-- one step of the caller's program under `copy`, from a world in which nothing is aliased: nothing
is aliased afterwards, and the step is the head of the value-level history -/
theorem stepG_copy (kids : Entry → List (Rat × Nat)) (fuel : Nat) {w : World} (hw : w.refs = []) (op : ROp) :
    (stepG .copy kids fuel w op).refs = [] ∧
    ∀ ops, runOps kids fuel (stepG .copy kids fuel w op).h (resolve (stepG .copy kids fuel w op).cells ops) =
      runOps kids fuel w.h (resolve w.cells (op :: ops)) := by
  cases op with
  | add a id => exact ⟨by cases a <;> exact hw, fun _ => by simp only [stepG, refreshH_nil w hw, resolve, runOps_cons]⟩
  | evolve a => exact ⟨hw, fun _ => by simp only [stepG, refreshH_nil w hw, resolve, runOps_cons]⟩
  | mutate c x => exact ⟨hw, fun _ => rfl⟩

theorem deref_congr {c : Nat} {c₁ c₂ : Nat → Rat} (hc : ∀ j, j ≠ c → c₁ j = c₂ j) :
    ∀ a : TimeArg, a ≠ .ref c → deref c₁ a = deref c₂ a
  | .val _, _ => rfl
  | .ref c', h => hc c' fun hh => h (hh ▸ rfl)

theorem resolve_congr (c : Nat) (ops : List ROp) (c₁ c₂ : Nat → Rat) (hc : ∀ j, j ≠ c → c₁ j = c₂ j)
    (hr : ∀ op ∈ ops, op.reads c = false) : resolve c₁ ops = resolve c₂ ops := by
  fun_induction resolve c₁ ops generalizing c₂ with
  | case1 => rfl
  | case2 c₁ a id ops ih | case3 c₁ a ops ih =>
    have h0 := hr _ (List.mem_cons_self ..)
    rw [resolve, ih c₂ hc fun o ho => hr o (List.mem_cons_of_mem _ ho),
      deref_congr hc a (by rintro rfl; simp [ROp.reads] at h0)]
  | case4 c₁ d y ops ih =>
    refine ih _ (fun j hj => ?_) fun o ho => hr o (List.mem_cons_of_mem _ ho)
    unfold setCell
    split
    · rfl
    · exact hc j hj

/-- **The state after an exception**: the run up to the raising entry `e` is the run in which the
callback of `e` schedules nothing and the fuel is used up right after it. -/
theorem loopXC_raised_runs {K : Rat → Entry → List (Rat × Nat)} {raises : Entry → Bool} {T : Rat}
    {fuel : Nat} {s : Sys} {e : Entry} (h : (loopXC K raises T fuel s).raisedAt = some e) :
    raises e = true ∧ Runs (kidsExceptC K e) T (fired (loopXC K raises T fuel s).run.trace).length s
      (loopXC K raises T fuel s).run := by
  fun_induction loopXC K raises T fuel s with
  | case1 | case4 | case5 => cases h
  | case2 _ s x rest hq ht _ hr =>
    cases h
    refine ⟨hr, ?_⟩
    rw [fired_append, advance_fired]
    have := Runs.step (K := kidsExceptC K e) hq ht (.zero _)
    simpa +zetaDelta [next, kidsExceptC, addAll, popped, fired, advance_events] using this
  | case3 _ s x rest hq ht _ hr _ ih =>
    obtain ⟨hre, hrun⟩ := ih h
    have hx : x ≠ e := fun hh => hr (hh ▸ hre)
    refine ⟨hre, ?_⟩
    rw [advance_events, fired_fire, List.length_cons]
    refine .step hq ht ?_
    rwa [next_congr (K := kidsExceptC K e _) (K' := K _) (if_neg hx)]

theorem evolveUntilR_backwards {acts : Entry → Body} {fuel : Nat} {s : Sys} {T : Rat} (h : T < s.t) :
    evolveUntilR acts fuel s T = ⟨.backwards, s, []⟩ :=
  if_pos h

theorem evolveUntilR_forward {acts : Entry → Body} {fuel : Nat} {s : Sys} {T : Rat} (h : s.t ≤ T) :
    evolveUntilR acts fuel s T = loopR acts T fuel s :=
  if_neg (not_lt.mpr h)

/-- one pass of a loop that executes `e`: bridge to its time, call it, go on with the clock where it is -/
theorem Consistent.fire (s : Sys) (e : Entry) (rest : List Entry) {u t' : Rat} {tr : List Event}
    (hu : u = (popped s e rest).t) (h : Consistent u tr t') :
    Consistent s.t
      ((advance { s with queue := rest } (e.time - s.t)).2 ++ Event.fire e (popped s e rest).t :: tr) t' :=
  (advance_consistent { s with queue := rest } _).append ⟨rfl, hu ▸ h⟩

/-! The re-entrant loop, by its functional induction: out of fuel; the callback does not re-enter; its
nested call is refused; returns; does not return; nothing due (twice). -/

theorem loopR_consistent (acts : Entry → Body) (T : Rat) (fuel : Nat) (s : Sys) :
    Consistent s.t (loopR acts T fuel s).trace (loopR acts T fuel s).s.t := by
  fun_induction loopR acts T fuel s with
  | case1 => rfl
  | case2 _ _ s e rest _ _ _ _ _ _ ih => exact .fire s e rest ((addAll_t _ _).trans (addAll_t _ _)) ih
  | case3 _ _ s e rest => exact .fire s e rest rfl (addAll_t _ _).symm
  | case4 _ _ s e rest _ _ _ _ _ _ _ _ _ _ ihn ih =>
    exact .fire s e rest (addAll_t _ _) (ihn.append (addAll_t _ _ ▸ ih))
  | case5 _ _ s e rest _ _ _ _ _ _ _ _ _ ihn => exact .fire s e rest (addAll_t _ _) ihn
  | case6 _ _ s | case7 _ _ s => exact advance_consistent s _

theorem loopR_clock_ge (acts : Entry → Body) (T : Rat) (fuel : Nat) (s : Sys)
    (hok : (loopR acts T fuel s).status = .ok) : T - eps ≤ (loopR acts T fuel s).s.t := by
  fun_induction loopR acts T fuel s with
  | case1 | case3 => cases hok
  | case2 _ _ _ _ _ _ _ _ _ _ _ ih => exact ih hok
  | case4 _ _ _ _ _ _ _ _ _ _ _ _ _ _ _ _ ih => exact ih hok
  | case5 _ _ _ _ _ _ _ _ _ _ _ _ _ hn => exact absurd hok hn
  | case6 T _ s | case7 T _ s => exact advance_ge_sub_eps s T

theorem loopR_clock_le (acts : Entry → Body) (T : Rat) (fuel : Nat) (s : Sys) {B : Rat}
    (hB : ∀ e T2, (acts e).nested = some T2 → T2 ≤ B) (hT : T ≤ B) (hs : s.t ≤ B) :
    (loopR acts T fuel s).s.t ≤ B := by
  have key : ∀ {T s e} (rest : List Entry) l, e.time < T → T ≤ B → s.t ≤ B →
      (addAll (popped s e rest) l).t ≤ B :=
    fun rest _ ht hT hs => (addAll_t _ _).trans_le (popped_le_of_le rest hs ((le_of_lt ht).trans hT))
  fun_induction loopR acts T fuel s with
  | case1 => exact hs
  | case2 _ _ _ _ rest _ ht _ _ _ _ ih => exact ih hT ((addAll_t _ _).trans_le (key rest _ ht hT hs))
  | case3 _ _ _ _ rest _ ht => exact key rest _ ht hT hs
  | case4 _ _ _ _ rest _ ht _ _ _ hn _ _ _ _ ihn ih =>
    exact ih hT ((addAll_t _ _).trans_le (ihn (hB _ _ hn) (key rest _ ht hT hs)))
  | case5 _ _ _ _ rest _ ht _ _ _ hn _ _ _ ihn => exact ihn (hB _ _ hn) (key rest _ ht hT hs)
  | case6 T _ s | case7 T _ s => exact advance_le_of_le s T B hs hT

end HcipyVerif.Scheduler
