import HcipyVerif.Lemmas.NearField
import HcipyVerif.Lemmas.FourierLinkC04
import HcipyVerif.Lemmas.NearFieldExec
import HcipyVerif.Lemmas.NearFieldGRat
import HcipyVerif.Lemmas.NearFieldMatrixExec
import HcipyVerif.Lemmas.NearFieldTensor
import HcipyVerif.Lemmas.NearFieldAbstract
import HcipyVerif.Lemmas.NearFieldScalar

/-!
# C04 — near-field propagators are linear, passive, adjoint-backward and additive

`FresnelPropagator` / `AngularSpectrumPropagator`: `.forward = FourierFilter.forward`, `.backward = FourierFilter.backward`.
The clauses of the property are stated here about the definitions the driver executes (`Model/NearField.lean`), at `ℂ`:

* `filterP_*` — the pipeline `filterP` / `filterPBackward` (`padAt`, `Fft.dft2`, multiply, inverse `Fft.dft2`, `cropAt`)
  with the kernels `exp(∓2πi n/M)`;
* `fourierFilter_*`, `fresnelForward_*`, `fresnelPropagator_*` (with the regime switch), `angular_*_exec`,
  `fourierFilterM_*` — the scalar-polymorphic definitions at `cScalar`;
* `*_denotes_*` — what the driver computes on Gaussian rationals / formal phase sums denotes those;
* the bookkeeping around them: regime switch, setters, cut-out, the transfer-function samples the driver prints, the
  dtype cache.

The proofs go through the abstract operator `filter P e D = P† F⁻¹ D F P` of `Lemmas/NearFieldFilter.lean` (`P` any
`FourierPair`: linear maps with `F⁻¹ F = F F⁻¹ = id` and `⟨y, F x⟩ = c ⟨F⁻¹ y, x⟩`, `c > 0`; the cut-out `e` injective,
bijective when `zero_padding = 1`), whose clauses are in `Lemmas/NearFieldAbstract.lean`, and the bridge
`filter (dftPair2 …) (cutoutEmb p h) = filterP …` (`filter_dft2_eq_filterP`); the hypothesis that remains is the
decidable `padOK p`.  The inner product of the property carries the grid weight, which is one constant `w` on a
regular grid.
-/

set_option linter.unusedVariables false

open Complex ComplexConjugate

namespace HcipyVerif.NearField

/-- The regime as the property words it (pixel ≥ λ|z|/extent and ≥ λ/2) does *not* exclude evanescent
waves on a 2-D grid: for an 8×8 grid with pixel `5λ/8` the corner frequencies have negative radicand. -/
theorem stated_regime_admits_evanescent :
    ∃ p : Params, p.kind = .angular ∧ statedRegime p = true ∧ noEvanescent p = false :=
  ⟨{ kind := .angular, nx := 8, ny := 8, dx := 5/8, dy := 5/8, lam := 1, z := -1/4, n := 1, qx := 2, qy := 2, sx := 1, sy := 1 },
    by decide +kernel⟩

/-- Same sign ⇒ same branch: if `z₁ z₂ ≥ 0` and the *sum* is adequately sampled (the code takes the
transfer-function branch for `z₁ + z₂`), the code takes that branch for `z₁` and for `z₂` as well, so
`fresnel_additive` is a statement about the three propagators the code actually builds. -/
theorem same_sign_same_branch (p : Params) (z₁ z₂ : ℚ) (hs : 0 ≤ z₁ * z₂) (hlam : 0 ≤ p.lam)
    (hL : 0 < lmax p)
    (h : impulseBranch { p with z := z₁ + z₂ } = false) :
    impulseBranch { p with z := z₁ } = false ∧ impulseBranch { p with z := z₂ } = false :=
  impulseBranch_of_same_sign p z₁ z₂ hs hlam hL h

/-- `same_sign_same_branch` is not vacuous: `z₁ = z₂ = 1/4` on an 8×6 grid, all three on the
transfer-function branch. -/
example : ∃ (p : Params) (z₁ z₂ : ℚ), 0 ≤ z₁ * z₂ ∧ 0 ≤ p.lam ∧ 0 < lmax p ∧ z₁ ≠ 0 ∧ z₂ ≠ 0 ∧
    impulseBranch { p with z := z₁ + z₂ } = false :=
  ⟨{ kind := .fresnel, nx := 8, ny := 6, dx := 1/4, dy := 1/4, lam := 1/16, z := 0, n := 1, qx := 1, qy := 1,
     sx := 1, sy := 1 }, 1/4, 1/4, by decide +kernel⟩

/-! ## one propagator object used repeatedly: setters between calls

A call computes `filter P e D` with `D` sampled from the parameters *in force* — nothing else.  The executable
model carries the parameters through the setters (`withParam`, `afterSetters`); these theorems say which
bookkeeping survives a setter and that only the last assignment of each parameter matters, for unbounded
histories.  (That the real object's cached transfer function / scratch arrays do not leak between calls is
replayed by the harness on call sequences; the cache itself is C05.) -/

/-- `distance`, `refractive_index`, `num_oversampling` and the wavelength leave the padded sizes and the
cut-out untouched (the internal array keeps its shape); only `zero_padding` changes them. -/
theorem sizes_unchanged_by_setter (p : Params) (su : Setter) (h : ∀ qx qy, su ≠ .zeroPadding qx qy) :
    mx (withParam p su) = mx p ∧ my (withParam p su) = my p ∧ cutout (withParam p su) = cutout p := by
  cases su with
  | zeroPadding qx qy => exact absurd rfl (h qx qy)
  | distance z => exact ⟨rfl, rfl, rfl⟩
  | refractiveIndex n => exact ⟨rfl, rfl, rfl⟩
  | oversampling sx sy => exact ⟨rfl, rfl, rfl⟩
  | wavelength lam => exact ⟨rfl, rfl, rfl⟩

/-- The branch taken after `prop.distance = z` is decided by the new distance alone (other parameters as
they were) — also when the assignment crosses the sampling limit in either direction. -/
theorem branch_after_distance_setter (p : Params) (z : ℚ) :
    impulseBranch (withParam p (.distance z))
      = (decide (p.dx < p.lam * ratAbs z / lmax p) || decide (p.dy < p.lam * ratAbs z / lmax p)) := rfl

theorem afterSetters_append (p : Params) (l₁ l₂ : List Setter) :
    afterSetters p (l₁ ++ l₂) = afterSetters (afterSetters p l₁) l₂ := by
  unfold afterSetters
  rw [List.foldl_append]

/-- The distance in force after any history that ends with `distance := z` is `z`; the grid never changes. -/
theorem afterSetters_distance_last (p : Params) (l : List Setter) (z : ℚ) :
    (afterSetters p (l ++ [.distance z])).z = z ∧
    (afterSetters p (l ++ [.distance z])).nx = p.nx ∧ (afterSetters p (l ++ [.distance z])).ny = p.ny ∧
    (afterSetters p (l ++ [.distance z])).dx = p.dx ∧ (afterSetters p (l ++ [.distance z])).dy = p.dy := by
  refine ⟨?_, afterSetters_grid p _⟩
  rw [afterSetters_append]
  rfl

/-- Per-axis padding: when only `y` is padded (`zero_padding = [1, q]`, or a scalar whose rounding leaves the
`x` size unchanged) the cut-out spans complete rows `0 … nx` — it is one contiguous block of the internal
array (the shape in which a careless `reshape` returns a view instead of a copy). -/
theorem cutout_full_rows_of_x_unpadded (p : Params) (hx : mx p = p.nx) (hy : my p ≠ p.ny) :
    cutout p = some (cutStart (my p) p.ny, cutStart (my p) p.ny + p.ny, 0, p.nx) := by
  unfold cutout
  rw [if_neg (fun h => hy h.2), hx]
  simp [cutStart]

theorem padded_one (N : ℕ) : padded 1 N = N :=
  -- `padded q N` unfolds to the FFT plan's `Fft.paddedSize N q`, the same `round (q·N)` (as in `padded_ge`)
  Fft.paddedSize_of_int N N 1 (one_mul _)

/-- The rational phase (in turns) the model reports for a Fresnel sub-sample is the phase of `fresnelD` at
`k = 2π n/λ`, `k⊥ = 2π ν`:  `D = exp(2πi · fresnelTurns)`. -/
theorem model_fresnelTurns (p : Params) (νx νy : ℚ) (hn : p.n ≠ 0) (hl : p.lam ≠ 0) :
    fresnelD (2 * Real.pi * (p.n : ℝ) / (p.lam : ℝ)) (p.z : ℝ) (2 * Real.pi * (νx : ℝ)) (2 * Real.pi * (νy : ℝ))
      = cexp (((2 * Real.pi * ((fresnelTurns p νx νy : ℚ) : ℝ) : ℝ) : ℂ) * I) :=
  fresnelD_eq_turns p νx νy hn hl

/-- The model's radicand is `(k² - |k⊥|²)/(2π)²`: its sign decides "evanescent" exactly as `kz` does. -/
theorem model_radicand (p : Params) (νx νy : ℚ) (hl : p.lam ≠ 0) :
    (2 * Real.pi * (p.n : ℝ) / (p.lam : ℝ)) ^ 2
        - ((2 * Real.pi * (νx : ℝ)) ^ 2 + (2 * Real.pi * (νy : ℝ)) ^ 2)
      = (2 * Real.pi) ^ 2 * ((radicand p νx νy : ℚ) : ℝ) := by
  unfold radicand
  push_cast
  ring

/-! ## the propagator the code builds: executable cut-out, executable sample points, the DFT

`propagate p h Dir = filter (dftPair2 (my p) (mx p)) (cutoutEmb p h) (modelD p Dir)` (`Lemmas/NearFieldExec.lean`)
is assembled from the very definitions the driver runs and the harness compares with the real objects:
`my`/`mx` (op `setup`: `M=`), `embY`/`embX` (op `emb`; the harness lays the input out with these indices when it
recomputes `forward` *and* `backward`), `impulseBranch` (`branch=`), `subFreqs` at the `ifftshiftIdx`-ed index
(op `tfq`: the phases of exactly these sub-samples, compared with the array the real filter multiplies with, in
FFT layout), and `fftn`/`ifftn` by their specification `Fft.dft2`.  The only hypothesis is `padOK p` (non-empty
grid, padding factors `≥ 1` — what the driver and hcipy's constructor insist on); `Dir` is the transfer function
of the impulse-response branch, about which nothing is assumed. -/

section exec
variable (p : Params) (h : padOK p = true)

/-- The executable cut-out is injective … -/
theorem cutout_embedding_injective : Function.Injective (cutoutEmb p h) := cutoutEmb_injective p h

/-- … and a bijection when `cutout p = none` (nothing padded). -/
theorem cutout_embedding_bijective_of_unpadded (hc : cutout p = none) :
    Function.Bijective (cutoutEmb p h) := cutoutEmb_bijective p h hc

/-- A padding factor of one on both axes (`zero_padding = 1`) gives `cutout p = none`. -/
theorem cutout_none_of_unit_padding (hk : p.kind = .fresnel) (hqx : p.qx = 1) (hqy : p.qy = 1) :
    cutout p = none := by
  rw [cutout_eq_none_iff]
  unfold mx my effQx effQy
  rw [hk]
  simp only [hqx, hqy]
  exact ⟨padded_one _, padded_one _⟩

/-- `z` and `-z` take the same branch. -/
theorem impulseBranch_symmetric_in_z :
    impulseBranch (withParam p (.distance (-p.z))) = impulseBranch p := impulseBranch_neg_z p

/-! ### what the driver prints for a transfer-function sample *is* the sample of `modelD`

The harness turns the driver's answer to `tfq` into a complex number by `mean(exp(2πi·turns))` (Fresnel) or
`mean(exp(2πi z √r))` / `exp(-2π·evz·√(-r))` (angular spectrum) and compares it with the array the real filter
multiplies with.  These theorems say that this very number is `sampledTF` (hence `modelD` on the
transfer-function branch, `modelD_of_tf`). -/

/-- Angular spectrum: the sample at frequency `ν` from the radicand the driver prints — `exp(2πi z √r)` for a
propagating wave (`r ≥ 0`), `exp(-2π |z| √(-r))` (`evz = |z|`) for an evanescent one. -/
theorem angularAt_of_radicand (p : Params) (hl : p.lam ≠ 0) (ν : ℚ × ℚ) :
    angularAt p ν = if 0 ≤ radicand p ν.1 ν.2
      then cexp (((2 * Real.pi * Real.sqrt ((radicand p ν.1 ν.2 : ℚ) : ℝ) * (p.z : ℝ) : ℝ) : ℂ) * I)
      else cexp (((-(2 * Real.pi * Real.sqrt (-((radicand p ν.1 ν.2 : ℚ) : ℝ)) * ((evanescentZ p : ℚ) : ℝ)) : ℝ) : ℂ)) :=
  angularAt_eq_angSample p ν

end exec

/-- The hypotheses of the `propagate_*` theorems are satisfiable together: an 8×6 Fresnel propagator with
`zero_padding = 1`, `num_oversampling = 1` inside the stated regime. -/
example : ∃ p : Params, padOK p = true ∧ p.kind = .fresnel ∧ p.sx = 1 ∧ p.sy = 1 ∧ cutout p = none ∧
    statedRegime p = true ∧ impulseBranch p = false ∧ 0 ≤ p.lam ∧ 0 < lmax p :=
  ⟨{ kind := .fresnel, nx := 8, ny := 6, dx := 1/4, dy := 1/4, lam := 1/16, z := 1/2, n := 1, qx := 1, qy := 1,
     sx := 1, sy := 1 }, by decide +kernel⟩

/-- … and a padded, oversampled angular-spectrum propagator satisfies `padOK` with a genuine cut-out. -/
example : ∃ p : Params, padOK p = true ∧ cutout p = some (3, 9, 4, 12) ∧ impulseBranch p = false :=
  ⟨{ kind := .angular, nx := 8, ny := 6, dx := 1/4, dy := 1/4, lam := 1/16, z := -1/2, n := 1, qx := 1, qy := 1,
     sx := 2, sy := 2 }, by decide +kernel⟩

/-! ## polarised wavefronts: Stokes-`I` power, matrix-valued transfer functions

`Wavefront.total_power` of a Jones-matrix wavefront with an input Stokes vector is `stokesPower` — the sum over the
grid of the executable polynomial `stokesI` (driver op `stokesI`, compared with `Wavefront.I` of the real input and
output wavefronts) times the pixel weight.  `FourierFilter` with a tensor transfer function multiplies with the
executable `matVec` (`field_dot`) and, backward, with `conjT conj` (`field_conjugate_transpose`) — driver op `mdot`,
compared with those two hcipy functions; the harness recomputes `forward`/`backward` of the real filter with them. -/

/-- `stokesPhysical` (the decidable predicate the driver reports, over `ℚ`) is the hypothesis on the Stokes vector in the
`*_stokes_power_nonincreasing` theorems. -/
theorem stokesPhysical_iff (a b c d : ℚ) :
    stokesPhysical a b c d = true ↔ 0 ≤ a ∧ b ^ 2 + c ^ 2 + d ^ 2 ≤ a ^ 2 := by
  unfold stokesPhysical
  simp only [Bool.and_eq_true, decide_eq_true_eq, pow_two]

example : stokesPhysical 1 (1/2) (-1/4) (1/8) = true := by decide +kernel

/-- The hypothesis matters: for the (unphysical) Stokes vector `(0, 1, 0, 0)` the form is `‖x‖² − ‖y‖²`, and
blocking everything (`D = 0`, certainly `|D| ≤ 1`) *raises* it from `−1/2` to `0`. -/
theorem stokes_power_unphysical_counterexample :
    ∃ (P : FourierPair (Fin 1)) (D : Fin 1 → ℂ) (S : Fin 4 → ℝ) (E : Fin 2 × Fin 2 → Fin 1 → ℂ),
      (∀ m, ‖D m‖ ≤ 1) ∧ stokesPower 1 S E < stokesPower 1 S (filterT P id D E) := by
  refine ⟨FourierPair.idPair (Fin 1), fun _ => 0, ![0, 1, 0, 0], fun t _ => if t = (0, 1) then 1 else 0,
    fun m => by simp, ?_⟩
  simp [stokesPower, stokesI, filterT, filter, crop, mulD, pad, FourierPair.idPair]
  norm_num

/-- The product at one sample is the matrix–vector product, the backward matrix the conjugate transpose. -/
theorem filterM_pointwise {n : ℕ} (D : Fin n → Fin n → ℂ) (v : Fin n → ℂ) :
    matVec D v = Matrix.mulVec (Matrix.of D) v ∧
      Matrix.of (conjT (fun z => conj z) D) = (Matrix.of D).conjTranspose :=
  ⟨funext fun i => matVec_apply D v i, Matrix.ext fun _ _ => rfl⟩

/-! ## The operator of the abstract theorems is the pipeline the driver runs

`filterP` / `filterPBackward` (`Model/NearField.lean`: `padAt` at `cutStart`, `Fft.dft2`, multiply, inverse `Fft.dft2`,
`cropAt`) are scalar-polymorphic; the driver op `filt` runs them on Gaussian rationals (exact kernels of the sizes
1, 2, 4) and the harness compares the result with the real `FourierFilter.forward` / `.backward`.  Here they are taken
at `ℂ` with the kernels `exp(∓2πi n/M)`: they *are* `filter (dftPair2 …) (cutoutEmb p h)` (bridge
`filter_dft2_eq_filterP`), so every clause holds for the executed definition itself (`filterP_*`), and the
propagators are that pipeline with the transfer function `modelD` (`propagate_eq_filterP`). -/

section pipeline
variable (p : Params) (h : padOK p = true)
include h

/-- The executed pipeline of `p` at `ℂ`: DFT kernels `exp(∓2πi n/M)`, scale `1/(My·Mx)`. -/
local macro "runF" : term =>
  `(filterP p (kF (my p)) (kF (mx p)) (kB (my p)) (kB (mx p)) (((my p * mx p : ℕ) : ℂ)⁻¹))
local macro "runB" : term =>
  `(filterPBackward (starRingEnd ℂ) p (kF (my p)) (kF (mx p)) (kB (my p)) (kB (mx p)) (((my p * mx p : ℕ) : ℂ)⁻¹))

/-- Linear: the executed pipeline, any transfer function, any padding. -/
theorem filterP_linear (D : Fin (my p) × Fin (mx p) → ℂ) (a b : ℂ) (x y : Fin p.ny × Fin p.nx → ℂ)
    (j : Fin p.ny × Fin p.nx) :
    runF (ext2 D) (ext2 (a • x + b • y)) (j.1 : ℕ) (j.2 : ℕ)
      = a * runF (ext2 D) (ext2 x) (j.1 : ℕ) (j.2 : ℕ) + b * runF (ext2 D) (ext2 y) (j.1 : ℕ) (j.2 : ℕ) := by
  have hl := congrFun (filter_linear (dftPair2 (my p) (mx p) (my_pos h) (mx_pos h)) (cutoutEmb p h) D a b x y) j
  rw [filter_dft2_eq_filterP, filter_dft2_eq_filterP, filter_dft2_eq_filterP] at hl
  exact hl

/-- `backward` (the pipeline with `conj D`) is the exact adjoint of `forward`: the executed pipeline, any transfer
function, any padding. -/
theorem filterP_adjoint (D : Fin (my p) × Fin (mx p) → ℂ) (x y : Fin p.ny × Fin p.nx → ℂ) :
    ip y (fun j => runF (ext2 D) (ext2 x) (j.1 : ℕ) (j.2 : ℕ))
      = ip (fun j => runB (ext2 D) (ext2 y) (j.1 : ℕ) (j.2 : ℕ)) x := by
  rw [← filter_dft2_eq_filterP p h, ← filterBackward_dft2_eq_filterPBackward p h]
  exact filter_adjoint _ _ D x y

/-- Passive: `|D| ≤ 1` everywhere ⇒ the executed pipeline never increases the power. -/
theorem filterP_power_nonincreasing {D : Fin (my p) × Fin (mx p) → ℂ} (hD : ∀ m, ‖D m‖ ≤ 1)
    (x : Fin p.ny × Fin p.nx → ℂ) :
    nsq (fun j : Fin p.ny × Fin p.nx => runF (ext2 D) (ext2 x) (j.1 : ℕ) (j.2 : ℕ)) ≤ nsq x := by
  rw [← filter_dft2_eq_filterP p h]
  exact power_nonincreasing _ (cutoutEmb_injective p h) hD x

/-- No padding (`cutout p = none`) and `|D| = 1`: the executed pipeline conserves the power … -/
theorem filterP_unitary (hc : cutout p = none) {D : Fin (my p) × Fin (mx p) → ℂ} (hD : ∀ m, ‖D m‖ = 1)
    (x : Fin p.ny × Fin p.nx → ℂ) :
    nsq (fun j : Fin p.ny × Fin p.nx => runF (ext2 D) (ext2 x) (j.1 : ℕ) (j.2 : ℕ)) = nsq x := by
  rw [← filter_dft2_eq_filterP p h]
  exact filter_unitary _ (cutoutEmb_bijective p h hc) hD x

/-- … and the executed `backward` pipeline inverts the executed `forward` pipeline. -/
theorem filterP_backward_inverse (hc : cutout p = none) {D : Fin (my p) × Fin (mx p) → ℂ} (hD : ∀ m, ‖D m‖ = 1)
    (x : Fin p.ny × Fin p.nx → ℂ) (j : Fin p.ny × Fin p.nx) :
    runB (ext2 D) (ext2 fun i : Fin p.ny × Fin p.nx => runF (ext2 D) (ext2 x) (i.1 : ℕ) (i.2 : ℕ)) (j.1 : ℕ) (j.2 : ℕ)
      = x j := by
  have hi := congrFun (filter_backward_inverse (dftPair2 (my p) (mx p) (my_pos h) (mx_pos h))
    (cutoutEmb_bijective p h hc) hD x) j
  rw [filterBackward_dft2_eq_filterPBackward, filter_dft2_eq_filterP] at hi
  exact hi

end pipeline

/-! ## every clause, stated about the executed definitions only (no hypothesis on the transform)

`fourierFilter`, `fourierFilterBackward`, `fresnelForward`, `fresnelBackward`, `fourierFilterM`, `fourierFilterMBackward`
(`Model/NearField.lean`) are defined once for any `Scalar C`.  The driver ops `filtp`, `prop`, `filtmp` run them at
`psumScalar` and the harness compares every output pixel with the running `FourierFilter` / `FresnelPropagator`; the
theorems below are about the *same definitions* at `cScalar = (ℂ, exp(2πi t), conj)`; `filtp_*_denotes_*`,
`prop_*_denotes_*`, `filtmp_*_denotes_*` (further down) say that `PSum.ev` maps the driver's run onto them.  The only
hypothesis is the decidable `padOK p` (non-empty grid, padding factors `≥ 1`: what the driver and hcipy insist on).
A field on the input grid is `x : Fin p.ny × Fin p.nx → ℂ`, handed to the pipeline as `ext2 x`. -/

section scalar
variable (p : Params) (h : padOK p = true)
include h

/-- Linear: any transfer function (either branch of `make_instance`), any padding. -/
theorem fourierFilter_linear (D : ℕ → ℕ → ℂ) (a b : ℂ) (x y : Fin p.ny × Fin p.nx → ℂ) (j : Fin p.ny × Fin p.nx) :
    fourierFilter cScalar p D (ext2 (a • x + b • y)) (j.1 : ℕ) (j.2 : ℕ)
      = a * fourierFilter cScalar p D (ext2 x) (j.1 : ℕ) (j.2 : ℕ)
        + b * fourierFilter cScalar p D (ext2 y) (j.1 : ℕ) (j.2 : ℕ) := by
  simp only [fourierFilter_eq_filter p h]
  exact congrFun (filter_linear _ _ _ a b x y) j

/-- `backward` is the exact adjoint of `forward`: any transfer function, any padding. -/
theorem fourierFilter_adjoint (D : ℕ → ℕ → ℂ) (x y : Fin p.ny × Fin p.nx → ℂ) :
    ip y (fun j => fourierFilter cScalar p D (ext2 x) (j.1 : ℕ) (j.2 : ℕ))
      = ip (fun j => fourierFilterBackward cScalar p D (ext2 y) (j.1 : ℕ) (j.2 : ℕ)) x := by
  simp only [fourierFilterBackward_eq, fourierFilter_eq_filter p h]
  exact filter_adjoint _ _ _ x y

/-- Passive: `|D| ≤ 1` everywhere ⇒ the power never increases. -/
theorem fourierFilter_power_nonincreasing {D : ℕ → ℕ → ℂ} (hD : ∀ qy qx, ‖D qy qx‖ ≤ 1)
    (x : Fin p.ny × Fin p.nx → ℂ) :
    nsq (fun j : Fin p.ny × Fin p.nx => fourierFilter cScalar p D (ext2 x) (j.1 : ℕ) (j.2 : ℕ)) ≤ nsq x := by
  simp only [fourierFilter_eq_filter p h]
  exact power_nonincreasing _ (cutoutEmb_injective p h) (fun m => hD _ _) x

/-- Nothing padded (`cutout p = none`) and `|D| = 1`: the power is conserved … -/
theorem fourierFilter_unitary (hc : cutout p = none) {D : ℕ → ℕ → ℂ} (hD : ∀ qy qx, ‖D qy qx‖ = 1)
    (x : Fin p.ny × Fin p.nx → ℂ) :
    nsq (fun j : Fin p.ny × Fin p.nx => fourierFilter cScalar p D (ext2 x) (j.1 : ℕ) (j.2 : ℕ)) = nsq x := by
  simp only [fourierFilter_eq_filter p h]
  exact filter_unitary _ (cutoutEmb_bijective p h hc) (fun m => hD _ _) x

/-- … `backward` inverts `forward` … -/
theorem fourierFilter_backward_inverse (hc : cutout p = none) {D : ℕ → ℕ → ℂ} (hD : ∀ qy qx, ‖D qy qx‖ = 1)
    (x : Fin p.ny × Fin p.nx → ℂ) (j : Fin p.ny × Fin p.nx) :
    fourierFilterBackward cScalar p D
        (ext2 fun i : Fin p.ny × Fin p.nx => fourierFilter cScalar p D (ext2 x) (i.1 : ℕ) (i.2 : ℕ)) (j.1 : ℕ) (j.2 : ℕ)
      = x j := by
  simp only [fourierFilterBackward_eq, fourierFilter_eq_filter p h]
  exact congrFun (filter_backward_inverse _ (cutoutEmb_bijective p h hc) (fun m => hD _ _) x) j

/-- … and two filters compose by multiplying their transfer functions. -/
theorem fourierFilter_comp (hc : cutout p = none) (D₁ D₂ : ℕ → ℕ → ℂ) (x : Fin p.ny × Fin p.nx → ℂ)
    (j : Fin p.ny × Fin p.nx) :
    fourierFilter cScalar p D₂
        (ext2 fun i : Fin p.ny × Fin p.nx => fourierFilter cScalar p D₁ (ext2 x) (i.1 : ℕ) (i.2 : ℕ)) (j.1 : ℕ) (j.2 : ℕ)
      = fourierFilter cScalar p (fun a b => D₂ a b * D₁ a b) (ext2 x) (j.1 : ℕ) (j.2 : ℕ) := by
  simp only [fourierFilter_eq_filter p h]
  exact congrFun (filter_comp _ (cutoutEmb_bijective p h hc) _ _ x) j

/-- Passivity in the Stokes-`I` form (`Wavefront.total_power` of a Jones-matrix wavefront with an input Stokes vector,
`stokesPower` = the grid sum of the executed polynomial `stokesI`): a physical Stokes vector (`0 ≤ S0`,
`S1² + S2² + S3² ≤ S0²`) does not gain power when every component goes through the pipeline with `|D| ≤ 1`. -/
theorem fourierFilter_stokes_power_nonincreasing {D : ℕ → ℕ → ℂ} (hD : ∀ qy qx, ‖D qy qx‖ ≤ 1) (w : ℝ) (hw : 0 ≤ w)
    (S : Fin 4 → ℝ) (hS0 : 0 ≤ S 0) (hphys : S 1 ^ 2 + S 2 ^ 2 + S 3 ^ 2 ≤ S 0 ^ 2)
    (E : Fin 2 × Fin 2 → Fin p.ny × Fin p.nx → ℂ) :
    stokesPower w S (fun t (j : Fin p.ny × Fin p.nx) => fourierFilter cScalar p D (ext2 (E t)) (j.1 : ℕ) (j.2 : ℕ))
      ≤ stokesPower w S E := by
  simp only [fourierFilter_eq_filter p h]
  exact stokes_power_nonincreasing _ (cutoutEmb_injective p h) (fun m => hD _ _) w hw S hS0 hphys E

theorem fresnelForward_linear (a b : ℂ) (x y : Fin p.ny × Fin p.nx → ℂ) (j : Fin p.ny × Fin p.nx) :
    fresnelForward cScalar p (ext2 (a • x + b • y)) (j.1 : ℕ) (j.2 : ℕ)
      = a * fresnelForward cScalar p (ext2 x) (j.1 : ℕ) (j.2 : ℕ)
        + b * fresnelForward cScalar p (ext2 y) (j.1 : ℕ) (j.2 : ℕ) :=
  fourierFilter_linear p h (fresnelTF cScalar p) a b x y j

/-- `FresnelPropagator.backward` is the exact adjoint of `.forward` (any padding, any oversampling, any distance). -/
theorem fresnelForward_adjoint (x y : Fin p.ny × Fin p.nx → ℂ) :
    ip y (fun j => fresnelForward cScalar p (ext2 x) (j.1 : ℕ) (j.2 : ℕ))
      = ip (fun j => fresnelBackward cScalar p (ext2 y) (j.1 : ℕ) (j.2 : ℕ)) x :=
  fourierFilter_adjoint p h (fresnelTF cScalar p) x y

/-- Fresnel propagation never increases the power: any padding, any oversampling, either sign of `z`. -/
theorem fresnelForward_power_nonincreasing (x : Fin p.ny × Fin p.nx → ℂ) :
    nsq (fun j : Fin p.ny × Fin p.nx => fresnelForward cScalar p (ext2 x) (j.1 : ℕ) (j.2 : ℕ)) ≤ nsq x :=
  fourierFilter_power_nonincreasing p h (norm_fresnelTF_le_one p) x

theorem fresnelForward_stokes_power_nonincreasing (w : ℝ) (hw : 0 ≤ w) (S : Fin 4 → ℝ) (hS0 : 0 ≤ S 0)
    (hphys : S 1 ^ 2 + S 2 ^ 2 + S 3 ^ 2 ≤ S 0 ^ 2) (E : Fin 2 × Fin 2 → Fin p.ny × Fin p.nx → ℂ) :
    stokesPower w S (fun t (j : Fin p.ny × Fin p.nx) => fresnelForward cScalar p (ext2 (E t)) (j.1 : ℕ) (j.2 : ℕ))
      ≤ stokesPower w S E :=
  fourierFilter_stokes_power_nonincreasing p h (norm_fresnelTF_le_one p) w hw S hS0 hphys E

/-- `zero_padding = 1` (`cutout p = none`), `num_oversampling = 1`: Fresnel propagation is unitary … -/
theorem fresnelForward_unitary (hx : p.sx = 1) (hy : p.sy = 1) (hc : cutout p = none) (x : Fin p.ny × Fin p.nx → ℂ) :
    nsq (fun j : Fin p.ny × Fin p.nx => fresnelForward cScalar p (ext2 x) (j.1 : ℕ) (j.2 : ℕ)) = nsq x :=
  fourierFilter_unitary p h hc (norm_fresnelTF_eq_one hx hy) x

/-- … `backward` inverts `forward` … -/
theorem fresnelBackward_inverse (hx : p.sx = 1) (hy : p.sy = 1) (hc : cutout p = none) (x : Fin p.ny × Fin p.nx → ℂ)
    (j : Fin p.ny × Fin p.nx) :
    fresnelBackward cScalar p
        (ext2 fun i : Fin p.ny × Fin p.nx => fresnelForward cScalar p (ext2 x) (i.1 : ℕ) (i.2 : ℕ)) (j.1 : ℕ) (j.2 : ℕ)
      = x j :=
  fourierFilter_backward_inverse p h hc (norm_fresnelTF_eq_one hx hy) x j

/-- … and the propagator built for `z₁` followed by the one built for `z₂` is the one built for `z₁ + z₂`
(all three by the setter `distance` on the same object).  No sign condition is needed for the transfer-function
pipeline itself; the property's "same sign" guarantees that the code takes this pipeline for `z₁` and `z₂` whenever it
takes it for `z₁ + z₂` (`same_sign_same_branch`). -/
theorem fresnelForward_additive (hx : p.sx = 1) (hy : p.sy = 1) (hc : cutout p = none) (z₁ z₂ : ℚ)
    (x : Fin p.ny × Fin p.nx → ℂ) (j : Fin p.ny × Fin p.nx) :
    fresnelForward cScalar (withParam p (.distance z₂))
        (ext2 fun i : Fin p.ny × Fin p.nx =>
          fresnelForward cScalar (withParam p (.distance z₁)) (ext2 x) (i.1 : ℕ) (i.2 : ℕ)) (j.1 : ℕ) (j.2 : ℕ)
      = fresnelForward cScalar (withParam p (.distance (z₁ + z₂))) (ext2 x) (j.1 : ℕ) (j.2 : ℕ) := by
  -- the padded sizes and the cut-out do not depend on the distance: all three are filters of `p`
  refine (fourierFilter_comp p h hc (fresnelTF cScalar (withParam p (.distance z₁)))
    (fresnelTF cScalar (withParam p (.distance z₂))) x j).trans ?_
  exact congrArg (fun D => fourierFilter cScalar p D (ext2 x) (j.1 : ℕ) (j.2 : ℕ))
    (funext fun a => funext (fresnelTF_mul hx hy z₁ z₂ a))

omit h in
/-- Propagating by `-z` forward is propagating by `+z` backward: the propagator built for `-z` (setter `distance`),
`.forward`, and the one built for `+z`, `.backward`, are the same function — any padding, any oversampling, any input. -/
theorem fresnelForward_neg_z_eq_backward (X : ℕ → ℕ → ℂ) :
    fresnelForward cScalar (withParam p (.distance (-p.z))) X = fresnelBackward cScalar p X :=
  fourierFilter_distance_conj p _ (fresnelTF_neg_z p) X

/-! ### the Fresnel propagator *with the regime switch* (`fresnelPropagatorForward` / `…Backward`: what op `prop` runs)

`make_instance` chooses between the sampled transfer function (`fresnelForward`, above) and the Fourier transform of the
sampled impulse response (`fresnelIrTF`) by `np.any(delta < λ|z|/L_max)` = `impulseBranch p`.  Linearity and adjointness
hold on either branch; the regime clauses are those of `fresnelForward_*`, because inside the regime the switch selects that
pipeline (`fresnelPropagator_eq_fresnelForward_of_sampled`). -/

/-- `FresnelPropagator.forward` is linear on either branch of the regime switch, any padding, oversampling, distance. -/
theorem fresnelPropagator_linear (a b : ℂ) (x y : Fin p.ny × Fin p.nx → ℂ) (j : Fin p.ny × Fin p.nx) :
    fresnelPropagatorForward cScalar p (ext2 (a • x + b • y)) (j.1 : ℕ) (j.2 : ℕ)
      = a * fresnelPropagatorForward cScalar p (ext2 x) (j.1 : ℕ) (j.2 : ℕ)
        + b * fresnelPropagatorForward cScalar p (ext2 y) (j.1 : ℕ) (j.2 : ℕ) := by
  simp only [fresnelPropagatorForward_eq]
  exact fourierFilter_linear p h _ a b x y j

/-- `FresnelPropagator.backward` is the exact adjoint of `.forward` on either branch of the regime switch (also outside the
sampled regime, where the transfer function is the transformed impulse response and is not unimodular). -/
theorem fresnelPropagator_adjoint (x y : Fin p.ny × Fin p.nx → ℂ) :
    ip y (fun j => fresnelPropagatorForward cScalar p (ext2 x) (j.1 : ℕ) (j.2 : ℕ))
      = ip (fun j => fresnelPropagatorBackward cScalar p (ext2 y) (j.1 : ℕ) (j.2 : ℕ)) x := by
  simp only [fresnelPropagatorForward_eq, fresnelPropagatorBackward_eq]
  exact fourierFilter_adjoint p h _ x y

omit h in
/-- Inside the sampled regime (`pixel ≥ λ|z|/extent` on both axes, i.e. `impulseBranch p = false`) the switch selects the
transfer-function pipeline: `forward` / `backward` *are* `fresnelForward` / `fresnelBackward`. -/
theorem fresnelPropagator_eq_fresnelForward_of_sampled (hs : impulseBranch p = false) :
    fresnelPropagatorForward cScalar p = fresnelForward cScalar p ∧
      fresnelPropagatorBackward cScalar p = fresnelBackward cScalar p := by
  constructor <;> funext X
  · unfold fresnelPropagatorForward
    rw [hs]
    rfl
  · unfold fresnelPropagatorBackward
    rw [hs]
    rfl

/-- Sampled regime ⇒ the propagator the code builds never increases the power (any padding, oversampling, sign of `z`). -/
theorem fresnelPropagator_power_nonincreasing (hs : impulseBranch p = false) (x : Fin p.ny × Fin p.nx → ℂ) :
    nsq (fun j : Fin p.ny × Fin p.nx => fresnelPropagatorForward cScalar p (ext2 x) (j.1 : ℕ) (j.2 : ℕ)) ≤ nsq x := by
  rw [(fresnelPropagator_eq_fresnelForward_of_sampled p hs).1]
  exact fresnelForward_power_nonincreasing p h x

/-- Sampled regime, `zero_padding = 1`, `num_oversampling = 1`: unitary … -/
theorem fresnelPropagator_unitary (hs : impulseBranch p = false) (hx : p.sx = 1) (hy : p.sy = 1) (hc : cutout p = none)
    (x : Fin p.ny × Fin p.nx → ℂ) :
    nsq (fun j : Fin p.ny × Fin p.nx => fresnelPropagatorForward cScalar p (ext2 x) (j.1 : ℕ) (j.2 : ℕ)) = nsq x := by
  rw [(fresnelPropagator_eq_fresnelForward_of_sampled p hs).1]
  exact fresnelForward_unitary p h hx hy hc x

/-- … `backward` inverts `forward` … -/
theorem fresnelPropagator_backward_inverse (hs : impulseBranch p = false) (hx : p.sx = 1) (hy : p.sy = 1)
    (hc : cutout p = none) (x : Fin p.ny × Fin p.nx → ℂ) (j : Fin p.ny × Fin p.nx) :
    fresnelPropagatorBackward cScalar p
        (ext2 fun i : Fin p.ny × Fin p.nx => fresnelPropagatorForward cScalar p (ext2 x) (i.1 : ℕ) (i.2 : ℕ))
        (j.1 : ℕ) (j.2 : ℕ) = x j := by
  rw [(fresnelPropagator_eq_fresnelForward_of_sampled p hs).1, (fresnelPropagator_eq_fresnelForward_of_sampled p hs).2]
  exact fresnelBackward_inverse p h hx hy hc x j

/-- … and, for distances of the same sign whose *sum* is adequately sampled, the propagator the code builds for `z₁`
followed by the one for `z₂` is the one for `z₁ + z₂` — the switch takes the transfer-function pipeline for all three. -/
theorem fresnelPropagator_additive (hx : p.sx = 1) (hy : p.sy = 1) (hc : cutout p = none) (z₁ z₂ : ℚ)
    (hsign : 0 ≤ z₁ * z₂) (hlam : 0 ≤ p.lam) (hL : 0 < lmax p)
    (hs : impulseBranch (withParam p (.distance (z₁ + z₂))) = false)
    (x : Fin p.ny × Fin p.nx → ℂ) (j : Fin p.ny × Fin p.nx) :
    fresnelPropagatorForward cScalar (withParam p (.distance z₂))
        (ext2 fun i : Fin p.ny × Fin p.nx =>
          fresnelPropagatorForward cScalar (withParam p (.distance z₁)) (ext2 x) (i.1 : ℕ) (i.2 : ℕ)) (j.1 : ℕ) (j.2 : ℕ)
      = fresnelPropagatorForward cScalar (withParam p (.distance (z₁ + z₂))) (ext2 x) (j.1 : ℕ) (j.2 : ℕ) := by
  -- `withParam p (.distance z)` is `{ p with z := z }`
  obtain ⟨h1, h2⟩ := impulseBranch_of_same_sign p z₁ z₂ hsign hlam hL hs
  rw [(fresnelPropagator_eq_fresnelForward_of_sampled _ hs).1,
    (fresnelPropagator_eq_fresnelForward_of_sampled (withParam p (.distance z₁)) h1).1,
    (fresnelPropagator_eq_fresnelForward_of_sampled (withParam p (.distance z₂)) h2).1]
  exact fresnelForward_additive p h hx hy hc z₁ z₂ x j

omit h in
/-- Sampled regime: the propagator built for `-z`, `.forward`, is the one built for `+z`, `.backward` (the branch decision
depends on `|z|` only, so both are on the transfer-function pipeline). -/
theorem fresnelPropagator_neg_z_eq_backward (hs : impulseBranch p = false) (X : ℕ → ℕ → ℂ) :
    fresnelPropagatorForward cScalar (withParam p (.distance (-p.z))) X = fresnelPropagatorBackward cScalar p X := by
  have hs' : impulseBranch (withParam p (.distance (-p.z))) = false := by rw [impulseBranch_neg_z]; exact hs
  rw [(fresnelPropagator_eq_fresnelForward_of_sampled _ hs').1, (fresnelPropagator_eq_fresnelForward_of_sampled _ hs).2]
  exact fresnelForward_neg_z_eq_backward p X

/-- Angular spectrum (repaired, D30): the power never increases — propagating components are unimodular, evanescent ones
decay with `|z|`; any oversampling, either sign of `z`. -/
theorem angular_power_nonincreasing_exec (x : Fin p.ny × Fin p.nx → ℂ) :
    nsq (fun j : Fin p.ny × Fin p.nx => fourierFilter cScalar p (angularTF p) (ext2 x) (j.1 : ℕ) (j.2 : ℕ)) ≤ nsq x :=
  fourierFilter_power_nonincreasing p h (norm_angularTF_le_one p) x

theorem angular_stokes_power_nonincreasing_exec (w : ℝ) (hw : 0 ≤ w) (S : Fin 4 → ℝ) (hS0 : 0 ≤ S 0)
    (hphys : S 1 ^ 2 + S 2 ^ 2 + S 3 ^ 2 ≤ S 0 ^ 2) (E : Fin 2 × Fin 2 → Fin p.ny × Fin p.nx → ℂ) :
    stokesPower w S (fun t (j : Fin p.ny × Fin p.nx) =>
        fourierFilter cScalar p (angularTF p) (ext2 (E t)) (j.1 : ℕ) (j.2 : ℕ))
      ≤ stokesPower w S E :=
  fourierFilter_stokes_power_nonincreasing p h (norm_angularTF_le_one p) w hw S hS0 hphys E

omit h in
/-- Angular spectrum: forward by `-z` is backward by `+z`, at every frequency, evanescent ones included. -/
theorem angular_neg_z_eq_backward_exec (X : ℕ → ℕ → ℂ) :
    fourierFilter cScalar (withParam p (.distance (-p.z))) (angularTF (withParam p (.distance (-p.z)))) X
      = fourierFilterBackward cScalar p (angularTF p) X :=
  fourierFilter_distance_conj p _ (angularTF_neg_z p) X

end scalar

/-- The branch decision propagating / evanescent is the sign of the executed `radicand`; on the propagating set the
angular-spectrum sample is unimodular, for both signs of `z` … -/
theorem angular_sample_unimodular_of_propagating (p : Params) (a b : ℚ) (hr : 0 ≤ radicand p a b) :
    ‖angSample p.z (evanescentZ p) (radicand p a b)‖ = 1 :=
  norm_angSample_of_propagating hr

/-- … on the evanescent set it has modulus `exp(-2π |z| √(-radicand)) ≤ 1`, for both signs of `z` (repaired code). -/
theorem angular_sample_decays_of_evanescent (p : Params) (a b : ℚ) (hr : radicand p a b < 0) :
    ‖angSample p.z (evanescentZ p) (radicand p a b)‖
        = Real.exp (-(2 * Real.pi * Real.sqrt (-((radicand p a b : ℚ) : ℝ)) * ((|p.z| : ℚ) : ℝ))) ∧
      ‖angSample p.z (evanescentZ p) (radicand p a b)‖ ≤ 1 := by
  refine ⟨?_, angularAt_eq_angSample p (a, b) ▸ angularD_norm_le_one _ _ _⟩
  rw [norm_angSample_of_evanescent hr]
  unfold evanescentZ
  rw [ratAbs_eq_abs]

/-- Unrepaired code (finding D30; `evanescentZOld p = z`): an evanescent component propagated by a negative distance is
amplified. -/
theorem Old.angular_sample_grows_of_evanescent (p : Params) (a b : ℚ) (hr : radicand p a b < 0) (hz : p.z < 0) :
    1 < ‖angSample p.z (evanescentZOld p) (radicand p a b)‖ := by
  rw [norm_angSample_of_evanescent hr, Real.one_lt_exp_iff]
  have hs : 0 < Real.sqrt (-((radicand p a b : ℚ) : ℝ)) := Real.sqrt_pos.mpr (neg_pos.mpr (by exact_mod_cast hr))
  have hz' : ((evanescentZOld p : ℚ) : ℝ) < 0 := by unfold evanescentZOld; exact_mod_cast hz
  exact neg_pos.mpr (mul_neg_of_pos_of_neg (mul_pos (mul_pos two_pos Real.pi_pos) hs) hz')

/-- `angSample` at the executed radicand *is* `transfer_function_native` of the angular-spectrum propagator as the code
writes it (`exp(i k_z z)`, `k_z = √(k² - k⊥²)` conjugated for `z < 0`), at `k = 2πn/λ`, `k⊥ = 2πν`. -/
theorem angSample_is_native_transfer_function (p : Params) (hl : p.lam ≠ 0) (ν : ℚ × ℚ) :
    angularAt p ν = angSample p.z (evanescentZ p) (radicand p ν.1 ν.2) :=
  angularAt_of_radicand p hl ν

/-- The Fresnel transfer function of the executed pipeline *is* the sub-pixel mean (over the executed sample frequencies
`subFreqs` of the centred pixel) of `transfer_function_native` as the code writes it: `fresnelAt p ν =
exp(ikz)·exp(-iz k⊥²/2k)` at `k = 2πn/λ`, `k⊥ = 2πν`. -/
theorem fresnelTF_is_sampled_native_transfer_function (p : Params) (hn : p.n ≠ 0) (hl : p.lam ≠ 0) (qy qx : ℕ) :
    fresnelTF cScalar p qy qx
      = listMean ((subFreqs p (ifftshiftIdx (mx p) qx) (ifftshiftIdx (my p) qy)).map (fresnelAt p)) :=
  fresnelTF_eq_sampled p qy qx

/-! ### the regime switch: which wavelength decides

The property's regime is worded with *the* wavelength `λ` of the wavefront (`pixel ≥ λ|z|/extent`): the vacuum wavelength.
The code decides with exactly that quantity; the refractive index enters `k` only. -/

/-- **The regime switch is the property's sampling criterion with the vacuum wavelength**: `make_instance` takes the
transfer-function pipeline iff `λ|z|/L_max ≤ δ` on both axes (`L_max = max(dims·delta)`). -/
theorem regime_switch_is_vacuum_wavelength_criterion (p : Params) :
    impulseBranch p = false ↔ p.lam * |p.z| / lmax p ≤ p.dx ∧ p.lam * |p.z| / lmax p ≤ p.dy := by
  rw [impulseBranch_eq_false_iff, threshold_eq]

/-- … and does not depend on the refractive index (real, any value: also `n < 1`), nor on padding or oversampling. -/
theorem regime_switch_independent_of_refractive_index (p : Params) (n' : ℚ) :
    impulseBranch (withParam p (.refractiveIndex n')) = impulseBranch p ∧
      statedRegime (withParam p (.refractiveIndex n')) = statedRegime p := ⟨rfl, rfl⟩

/-- The variant that decides with the wavelength in the medium `λ/n` (`impulseBranchMedium`; seeded patch C04-11) agrees
with the property's regime for `n ≥ 1`: whatever the code's switch sends to the transfer-function pipeline, it does too … -/
theorem Alt.medium_wavelength_switch_contains_regime_of_index_ge_one (p : Params) (hn : 1 ≤ p.n) (hlam : 0 ≤ p.lam)
    (hL : 0 < lmax p) (hs : impulseBranch p = false) : impulseBranchMedium p = false := by
  have hle : p.lam / p.n * |p.z| / lmax p ≤ p.lam * |p.z| / lmax p := by
    apply div_le_div_of_nonneg_right _ hL.le
    apply mul_le_mul_of_nonneg_right _ (abs_nonneg _)
    exact div_le_self hlam hn
  obtain ⟨h1, h2⟩ := (regime_switch_is_vacuum_wavelength_criterion p).1 hs
  unfold impulseBranchMedium
  rw [ratAbs_eq_abs]
  simp only [Bool.or_eq_false_iff, decide_eq_false_iff_not, not_lt]
  exact ⟨hle.trans h1, hle.trans h2⟩

/-- … but for `n < 1` it leaves the property's regime: a propagator inside the stated regime (8×8, pixel `4λ`, `n = 1/2`,
`|z| = ¾ z_max`, no padding, no oversampling) for which the medium-wavelength switch takes the impulse-response pipeline,
where unitarity is lost. This is why the model (and the property) fix the vacuum wavelength. -/
theorem Alt.medium_wavelength_switch_leaves_stated_regime :
    ∃ p : Params, padOK p = true ∧ statedRegime p = true ∧ impulseBranch p = false ∧ 0 < p.n ∧ p.n < 1 ∧
      p.sx = 1 ∧ p.sy = 1 ∧ cutout p = none ∧ impulseBranchMedium p = true :=
  ⟨{ kind := .fresnel, nx := 8, ny := 8, dx := 1/4, dy := 1/4, lam := 1/16, z := 6, n := 1/2, qx := 1, qy := 1,
     sx := 1, sy := 1 }, by decide +kernel⟩

/-- The transfer function of the impulse-response branch that the driver computes (`fresnelIrTFc`) *is* the code's:
`δx δy Σ_j ⟨h⟩_j exp(-2πi (i-c)(j-c)/M)` (the centred transform of `FastFourierTransform.forward` on `make_fft_grid` of the
internal grid) of the sub-pixel means of `impulse_response` **as the code writes it**, `fresnelIrAt p x y =
exp(ikz)/(iλz)·exp(i k (x²+y²)/2z)`, `k = 2πn/λ`, at the executed sample points `xCoord`. -/
theorem fresnelIrTF_is_transformed_sampled_impulse_response (p : Params) (hl : p.lam ≠ 0) (hz : p.z ≠ 0) (iy ix : ℕ) :
    fresnelIrTFc cScalar p iy ix
      = ((p.dx * p.dy : ℚ) : ℂ) * Fft.sumRange (my p) fun jy => Fft.sumRange (mx p) fun jx =>
          listMean ((dithers p.sy).flatMap fun dy => (dithers p.sx).map fun dx =>
              fresnelIrAt p (xCoord p.dx (mx p) jx dx) (xCoord p.dy (my p) jy dy))
            * (kF (my p) (centred (my p) jy * centred (my p) iy) * kF (mx p) (centred (mx p) jx * centred (mx p) ix)) := by
  unfold fresnelIrTFc
  simp only [listMean_fresnelIrAt, cScalar_kerF]
  have hsplit : cScalar.ofRat (p.dx * p.dy * fresnelIrAmp p)
      = ((p.dx * p.dy : ℚ) : ℂ) * cScalar.ofRat (fresnelIrAmp p) := Rat.cast_mul _ _
  -- the amplitude `1/(λz)` common to all sub-samples moves out of both sums
  rw [hsplit]
  simp only [mul_assoc, sumRange_mul_left]

/-- The hypotheses of the `fresnelForward_*` theorems are satisfiable together (8×6, `zero_padding = 1`,
`num_oversampling = 1`, inside the stated regime). -/
example : ∃ p : Params, padOK p = true ∧ p.sx = 1 ∧ p.sy = 1 ∧ cutout p = none ∧ statedRegime p = true :=
  ⟨{ kind := .fresnel, nx := 8, ny := 6, dx := 1/4, dy := 1/4, lam := 1/16, z := 1/2, n := 1, qx := 1, qy := 1,
     sx := 1, sy := 1 }, by decide +kernel⟩

/-- … and both signs of the radicand occur on one grid (8×8, pixel `5λ/8`): DC is propagating, the corner evanescent. -/
example : ∃ p : Params, 0 ≤ radicand p 0 0 ∧ radicand p (nu p.dx (mx p) 0 0) (nu p.dy (my p) 0 0) < 0 ∧ p.z < 0 :=
  ⟨{ kind := .angular, nx := 8, ny := 8, dx := 5/8, dy := 5/8, lam := 1, z := -1/4, n := 1, qx := 2, qy := 2,
     sx := 1, sy := 1 }, by decide +kernel⟩

/-! ## dtype / tensor-shape bookkeeping of one `FourierFilter` object: history-independence

`callStep` is `_compute_functions` (driver op `dtypes`, compared with `_transfer_function.dtype`, `internal_array.dtype`,
`internal_array.shape` and the identity of both arrays after every call of a session on one real object). -/

/-- Whatever the state before, after a call with dtype `dt` and tensor shape `ts` the cached transfer function has dtype
`dt` and the scratch array has dtype `dt` and tensor shape `ts`. -/
theorem callStep_state (s : FState) (c : Call) : callStep s c = ⟨some c.dt, some (c.dt, c.ts)⟩ := by
  obtain ⟨tf, arr⟩ := s
  unfold callStep tfRecomputed arrRecomputed
  cases tf <;> cases arr <;> simp <;> grind

/-- **History-independence** (unbounded histories): the state a call leaves behind depends on that call only — not on the
dtypes and tensor shapes of the calls before it, nor on the state the object started from. -/
theorem dtype_state_history_independent (s : FState) (l : List Call) (c : Call) :
    runCalls s (l ++ [c]) = runCalls {} [c] := by
  unfold runCalls
  rw [List.foldl_append]
  simp only [List.foldl_cons, List.foldl_nil]
  rw [callStep_state, callStep_state]

/-- A cached transfer function is reused only when its dtype is the dtype of the field: whenever the dtype of the field
differs from that of the previous call the transfer function is recomputed from its source (never re-cast from the cached,
possibly single-precision, copy). -/
theorem transfer_function_recomputed_on_dtype_change (s : FState) (c c' : Call) (hd : c.dt ≠ c'.dt) :
    tfRecomputed (callStep s c) c' = true := by
  rw [callStep_state]
  unfold tfRecomputed
  simpa using hd

/-- … and it is *not* recomputed when the dtype is unchanged, whatever the tensor shapes (the cache is effective). -/
theorem transfer_function_reused_on_same_dtype (s : FState) (c c' : Call) (hd : c.dt = c'.dt) :
    tfRecomputed (callStep s c) c' = false := by
  rw [callStep_state]
  unfold tfRecomputed
  simpa using hd

/-! ### what the driver op `filt` computes denotes the complex pipeline

The driver runs `filterP` / `filterPBackward` at the scalar type `GRat` (Gaussian rationals) with the kernels
`gKerF`, `gKerB` (powers of `i`, exact for the internal sizes 1, 2, 4) and the scale `1/(My·Mx)`.  The complex numbers
its output denotes are the output of the *same definitions* at `ℂ` with the kernels `exp(∓2πi n/M)` — the operator of
`filterP_linear`, `filterP_adjoint`, `filterP_power_nonincreasing`, … — applied to the complex numbers the inputs denote. -/

theorem filt_forward_denotes_complex_pipeline (p : Params) (hy : my p = 1 ∨ my p = 2 ∨ my p = 4)
    (hx : mx p = 1 ∨ mx p = 2 ∨ mx p = 4) (D x : ℕ → ℕ → GRat) (ky kx : ℕ) :
    GRat.toC (filterP p (gKerF (my p)) (gKerF (mx p)) (gKerB (my p)) (gKerB (mx p))
        ⟨1 / ((my p * mx p : ℕ) : ℚ), 0⟩ D x ky kx)
      = filterP p (kF (my p)) (kF (mx p)) (kB (my p)) (kB (mx p)) (((my p * mx p : ℕ) : ℂ)⁻¹)
          (fun a b => GRat.toC (D a b)) (fun a b => GRat.toC (x a b)) ky kx := by
  unfold filterP
  rw [filterN_map GRat.toC_hom, toC_scale,
    funext (toC_gKerF hy), funext (toC_gKerF hx), funext (toC_gKerB hy), funext (toC_gKerB hx)]

theorem filt_backward_denotes_complex_pipeline (p : Params) (hy : my p = 1 ∨ my p = 2 ∨ my p = 4)
    (hx : mx p = 1 ∨ mx p = 2 ∨ mx p = 4) (D x : ℕ → ℕ → GRat) (ky kx : ℕ) :
    GRat.toC (filterPBackward GRat.conj p (gKerF (my p)) (gKerF (mx p)) (gKerB (my p)) (gKerB (mx p))
        ⟨1 / ((my p * mx p : ℕ) : ℚ), 0⟩ D x ky kx)
      = filterPBackward (starRingEnd ℂ) p (kF (my p)) (kF (mx p)) (kB (my p)) (kB (mx p)) (((my p * mx p : ℕ) : ℂ)⁻¹)
          (fun a b => GRat.toC (D a b)) (fun a b => GRat.toC (x a b)) ky kx := by
  -- `backward` is `forward` with the conjugated transfer function
  refine (filt_forward_denotes_complex_pipeline p hy hx (fun a b => GRat.conj (D a b)) x ky kx).trans ?_
  simp only [GRat.toC_conj]
  rfl

/-- **Every internal size**: the driver op `filtp` runs `fourierFilter psumScalar` — the scalar-polymorphic pipeline at the formal
phase sums (`Fft.PSum`: finite sums of `c·exp(2πi t)` with rational `c`, `t`).  The complex number its output denotes
(`PSum.ev`, which the harness evaluates in floating point and compares with the real `FourierFilter.forward`) is the *same
definition* at `cScalar` (the object of the `fourierFilter_*` theorems) on the denoted inputs. -/
theorem filtp_forward_denotes_complex_pipeline (p : Params) (D x : ℕ → ℕ → Fft.PSum) (ky kx : ℕ) :
    PSum.ev (fourierFilter psumScalar p D x ky kx)
      = fourierFilter cScalar p (fun a b => PSum.ev (D a b)) (fun a b => PSum.ev (x a b)) ky kx := by
  unfold fourierFilter filterP
  rw [filterN_map PSum.ev_hom]
  simp only [ev_kerF, ev_kerB, ev_ofRat]

theorem filtp_backward_denotes_complex_pipeline (p : Params) (D x : ℕ → ℕ → Fft.PSum) (ky kx : ℕ) :
    PSum.ev (fourierFilterBackward psumScalar p D x ky kx)
      = fourierFilterBackward cScalar p (fun a b => PSum.ev (D a b)) (fun a b => PSum.ev (x a b)) ky kx := by
  simp only [fourierFilterBackward_eq, filtp_forward_denotes_complex_pipeline, ev_conj]

/-- The inputs of `filtp` (Gaussian rationals written as `a + b·exp(2πi/4)`) denote themselves. -/
theorem filtp_input_denotes (g : GRat) : PSum.ev (psumOfGRat g) = GRat.toC g := ev_psumOfGRat g

section pipelineM
variable (p : Params) (h : padOK p = true) {n : ℕ}
include h

local macro "runMF" : term =>
  `(filterMP p (kF (my p)) (kF (mx p)) (kB (my p)) (kB (mx p)) (((my p * mx p : ℕ) : ℂ)⁻¹))
local macro "runMB" : term =>
  `(filterMPBackward (starRingEnd ℂ) p (kF (my p)) (kF (mx p)) (kB (my p)) (kB (mx p)) (((my p * mx p : ℕ) : ℂ)⁻¹))

/-- `backward` (the pipeline with the conjugate-transposed matrices) is the exact adjoint of `forward`: the executed
matrix pipeline, any matrices, any padding, any number of components. -/
theorem filterMP_adjoint (D : Fin (my p) × Fin (mx p) → Fin n → Fin n → ℂ) (x y : Fin n → Fin p.ny × Fin p.nx → ℂ) :
    ∑ t, ip (y t) (fun j => runMF (fun py px i k => ext2 (fun m => D m i k) py px) (fun k => ext2 (x k)) t (j.1 : ℕ) (j.2 : ℕ))
      = ∑ t, ip (fun j => runMB (fun py px i k => ext2 (fun m => D m i k) py px) (fun k => ext2 (y k)) t (j.1 : ℕ) (j.2 : ℕ))
          (x t) := by
  have ha := filterM_adjoint (dftPair2 (my p) (mx p) (my_pos h) (mx_pos h)) (cutoutEmb p h) D x y
  rw [filterM_dft2_eq_filterMP p h, filterMBackward_dft2_eq_filterMPBackward p h] at ha
  exact ha

/-- The same about the scalar-polymorphic definitions the driver op `filtmp` runs (`fourierFilterM` /
`fourierFilterMBackward` at `cScalar`): matrix transfer function × vector field, `backward` = adjoint. -/
theorem fourierFilterM_adjoint (D : Fin (my p) × Fin (mx p) → Fin n → Fin n → ℂ) (x y : Fin n → Fin p.ny × Fin p.nx → ℂ) :
    ∑ t, ip (y t) (fun j => fourierFilterM cScalar p (fun py px i k => ext2 (fun m => D m i k) py px)
        (fun k => ext2 (x k)) t (j.1 : ℕ) (j.2 : ℕ))
      = ∑ t, ip (fun j => fourierFilterMBackward cScalar p (fun py px i k => ext2 (fun m => D m i k) py px)
          (fun k => ext2 (y k)) t (j.1 : ℕ) (j.2 : ℕ)) (x t) := by
  rw [fourierFilterM_c, fourierFilterMBackward_eq, fourierFilterM_c]
  exact filterMP_adjoint p h D x y

/-- Matrix transfer function × matrix-valued (Jones-matrix) field, `field_dot(D, E)` column by column: `backward` is the
adjoint of `forward` in the Frobenius inner product (the family of seeded regression C02-9). -/
theorem fourierFilterM_adjoint_matrix_field {k : ℕ} (D : Fin (my p) × Fin (mx p) → Fin n → Fin n → ℂ)
    (x y : Fin n → Fin k → Fin p.ny × Fin p.nx → ℂ) :
    ∑ l, ∑ t, ip (y t l) (fun j => fourierFilterM cScalar p (fun py px i k => ext2 (fun m => D m i k) py px)
        (fun i => ext2 (x i l)) t (j.1 : ℕ) (j.2 : ℕ))
      = ∑ l, ∑ t, ip (fun j => fourierFilterMBackward cScalar p (fun py px i k => ext2 (fun m => D m i k) py px)
          (fun i => ext2 (y i l)) t (j.1 : ℕ) (j.2 : ℕ)) (x t l) :=
  Finset.sum_congr rfl fun l _ => fourierFilterM_adjoint p h D (fun i => x i l) (fun i => y i l)

end pipelineM

/-- What `filtmp` computes (`fourierFilterM psumScalar`) denotes the same definition at `cScalar` (every internal size,
every `n`). -/
theorem filtmp_forward_denotes_complex_pipeline {n : ℕ} (p : Params) (D : ℕ → ℕ → Fin n → Fin n → Fft.PSum)
    (x : Fin n → ℕ → ℕ → Fft.PSum) (t : Fin n) (ky kx : ℕ) :
    PSum.ev (fourierFilterM psumScalar p D x t ky kx)
      = fourierFilterM cScalar p (fun a b i k => PSum.ev (D a b i k)) (fun k a b => PSum.ev (x k a b)) t ky kx := by
  unfold fourierFilterM filterMP
  rw [filterMN_map PSum.ev_hom]
  simp only [ev_kerF, ev_kerB, ev_ofRat]

theorem filtmp_backward_denotes_complex_pipeline {n : ℕ} (p : Params) (D : ℕ → ℕ → Fin n → Fin n → Fft.PSum)
    (x : Fin n → ℕ → ℕ → Fft.PSum) (t : Fin n) (ky kx : ℕ) :
    PSum.ev (fourierFilterMBackward psumScalar p D x t ky kx)
      = fourierFilterMBackward cScalar p (fun a b i k => PSum.ev (D a b i k)) (fun k a b => PSum.ev (x k a b)) t ky kx := by
  simp only [fourierFilterMBackward_eq, filtmp_forward_denotes_complex_pipeline, conjT, ev_conj]
  rfl

/-- **The driver's exact Fresnel propagation** (op `prop`: `fresnelForward psumScalar` / `fresnelBackward psumScalar`) denotes
`fresnelForward cScalar` / `fresnelBackward cScalar` — the object of the `fresnel_*` theorems above — of the denoted input. -/
theorem prop_forward_denotes_fresnelForward (p : Params) (X : ℕ → ℕ → Fft.PSum) (ky kx : ℕ) :
    PSum.ev (fresnelForward psumScalar p X ky kx) = fresnelForward cScalar p (fun a b => PSum.ev (X a b)) ky kx := by
  simp only [fresnelForward, filtp_forward_denotes_complex_pipeline, ev_fresnelTF]

theorem prop_backward_denotes_fresnelBackward (p : Params) (X : ℕ → ℕ → Fft.PSum) (ky kx : ℕ) :
    PSum.ev (fresnelBackward psumScalar p X ky kx) = fresnelBackward cScalar p (fun a b => PSum.ev (X a b)) ky kx := by
  simp only [fresnelBackward, filtp_backward_denotes_complex_pipeline, ev_fresnelTF]

/-- **Op `prop` with the regime switch**: what the driver computes (`fresnelPropagatorForward psumScalar`, either branch)
denotes `fresnelPropagatorForward cScalar` — the object of the `fresnelPropagator_*` theorems — of the denoted input. -/
theorem prop_forward_denotes_fresnelPropagator (p : Params) (X : ℕ → ℕ → Fft.PSum) (ky kx : ℕ) :
    PSum.ev (fresnelPropagatorForward psumScalar p X ky kx)
      = fresnelPropagatorForward cScalar p (fun a b => PSum.ev (X a b)) ky kx := by
  simp only [fresnelPropagatorForward_eq, filtp_forward_denotes_complex_pipeline, ev_fresnelTFSwitched]

theorem prop_backward_denotes_fresnelPropagator (p : Params) (X : ℕ → ℕ → Fft.PSum) (ky kx : ℕ) :
    PSum.ev (fresnelPropagatorBackward psumScalar p X ky kx)
      = fresnelPropagatorBackward cScalar p (fun a b => PSum.ev (X a b)) ky kx := by
  simp only [fresnelPropagatorBackward_eq, filtp_backward_denotes_complex_pipeline, ev_fresnelTFSwitched]

/-- Op `tfx`: the transfer function the driver prints (either branch) denotes the one of the theorems, and it is the one
`fresnelPropagatorForward` filters with. -/
theorem tfx_denotes_switched_transfer_function (p : Params) (qy qx : ℕ) :
    PSum.ev (tfOpP p qy qx) = fresnelTFSwitched cScalar p qy qx ∧
      ∀ X, fresnelPropagatorForward cScalar p X = fourierFilter cScalar p (fresnelTFSwitched cScalar p) X :=
  ⟨ev_fresnelTFSwitched p qy qx, fun X => fresnelPropagatorForward_eq cScalar p X⟩

/-- The impulse-response branch is reachable with the hypotheses of the either-branch theorems (4×3, padded to 6×4, `|z|`
above the sampling limit). -/
example : ∃ p : Params, padOK p = true ∧ impulseBranch p = true ∧ p.lam ≠ 0 ∧ p.z ≠ 0 :=
  ⟨{ kind := .fresnel, nx := 4, ny := 3, dx := 1/4, dy := 1/4, lam := 1/16, z := -7, n := 5/4, qx := 3/2, qy := 4/3,
     sx := 2, sy := 2 }, by decide +kernel⟩

/-- The hypotheses of the pipeline theorems are satisfiable with a genuinely padded, exactly executable size
(`2×3` padded to `4×4`, the kernels of which are powers of `i`: a case the driver op `filt` runs). -/
example : ∃ p : Params, padOK p = true ∧ my p = 4 ∧ mx p = 4 ∧ cutout p = some (1, 4, 1, 3) :=
  ⟨{ kind := .fresnel, nx := 2, ny := 3, dx := 1/4, dy := 1/4, lam := 1/16, z := 1/2, n := 1, qx := 2, qy := 4/3,
     sx := 1, sy := 1 }, by decide +kernel⟩

/-- `ifft (fft x) = x` for the DFT specification of `Model/FftIndex.lean`, any length `M > 0`. -/
theorem ifft_fft_dft1 (M : ℕ) (hM : 0 < M) (x : Fin M → ℂ) (p : Fin M) :
    (M : ℂ)⁻¹ * Fft.dft M (kB M) (ext fun q : Fin M => Fft.dft M (kF M) (ext x) (q : ℕ)) (p : ℕ) = x p :=
  congrFun ((dftPair M hM).Finv_F x) p

/-- `fft (ifft y) = y`. -/
theorem fft_ifft_dft1 (M : ℕ) (hM : 0 < M) (y : Fin M → ℂ) (q : Fin M) :
    Fft.dft M (kF M) (ext fun p : Fin M => (M : ℂ)⁻¹ * Fft.dft M (kB M) (ext y) (p : ℕ)) (q : ℕ) = y q :=
  congrFun ((dftPair M hM).F_Finv y) q

/-- Parseval for the DFT specification itself: `Σ_q |fft x q|² = M · Σ_p |x p|²`. -/
theorem parseval_dft1 (M : ℕ) (hM : 0 < M) (x : Fin M → ℂ) :
    nsq (fun q : Fin M => Fft.dft M (kF M) (ext x) (q : ℕ)) = (M : ℝ) * nsq x :=
  (dftPair M hM).nsq_F x

/-- Parseval for `fftn` (`Fft.dft2`): `Σ |fftn x|² = My·Mx · Σ |x|²`. -/
theorem parseval_dft2 (My Mx : ℕ) (hMy : 0 < My) (hMx : 0 < Mx) (x : Fin My × Fin Mx → ℂ) :
    nsq (fun q : Fin My × Fin Mx => Fft.dft2 My Mx (kF My) (kF Mx) (ext2 x) (q.1 : ℕ) (q.2 : ℕ))
      = ((My * Mx : ℕ) : ℝ) * nsq x := by
  have h := (dftPair2 My Mx hMy hMx).nsq_F x
  rw [dftPair2_c] at h
  rw [← h]
  congr 1
  funext q
  exact (dftPair2_F_eq_dft2 My Mx hMy hMx x (fun _ hy _ hx => ext2_of_lt x hy hx) q.1 q.2).symm

end HcipyVerif.NearField
