import Mathlib.Analysis.SpecialFunctions.Log.Basic
import Mathlib.Algebra.Order.Round
import Mathlib.Tactic.LinearCombination
import Mathlib.Tactic.NormNum
import Mathlib.Data.Rat.Cast.Order
import HcipyVerif.Model.Cache
import HcipyVerif.Lemmas.KeyBounds

/-!
# The wavelength part of an instance-cache key, over ℝ

`AgnosticOpticalElement._get_cache_keys` computes
`wavelength_key = int(np.round(np.log(wavelength) / np.log(1 + 1e-9)))`.
The model is `wlKey r b lam = r (log lam / log b)` where `b` is the base (`1 + 1e-9`; the code uses the
*double* nearest to it, hence the theorems are proved for every base in
`[1 + 1e-9/2, 1 + 2e-9]`) and `r : ℝ → ℤ` is any round-to-nearest function (`np.round` breaks ties to
even, Mathlib's `round` breaks them upwards; both satisfy `Nearest`).

Rounding moves the difference of two keys by at most one from `log (λ₂/λ₁) / log b` (`key_sub_log`),
and `1 − 1/x ≤ log x ≤ x − 1` encloses that quotient by the rational expressions the driver evaluates
(`key_diff_bounds_real`).
-/

namespace HcipyVerif.WavelengthKey

/-- `r` returns a nearest integer (any tie-breaking rule). -/
def Nearest (r : ℝ → ℤ) : Prop := ∀ x : ℝ, |x - (r x : ℝ)| ≤ 1 / 2

theorem nearest_round : Nearest (round : ℝ → ℤ) := fun x => abs_sub_round x

/-- `int(round(log(wavelength) / log(base)))`. -/
noncomputable def wlKey (r : ℝ → ℤ) (b lam : ℝ) : ℤ := r (Real.log lam / Real.log b)

/-- Admissible bases: within a factor two of `1e-9` above one (the exact `1 + 1e-9` and its double). -/
def BaseOk (b : ℝ) : Prop := 1 + 1 / (2 * 10 ^ 9) ≤ b ∧ b ≤ 1 + 2 / 10 ^ 9

theorem baseOk_exact : BaseOk (1 + 1 / 10 ^ 9) := by
  constructor <;> norm_num

/-- The double nearest to `1 + 1e-9`, `1 + 4503600·2⁻⁵²`, is an admissible base. -/
theorem base_double_ok : BaseOk (1 + 4503600 / 2 ^ 52) := by
  constructor <;> norm_num

theorem BaseOk.one_lt {b : ℝ} (hb : BaseOk b) : 1 < b := lt_of_lt_of_le (by norm_num) hb.1

theorem nearest_sub_bounds {r : ℝ → ℤ} (hr : Nearest r) (x y : ℝ) :
    y - x - 1 ≤ (r y : ℝ) - (r x : ℝ) ∧ (r y : ℝ) - (r x : ℝ) ≤ y - x + 1 := by
  have hx := abs_le.mp (hr x)
  have hy := abs_le.mp (hr y)
  exact ⟨by linear_combination hy.2 + hx.1, by linear_combination hy.1 + hx.2⟩

theorem key_sub_log {r : ℝ → ℤ} (hr : Nearest r) {b l1 l2 : ℝ} (h1 : 0 < l1) (h2 : 0 < l2) :
    Real.log (l2 / l1) / Real.log b - 1 ≤ (wlKey r b l2 : ℝ) - (wlKey r b l1 : ℝ) ∧
      (wlKey r b l2 : ℝ) - (wlKey r b l1 : ℝ) ≤ Real.log (l2 / l1) / Real.log b + 1 := by
  rw [Real.log_div h2.ne' h1.ne', sub_div]
  exact nearest_sub_bounds hr _ _

theorem log_div_log_bounds {b ρ : ℝ} (hb : 1 < b) (hρ : 1 ≤ ρ) :
    (1 - ρ⁻¹) / (b - 1) ≤ Real.log ρ / Real.log b ∧
      Real.log ρ / Real.log b ≤ (ρ - 1) / (1 - b⁻¹) := by
  have hρ0 : 0 < ρ := one_pos.trans_le hρ
  have hb0 : 0 < b := one_pos.trans hb
  exact ⟨div_le_div₀ (Real.log_nonneg hρ) (Real.one_sub_inv_le_log_of_pos hρ0) (Real.log_pos hb)
      (Real.log_le_sub_one_of_pos hb0),
    div_le_div₀ (sub_nonneg.2 hρ) (Real.log_le_sub_one_of_pos hρ0) (sub_pos.2 (inv_lt_one_of_one_lt₀ hb))
      (Real.one_sub_inv_le_log_of_pos hb0)⟩

theorem key_diff_bounds_real {r : ℝ → ℤ} (hr : Nearest r) {b l1 l2 : ℝ} (hb : 1 < b) (h1 : 0 < l1)
    (hle : l1 ≤ l2) :
    (1 - l1 / l2) / (b - 1) - 1 ≤ (wlKey r b l2 : ℝ) - (wlKey r b l1 : ℝ) ∧
      (wlKey r b l2 : ℝ) - (wlKey r b l1 : ℝ) ≤ (l2 / l1 - 1) / (1 - 1 / b) + 1 := by
  obtain ⟨klo, khi⟩ := key_sub_log hr (b := b) h1 (h1.trans_le hle)
  obtain ⟨lo, hi⟩ := log_div_log_bounds hb ((one_le_div h1).2 hle)
  rw [inv_div] at lo
  rw [one_div]
  exact ⟨(sub_le_sub lo le_rfl).trans klo, khi.trans (add_le_add hi le_rfl)⟩

theorem wavelength_key_separates_base {r : ℝ → ℤ} (hr : Nearest r) {b : ℝ} (hb : BaseOk b)
    {l1 l2 : ℝ} (h1 : 0 < l1) (h : l1 * (1 + 1 / 10 ^ 6) ≤ l2) :
    wlKey r b l1 + 498 ≤ wlKey r b l2 := by
  have hle : l1 ≤ l2 := (le_mul_of_one_le_right h1.le (by norm_num)).trans h
  have lo := (key_diff_bounds_real hr hb.one_lt h1 hle).1
  have h499 : (499 : ℝ) ≤ (1 - l1 / l2) / (b - 1) :=
    le_trans (by norm_num) (diffLo_ge hb.one_lt hb.2 h1 (by norm_num) h)
  have : (wlKey r b l1 : ℝ) + 498 ≤ wlKey r b l2 := by linear_combination lo + h499
  exact_mod_cast this

theorem wavelength_key_stable_base {r : ℝ → ℤ} (hr : Nearest r) {b : ℝ} (hb : BaseOk b)
    {l1 l2 : ℝ} (h1 : 0 < l1) (hle : l1 ≤ l2) (h : l2 ≤ l1 * (1 + 1 / 10 ^ 10)) :
    |wlKey r b l2 - wlKey r b l1| ≤ 1 := by
  obtain ⟨lo, hi⟩ := key_diff_bounds_real hr hb.one_lt h1 hle
  have h0 : 0 ≤ (1 - l1 / l2) / (b - 1) :=
    div_nonneg (sub_nonneg.2 ((div_le_one (h1.trans_le hle)).2 hle)) (sub_pos.2 hb.one_lt).le
  have h4 : (l2 / l1 - 1) / (1 - 1 / b) ≤ 1 / 4 :=
    (diffHi_le hb.1 (by norm_num) h1 (by norm_num) h).trans (by norm_num)
  have : |((wlKey r b l2 - wlKey r b l1 : ℤ) : ℝ)| < 2 := by
    rw [Int.cast_sub]
    exact abs_lt.2 ⟨by linear_combination lo + h0, by linear_combination hi + h4⟩
  exact Int.lt_add_one_iff.1 (by exact_mod_cast this)

theorem wavelength_key_shared_close_base {r : ℝ → ℤ} (hr : Nearest r) {b : ℝ} (hb : 1 < b)
    {l1 l2 : ℝ} (h1 : 0 < l1) (h2 : 0 < l2) (h : wlKey r b l1 = wlKey r b l2) :
    l2 ≤ l1 * b := by
  have lo := (key_sub_log hr (b := b) h1 h2).1
  rw [h, sub_self, sub_nonpos, div_le_one (Real.log_pos hb),
    Real.log_le_log_iff (div_pos h2 h1) (one_pos.trans hb), div_le_iff₀' h1] at lo
  exact lo

open HcipyVerif.Cache in
theorem wlBase_cast : ((wlBase : ℚ) : ℝ) = 1 + 4503600 / 2 ^ 52 := by
  unfold wlBase; push_cast; ring

end HcipyVerif.WavelengthKey
