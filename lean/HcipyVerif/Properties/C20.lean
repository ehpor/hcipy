import HcipyVerif.Lemmas.SchedulerTerm
import HcipyVerif.Lemmas.SchedulerRef

/-!
# C20 — Time evolution fires each scheduled callback once, in order, at its time

All theorems are about `HcipyVerif.Scheduler.loop` / `evolveUntil` (one call) and `runOps` (a whole
history of `add_callback` / `evolve_until` calls), the model of `DynamicOpticalSystem`, for **every**
queue, horizon, callback behaviour `kids`, fuel and history; the model is tied to the code by the
C20 correspondence (harness/props/c20.py drives exactly such histories through Driver/C20.lean).

Clause of the property → theorems
* *order, ties in insertion order*: `fired_sorted`, `fired_nodup`; across `evolve_until`
  boundaries `history_inv` (`.sorted`), with `history_order_needs_horizon` showing its hypothesis
  cannot be weakened to "not before the clock".
* *exactly once* — membership form: `queued_fired_or_pending`, `kids_fired`, `fired_origin`;
  counting form: `conservation_perm` (executed ++ queued is a permutation of initial ++ spawned),
  `conservation_count`, `conservation_ctr`, `evolveUntil_conservation` (all hypothesis-free),
  `exactly_once_count` (multiplicity exactly 1 / still queued); whole histories:
  `history_conservation`, `history_origin`, `history_exactly_once`.
* *clock equals the callback's time up to coalescing*: `clock_at_callback`, `history_inv` (`.clock`).
* *callbacks may schedule callbacks / re-insert themselves; termination*: `kids_fired`,
  `terminates_without_reinsertion`, `terminates_of_weight` (general potential argument),
  `terminates_if_progress` (children ≥ δ later, at most B of them; explicit fuel),
  `terminates_if_progress_single` (B = 1: fuel > Σ ⌈(T - time)/δ⌉), `terminates_if_progress_bound`,
  `evolveUntil_terminates_if_progress`.
* *intervals tile the elapsed time without gaps or overlap*: `loop_clock` (sum of dt),
  `trace_consistent`, `intervals_tile` (first starts at the initial clock, last ends at the final
  clock, consecutive abut, each > eps, every instant covered exactly once),
  `callbacks_at_boundaries`, `tiling_reaches_target`, `evolveUntil_tiling`; whole histories: `history_conservation`.
* *the clock ends at T*: `loop_clock`, `evolveUntil_spec`, `history_inv` (`.t_le`, `.lag`); exactly:
  `final_clock_exact`, `final_clock_eq_target_iff`, `final_clock_below_target_possible`,
  `loop_clock_end_any`, `clock_lag_any`.
* *backwards is refused*: `backwards_refused`, `forwards_not_refused`, `history_backwards_noop`.
* *whether or not callbacks remain queued*: `empty_queue_ok`, `empty_queue_exact`.

Beyond the clauses: fuel independence (`loop_fuel_mono`, `runOps_fuel_mono`,
`runOps_fuel_irrelevant`); exactly once for every history, only `InvQ` (`history_invQ`,
`history_call_exactly_once`, `history_evolve_exactly_once`); divergence and necessity of `WF`
(`diverges_zero_delay_reinsertion`, `order_needs_wf`); termination of histories
(`history_terminates_if_progress`); the threshold as a double (`eps_decimal_bridge`);
callbacks that read the clock — `loopC`/`stepOpC`/`runOpsC` are runs of `loop`/`stepOp`/`runOps`
(`loopC_exists_kids`, `loopC_transfer`, `loopC_eq_loop_table`, `runOpsC_eq_runOps`); the hypotheses
decided by the driver (`addsFromB_spec`, `noFuelOutB_spec`, `sortedB_spec`).

The variants of Model/SchedulerRef.lean: times are stored by value — the reference machine
`stepG`/`runG` over World = system + caller cells (`stored_by_value`, `mutation_irrelevant`,
`Bad.byReference_counterexample`); a callback that raises and a caller that resumes
(`interrupted_resume`, `evolveUntil_interrupted_resume`, `interrupted_entry_lost`); totality with an
explicit fuel for progressing systems (`evolve_total_of_progress`, `evolve_total_of_progress_single`,
`evolveUntil_spec_total`: the fuel-parameterised statement for the real unbounded loop);
re-entrant callbacks (`reentrant_*`), raising with clock-reading callbacks
(`raise_eq_fuel_out_clock`), the zero-delay DAG class (`terminates_if_dag`).

Statements about a run are proved by induction on `Runs` (Lemmas/SchedulerLoop.lean; `loop_runs`),
invariants of a history along `history_induction` (Lemmas/SchedulerHist.lean).

Hypotheses used (each has a satisfiability `example` in this file):
* `Inv s`   — the queue is what `add_callback` builds (sorted, counters unique and below the
              next counter) and nothing is scheduled before the current clock;
* `WF kids` — a callback schedules further callbacks no earlier than its own time;
* progress  — `∀ e c ∈ kids e, e.time + δ ≤ c.1` with `0 < δ`, and `(kids e).length ≤ B`;
* `AddsFrom (·.hz) kids fuel ops` — every `add_callback` of a history is for a time not before the
              largest target an accepted `evolve_until` was given so far (`(·.s.t)`: the clock);
* `NoFuelOut kids fuel ops` — every `evolve_until` of the history returns;
* `InvQ s`  — `Inv` without "nothing before the clock": reached by every history (`history_invQ`).
-/

namespace HcipyVerif.Scheduler

/-- **Invariant preservation, tiling of the elapsed time, and the final clock.**
the integration intervals add up to exactly the clock advance (see `intervals_tile` for the
explicit tiling); the clock ends within the coalescing threshold below `T`;
the queue left behind holds only entries at or beyond the horizon. -/
theorem loop_clock {kids : Entry → List (Rat × Nat)} (hk : WF kids) (T : Rat) (fuel : Nat) (s : Sys)
    (hi : Inv s) (hT : s.t ≤ T) (hok : (loop kids T fuel s).status = .ok) :
    Inv (loop kids T fuel s).s ∧
    sumDt (loop kids T fuel s).trace = (loop kids T fuel s).s.t - s.t ∧
    (loop kids T fuel s).s.t ≤ T ∧ T - (loop kids T fuel s).s.t ≤ eps ∧
    (∀ q ∈ (loop kids T fuel s).s.queue, T ≤ q.time) :=
  have h := loop_runs kids T fuel s
  ⟨h.inv hk hi hT, h.consistent.sumDt_eq, (h.clock_end hT).1, (h.clock_end hT).2 hok, h.queue_ge hi.toQ hok⟩

/-- **The clock when a callback runs**: every executed callback was scheduled strictly before
the horizon and runs with the clock at most `eps` behind its time (never ahead of it). -/
theorem clock_at_callback {kids : Entry → List (Rat × Nat)} (hk : WF kids) (T : Rat) (fuel : Nat)
    (s : Sys) (hi : Inv s) :
    ∀ e clk, Event.fire e clk ∈ (loop kids T fuel s).trace →
      clk ≤ e.time ∧ e.time - clk ≤ eps ∧ e.time < T :=
  fun e clk h => ⟨(loop_runs kids T fuel s).fire_clock_le hk hi e clk h, (loop_runs kids T fuel s).fire_lag e clk h⟩

theorem fired_lower_bound {kids : Entry → List (Rat × Nat)} (hk : WF kids) (T : Rat) (fuel : Nat)
    (s : Sys) (hi : InvQ s) (b : Entry) (hb : Below b s) :
    ∀ f ∈ fired (loop kids T fuel s).trace, b.lt f :=
  ((loop_runs kids T fuel s).sorted hk hi).2 b hb

/-- **Order**: the executed callbacks are strictly increasing in `(time, insertion number)`:
non-decreasing time, ties in insertion order — and therefore no callback runs twice.  Needs only
the queue invariant `InvQ` (every history reaches it, `history_invQ`: entries may lie in the past)
and `WF` (which is necessary: `order_needs_wf`). -/
theorem fired_sorted {kids : Entry → List (Rat × Nat)} (hk : WF kids) (T : Rat) (fuel : Nat)
    (s : Sys) (hi : InvQ s) : Sorted (fired (loop kids T fuel s).trace) :=
  ((loop_runs kids T fuel s).sorted hk hi).1

/-- **No callback runs twice** — whatever the callbacks schedule (no `WF`), from any state a history
can reach (`InvQ`), whatever the status. -/
theorem fired_nodup (kids : Entry → List (Rat × Nat)) (T : Rat) (fuel : Nat)
    (s : Sys) (hi : InvQ s) : (fired (loop kids T fuel s).trace).Nodup :=
  (loop_runs kids T fuel s).fired_nodup hi

/-- **Exactly once, part 1 (nothing is lost)**: every queued entry due before the horizon is
executed; every queued entry due at or after the horizon is still queued afterwards.  Hypotheses:
only the queue invariant `InvQ` (which every history reaches, `history_invQ`) and that the call
returns — no `WF`, nothing about entries lying in the past, nothing about the clock. -/
theorem queued_fired_or_pending (kids : Entry → List (Rat × Nat)) (T : Rat)
    (fuel : Nat) (s : Sys) (hi : InvQ s) (hok : (loop kids T fuel s).status = .ok) :
    ∀ q ∈ s.queue, (q.time < T → q ∈ fired (loop kids T fuel s).trace) ∧
      (T ≤ q.time → q ∈ (loop kids T fuel s).s.queue) :=
  (loop_runs kids T fuel s).queued_fired_or_pending hi hok

/-- **Exactly once, part 2 (callbacks may schedule callbacks)**: a callback scheduled *by an
executed callback* for a time before the horizon — be it earlier than the parent's own time — is
executed too, later in the run than its parent (`[e, f]` is a sublist of the executed list) and
with a later insertion number.  Hypotheses: `InvQ` and that the call returns. -/
theorem kids_fired (kids : Entry → List (Rat × Nat)) (T : Rat)
    (fuel : Nat) (s : Sys) (hi : InvQ s) (hok : (loop kids T fuel s).status = .ok) :
    ∀ e ∈ fired (loop kids T fuel s).trace, ∀ c ∈ kids e, c.1 < T →
      ∃ f ∈ fired (loop kids T fuel s).trace, f.time = c.1 ∧ f.id = c.2 ∧ e.ctr < f.ctr ∧
        [e, f].Sublist (fired (loop kids T fuel s).trace) := by
  have h := loop_runs kids T fuel s
  generalize loop kids T fuel s = r at h hok ⊢
  induction h with
  | zero => cases hok
  | stop => rw [advance_fired]; exact List.forall_mem_nil _
  | @step _ s e rest _ hq _ h ih =>
    have hi' := next_invQ (kids := kids) hi hq
    simp only [fired_fire, List.mem_cons]
    rintro e' (rfl | he') c hc hcT
    · -- the child was inserted into the queue the loop continues with
      obtain ⟨q, hqm, h1, h2, h3⟩ := mem_addAll_of_kid (s := popped s e' rest) hc
      have hf := (h.queued_fired_or_pending hi' hok q hqm).1 (h1 ▸ hcT)
      rw [popped_ctr] at h3
      exact ⟨q, Or.inr hf, h1, h2, lt_of_lt_of_le (hi.pop hq).2.1 h3,
        List.Sublist.cons_cons _ (List.singleton_sublist.mpr hf)⟩
    · obtain ⟨f, hf, h1, h2, h3, h4⟩ := ih hi' hok e' he' c hc hcT
      exact ⟨f, Or.inr hf, h1, h2, h3, List.Sublist.cons _ h4⟩

/-- With `WF` (children not before their parent's time) the child also comes after its parent in
the `(time, counter)` order. -/
theorem kids_fired_later {kids : Entry → List (Rat × Nat)} (hk : WF kids) (T : Rat)
    (fuel : Nat) (s : Sys) (hi : InvQ s) (hok : (loop kids T fuel s).status = .ok) :
    ∀ e ∈ fired (loop kids T fuel s).trace, ∀ c ∈ kids e, c.1 < T →
      ∃ f ∈ fired (loop kids T fuel s).trace, f.time = c.1 ∧ f.id = c.2 ∧ e.lt f := by
  intro e he c hc hcT
  obtain ⟨f, hf, h1, h2, h3, -⟩ := kids_fired kids T fuel s hi hok e he c hc hcT
  exact ⟨f, hf, h1, h2, Entry.lt_of_le_of_ctr (h1 ▸ hk e c hc) h3⟩

/-- **Exactly once, part 3 (nothing is invented)**: whatever is executed was queued at the start
or was scheduled by an executed callback. -/
theorem fired_origin {kids : Entry → List (Rat × Nat)} (T : Rat) (fuel : Nat) (s : Sys) :
    ∀ f ∈ fired (loop kids T fuel s).trace,
      f ∈ s.queue ∨ ∃ e ∈ fired (loop kids T fuel s).trace, (f.time, f.id) ∈ kids e :=
  fun _ hf => (List.mem_append.mp ((loop_runs kids T fuel s).perm.subset (List.mem_append_left _ hf))).imp_right
    fun h => (mem_spawned h).1

/-- **Moving backwards is refused**, nothing is integrated or executed, and the state (clock,
queue, counter) is left untouched. -/
theorem backwards_refused (kids : Entry → List (Rat × Nat)) (fuel : Nat) (s : Sys) (T : Rat)
    (h : T < s.t) : (evolveUntil kids fuel s T).status = .backwards ∧
      (evolveUntil kids fuel s T).trace = [] ∧ (evolveUntil kids fuel s T).s = s := by
  rw [evolveUntil_backwards h]; exact ⟨rfl, rfl, rfl⟩

/-- … and conversely a call that is not backwards is never refused. -/
theorem forwards_not_refused (kids : Entry → List (Rat × Nat)) (fuel : Nat) (s : Sys) (T : Rat)
    (h : s.t ≤ T) : (evolveUntil kids fuel s T).status ≠ .backwards := by
  rw [evolveUntil_forward h]
  exact (loop_runs kids T fuel s).not_backwards

/-- **No callbacks queued**: the evolution still succeeds and is a single integration (or none,
below the threshold) — for every positive fuel. -/
theorem empty_queue_ok (kids : Entry → List (Rat × Nat)) (fuel : Nat) (s : Sys) (T : Rat)
    (hq : s.queue = []) (hT : s.t ≤ T) :
    (evolveUntil kids (fuel + 1) s T).status = .ok ∧
    (evolveUntil kids (fuel + 1) s T).s.t ≤ T ∧ T - (evolveUntil kids (fuel + 1) s T).s.t ≤ eps := by
  rw [evolveUntil_forward hT, loop_stop (by rw [hq]; nofun)]
  exact ⟨rfl, advance_lag s T hT⟩

/-- **Termination**: if callbacks schedule nothing, `queue.length + 1` iterations suffice. -/
theorem terminates_without_reinsertion (T : Rat) (s : Sys) :
    ∀ fuel, s.queue.length < fuel → (loop (fun _ => []) T fuel s).status = .ok := by
  intro fuel h
  refine (loop_runs (fun _ => []) T fuel s).terminates_of_weight (fun _ => 1) (fun _ _ _ => Nat.one_pos) ?_
  simpa [potential] using h

/-- The whole statement for `evolve_until` from a state built by `add_callback`s. -/
theorem evolveUntil_spec {kids : Entry → List (Rat × Nat)} (hk : WF kids) (T : Rat) (fuel : Nat)
    (s : Sys) (hi : Inv s) (hT : s.t ≤ T) (hok : (evolveUntil kids fuel s T).status = .ok) :
    let r := evolveUntil kids fuel s T
    Inv r.s ∧ sumDt r.trace = r.s.t - s.t ∧ r.s.t ≤ T ∧ T - r.s.t ≤ eps ∧
    (∀ q ∈ r.s.queue, T ≤ q.time) ∧ Sorted (fired r.trace) ∧
    (∀ e clk, Event.fire e clk ∈ r.trace → clk ≤ e.time ∧ e.time - clk ≤ eps ∧ e.time < T) ∧
    (∀ q ∈ s.queue, (q.time < T → q ∈ fired r.trace) ∧ (T ≤ q.time → q ∈ r.s.queue)) := by
  simp only [evolveUntil_forward hT] at hok ⊢
  obtain ⟨h1, h2, h3, h4, h5⟩ := loop_clock hk T fuel s hi hT hok
  exact ⟨h1, h2, h3, h4, h5, fired_sorted hk T fuel s hi.toQ, clock_at_callback hk T fuel s hi,
    queued_fired_or_pending kids T fuel s hi.toQ hok⟩

/-! ### Conservation: "exactly once" as counting -/

/-- **Conservation as a permutation** (no hypothesis: any queue, callbacks, fuel, status).  The
executed callbacks together with the queue left behind are a rearrangement of the initial queue
together with `spawned`, the entries the executed callbacks created (with the counters the model
hands out).  Nothing is duplicated, dropped or invented. -/
theorem conservation_perm (kids : Entry → List (Rat × Nat)) (T : Rat) (fuel : Nat) (s : Sys) :
    (fired (loop kids T fuel s).trace ++ (loop kids T fuel s).s.queue).Perm
      (s.queue ++ spawned kids s.ctr (fired (loop kids T fuel s).trace)) :=
  (loop_runs kids T fuel s).perm

/-- **Conservation as counting**: #executed + #still queued = #initially queued + #children
scheduled by the executed callbacks (no hypothesis, any status). -/
theorem conservation_count (kids : Entry → List (Rat × Nat)) (T : Rat) (fuel : Nat) (s : Sys) :
    (fired (loop kids T fuel s).trace).length + (loop kids T fuel s).s.queue.length =
      s.queue.length + ((fired (loop kids T fuel s).trace).map (fun e => (kids e).length)).sum := by
  have := (loop_runs kids T fuel s).perm.length_eq
  rwa [List.length_append, List.length_append, spawned_length] at this

/-- The insertion counter advances by exactly the number of children scheduled (no hypothesis). -/
theorem conservation_ctr (kids : Entry → List (Rat × Nat)) (T : Rat) (fuel : Nat) (s : Sys) :
    (loop kids T fuel s).s.ctr =
      s.ctr + ((fired (loop kids T fuel s).trace).map (fun e => (kids e).length)).sum :=
  (loop_runs kids T fuel s).ctr

/-- The same three statements for `evolve_until` itself, whatever its status (a refused backwards
call executes nothing and leaves queue and counter alone). -/
theorem evolveUntil_conservation (kids : Entry → List (Rat × Nat)) (fuel : Nat) (s : Sys) (T : Rat) :
    let r := evolveUntil kids fuel s T
    (fired r.trace ++ r.s.queue).Perm (s.queue ++ spawned kids s.ctr (fired r.trace)) ∧
    (fired r.trace).length + r.s.queue.length =
      s.queue.length + ((fired r.trace).map (fun e => (kids e).length)).sum ∧
    r.s.ctr = s.ctr + ((fired r.trace).map (fun e => (kids e).length)).sum := by
  rcases lt_or_ge T s.t with h | h
  · simp [evolveUntil_backwards h, fired, spawned]
  · simp only [evolveUntil_forward h]
    exact ⟨conservation_perm kids T fuel s, conservation_count kids T fuel s,
      conservation_ctr kids T fuel s⟩

/-- **Exactly once, as multiplicities.**  Of all entries that ever existed during the evolution
(queued at the start or created by an executed callback), each one due before the horizon was
executed with multiplicity exactly one and is no longer queued; each one due at or after the
horizon is still queued and was not executed.  Hypotheses: only `InvQ` (reached by every history,
`history_invQ`) and that the call returns — `WF`, "nothing queued in the past" and `s.t ≤ T` are
not needed. -/
theorem exactly_once_count (kids : Entry → List (Rat × Nat)) (T : Rat) (fuel : Nat)
    (s : Sys) (hi : InvQ s) (hok : (loop kids T fuel s).status = .ok) :
    ∀ c ∈ s.queue ++ spawned kids s.ctr (fired (loop kids T fuel s).trace),
      (c.time < T → (fired (loop kids T fuel s).trace).count c = 1 ∧ c ∉ (loop kids T fuel s).s.queue) ∧
      (T ≤ c.time → c ∈ (loop kids T fuel s).s.queue ∧ (fired (loop kids T fuel s).trace).count c = 0) :=
  have h := loop_runs kids T fuel s
  fun _ hc => exactly_once_of_nodup (h.fresh hi).1 h.fired_lt_horizon (h.queue_ge hi hok) (h.perm.mem_iff.mpr hc)

/-! ### Termination with progress: callbacks that re-insert themselves -/

/-- **Termination from a weight** (the general principle).  If each callback due before the horizon
schedules children whose total weight is strictly below its own, then every fuel above the weight of
the queue suffices.  No invariant needed. -/
theorem terminates_of_weight {kids : Entry → List (Rat × Nat)} {T : Rat} (w : Entry → Nat)
    (hw : ∀ e c, e.time < T → potential w (mkEntries c (kids e)) < w e) (s : Sys) :
    ∀ fuel, potential w s.queue < fuel → (loop kids T fuel s).status = .ok :=
  fun fuel => (loop_runs kids T fuel s).terminates_of_weight w hw

/-- **Termination with progress.**  If every callback due before the horizon schedules its children
at least `δ > 0` later than itself, and at most `B` of them, the loop ends normally for every fuel
above the potential `Σ_{q queued} (1 + B + … + B^(n_q - 1))`, `n_q = ⌈(T - q.time)/δ⌉` as a natural
number (`0` at or beyond the horizon): an executed callback of level `n ≥ 1` is replaced by at most
`B` callbacks of level at most `n - 1`. -/
theorem terminates_if_progress {kids : Entry → List (Rat × Nat)} {δ T : Rat} {B : Nat} (hδ : 0 < δ)
    (hprog : ∀ e, e.time < T → ∀ c ∈ kids e, e.time + δ ≤ c.1)
    (hB : ∀ e, e.time < T → (kids e).length ≤ B) (s : Sys) :
    ∀ fuel, (s.queue.map (fun q => geom B ⌈(T - q.time) / δ⌉₊)).sum < fuel →
      (loop kids T fuel s).status = .ok :=
  fun fuel => (loop_runs kids T fuel s).terminates_of_weight (fun q => geom B (level δ T q.time))
    (progress_weight hδ hprog hB)

/-- **Self-re-insertion** (`B = 1`): each callback schedules at most one child, at least `δ` later.
Then `Σ_{q queued} ⌈(T - q.time)/δ⌉ + 1` iterations suffice. -/
theorem terminates_if_progress_single {kids : Entry → List (Rat × Nat)} {δ T : Rat} (hδ : 0 < δ)
    (hprog : ∀ e, e.time < T → ∀ c ∈ kids e, e.time + δ ≤ c.1)
    (h1 : ∀ e, e.time < T → (kids e).length ≤ 1) (s : Sys) :
    ∀ fuel, (s.queue.map (fun q => ⌈(T - q.time) / δ⌉₊)).sum < fuel →
      (loop kids T fuel s).status = .ok := by
  intro fuel hf
  apply terminates_if_progress hδ hprog h1 s fuel
  simpa only [geom_one] using hf

/-- A bound that does not look into the queue: with the invariant (nothing queued before the clock)
`queue.length · (1 + B + … + B^(n-1))`, `n = ⌈(T - t)/δ⌉`, is enough fuel. -/
theorem terminates_if_progress_bound {kids : Entry → List (Rat × Nat)} {δ T : Rat} {B : Nat}
    (hδ : 0 < δ) (hprog : ∀ e, e.time < T → ∀ c ∈ kids e, e.time + δ ≤ c.1)
    (hB : ∀ e, e.time < T → (kids e).length ≤ B) (s : Sys) (hi : Inv s) :
    ∀ fuel, s.queue.length * geom B ⌈(T - s.t) / δ⌉₊ < fuel → (loop kids T fuel s).status = .ok :=
  fun fuel hf => terminates_if_progress hδ hprog hB s fuel <| lt_of_le_of_lt
    (potential_le_length_mul (fun q => geom B (level δ T q.time)) _ _ fun q hq =>
      geom_mono B (level_anti hδ (hi.future q hq))) hf

/-- `evolve_until` returns normally under the progress hypothesis. -/
theorem evolveUntil_terminates_if_progress {kids : Entry → List (Rat × Nat)} {δ T : Rat} {B : Nat}
    (hδ : 0 < δ) (hprog : ∀ e, e.time < T → ∀ c ∈ kids e, e.time + δ ≤ c.1)
    (hB : ∀ e, e.time < T → (kids e).length ≤ B) (s : Sys) (hT : s.t ≤ T) :
    ∀ fuel, (s.queue.map (fun q => geom B ⌈(T - q.time) / δ⌉₊)).sum < fuel →
      (evolveUntil kids fuel s T).status = .ok := by
  intro fuel hf
  rw [evolveUntil_forward hT]
  exact terminates_if_progress hδ hprog hB s fuel hf

/-! ### Tiling: the integration intervals, explicitly -/

/-- **The trace is clock-consistent** (no hypothesis, any status): replaying it from the initial
clock, every integration is longer than `eps`, every callback saw exactly the running clock, and
the replay ends at the final clock. -/
theorem trace_consistent (kids : Entry → List (Rat × Nat)) (T : Rat) (fuel : Nat) (s : Sys) :
    Consistent s.t (loop kids T fuel s).trace (loop kids T fuel s).s.t :=
  (loop_runs kids T fuel s).consistent

/-- **The integration intervals tile the elapsed time** — spelled out.  With
`l = intervals s.t trace` (interval `k` is `(start, end)`):
the first starts at the initial clock, the last ends at the final clock (no interval at all iff
the clock did not move), consecutive intervals abut, each is longer than `eps`, and every instant
of `[initial clock, final clock)` lies in exactly one interval `[start, end)` while an instant
outside lies in none (no gap, no overlap).  No hypothesis, any status. -/
theorem intervals_tile (kids : Entry → List (Rat × Nat)) (T : Rat) (fuel : Nat) (s : Sys) :
    let r := loop kids T fuel s
    let l := intervals s.t r.trace
    (∀ p ∈ l.head?, p.1 = s.t) ∧ (∀ p ∈ l.getLast?, p.2 = r.s.t) ∧ (l = [] → r.s.t = s.t) ∧
    (∀ i (hi : i + 1 < l.length), (l[i]'(by omega)).2 = (l[i + 1]).1) ∧
    (∀ p ∈ l, eps < p.2 - p.1) ∧
    (∀ τ, l.countP (fun p => decide (p.1 ≤ τ ∧ τ < p.2)) = if s.t ≤ τ ∧ τ < r.s.t then 1 else 0) := by
  intro r l
  have h : Tiles s.t r.s.t l := (loop_runs kids T fuel s).consistent.tiles
  exact ⟨h.head, h.last, fun hl => (Tiles.nil_iff.mp (hl ▸ h)).symm, h.abut, h.long, h.cover_once⟩

/-- **Callbacks run at interval boundaries**: for every callback occurrence in the trace, the clock
it saw is the initial clock plus everything integrated before it, and the intervals before it tile
exactly `[initial clock, that clock]`. -/
theorem callbacks_at_boundaries (kids : Entry → List (Rat × Nat)) (T : Rat) (fuel : Nat) (s : Sys)
    (pre post : List Event) (e : Entry) (clk : Rat)
    (hs : (loop kids T fuel s).trace = pre ++ Event.fire e clk :: post) :
    clk = s.t + sumDt pre ∧ Tiles s.t clk (intervals s.t pre) ∧
    intervals s.t (loop kids T fuel s).trace = intervals s.t pre ++ intervals clk post := by
  -- the trace replayed up to the callback, and from it on: it saw the clock the first part ends with
  obtain ⟨h1, h2⟩ := Consistent.append_iff.mp (hs ▸ (loop_runs kids T fuel s).consistent)
  have hc : clk = s.t + sumDt pre := h2.1
  refine ⟨hc, hc ▸ h1.tiles, ?_⟩
  rw [hs, intervals_append, hc]; rfl

/-- With status ok the tiling reaches the target up to the threshold: the union of the intervals is
`[s.t, t')` with `T - eps ≤ t' ≤ T`. -/
theorem tiling_reaches_target {kids : Entry → List (Rat × Nat)} (hk : WF kids) (T : Rat) (fuel : Nat)
    (s : Sys) (hi : Inv s) (hT : s.t ≤ T) (hok : (loop kids T fuel s).status = .ok) :
    Tiles s.t (loop kids T fuel s).s.t (intervals s.t (loop kids T fuel s).trace) ∧
    (loop kids T fuel s).s.t ≤ T ∧ T - (loop kids T fuel s).s.t ≤ eps := by
  obtain ⟨-, -, h3, h4, -⟩ := loop_clock hk T fuel s hi hT hok
  exact ⟨(loop_runs kids T fuel s).consistent.tiles, h3, h4⟩

/-- The tiling statements for `evolve_until` itself, whatever its status (a refused backwards call
integrates nothing and leaves the clock alone). -/
theorem evolveUntil_tiling (kids : Entry → List (Rat × Nat)) (fuel : Nat) (s : Sys) (T : Rat) :
    let r := evolveUntil kids fuel s T
    Consistent s.t r.trace r.s.t ∧ Tiles s.t r.s.t (intervals s.t r.trace) ∧
    sumDt r.trace = r.s.t - s.t := by
  intro r
  have h : Consistent s.t r.trace r.s.t := by
    rcases lt_or_ge T s.t with hT | hT
    · simp only [r, evolveUntil_backwards hT]; rfl
    · simp only [r, evolveUntil_forward hT]; exact (loop_runs kids T fuel s).consistent
  exact ⟨h, h.tiles, h.sumDt_eq⟩

/-! ### Histories: repeated `evolve_until` with `add_callback` in between -/

/-- **A refused backwards call is a no-op on the whole history.** -/
theorem history_backwards_noop (kids : Entry → List (Rat × Nat)) (fuel : Nat) (h : Hist) (T : Rat)
    (hT : T < h.s.t) : stepOp kids fuel h (.evolve T) = h ∧
      (evolveUntil kids fuel h.s T).status = .backwards :=
  ⟨stepOp_backwards kids fuel h T hT, (backwards_refused kids fuel h.s T hT).1⟩

/-- **History-level conservation, counters and tiling** — for *every* list of interface calls, no
hypothesis.  After running `ops` from the fresh system:
executed + queued is a rearrangement of everything ever created; the created entries carry the
counters `0 … ctr-1` in creation order (so no two share one); nothing ran twice and nothing that ran
is still queued; and the concatenated event trace of all evolutions is clock-consistent from time
`0` to the current clock, so its intervals tile `[0, clock)`. -/
theorem history_conservation (kids : Entry → List (Rat × Nat)) (fuel : Nat) (ops : List Op) :
    let H := runOps kids fuel hinit ops
    (fired H.trace ++ H.s.queue).Perm H.created ∧
    H.created.map (·.ctr) = List.range H.s.ctr ∧
    (fired H.trace ++ H.s.queue).Nodup ∧
    Consistent 0 H.trace H.s.t ∧ Tiles 0 H.s.t (intervals 0 H.trace) := by
  intro H
  have hc := hcons_run kids fuel ops
  exact ⟨hc.perm, hc.ctrs, hc.nodup, hc.tiles, hc.tiles.tiles⟩

/-- **Where the created entries come from**: each stems from an `add_callback` of the history or is a
child of an executed callback; each `add_callback` of the history and each child of an executed
callback has its entry. -/
theorem history_origin (kids : Entry → List (Rat × Nat)) (fuel : Nat) (ops : List Op) :
    let H := runOps kids fuel hinit ops
    (∀ c ∈ H.created, Op.add c.time c.id ∈ ops ∨ ∃ e ∈ fired H.trace, (c.time, c.id) ∈ kids e) ∧
    (∀ t id, Op.add t id ∈ ops → ∃ c ∈ H.created, c.time = t ∧ c.id = id) ∧
    (∀ e ∈ fired H.trace, ∀ k ∈ kids e, ∃ c ∈ H.created, c.time = k.1 ∧ c.id = k.2) := by
  intro H
  -- `k` is what some created entry was created for iff it was added or is a child of an executed callback
  have h : ∀ k : Rat × Nat, (∃ c ∈ H.created, c.time = k.1 ∧ c.id = k.2) ↔
      Op.add k.1 k.2 ∈ ops ∨ ∃ e ∈ fired H.trace, k ∈ kids e := fun k => by
    -- the two components say `c.key = k`; the keys of the created entries are known as a list (`created_keys`)
    refine (exists_congr fun c => and_congr_right fun _ => (Prod.ext_iff (x := c.key)).symm).trans ?_
    rw [← List.mem_map, (created_keys kids fuel ops).mem_iff, List.mem_append, List.mem_flatMap, List.mem_flatMap]
    simp only [Op.mem_added, exists_eq_right]; rfl
  exact ⟨fun c hc => (h c.key).mp ⟨c, hc, rfl, rfl⟩, fun t id ho => (h (t, id)).mpr (.inl ho),
    fun e he k hk => (h k).mpr (.inr ⟨e, he, hk⟩)⟩

/-- one `add_callback` not before the time evolved to preserves the history invariant -/
theorem history_step_add {kids : Entry → List (Rat × Nat)} {fuel : Nat} {h : Hist} (hi : HInv h)
    (t : Rat) (id : Nat) (ht : h.hz ≤ t) : HInv (stepOp kids fuel h (.add t id)) := by
  rw [stepOp_add]
  exact ⟨inv_addCallback hi.inv t id (le_trans hi.t_le ht), hi.t_le, hi.lag,
    forall_mem_insert.mpr ⟨ht, hi.pending⟩, hi.sorted,
    fun f hf => ⟨(hi.below f hf).1, Nat.lt_succ_of_lt (hi.below f hf).2⟩, hi.clock⟩

/-- one `evolve_until` (any target: backwards is refused, a target inside the stretch already
covered does nothing, a later target evolves) preserves the history invariant -/
theorem history_step_evolve {kids : Entry → List (Rat × Nat)} (hk : WF kids) {fuel : Nat} {h : Hist}
    (hi : HInv h) (T : Rat) (hf : (evolveUntil kids fuel h.s T).status ≠ .outOfFuel) :
    HInv (stepOp kids fuel h (.evolve T)) := by
  rcases lt_or_ge T h.s.t with hT | hT
  · rw [stepOp_backwards kids fuel h T hT]; exact hi
  · rw [evolveUntil_forward hT] at hf
    have hr := loop_runs kids T fuel h.s
    have hok := hr.status.resolve_right hf
    rw [stepOp_forward kids fuel h T hT]
    by_cases hz : h.hz < T
    · obtain ⟨g1, -, g3, g4, g5⟩ := loop_clock hk T fuel h.s hi.inv hT hok
      rw [if_pos hz]
      refine ⟨g1, g3, g4, g5, ?_, ?_, ?_⟩
      · -- everything executed earlier is below everything queued now (`pending`), so this evolution
        -- continues the sorted list
        rw [fired_append]
        obtain ⟨h1, h2⟩ := hr.sorted hk hi.inv.toQ
        exact List.pairwise_append.mpr ⟨hi.sorted, h1, fun f hf => h2 f
          ⟨fun q hq => Or.inl (lt_of_lt_of_le (hi.below f hf).1 (hi.pending q hq)), (hi.below f hf).2⟩⟩
      · intro f hf
        rw [fired_append] at hf
        rcases List.mem_append.mp hf with hf | hf
        · exact ⟨lt_trans (hi.below f hf).1 hz, by rw [hr.ctr]; exact Nat.lt_add_right _ (hi.below f hf).2⟩
        · exact ⟨hr.fired_lt_horizon f hf, (hr.fresh hi.inv.toQ).2.1 f (List.mem_append_left _ hf)⟩
      · intro e clk hm
        rcases List.mem_append.mp hm with hm | hm
        · exact hi.clock e clk hm
        · exact ⟨hr.fire_clock_le hk hi.inv e clk hm, (hr.fire_lag e clk hm).1⟩
    · -- a target inside the stretch already covered: nothing is due, nothing is bridged
      have hz' : T ≤ h.hz := not_lt.mp hz
      cases fuel with
      | zero => cases hok
      | succ n =>
        rw [loop_idle kids T n h.s (fun q hq => le_trans hz' (hi.pending q hq))
          ((sub_le_sub_right hz' _).trans hi.lag)]
        simp only [hz, fired, spawned, List.append_nil]
        exact hi

/-- **The history theorem.**  Run any list of interface calls from the fresh system, where every
`add_callback` is for a time not before the time the system has already been evolved to
(`AddsFrom (·.hz)`; backwards `evolve_until` calls may occur anywhere — they are refused and change
nothing) and every `evolve_until` returns (`NoFuelOut`).  Then, with `hz` the largest accepted target:
the queue invariant holds; the clock is within `eps` below `hz`; every queued entry is due at or after
`hz`; the callbacks executed *over all evolutions, concatenated,* ran in strict `(time, counter)`
order — non-decreasing time, ties in insertion order, across `evolve_until` boundaries; each was due
strictly before `hz`; each ran with the clock at most `eps` behind its time. -/
theorem history_inv {kids : Entry → List (Rat × Nat)} (hk : WF kids) (fuel : Nat) (ops : List Op)
    (ha : AddsFrom (·.hz) kids fuel ops) (hf : NoFuelOut kids fuel ops) :
    HInv (runOps kids fuel hinit ops) :=
  history_induction (C := fun h op => AddOk (·.hz) h op ∧ EvolveOk kids fuel h op) hinv_init
    (fun _ t id ih hc => history_step_add ih t id hc.1)
    (fun _ T ih hc _ => history_step_evolve hk ih T hc.2)
    fun pre op post he => ⟨addsFrom_iff.mp ha pre op post he, noFuelOut_iff.mp hf pre op post he⟩

/-- **Exactly once over a whole history.**  Under the hypotheses of `history_inv`, of all entries
ever created (by `add_callback` calls or by executed callbacks): each one due before the final
target `hz` has been executed with multiplicity exactly one over all evolutions and is not queued;
each one due at or after `hz` is queued and has not been executed. -/
theorem history_exactly_once {kids : Entry → List (Rat × Nat)} (hk : WF kids) (fuel : Nat)
    (ops : List Op) (ha : AddsFrom (·.hz) kids fuel ops) (hf : NoFuelOut kids fuel ops) :
    let H := runOps kids fuel hinit ops
    ∀ c ∈ H.created,
      (c.time < H.hz → (fired H.trace).count c = 1 ∧ c ∉ H.s.queue) ∧
      (H.hz ≤ c.time → c ∈ H.s.queue ∧ (fired H.trace).count c = 0) := by
  intro H c hc
  have hi : HInv H := history_inv hk fuel ops ha hf
  have hcons : HCons H := hcons_run kids fuel ops
  exact exactly_once_of_nodup hcons.nodup (fun f hf => (hi.below f hf).1) hi.pending
    (hcons.perm.mem_iff.mpr hc)

/-- Under the weaker hypothesis that every `add_callback` is merely not before the *clock*, and with
no assumption on the fuel, the queue invariant still holds after every history (so every single
`evolve_until` of it enjoys `evolveUntil_spec`). -/
theorem history_inv_weak {kids : Entry → List (Rat × Nat)} (hk : WF kids) (fuel : Nat) (ops : List Op)
    (ha : AddsFrom (·.s.t) kids fuel ops) : Inv (runOps kids fuel hinit ops).s := by
  refine history_induction (P := fun h => Inv h.s) inv_init ?_ ?_ (addsFrom_iff.mp ha)
  · intro h t id ih hc; exact inv_addCallback ih t id hc
  · intro h T ih _ hT; rw [stepOp_forward kids fuel h T hT]; exact (loop_runs kids T fuel _).inv hk ih hT

/-- callbacks that schedule nothing -/
def noKids : Entry → List (Rat × Nat) := fun _ => []

/-- two callbacks just below time 1, evolve to 1, then a third callback between the resting clock
and 1, evolve on -/
def sliverOps : List Op :=
  [Op.add (1 - 5/10000000) 0, Op.add (1 - 2/10000000) 1, Op.evolve 1, Op.add (1 - 4/10000000) 2,
   Op.evolve 2]

/-- The stronger hypothesis of `history_inv` is needed for the order *across* evolutions: because
of the coalescing the clock may rest up to `eps` below the target reached, and an `add_callback`
for an instant in that sliver is "not in the past" by the clock yet runs, in the next evolution,
after a callback with a later time has already run.  (Within each single evolution the order
holds regardless: `fired_sorted`.) -/
theorem history_order_needs_horizon :
    (runOps noKids 10 hinit (sliverOps.take 3)).s.t ≤ 1 - 4/10000000 ∧
    1 - 4/10000000 < (runOps noKids 10 hinit (sliverOps.take 3)).hz ∧
    (fired (runOps noKids 10 hinit sliverOps).trace).map (·.id) = [0, 1, 2] ∧
    ¬ Sorted (fired (runOps noKids 10 hinit sliverOps).trace) := by
  unfold Sorted
  decide +kernel

/-! ### Non-vacuity: a schedule with ties and a self-re-inserting callback meets the hypotheses
and runs to completion. -/

/-- callback 7 re-inserts itself one time unit later; every other callback schedules nothing -/
def demoKids : Entry → List (Rat × Nat) := fun e => if e.id = 7 then [(e.time + 1, 7)] else []

def demoSys : Sys := addAll init [(1, 7), (1, 3), (1/2, 4), (5, 9)]

example : WF demoKids := wf_of_progress zero_le_one (reinsert_progress fun _ => rfl).1

example : Inv demoSys := inv_addAll inv_init _ (by decide +kernel)

example : (evolveUntil demoKids 10 demoSys 3).status = .ok ∧
    (fired (evolveUntil demoKids 10 demoSys 3).trace).map (fun e => (e.time, e.id)) =
      [(1/2, 4), (1, 7), (1, 3), (2, 7)] := by decide +kernel

/-- the progress hypothesis of `terminates_if_progress_single` holds for the self-re-inserting
`demoKids` with `δ = 1` (for every horizon) … -/
example (T : Rat) : (∀ e, e.time < T → ∀ c ∈ demoKids e, e.time + 1 ≤ c.1) ∧
    (∀ e, e.time < T → (demoKids e).length ≤ 1) :=
  have h := reinsert_progress (kids := demoKids) fun _ => rfl
  ⟨fun e _ => h.1 e, fun e _ => h.2 e⟩

/-- … the potential of `demoSys` for the horizon `3` is `⌈2⌉ + ⌈2⌉ + ⌈5/2⌉ + 0 = 7`, so the theorem
guarantees that 8 iterations suffice (the run above needs 5). -/
example : (loop demoKids 3 8 demoSys).status = .ok :=
  have h := reinsert_progress (kids := demoKids) fun _ => rfl
  terminates_if_progress_single one_pos (fun e _ => h.1 e) (fun e _ => h.2 e) _ _ (by decide +kernel)

/-! ### The hypotheses of the history theorems are decided by the driver -/

/-- the flags `addsfrom_hz=` / `addsfrom_t=` printed by the driver op `hist` (and compared with the
harness's own classification of the real history) decide the hypothesis `AddsFrom` of
`history_inv` / `history_inv_weak` / `history_exactly_once` -/
theorem addsFromB_spec (f : Hist → Rat) (kids : Entry → List (Rat × Nat)) (fuel : Nat) (ops : List Op) :
    addsFromB f kids fuel hinit ops = true ↔ AddsFrom f kids fuel ops :=
  (addsFromB_iff f kids fuel ops hinit).trans addsFrom_iff.symm

/-- the flag `nofuelout=` decides the hypothesis `NoFuelOut` -/
theorem noFuelOutB_spec (kids : Entry → List (Rat × Nat)) (fuel : Nat) (ops : List Op) :
    noFuelOutB kids fuel hinit ops = true ↔ NoFuelOut kids fuel ops :=
  (noFuelOutB_iff kids fuel ops hinit).trans noFuelOut_iff.symm

/-- a history with ties, a self-re-inserting callback, a zero-length evolution, a refused backwards
call, an `add_callback` between evolutions and a target inside the stretch already covered -/
def demoOps : List Op :=
  [] ++ [Op.add 1 7] ++ [Op.add 1 3] ++ [Op.add (1/2) 4] ++ [Op.evolve 0] ++ [Op.evolve (3/2)] ++
    [Op.add 2 3] ++ [Op.evolve 1] ++ [Op.add (3/2) 5] ++ [Op.evolve (3/2)] ++ [Op.evolve 3]

/-- the hypotheses of `history_inv` hold for `demoOps` -/
example : AddsFrom (·.hz) demoKids 20 demoOps ∧ NoFuelOut demoKids 20 demoOps :=
  ⟨(addsFromB_spec _ _ _ _).mp (by decide +kernel), (noFuelOutB_spec _ _ _).mp (by decide +kernel)⟩

/-- … and its outcome: the callbacks executed over the four accepted evolutions, in order -/
example : (fired (runOps demoKids 20 hinit demoOps).trace).map (fun e => (e.time, e.ctr, e.id)) =
      [(1/2, 2, 4), (1, 0, 7), (1, 1, 3), (3/2, 5, 5), (2, 3, 7), (2, 4, 3)] ∧
    (runOps demoKids 20 hinit demoOps).hz = 3 ∧
    (runOps demoKids 20 hinit demoOps).s.queue.map (fun e => (e.time, e.ctr, e.id)) = [(3, 6, 7)] := by
  decide +kernel

/-! ### Fuel independence -/

/-- **Fuel independence.**  Once the fuel suffices (status ok), any larger fuel gives the very same
run: status, final state and trace.  So every theorem with the hypothesis `status = ok` is a
statement about *the* result of the call, not about a fuel-indexed family. -/
theorem loop_fuel_mono (kids : Entry → List (Rat × Nat)) (T : Rat) (f : Nat) (s : Sys)
    (hok : (loop kids T f s).status = .ok) : ∀ k, loop kids T (f + k) s = loop kids T f s := by
  intro k
  have h := loop_runs kids T f s
  generalize loop kids T f s = r at h hok ⊢
  induction h with
  | zero => cases hok
  | stop _ s hstop => rw [Nat.add_right_comm]; exact loop_stop hstop
  | step hq ht _ ih => rw [Nat.add_right_comm, loop_cons hq ht, ih hok]

/-- the same for `evolve_until` (a refused call does not look at the fuel at all) -/
theorem evolveUntil_fuel_mono (kids : Entry → List (Rat × Nat)) (f : Nat) (s : Sys) (T : Rat)
    (hf : (evolveUntil kids f s T).status ≠ .outOfFuel) :
    ∀ k, evolveUntil kids (f + k) s T = evolveUntil kids f s T := by
  intro k
  rcases lt_or_ge T s.t with hT | hT
  · simp only [evolveUntil_backwards hT]
  · simp only [evolveUntil_forward hT] at hf ⊢
    exact loop_fuel_mono kids T f s ((loop_runs kids T f s).status.resolve_right hf) k

/-- **Fuel independence for histories**: if every `evolve_until` of a history returns with fuel `f`,
then with any larger fuel the history is the same, step for step, and still every call returns. -/
theorem runOps_fuel_mono (kids : Entry → List (Rat × Nat)) (f : Nat) (ops : List Op)
    (hf : NoFuelOut kids f ops) :
    ∀ k, runOps kids (f + k) hinit ops = runOps kids f hinit ops ∧ NoFuelOut kids (f + k) ops := by
  intro k
  -- the history is the same after every prefix, so every call is issued in the same state as with fuel `f`
  have same : ∀ ops, NoFuelOut kids f ops → runOps kids (f + k) hinit ops = runOps kids f hinit ops := by
    intro ops hf
    induction ops using List.reverseRecOn with
    | nil => rfl
    | append_singleton ops op ih =>
      rw [runOps_snoc, runOps_snoc, ih (noFuelOut_prefix hf)]
      cases op with
      | add t id => rfl
      | evolve T => simp only [stepOp, evolveUntil_fuel_mono kids f _ T (hf ops T [] rfl) k]
  refine ⟨same ops hf, fun pre T post he => ?_⟩
  rw [same pre (noFuelOut_prefix (he ▸ hf)), evolveUntil_fuel_mono kids f _ T (hf pre T post he) k]
  exact hf pre T post he

/-- … hence any two sufficient fuels give the same history (the harness's `FUEL = 100000` is as good
as any other sufficient value). -/
theorem runOps_fuel_irrelevant (kids : Entry → List (Rat × Nat)) (f g : Nat) (ops : List Op)
    (hf : NoFuelOut kids f ops) (hg : NoFuelOut kids g ops) :
    runOps kids f hinit ops = runOps kids g hinit ops :=
  -- both are the history with fuel `f + g`
  (runOps_fuel_mono kids f ops hf g).1.symm.trans (Nat.add_comm f g ▸ (runOps_fuel_mono kids g ops hg f).1)

/-! ### Exactly once for *every* history (adds in the past, children in the past) -/

/-- **Every** history of interface calls leaves a state with the queue invariant `InvQ` — no
assumption on the times given to `add_callback`, on what callbacks schedule, or on the fuel. -/
theorem history_invQ (kids : Entry → List (Rat × Nat)) (fuel : Nat) (ops : List Op) :
    InvQ (runOps kids fuel hinit ops).s := by
  refine history_induction (C := fun _ _ => True) (P := fun h => InvQ h.s) invQ_init ?_ ?_
    fun _ _ _ _ => trivial
  · intro h t id ih _; exact invQ_addCallback ih t id
  · intro h T ih _ hT; rw [stepOp_forward kids fuel h T hT]; exact (loop_runs kids T fuel _).invQ ih

/-- **Per-call exactly once after any history.**  Whatever happened before (callbacks added for
instants already passed, callbacks scheduling into the past, refused calls), an `evolve_until(T)`
that returns executes each entry that is queued or gets created during the call and is due before
`T` exactly once, and leaves exactly the others queued. -/
theorem history_call_exactly_once (kids : Entry → List (Rat × Nat)) (fuel : Nat) (ops : List Op)
    (T : Rat) (hok : (loop kids T fuel (runOps kids fuel hinit ops).s).status = .ok) :
    let s := (runOps kids fuel hinit ops).s
    ∀ c ∈ s.queue ++ spawned kids s.ctr (fired (loop kids T fuel s).trace),
      (c.time < T → (fired (loop kids T fuel s).trace).count c = 1 ∧ c ∉ (loop kids T fuel s).s.queue) ∧
      (T ≤ c.time → c ∈ (loop kids T fuel s).s.queue ∧ (fired (loop kids T fuel s).trace).count c = 0) :=
  exactly_once_count kids T fuel _ (history_invQ kids fuel ops) hok

/-- **Whole-history exactly once without `AddsFrom`/`WF`.**  After any history that ends with an
accepted `evolve_until(T)` which returns: of all entries ever created, each one due before `T` has
been executed exactly once over all evolutions and is not queued; whatever is queued is due at or
after `T` and has never run; and every created entry is either executed once or queued once
(never both, never neither). -/
theorem history_evolve_exactly_once (kids : Entry → List (Rat × Nat)) (fuel : Nat) (ops : List Op)
    (T : Rat) (hok : (evolveUntil kids fuel (runOps kids fuel hinit ops).s T).status = .ok) :
    let H := runOps kids fuel hinit (ops ++ [Op.evolve T])
    ∀ c ∈ H.created,
      (c.time < T → (fired H.trace).count c = 1 ∧ c ∉ H.s.queue) ∧
      (c ∈ H.s.queue → T ≤ c.time ∧ (fired H.trace).count c = 0) ∧
      (fired H.trace).count c + H.s.queue.count c = 1 := by
  intro H c hc
  have hcons : HCons H := hcons_run kids fuel _
  have hT : (runOps kids fuel hinit ops).s.t ≤ T :=
    not_lt.mp fun h => by rw [evolveUntil_backwards h] at hok; cases hok
  rw [evolveUntil_forward hT] at hok
  refine exactly_once_or_queued hcons.nodup ?_ (hcons.perm.mem_iff.mpr hc)
  have := (loop_runs kids T fuel _).queue_ge (history_invQ kids fuel ops) hok
  simpa only [H, runOps_snoc, stepOp_forward kids fuel _ T hT] using this

/-! ### Divergence: `status = ok` is essential, and so is `WF` -/

/-- **A zero-delay self-re-insertion never returns**: with the callback behaviour `selfNow`
("schedule yourself again for this very instant") a single callback due before the horizon
exhausts *every* fuel, executing exactly `fuel` callbacks — the model's account of the real loop
spinning forever (replayed on the real code with a callback that raises after N executions). -/
theorem diverges_zero_delay_reinsertion :
    ∀ fuel, (loop selfNow 2 fuel (addCallback init 1 0)).status = .outOfFuel ∧
      (fired (loop selfNow 2 fuel (addCallback init 1 0)).trace).length = fuel :=
  fun fuel => selfNow_diverges 2 fuel _ ⟨1, 0, 0⟩ (by simp [addCallback, init, insert]) (by norm_num)

/-- the same from any state whose queue holds one callback due before the horizon -/
theorem diverges_zero_delay_reinsertion_general (T : Rat) (fuel : Nat) (s : Sys) (e : Entry)
    (hq : s.queue = [e]) (ht : e.time < T) : (loop selfNow T fuel s).status = .outOfFuel :=
  (selfNow_diverges T fuel s e hq ht).1

/-- … although `selfNow` and the start state satisfy every other hypothesis used in this file
(`WF`, `Inv`): the hypothesis "the call returns" of the `hok` theorems cannot be dropped, and no
fuel makes `NoFuelOut` true for the two-call history `add_callback(1, f); evolve_until(2)`. -/
theorem selfNow_meets_other_hypotheses :
    WF selfNow ∧ Inv (addCallback init 1 0) ∧
      ¬ ∃ fuel, NoFuelOut selfNow fuel [Op.add 1 0, Op.evolve 2] := by
  refine ⟨?_, inv_addCallback inv_init 1 0 (by simp [init]), ?_⟩
  · intro e c hc; simp [selfNow] at hc; rw [hc]
  · rintro ⟨fuel, h⟩
    have := h [Op.add 1 0] 2 [] rfl
    apply this
    have hs : (runOps selfNow fuel hinit [Op.add 1 0]).s = addCallback init 1 0 := rfl
    rw [hs, evolveUntil_forward (by simp [addCallback, init])]
    exact (diverges_zero_delay_reinsertion fuel).1

/-- callback 0 schedules callback 1 half a time unit *before* its own time -/
def pastKid : Entry → List (Rat × Nat) := fun e => if e.id = 0 then [(e.time - 1/2, 1)] else []

/-- **`WF` is necessary** for the order clause and for the clock clause: with `pastKid` (all other
hypotheses hold, the call returns) the child runs after its parent although it is due earlier, so
the executed list is not in time order, and it runs with the clock *ahead* of its time.  (Exactly
once still holds: `kids_fired`, `exactly_once_count` do not need `WF`.) -/
theorem order_needs_wf :
    Inv (addCallback init 1 0) ∧ ¬ WF pastKid ∧
    (loop pastKid 2 5 (addCallback init 1 0)).status = .ok ∧
    (fired (loop pastKid 2 5 (addCallback init 1 0)).trace).map (fun e => (e.time, e.id)) =
      [(1, 0), (1/2, 1)] ∧
    ¬ Sorted (fired (loop pastKid 2 5 (addCallback init 1 0)).trace) ∧
    Event.fire ⟨1/2, 1, 1⟩ 1 ∈ (loop pastKid 2 5 (addCallback init 1 0)).trace := by
  refine ⟨inv_addCallback inv_init 1 0 (by simp [init]), ?_, ?_⟩
  · intro h
    have := h ⟨1, 0, 0⟩ (1/2, 1) (by decide +kernel)
    norm_num at this
  · unfold Sorted
    decide +kernel

/-! ### `NoFuelOut` discharged: histories of progressing callbacks terminate -/

/-- **Termination of whole histories.**  Enough fuel for every evolution of a history (`NoFuelOut`, the
hypothesis of `history_inv` / `history_exactly_once`) exists as soon as a single evolution, from every
state and to every target, returns for *some* fuel — by progress (below), or a weight
(`terminates_of_weight`, which covers zero-delay scheduling along a DAG of callback ids). -/
theorem history_terminates_of_each (kids : Entry → List (Rat × Nat))
    (hterm : ∀ (s : Sys) (T : Rat), ∃ f, (loop kids T f s).status = .ok) (ops : List Op) :
    ∃ fuel, NoFuelOut kids fuel ops := by
  induction ops using List.reverseRecOn with
  | nil => exact ⟨0, noFuelOut_nil _ _⟩
  | append_singleton ops op ih =>
    obtain ⟨f, hf⟩ := ih
    cases op with
    | add t id => exact ⟨f, noFuelOut_iff.mpr (eachCall_snoc.mpr ⟨noFuelOut_iff.mp hf, trivial⟩)⟩
    | evolve T =>
      obtain ⟨f', hf'⟩ := hterm (runOps kids f hinit ops).s T
      obtain ⟨h1, h2⟩ := runOps_fuel_mono kids f ops hf f'
      refine ⟨f + f', noFuelOut_iff.mpr (eachCall_snoc.mpr ⟨noFuelOut_iff.mp h2, ?_⟩)⟩
      rw [h1, EvolveOk]
      rcases lt_or_ge T (runOps kids f hinit ops).s.t with hT | hT
      · rw [evolveUntil_backwards hT]; nofun
      · rw [evolveUntil_forward hT, Nat.add_comm f f', loop_fuel_mono kids T f' _ hf' f, hf']; nofun

/-- If every callback schedules its children at least `δ > 0` later than itself and at most `B` of
them, then for every history some fuel makes every `evolve_until` return, and from that fuel on the
history does not depend on the fuel. -/
theorem history_terminates_if_progress {kids : Entry → List (Rat × Nat)} {δ : Rat} {B : Nat}
    (hδ : 0 < δ) (hprog : ∀ e, ∀ c ∈ kids e, e.time + δ ≤ c.1) (hB : ∀ e, (kids e).length ≤ B)
    (ops : List Op) :
    ∃ fuel, NoFuelOut kids fuel ops ∧
      ∀ k, runOps kids (fuel + k) hinit ops = runOps kids fuel hinit ops ∧
        NoFuelOut kids (fuel + k) ops := by
  obtain ⟨fuel, hf⟩ := history_terminates_of_each kids (fun s T =>
    ⟨_, terminates_if_progress hδ (fun e _ => hprog e) (fun e _ => hB e) s _ (Nat.lt_succ_self _)⟩) ops
  exact ⟨fuel, hf, runOps_fuel_mono kids fuel ops hf⟩

/-- progress implies `WF`, so under progress and `AddsFrom` the history theorem needs no fuel
hypothesis: some fuel yields `HInv`. -/
theorem history_inv_of_progress {kids : Entry → List (Rat × Nat)} {δ : Rat} {B : Nat}
    (hδ : 0 < δ) (hprog : ∀ e, ∀ c ∈ kids e, e.time + δ ≤ c.1) (hB : ∀ e, (kids e).length ≤ B)
    (ops : List Op) (ha : ∀ fuel, AddsFrom (·.hz) kids fuel ops) :
    ∃ fuel, HInv (runOps kids fuel hinit ops) := by
  obtain ⟨fuel, hf, -⟩ := history_terminates_if_progress hδ hprog hB ops
  exact ⟨fuel, history_inv (wf_of_progress hδ.le hprog) fuel ops (ha fuel) hf⟩

/-- `demoKids` progresses (δ = 1, B = 1) at every callback, so `history_terminates_if_progress`
applies to every history of it -/
example (ops : List Op) : ∃ fuel, NoFuelOut demoKids fuel ops :=
  have h := reinsert_progress (kids := demoKids) fun _ => rfl
  (history_terminates_if_progress one_pos h.1 h.2 ops).imp fun _ h => h.1

/-! ### The final clock, exactly -/

/-- **The final clock, exactly** (no hypothesis beyond "the call returns").  Let `c` be the clock
shown to the last callback of the run (the initial clock if none ran).  The evolution ends with
the clock at `T` when the remaining stretch `T - c` exceeds the threshold, and at `c` otherwise
(the stretch is coalesced away: "the clock ends at T" holds only up to `eps`). -/
theorem final_clock_exact (kids : Entry → List (Rat × Nat)) (T : Rat) (fuel : Nat) (s : Sys)
    (hok : (loop kids T fuel s).status = .ok) :
    (loop kids T fuel s).s.t =
      if eps < T - lastFireClock s.t (loop kids T fuel s).trace then T
      else lastFireClock s.t (loop kids T fuel s).trace :=
  (loop_runs kids T fuel s).final_clock hok

/-- the clock ends exactly at `T` iff the last stretch is longer than the threshold or empty -/
theorem final_clock_eq_target_iff (kids : Entry → List (Rat × Nat)) (T : Rat) (fuel : Nat) (s : Sys)
    (hok : (loop kids T fuel s).status = .ok) :
    (loop kids T fuel s).s.t = T ↔
      (eps < T - lastFireClock s.t (loop kids T fuel s).trace ∨
        lastFireClock s.t (loop kids T fuel s).trace = T) := by
  rw [final_clock_exact kids T fuel s hok, ite_eq_left_iff, or_iff_not_imp_left]

theorem final_clock_eq_target (kids : Entry → List (Rat × Nat)) (T : Rat) (fuel : Nat) (s : Sys)
    (hok : (loop kids T fuel s).status = .ok)
    (h : eps < T - lastFireClock s.t (loop kids T fuel s).trace) : (loop kids T fuel s).s.t = T :=
  (final_clock_eq_target_iff kids T fuel s hok).mpr (Or.inl h)

/-- with nothing queued, a target more than `eps` ahead is reached exactly -/
theorem empty_queue_exact (kids : Entry → List (Rat × Nat)) (fuel : Nat) (s : Sys) (T : Rat)
    (hq : s.queue = []) (hT : eps < T - s.t) : (evolveUntil kids (fuel + 1) s T).s.t = T := by
  rw [evolveUntil_forward (sub_pos.mp (eps_pos.trans hT)).le, loop_stop (by rw [hq]; nofun)]
  exact (advance_to_t s T).trans (if_pos hT)

/-- **The clock can end strictly below the target**: `evolve_until(5·10⁻⁷)` on the fresh system
returns normally and leaves the clock at `0` (the literal clause "the clock ends at T" is false;
what holds is `loop_clock_end_any`/`final_clock_exact`). -/
theorem final_clock_below_target_possible :
    ∃ T, (evolveUntil noKids 1 init T).status = .ok ∧ (evolveUntil noKids 1 init T).s.t < T :=
  ⟨1/2000000, by decide +kernel⟩

/-- the clock never passes the target and, when the call returns, ends within `eps` below it — for
any queue and any callbacks (entries and children may lie in the past); only `s.t ≤ T` is used -/
theorem loop_clock_end_any (kids : Entry → List (Rat × Nat)) (T : Rat) (fuel : Nat) (s : Sys)
    (hT : s.t ≤ T) : (loop kids T fuel s).s.t ≤ T ∧
      ((loop kids T fuel s).status = .ok → T - (loop kids T fuel s).s.t ≤ eps) :=
  (loop_runs kids T fuel s).clock_end hT

/-- **Clock lag, hypothesis-free half**: every executed callback was due strictly before the horizon
and ran with the clock at most `eps` *behind* its time — for any queue and any callbacks.  (That
the clock is never *ahead* of the callback's time is the half that needs `Inv` and `WF`:
`clock_at_callback`, `order_needs_wf`.) -/
theorem clock_lag_any (kids : Entry → List (Rat × Nat)) (T : Rat) (fuel : Nat) (s : Sys) :
    ∀ e clk, Event.fire e clk ∈ (loop kids T fuel s).trace → e.time - clk ≤ eps ∧ e.time < T :=
  (loop_runs kids T fuel s).fire_lag

/-! ### The threshold as a double; the `sorted` flag of the driver -/

/-- **Float bridge for the threshold.**  `eps` is the exact value of the double `1e-6`
(`4722366482869645 · 2⁻⁷²`, below `10⁻⁶`); no double lies strictly between the two, so for every
double `dt` the code's test `dt > 1e-6` is the test against the decimal `10⁻⁶` of the property
text. -/
theorem eps_decimal_bridge (x : Rat) (hx : IsDouble x) : eps < x ↔ 1 / 1000000 < x :=
  ⟨fun h => lt_of_lt_of_le (by norm_num) (double_gt_eps hx h), fun h => lt_trans eps_lt_decimal h⟩

/-- the threshold is itself a double (mantissa `4722366482869645 < 2^53`, exponent `-72`) -/
example : IsDouble eps := ⟨4722366482869645, -72, by norm_num, by unfold eps; norm_num⟩

/-- … so `advance` integrates a double `dt` exactly when `dt` exceeds the decimal `10⁻⁶` -/
theorem advance_decimal_bridge (s : Sys) (dt : Rat) (hd : IsDouble dt) :
    advance s dt = if dt > 1 / 1000000 then ({ s with t := s.t + dt }, [Event.integrate dt])
      else (s, []) :=
  if_congr (eps_decimal_bridge dt hd) rfl rfl

/-- the flag `sorted=` printed by the driver op `hist` (and compared with the real code's executed
sequence) decides the `Sorted` of `fired_sorted` / `history_inv` -/
theorem sortedB_spec (l : List Entry) : sortedB l = true ↔ Sorted l := by
  induction l with
  | nil => exact iff_of_true rfl sorted_nil
  | cons x xs ih =>
    cases xs with
    | nil => exact iff_of_true rfl (List.pairwise_singleton _ _)
    | cons y ys => rw [sorted_cons_cons, ← ih, sortedB, Bool.and_eq_true, decide_eq_true_eq]

/-! ### Callbacks that read the clock (`add_callback(self.t + period, …)`, the docstring idiom)

The clock a callback sees may rest up to `eps` below the callback's own time, so what a
clock-reading callback schedules is not a function of its queue entry: `loopC` / `evolveUntilC` /
`stepOpC` / `runOpsC` hand the clock to the callbacks (`kidsC clock e`).  The driver runs these on
every history and compares them with the real code; the theorems below say that each such run IS a
run of `loop` / `evolveUntil` / `runOps` — the objects of all theorems above — for an entry-only
`kids` (the table of what each executed callback scheduled, `tableKids (fireTable …)`, which the
driver also executes and checks: `same=`, `replay=`).  So every theorem above that holds for all
`kids` holds of histories with clock-reading callbacks (`loopC_transfer`). -/

/-- callbacks that ignore the clock: `loopC` is `loop` -/
theorem loopC_const (kids : Entry → List (Rat × Nat)) (T : Rat) (fuel : Nat) (s : Sys) :
    loopC (fun _ => kids) T fuel s = loop kids T fuel s :=
  ((loopC_runs _ T fuel s).eq_loop fun _ _ _ => rfl).symm

/-- An entry-only `kids` that agrees with the clock-reading callbacks on every callback the run
executes, at the clock it saw, produces the very same run (status, state, trace). -/
theorem loopC_eq_loop_of_agree (kidsC : Rat → Entry → List (Rat × Nat)) (kids : Entry → List (Rat × Nat))
    (T : Rat) (fuel : Nat) (s : Sys)
    (h : ∀ e clk, Event.fire e clk ∈ (loopC kidsC T fuel s).trace → kids e = kidsC clk e) :
    loop kids T fuel s = loopC kidsC T fuel s := (loopC_runs kidsC T fuel s).eq_loop h

/-- **Every run with clock-reading callbacks is a run of `loop`** for some entry-only `kids`, from
any state a history can reach (`InvQ`: no callback is executed twice, so "what it scheduled at the
clock it saw" is a function of the entry). -/
theorem loopC_exists_kids (kidsC : Rat → Entry → List (Rat × Nat)) (T : Rat) (fuel : Nat) (s : Sys)
    (hi : InvQ s) : ∃ kids : Entry → List (Rat × Nat), loop kids T fuel s = loopC kidsC T fuel s :=
  ⟨_, loopC_eq_loop_table' kidsC T fuel s hi [] (List.forall_mem_nil _)⟩

/-- **Transfer**: whatever holds of the runs of `loop` for all entry-only `kids` holds of the run
with clock-reading callbacks. -/
theorem loopC_transfer (kidsC : Rat → Entry → List (Rat × Nat)) (T : Rat) (fuel : Nat) (s : Sys)
    (hi : InvQ s) (P : Run → Prop) (hP : ∀ kids, P (loop kids T fuel s)) : P (loopC kidsC T fuel s) := by
  obtain ⟨K, hK⟩ := loopC_exists_kids kidsC T fuel s hi
  rw [← hK]; exact hP K

/-- exactly once (nothing is lost, nothing runs twice) with clock-reading callbacks — by transfer -/
theorem clockC_exactly_once (kidsC : Rat → Entry → List (Rat × Nat)) (T : Rat) (fuel : Nat) (s : Sys)
    (hi : InvQ s) (hok : (loopC kidsC T fuel s).status = .ok) :
    (fired (loopC kidsC T fuel s).trace).Nodup ∧
    ∀ q ∈ s.queue, (q.time < T → q ∈ fired (loopC kidsC T fuel s).trace) ∧
      (T ≤ q.time → q ∈ (loopC kidsC T fuel s).s.queue) := by
  revert hok
  apply loopC_transfer kidsC T fuel s hi
    (fun r => r.status = .ok → (fired r.trace).Nodup ∧
      ∀ q ∈ s.queue, (q.time < T → q ∈ fired r.trace) ∧ (T ≤ q.time → q ∈ r.s.queue))
  intro K hok
  exact ⟨fired_nodup K T fuel s hi, queued_fired_or_pending K T fuel s hi hok⟩

-- `hi` is not needed: the final clock is that of every run, from any state (`Runs.final_clock`)
set_option linter.unusedVariables false in
/-- the final clock, exactly, and the clock lag at every callback, with clock-reading callbacks -/
theorem clockC_final_clock (kidsC : Rat → Entry → List (Rat × Nat)) (T : Rat) (fuel : Nat) (s : Sys)
    (hi : InvQ s) (hok : (loopC kidsC T fuel s).status = .ok) :
    (loopC kidsC T fuel s).s.t =
      if eps < T - lastFireClock s.t (loopC kidsC T fuel s).trace then T
      else lastFireClock s.t (loopC kidsC T fuel s).trace :=
  (loopC_runs kidsC T fuel s).final_clock hok

/-- **Replay by table** (what the driver executes and prints as `same=`): the table of what each
executed callback scheduled — preceded by any rows `pre` of callbacks this run does not execute —
read as entry-only callbacks makes `loop` reproduce the run. -/
theorem loopC_eq_loop_table (kidsC : Rat → Entry → List (Rat × Nat)) (T : Rat) (fuel : Nat) (s : Sys)
    (hi : InvQ s) (pre : List (Entry × List (Rat × Nat)))
    (hpre : ∀ p ∈ pre, p.1 ∉ fired (loopC kidsC T fuel s).trace) :
    loop (tableKids (pre ++ fireTable kidsC (loopC kidsC T fuel s).trace)) T fuel s =
      loopC kidsC T fuel s := loopC_eq_loop_table' kidsC T fuel s hi pre hpre

theorem evolveUntilC_eq_evolveUntil_table (kidsC : Rat → Entry → List (Rat × Nat)) (fuel : Nat) (s : Sys)
    (T : Rat) (hi : InvQ s) :
    evolveUntil (tableKids (fireTable kidsC (evolveUntilC kidsC fuel s T).trace)) fuel s T =
      evolveUntilC kidsC fuel s T :=
  evolveUntilC_eq_table' kidsC fuel s T hi [] (List.forall_mem_nil _)

/-- every history with clock-reading callbacks keeps the invariant `InvC`: the queue invariant, and
the callbacks in the table have been executed (not queued, counter used up) -/
theorem history_invC (kidsC : Rat → Entry → List (Rat × Nat)) (fuel : Nat) (ops : List Op) :
    InvC (runOpsC kidsC fuel hinitC ops) :=
  (runOpsC_eq_runOps' kidsC fuel invC_init ops).1

/-- **One call in a history**: `stepOpC` (run by the driver) advances the history by `stepOp` with
the table; state and trace are those of the run with clock-reading callbacks. -/
theorem stepOpC_evolve_run (kidsC : Rat → Entry → List (Rat × Nat)) (fuel : Nat) (ops : List Op) (T : Rat) :
    (stepOpC kidsC fuel (runOpsC kidsC fuel hinitC ops) (.evolve T)).h.s =
      (evolveUntilC kidsC fuel (runOpsC kidsC fuel hinitC ops).h.s T).s ∧
    (stepOpC kidsC fuel (runOpsC kidsC fuel hinitC ops) (.evolve T)).h.trace =
      (runOpsC kidsC fuel hinitC ops).h.trace ++
        (evolveUntilC kidsC fuel (runOpsC kidsC fuel hinitC ops).h.s T).trace := by
  have hi := history_invC kidsC fuel ops
  have h := evolveUntilC_eq_table' kidsC fuel _ T hi.q _ hi.old
  constructor <;> simp only [stepOpC, stepOp, h]

/-- **Whole histories** (what the driver checks as `replay=`): the history produced with
clock-reading callbacks is the history `runOps` produces with ONE entry-only `kids` — the final
table.  Hence `history_invQ`, `history_conservation`, `history_origin`,
`history_call_exactly_once`, `history_evolve_exactly_once`, `runOps_fuel_mono` (all: for every
`kids`) are statements about `(runOpsC kidsC fuel hinitC ops).h`. -/
theorem runOpsC_eq_runOps (kidsC : Rat → Entry → List (Rat × Nat)) (fuel : Nat) (ops : List Op) :
    runOps (tableKids (runOpsC kidsC fuel hinitC ops).tbl) fuel hinit ops =
      (runOpsC kidsC fuel hinitC ops).h :=
  List.append_nil (runOpsC kidsC fuel hinitC ops).tbl ▸ (runOpsC_eq_runOps' kidsC fuel invC_init ops).2 []

/-- **Reading the clock matters** (so `loopC` is not `loop` in disguise): two callbacks half a
threshold apart, each re-inserting itself a quarter later.  Relative to the clock both children land
at `5/4` (the second callback ran with the clock resting at `1`); relative to their own times at `5/4`
and `5/4 + eps/2`.  The harness's directed `clockrel` histories are of this shape. -/
theorem clock_reading_differs :
    ((loopC everyQuarterOfClock (9/8) 3 twoClose).s.queue.map (·.time) = [5/4, 5/4]) ∧
    ((loop everyQuarter (9/8) 3 twoClose).s.queue.map (·.time) = [5/4, 5/4 + eps / 2]) := by
  decide +kernel

/-! ### Time arguments are stored by value (World = system + the caller's mutable cells)

`stepG`/`runG` (Model/SchedulerRef.lean) run a *caller program*: calls that hand over values or
references to caller-owned cells, and in-place mutations of those cells in between.  Under the
policy `copy` (the code: `copy.copy(t)` in `add_callback`, `self.t = copy.copy(t_next)`) the history
is the value-level history `resolve` — every call with the value its argument had at that moment —
so a later mutation of a cell that is not handed over again changes nothing.  Under `alias`
(`Bad.byReference`, the code without the copies) it does. -/

/-- **Times are stored by value.**  Whatever the caller does to its cells between the calls, the
history of the system under the `copy` policy is `runOps` on the value-level history `resolve`, and
no queue entry aliases a cell. -/
theorem stored_by_value (kids : Entry → List (Rat × Nat)) (fuel : Nat) (ops : List ROp) :
    ∀ w : World, w.refs = [] →
      (runG .copy kids fuel w ops).h = runOps kids fuel w.h (resolve w.cells ops) ∧
      (runG .copy kids fuel w ops).refs = [] := by
  induction ops with
  | nil => intro w hw; exact ⟨rfl, hw⟩
  | cons op ops ih =>
    intro w hw
    obtain ⟨hr, hstep⟩ := stepG_copy kids fuel hw op
    obtain ⟨h1, h2⟩ := ih _ hr
    exact ⟨h1.trans (hstep ops), h2⟩

/-- **The run is independent of later mutations of caller cells**: overwriting a cell that no later
call hands over leaves the whole history (clock, queue, trace, created entries) as it would have
been without the mutation — in particular after `add_callback(arr, f)` the caller may go on using
`arr`. -/
theorem mutation_irrelevant (kids : Entry → List (Rat × Nat)) (fuel : Nat) (w : World)
    (hw : w.refs = []) (c : Nat) (x : Rat) (ops : List ROp)
    (hr : ∀ op ∈ ops, op.reads c = false) :
    (runG .copy kids fuel (stepG .copy kids fuel w (.mutate c x)) ops).h =
      (runG .copy kids fuel w ops).h := by
  rw [(stored_by_value kids fuel ops w hw).1,
    (stored_by_value kids fuel ops (stepG .copy kids fuel w (.mutate c x)) hw).1]
  show runOps kids fuel w.h (resolve (setCell w.cells c x) ops) = _
  rw [resolve_congr c ops (setCell w.cells c x) w.cells ?_ hr]
  intro j hj
  simp [setCell, hj]

example : winit.refs = [] := rfl
example : ∀ op ∈ [ROp.add (.ref 1) 3, ROp.mutate 0 7, ROp.evolve (.val 2)], op.reads 0 = false := by
  decide

/-- the caller program `arr[...] = 1; add_callback(arr, f7); arr[...] = 5; evolve_until(2)` -/
def aliasOps : List ROp := [.mutate 0 1, .add (.ref 0) 7, .mutate 0 5, .evolve (.val 2)]

/-- **`Bad.byReference`: storing the reference is not storing the value.**  On `aliasOps` the code
as it is (`copy`) runs the callback at time 1; the by-reference scheduler never runs it before the
target 2 (its queued time moved to 5 with the caller's array), and leaves it queued at time 5. -/
theorem Bad.byReference_counterexample :
    fired (runG .copy noKids 5 winit aliasOps).h.trace = [⟨1, 0, 7⟩] ∧
    (runG .copy noKids 5 winit aliasOps).h.s.queue = [] ∧
    fired (Bad.byReference noKids 5 winit aliasOps).h.trace = [] ∧
    (Bad.byReference noKids 5 winit aliasOps).h.s.queue = [⟨5, 0, 7⟩] := by
  decide +kernel

/-! ### Exceptions raised by a callback, and resuming

`evolve_until` pops the due entry *before* it calls the callback (`heapq.heappop` in the loop head),
and has already bridged the interval to it.  A callback that raises after its work therefore leaves
the system exactly in the state `loop` is in when its fuel runs out at that callback: the entry is
gone from the queue (it is *not* retried), the clock stands at (within `eps` below) its time, the
children it scheduled are queued.  The harness replays this with a callback that raises after the
N-th execution against the model on fuel N. -/

/-- **Interrupted and resumed = uninterrupted.**  If the `n`-th callback raises (fuel `n` runs out)
and the caller calls `evolve_until(T)` again, the two traces concatenated, the final state and the
status are those of the uninterrupted run: nothing is lost, nothing runs twice. -/
theorem interrupted_resume (kids : Entry → List (Rat × Nat)) (T : Rat) (n m : Nat) (s : Sys)
    (h : (loop kids T n s).status = .outOfFuel) :
    loop kids T (n + m) s =
      { loop kids T m (loop kids T n s).s with
        trace := (loop kids T n s).trace ++ (loop kids T m (loop kids T n s).s).trace } := by
  have hr := loop_runs kids T n s
  generalize loop kids T n s = r at hr h ⊢
  induction hr with
  | zero => rw [Nat.zero_add]; rfl
  | stop => cases h
  | step hq ht _ ih =>
    rw [Nat.add_right_comm, loop_cons hq ht, ih h]
    simp only [List.append_assoc, List.cons_append]

/-- the same for the public call: after the interruption the clock is not beyond `T`, so the second
`evolve_until(T)` is accepted and completes the run -/
theorem evolveUntil_interrupted_resume (kids : Entry → List (Rat × Nat)) (T : Rat) (n m : Nat) (s : Sys)
    (hT : s.t ≤ T) (h : (evolveUntil kids n s T).status = .outOfFuel) :
    evolveUntil kids (n + m) s T =
      { evolveUntil kids m (evolveUntil kids n s T).s T with
        trace := (evolveUntil kids n s T).trace ++ (evolveUntil kids m (evolveUntil kids n s T).s T).trace } := by
  simp only [evolveUntil_forward hT] at h ⊢
  rw [evolveUntil_forward ((loop_runs kids T n s).clock_end hT).1]
  exact interrupted_resume kids T n m s h

/-- **The entry whose callback raised is lost, not retried**: every callback executed before the
interruption (the raising one is the last of them) is absent from the queue left behind, and exactly
`n` callbacks were executed. -/
theorem interrupted_entry_lost (kids : Entry → List (Rat × Nat)) (T : Rat) (n : Nat) (s : Sys)
    (hi : InvQ s) (h : (loop kids T n s).status = .outOfFuel) :
    (fired (loop kids T n s).trace).length = n ∧
    ∀ e ∈ fired (loop kids T n s).trace, e ∉ (loop kids T n s).s.queue :=
  ⟨(loop_runs kids T n s).fired_length.2 h, (loop_runs kids T n s).fired_not_queued hi⟩

example : (loop selfNow 2 3 (addCallback init 1 0)).status = .outOfFuel :=
  (diverges_zero_delay_reinsertion 3).1

example : (addCallback init 1 0).t ≤ 2 ∧ (evolveUntil selfNow 3 (addCallback init 1 0) 2).status = .outOfFuel ∧
    InvQ (addCallback init 1 0) :=
  ⟨by decide +kernel, by decide +kernel, (inv_addCallback inv_init 1 0 (by simp [init])).toQ⟩

/-! #### … and a callback that raises *before* doing anything (`loopX`; `loopXC` with callbacks
that read the clock, `self.t + period`: the executed definitions) -/

/-- without raising callbacks `loopX` is `loop` -/
theorem loopX_no_raise (kids : Entry → List (Rat × Nat)) (T : Rat) (fuel : Nat) (s : Sys) :
    loopX kids (fun _ => false) T fuel s = ⟨loop kids T fuel s, none⟩ := by
  fun_induction loop kids T fuel s <;> simp +zetaDelta only [loopX, *, if_true, if_false, Bool.false_eq_true]

/-- with callbacks that do not look at the clock, `loopXC` is `loopX` -/
theorem loopXC_entry_only (kids : Entry → List (Rat × Nat)) (raises : Entry → Bool) (T : Rat)
    (fuel : Nat) (s : Sys) : loopXC (fun _ => kids) raises T fuel s = loopX kids raises T fuel s := by
  fun_induction loopX kids raises T fuel s <;>
    simp +zetaDelta only [loopXC, *, if_true, if_false, Bool.false_eq_true]

/-- **The state after an exception, exactly, for callbacks that read the clock**: the run up to the
raising entry `e` is the `loopC` run whose fuel runs out at that callback (fuel = number of callbacks
called), with the callback of `e` scheduling nothing; `e` is an entry that raises.  `loopC` runs are
`loop` runs (`loopC_eq_loop_table`), so every hypothesis-free theorem of this file and the
`clockC_*` theorems hold of the interrupted run. -/
theorem raise_eq_fuel_out_clock (kidsC : Rat → Entry → List (Rat × Nat)) (raises : Entry → Bool) (T : Rat)
    (fuel : Nat) (s : Sys) (e : Entry) (h : (loopXC kidsC raises T fuel s).raisedAt = some e) :
    raises e = true ∧
    (loopXC kidsC raises T fuel s).run =
      loopC (kidsExceptC kidsC e) T (fired (loopXC kidsC raises T fuel s).run.trace).length s :=
  ⟨(loopXC_raised_runs h).1, (loopXC_raised_runs h).2.unique (loopC_runs ..)⟩

/-- **The state after an exception, exactly.**  If the callback of entry `e` raises, the run up to
there (status, clock, queue, counter, trace) is the run of `loop` whose fuel runs out at that
callback, with the callback of `e` scheduling nothing; `e` is an entry that raises.  Hence every
hypothesis-free theorem of this file (conservation, exactly-once, tiling, clock lag) holds of the
interrupted run, and `interrupted_resume` / `interrupted_entry_lost` apply to it. -/
theorem raise_eq_fuel_out (kids : Entry → List (Rat × Nat)) (raises : Entry → Bool) (T : Rat)
    (fuel : Nat) (s : Sys) (e : Entry) (h : (loopX kids raises T fuel s).raisedAt = some e) :
    raises e = true ∧
    (loopX kids raises T fuel s).run =
      loop (kidsExcept kids e) T (fired (loopX kids raises T fuel s).run.trace).length s := by
  rw [← loopXC_entry_only] at h ⊢
  have := raise_eq_fuel_out_clock _ raises T fuel s e h
  rwa [show kidsExceptC (fun _ => kids) e = fun _ => kidsExcept kids e from rfl, loopC_const] at this

/-- **The entry whose callback raised is lost, the clock stands at its stop**: it is the last callback
in the trace, it is not in the queue left behind, and no other executed callback is. -/
theorem raise_entry_lost (kids : Entry → List (Rat × Nat)) (raises : Entry → Bool) (T : Rat)
    (fuel : Nat) (s : Sys) (hi : InvQ s) (e : Entry)
    (h : (loopX kids raises T fuel s).raisedAt = some e) :
    (loopX kids raises T fuel s).run.status = .outOfFuel ∧
    (∀ x ∈ fired (loopX kids raises T fuel s).run.trace, x ∉ (loopX kids raises T fuel s).run.s.queue) := by
  rw [← loopXC_entry_only] at h ⊢
  -- the interrupted run is a run that executed as many callbacks as it had fuel: it cannot have returned
  have hr := (loopXC_raised_runs h).2
  exact ⟨hr.status.resolve_left fun hok => lt_irrefl _ (hr.fired_length.1 hok), hr.fired_not_queued hi⟩

example : (loopX noKids (fun e => e.ctr == 0) 2 5 (addCallback init 1 0)).raisedAt = some ⟨1, 0, 0⟩ := by
  decide +kernel

example : (loopXC (fun clk _ => [(clk + 1, 0)]) (fun e => e.ctr == 1) 5 10
    (addCallback init 1 0)).raisedAt = some ⟨2, 1, 0⟩ := by decide +kernel

/-! ### The termination criterion the code has, with an explicit fuel

If every callback due before the target schedules its children at least `δ > 0` after its own time
(at most `B` of them), `evolve_until(T)` returns, and the model's fuel is immaterial: an explicit
number `N` of iterations suffices, every fuel `≥ N` gives the very same run, and fewer than `N`
callbacks are executed.  So for such systems the fuel-parameterised theorems of this file are
statements about the real unbounded `while` loop (`evolveUntil_spec_total`). -/

/-- **Totality under progress.**  `N = |queue| · (1 + B + … + B^(n-1)) + 1`, `n = ⌈(T - t)/δ⌉`. -/
theorem evolve_total_of_progress {kids : Entry → List (Rat × Nat)} {δ T : Rat} {B : Nat}
    (hδ : 0 < δ) (hprog : ∀ e, e.time < T → ∀ c ∈ kids e, e.time + δ ≤ c.1)
    (hB : ∀ e, e.time < T → (kids e).length ≤ B) (s : Sys) (hi : Inv s) (hT : s.t ≤ T) :
    (evolveUntil kids (s.queue.length * geom B ⌈(T - s.t) / δ⌉₊ + 1) s T).status = .ok ∧
    (∀ fuel, s.queue.length * geom B ⌈(T - s.t) / δ⌉₊ + 1 ≤ fuel →
      evolveUntil kids fuel s T =
        evolveUntil kids (s.queue.length * geom B ⌈(T - s.t) / δ⌉₊ + 1) s T) ∧
    (fired (evolveUntil kids (s.queue.length * geom B ⌈(T - s.t) / δ⌉₊ + 1) s T).trace).length
      ≤ s.queue.length * geom B ⌈(T - s.t) / δ⌉₊ := by
  have hok : (evolveUntil kids (s.queue.length * geom B ⌈(T - s.t) / δ⌉₊ + 1) s T).status = .ok := by
    rw [evolveUntil_forward hT]
    exact terminates_if_progress_bound hδ hprog hB s hi _ (Nat.lt_succ_self _)
  refine ⟨hok, ?_, ?_⟩
  · intro fuel hf
    obtain ⟨k, rfl⟩ := Nat.exists_eq_add_of_le hf
    exact evolveUntil_fuel_mono kids _ s T (by rw [hok]; decide) k
  · rw [evolveUntil_forward hT] at hok ⊢
    exact Nat.lt_succ_iff.mp ((loop_runs kids T _ s).fired_length.1 hok)

/-- **Self-re-insertion** (`B = 1`, the docstring's periodic callback): within
`|queue| · ⌈(T - t)/δ⌉` callbacks (+ 1 iteration for the final stretch) the call returns. -/
theorem evolve_total_of_progress_single {kids : Entry → List (Rat × Nat)} {δ T : Rat}
    (hδ : 0 < δ) (hprog : ∀ e, e.time < T → ∀ c ∈ kids e, e.time + δ ≤ c.1)
    (h1 : ∀ e, e.time < T → (kids e).length ≤ 1) (s : Sys) (hi : Inv s) (hT : s.t ≤ T) :
    ∀ fuel, s.queue.length * ⌈(T - s.t) / δ⌉₊ + 1 ≤ fuel →
      (evolveUntil kids fuel s T).status = .ok ∧
      (fired (evolveUntil kids fuel s T).trace).length ≤ s.queue.length * ⌈(T - s.t) / δ⌉₊ := by
  intro fuel hf
  have := evolve_total_of_progress hδ hprog h1 s hi hT
  simp only [geom_one] at this
  rw [this.2.1 fuel hf]
  exact ⟨this.1, this.2.2⟩

/-- **The whole statement for the real, unbounded loop** of a progressing system: no fuel and no
"the call returns" hypothesis — `evolveUntil_spec` for every sufficient fuel, all giving one run. -/
theorem evolveUntil_spec_total {kids : Entry → List (Rat × Nat)} {δ T : Rat} {B : Nat} (hk : WF kids)
    (hδ : 0 < δ) (hprog : ∀ e, e.time < T → ∀ c ∈ kids e, e.time + δ ≤ c.1)
    (hB : ∀ e, e.time < T → (kids e).length ≤ B) (s : Sys) (hi : Inv s) (hT : s.t ≤ T) :
    ∀ fuel, s.queue.length * geom B ⌈(T - s.t) / δ⌉₊ + 1 ≤ fuel →
      let r := evolveUntil kids fuel s T
      r.status = .ok ∧
      Inv r.s ∧ sumDt r.trace = r.s.t - s.t ∧ r.s.t ≤ T ∧ T - r.s.t ≤ eps ∧
      (∀ q ∈ r.s.queue, T ≤ q.time) ∧ Sorted (fired r.trace) ∧
      (∀ e clk, Event.fire e clk ∈ r.trace → clk ≤ e.time ∧ e.time - clk ≤ eps ∧ e.time < T) ∧
      (∀ q ∈ s.queue, (q.time < T → q ∈ fired r.trace) ∧ (T ≤ q.time → q ∈ r.s.queue)) := by
  intro fuel hf
  have h := evolve_total_of_progress hδ hprog hB s hi hT
  have hok : (evolveUntil kids fuel s T).status = .ok := by rw [h.2.1 fuel hf]; exact h.1
  exact ⟨hok, evolveUntil_spec hk T fuel s hi hT hok⟩

example : WF demoKids ∧ (0 : Rat) < 1 ∧ (∀ e, e.time < (3 : Rat) → ∀ c ∈ demoKids e, e.time + 1 ≤ c.1) ∧
    (∀ e, e.time < (3 : Rat) → (demoKids e).length ≤ 1) ∧ Inv demoSys ∧ demoSys.t ≤ 3 :=
  have h := reinsert_progress (kids := demoKids) fun _ => rfl
  ⟨wf_of_progress zero_le_one h.1, one_pos, fun e _ => h.1 e, fun e _ => h.2 e,
    inv_addAll inv_init _ (by decide +kernel), by decide +kernel⟩

/-! ### Re-entrancy: a callback that calls `evolve_until` itself

`loopR` / `evolveUntilR` (Model/SchedulerRef.lean) is the loop with callbacks whose body is "schedule
`pre`, call `evolve_until(T2)`, schedule `post`"; the driver op `evolver` executes it against the real
object driven by re-entering callbacks.  The statement of C20 quantifies over callbacks that *schedule*
further callbacks; a callback that *evolves* the system is outside that quantifier.  What the code
does with it: tiling and the lower clock bound survive unconditionally, "the clock ends at T" holds
exactly when no nested target exceeds the outer one, and fails otherwise. -/

/-- **Bridge**: with callbacks that never re-enter, the re-entrant loop is `loop` — the object of
every theorem above — as a function. -/
theorem reentrant_plain_is_loop (kids : Entry → List (Rat × Nat)) (fuel : Nat) (s : Sys) (T : Rat) :
    evolveUntilR (plainBody kids) fuel s T = evolveUntil kids fuel s T := by
  unfold evolveUntilR evolveUntil
  congr 1
  fun_induction loop kids T fuel s <;> simp +zetaDelta only [loopR, plainBody, addAll, *, if_true, if_false]

/-- **Tiling survives re-entrancy**: for every callback behaviour (nested targets of any size, at any
depth), fuel and status, the intervals integrated by the outer call and all nested calls together add
up to the movement of the clock. -/
theorem reentrant_tiling (acts : Entry → Body) (fuel : Nat) (s : Sys) (T : Rat) :
    sumDt (evolveUntilR acts fuel s T).trace = (evolveUntilR acts fuel s T).s.t - s.t := by
  rcases lt_or_ge T s.t with hT | hT
  · rw [evolveUntilR_backwards hT]; exact (sub_self _).symm
  · rw [evolveUntilR_forward hT]; exact (loopR_consistent acts T fuel s).sumDt_eq

/-- **The clock ends at T when no callback evolves beyond T**: a call that returns leaves the clock in
`[T - eps, T]` provided every nested target is at most the outer target (the lower bound needs no
hypothesis at all). -/
theorem reentrant_clock_end (acts : Entry → Body) (fuel : Nat) (s : Sys) (T : Rat)
    (hB : ∀ e T2, (acts e).nested = some T2 → T2 ≤ T)
    (hok : (evolveUntilR acts fuel s T).status = .ok) :
    T - eps ≤ (evolveUntilR acts fuel s T).s.t ∧ (evolveUntilR acts fuel s T).s.t ≤ T := by
  rcases lt_or_ge T s.t with hT | hT
  · rw [evolveUntilR_backwards hT] at hok; cases hok
  · rw [evolveUntilR_forward hT] at hok ⊢
    exact ⟨loopR_clock_ge acts T fuel s hok, loopR_clock_le acts T fuel s hB (le_refl _) hT⟩

/-- the lower half without any hypothesis on the nested targets -/
theorem reentrant_clock_end_lower (acts : Entry → Body) (fuel : Nat) (s : Sys) (T : Rat)
    (hok : (evolveUntilR acts fuel s T).status = .ok) : T - eps ≤ (evolveUntilR acts fuel s T).s.t := by
  rcases lt_or_ge T s.t with hT | hT
  · rw [evolveUntilR_backwards hT] at hok; cases hok
  · rw [evolveUntilR_forward hT] at hok ⊢
    exact loopR_clock_ge acts T fuel s hok

/-- the callback with id 0 calls `evolve_until(3)`; nobody else re-enters -/
def reentDemo (e : Entry) : Body := if e.id = 0 then ⟨[], some 3, []⟩ else ⟨[], none, []⟩

example : (∀ e T2, (reentDemo e).nested = some T2 → T2 ≤ (3 : Rat)) ∧
    (evolveUntilR reentDemo 10 (addCallback init 1 0) 3).status = .ok := by
  refine ⟨?_, by decide +kernel⟩
  intro e T2 h; unfold reentDemo at h; split at h <;> simp at h; rw [← h]

/-- **A nested call to a later target breaks "the clock ends at T"** (and runs callbacks that are not
due before T): `add_callback(1, f)` with `f` calling `evolve_until(3)`, `add_callback(5/2, g)`,
`evolve_until(9/4)` returns normally with the clock at 3 and `g` executed.  Observed on the real
code (harness style `reent`); the hypothesis of `reentrant_clock_end` cannot be dropped. -/
theorem reentrant_later_target_overshoots :
    (evolveUntilR reentDemo 10 (addCallback (addCallback init 1 0) (5/2) 1) (9/4)).status = .ok ∧
    (evolveUntilR reentDemo 10 (addCallback (addCallback init 1 0) (5/2) 1) (9/4)).s.t = 3 ∧
    fired (evolveUntilR reentDemo 10 (addCallback (addCallback init 1 0) (5/2) 1) (9/4)).trace =
      [⟨1, 0, 0⟩, ⟨5/2, 1, 1⟩] := by
  decide +kernel

/-! ### Termination of the zero-delay DAG class with a concrete weight -/

/-- **Callbacks that schedule only callbacks of strictly larger id terminate, whatever the delays**
(zero, below the coalescing window, negative): if every callback due before the horizon schedules at
most `B` children, all with ids above its own and below `N`, the loop returns for every fuel above
`Σ_{q queued} (B+1)^(N - q.id)` — the concrete weight `dagWeight` for `terminates_of_weight`.  This is
the class the harness generates for same-instant children (styles ties/coalesce/mixed/negkids). -/
theorem terminates_if_dag {kids : Entry → List (Rat × Nat)} {T : Rat} {B N : Nat}
    (hB : ∀ e, e.time < T → (kids e).length ≤ B)
    (hdag : ∀ e, e.time < T → ∀ c ∈ kids e, e.id < c.2 ∧ c.2 < N) (s : Sys) :
    ∀ fuel, potential (dagWeight B N) s.queue < fuel → (loop kids T fuel s).status = .ok :=
  terminates_of_weight (dagWeight B N) (dag_weight hB hdag) s

/-- id 0 schedules id 1 for the same instant and id 2 half a unit *earlier*; nobody else schedules -/
def dagDemo (e : Entry) : List (Rat × Nat) := if e.id = 0 then [(e.time, 1), (e.time - 1/2, 2)] else []

example : (∀ e, e.time < (3 : Rat) → (dagDemo e).length ≤ 2) ∧
    (∀ e, e.time < (3 : Rat) → ∀ c ∈ dagDemo e, e.id < c.2 ∧ c.2 < 3) := by
  constructor
  · intro e _; unfold dagDemo; split <;> simp
  · intro e _ c hc; unfold dagDemo at hc; split at hc
    · simp at hc; rcases hc with rfl | rfl <;> simp <;> omega
    · simp at hc

/-! ### Scheduling in batches -/

/-- **Scheduling a list of callbacks in two batches is scheduling it in one**: a sequence of
`add_callback` calls has no hidden state besides the queue and the running counter, so any split of
the sequence reaches the same system (same heap content, same counters, same clock).  Unbounded in
both batches. -/
theorem addAll_append (s : Sys) (l₁ l₂ : List (Rat × Nat)) :
    addAll s (l₁ ++ l₂) = addAll (addAll s l₁) l₂ := by
  fun_induction addAll s l₁ <;> simp only [List.cons_append, List.nil_append, addAll, *]

/-- **A history of `add_callback` calls is the batch insertion**: the system reached by a history
consisting only of `add` operations is `addAll` of their arguments — the interface path (`stepOp`,
what the harness drives call by call) and the batch path (`addAll`, what a running callback does
with its children) are the same state transformer; no trace is produced and the horizon is kept. -/
theorem runOps_adds_eq_addAll (kids : Entry → List (Rat × Nat)) (fuel : Nat) (h : Hist)
    (l : List (Rat × Nat)) :
    (runOps kids fuel h (l.map fun c => Op.add c.1 c.2)).s = addAll h.s l ∧
    (runOps kids fuel h (l.map fun c => Op.add c.1 c.2)).trace = h.trace ∧
    (runOps kids fuel h (l.map fun c => Op.add c.1 c.2)).hz = h.hz := by
  induction l generalizing h with
  | nil => exact ⟨rfl, rfl, rfl⟩
  -- an `add` step is `addCallback` on the state and leaves trace and horizon alone, by definition
  | cons c cs ih => exact ih (stepOp kids fuel h (.add c.1 c.2))

example : (addAll init ([(1, 7), (1, 3)] ++ [(1/2, 4), (5, 9)])).queue.length = 4 := by decide +kernel

end HcipyVerif.Scheduler
