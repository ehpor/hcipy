import Mathlib.Algebra.BigOperators.Intervals
import Mathlib.Algebra.BigOperators.Ring.Finset
import Mathlib.Algebra.Field.Basic
import Mathlib.Tactic.Ring
import Mathlib.Tactic.Linarith
import Mathlib.Data.Int.ModEq
import HcipyVerif.Model.FftIndex

/-!
# Index lemmas for the FFT pipeline (C01/C02)

`fft_core_eq_sum`: pad → ifftshift → DFT → fftshift → crop is the centred sum, for every
`M`-periodic character; `core_eq_sum` covers the emulated-fftshift configuration as well.
Indices are reduced modulo `M` in two lemmas only: `sum_shift_mod` (a roll permutes `[0, M)`) and
`sum_roll` (the shift theorem, also behind `circ_conv_theorem`); zero padding is `sum_padAt`.
-/
set_option linter.unusedVariables false

namespace HcipyVerif.Fft
open Finset

/-- `exp` enters every Fourier theorem only through these two laws. -/
structure IsChar {K C : Type} [Field K] [Field C] (T : K → C) : Prop where
  add : ∀ a b, T (a + b) = T a * T b
  zero : T 0 = 1

namespace IsChar
variable {K C : Type} [Field K] [Field C] {T : K → C} (h : IsChar T)
include h

theorem mul_neg (a : K) : T a * T (-a) = 1 := by
  rw [← h.add, add_neg_cancel, h.zero]

theorem ne_zero (a : K) : T a ≠ 0 := by
  intro h0
  have := h.mul_neg a
  rw [h0, zero_mul] at this
  exact zero_ne_one this

theorem inv (a : K) : (T a)⁻¹ = T (-a) := by
  have := h.mul_neg a
  exact inv_eq_of_mul_eq_one_right this

theorem sub (a b : K) : T (a - b) = T a * (T b)⁻¹ := by
  rw [sub_eq_add_neg, h.add, h.inv]

theorem map_neg_add (a b : K) : T (-(a + b)) = T (-a) * T (-b) := by
  rw [neg_add, h.add]

theorem nat_mul (a : K) (n : ℕ) : T ((n : K) * a) = T a ^ n := by
  induction n with
  | zero => rw [Nat.cast_zero, zero_mul, h.zero, pow_zero]
  | succ n ih => rw [Nat.cast_succ, add_mul, one_mul, h.add, ih, pow_succ]

theorem mul_nat (a : K) (n : ℕ) : T (a * (n : K)) = T a ^ n := by
  rw [mul_comm, h.nat_mul]

end IsChar

section
variable {C : Type} [CommRing C]

theorem sumRange_eq (n : ℕ) (g : ℕ → C) : sumRange n g = ∑ i ∈ range n, g i := by
  induction n with
  | zero => simp [sumRange]
  | succ n ih => rw [sumRange, ih, Finset.sum_range_succ]

theorem dft_congr (M : ℕ) (ker : ℤ → C) (a b : ℕ → C) (h : ∀ p < M, a p = b p) (q : ℕ) :
    dft M ker a q = dft M ker b q := by
  unfold dft
  rw [sumRange_eq, sumRange_eq]
  exact Finset.sum_congr rfl fun p hp => by rw [h p (mem_range.mp hp)]

/-- An abstract `M`-periodic character on the integers (the DFT kernel). -/
structure PChar (C : Type) [CommRing C] (M : ℕ) where
  χ : ℤ → C
  add : ∀ a b, χ (a + b) = χ a * χ b
  period : ∀ n : ℤ, χ (M * n) = 1

namespace PChar
variable {M : ℕ} (c : PChar C M)

theorem zero : c.χ 0 = 1 := by simpa using c.period 0

theorem mod_eq (a b : ℤ) (h : a ≡ b [ZMOD M]) : c.χ a = c.χ b := by
  obtain ⟨k, hk⟩ := (Int.modEq_iff_dvd.mp h)
  have : a = b + M * (-k) := by linarith
  rw [this, c.add, c.period, mul_one]
end PChar

theorem sum_shift_mod (M h : ℕ) (hM : 0 < M) (g : ℕ → C) :
    ∑ p ∈ range M, g ((p + h) % M) = ∑ r ∈ range M, g r := by
  have back : ∀ a b p, (a + b) % M = 0 → p < M → ((p + a) % M + b) % M = p := by
    intro a b p hab hp
    rw [Nat.mod_add_mod, add_assoc, Nat.add_mod, hab, add_zero, Nat.mod_mod, Nat.mod_eq_of_lt hp]
  have hh : (h + (M - h % M)) % M = 0 := by
    have hlt : h % M < M := Nat.mod_lt _ hM
    have e : h + (M - h % M) = M * (h / M + 1) := by
      have := Nat.div_add_mod h M
      rw [mul_add, mul_one]; omega
    rw [e, Nat.mul_mod_right]
  apply Finset.sum_nbij' (fun p => (p + h) % M) (fun r => (r + (M - h % M)) % M)
  · intro p _; exact mem_range.mpr (Nat.mod_lt _ hM)
  · intro r _; exact mem_range.mpr (Nat.mod_lt _ hM)
  · intro p hp; exact back _ _ p hh (mem_range.mp hp)
  · intro r hr; exact back _ _ r (by rw [add_comm]; exact hh) (mem_range.mp hr)
  · intro p _; rfl

/-- Shift theorem: rolling the array by `h` (`ifftshift`, a lag of a circular convolution) moves
the index the kernel sees. -/
theorem sum_roll {M : ℕ} (c : PChar C M) (hM : 0 < M) (h : ℕ) (a : ℕ → C) (κ : ℤ) :
    ∑ p ∈ range M, a ((p + h) % M) * c.χ ((p : ℤ) * κ)
      = ∑ r ∈ range M, a r * c.χ (((r : ℤ) - h) * κ) := by
  rw [← sum_shift_mod M h hM fun r => a r * c.χ (((r : ℤ) - h) * κ)]
  refine Finset.sum_congr rfl fun p _ => congrArg _ (c.mod_eq _ _ (Int.ModEq.mul_right κ ?_))
  have := (Int.mod_modEq ((p : ℤ) + h) M).symm.sub_right (h : ℤ)
  simpa using this

def padAt (s N : ℕ) (f : ℕ → C) (p : ℕ) : C := if s ≤ p ∧ p < s + N then f (p - s) else 0

theorem pad_eq (N M : ℕ) (f : ℕ → C) : pad N M f = padAt (padStart N M) N f := rfl

theorem sum_padAt (s N M : ℕ) (hsN : s + N ≤ M) (f : ℕ → C) (g : ℕ → C) :
    ∑ r ∈ range M, padAt s N f r * g r = ∑ j ∈ range N, f j * g (j + s) := by
  rw [← Finset.sum_subset (s₁ := Ico s (s + N))
      (fun r hr => mem_range.mpr ((mem_Ico.mp hr).2.trans_le hsN))
      (fun r _ hr => by rw [padAt, if_neg (mem_Ico.not.mp hr), zero_mul]),
    Finset.sum_Ico_eq_sum_range, Nat.add_sub_cancel_left]
  refine Finset.sum_congr rfl fun j hj => ?_
  rw [padAt, if_pos ⟨Nat.le_add_right s j, Nat.add_lt_add_left (mem_range.mp hj) s⟩,
    Nat.add_sub_cancel_left, add_comm]

theorem padStart_add_le {N M : ℕ} (h : N ≤ M) : padStart N M + N ≤ M := by
  unfold padStart; omega

theorem fft_core_eq_sum {M : ℕ} (c : PChar C M) (N Mo : ℕ) (hM : 0 < M) (hNM : N ≤ M) (hMo : Mo ≤ M)
    (f : ℕ → C) (k : ℕ) (hk : k < Mo) :
    core true N M Mo c.χ f k
      = ∑ j ∈ range N, f j * c.χ (((j : ℤ) - (N / 2 : ℕ)) * ((k : ℤ) - (Mo / 2 : ℕ))) := by
  have hNh : N / 2 ≤ M / 2 := Nat.div_le_div_right hNM
  have hMoh : Mo / 2 ≤ M / 2 := Nat.div_le_div_right hMo
  have hhM : M / 2 ≤ M := Nat.div_le_self M 2
  -- the frequency the crop reads after `fftshift` is `k - ⌊Mo/2⌋` up to a period
  have hq : ∀ p : ℤ, c.χ (p * ((k + padStart Mo M + (M - M / 2)) % M : ℕ))
      = c.χ (p * ((k : ℤ) - (Mo / 2 : ℕ))) := fun p => by
    refine c.mod_eq _ _ (Int.ModEq.mul_left p ?_)
    rw [Int.natCast_mod]
    refine (Int.mod_modEq _ _).trans (Int.modEq_iff_dvd.mpr ⟨-1, ?_⟩)
    unfold padStart
    push_cast [Nat.cast_sub hMoh, Nat.cast_sub hhM]
    ring
  simp only [core, if_true, crop, fftshift, dft, ifftshift, sumRange_eq, hq]
  rw [sum_roll c hM, pad_eq, sum_padAt _ N M (padStart_add_le hNM)]
  refine Finset.sum_congr rfl fun j _ => ?_
  unfold padStart
  rw [Nat.cast_add, Nat.cast_sub hNh]
  congr 2
  ring

/-- Without the two shifts no periodicity is needed. -/
theorem core_noshift_eq_sum (M N Mo : ℕ) (hNM : N ≤ M) (ker : ℤ → C) (f : ℕ → C) (k : ℕ) :
    core false N M Mo ker f k
      = ∑ j ∈ range N, f j * ker (((j + padStart N M : ℕ) : ℤ) * ((k + padStart Mo M : ℕ) : ℤ)) := by
  simp only [core, Bool.false_eq_true, if_false]
  unfold crop dft
  rw [sumRange_eq, pad_eq]
  exact sum_padAt (padStart N M) N M (padStart_add_le hNM) f
    (fun r => ker ((r : ℤ) * ((k + padStart Mo M : ℕ) : ℤ)))

/-- where the DFT reads (`shiftIn`) and where the crop reads the DFT (`shiftOut`), with the two
shifts or without -/
def shiftIn (b : Bool) (M p : ℕ) : ℕ := if b then (p + M / 2) % M else p
def shiftOut (b : Bool) (M Mo k : ℕ) : ℕ :=
  if b then (k + padStart Mo M + (M - M / 2)) % M else k + padStart Mo M

theorem core_eq_dft (b : Bool) (N M Mo : ℕ) (ker : ℤ → C) (f : ℕ → C) (k : ℕ) :
    core b N M Mo ker f k
      = ∑ p ∈ range M, pad N M f (shiftIn b M p) * ker ((p : ℤ) * (shiftOut b M Mo k : ℕ)) := by
  cases b
  · exact sumRange_eq _ _
  · exact sumRange_eq _ _

/-- The index a sample of the window of `N` inside `M` carries into the DFT kernel: centred when
the arrays are shifted, its position in the internal array when they are not. -/
def coreIdx (shifts : Bool) (N M j : ℕ) : ℤ :=
  if shifts then (j : ℤ) - (N / 2 : ℕ) else ((j + padStart N M : ℕ) : ℤ)

theorem core_eq_sum {M : ℕ} (c : PChar C M) (b : Bool) (N Mo : ℕ) (hM : 0 < M) (hNM : N ≤ M)
    (hMo : Mo ≤ M) (f : ℕ → C) (k : ℕ) (hk : k < Mo) :
    core b N M Mo c.χ f k = ∑ j ∈ range N, f j * c.χ (coreIdx b N M j * coreIdx b Mo M k) := by
  cases b
  · exact core_noshift_eq_sum M N Mo hNM c.χ f k
  · exact fft_core_eq_sum c N Mo hM hNM hMo f k hk

end

/-- the kernel of the inverse DFT -/
def PChar.inv {C : Type} [Field C] {M : ℕ} (c : PChar C M) : PChar C M where
  χ n := (c.χ n)⁻¹
  add a b := by rw [c.add, mul_inv]
  period n := by rw [c.period, inv_one]

end HcipyVerif.Fft
