import HcipyVerif.Model.Cache
import HcipyVerif.Lemmas.Dict
import HcipyVerif.Lemmas.OptionRules
import Mathlib.Data.Finset.Card

/-! Invariants of the instance-cache model (`Model/Cache.lean`) and the lemmas by which one request
keeps them (C05). -/

namespace HcipyVerif.Cache

/-- The declared dependencies of the element are truthful: two requests with the same request key
lead to the same instance key.  It holds for every element that is wavelength dependent or not
grid dependent (`C05.truthful_of_declared_deps`), i.e. for every shipped element; for a grid-dependent,
wavelength-independent element it says that the grid functions ignore the wavelength. -/
def Truthful (e : Elem) : Prop :=
  ∀ ver i o w i2 o2 w2 k, reqKey e i o w = some k → reqKey e i2 o2 w2 = some k →
    fullKey e ver i o w = fullKey e ver i2 o2 w2

/-- Soundness of the cache: every entry `(k, v)` holds an instance of the current parameter
version, and every request whose key is `k` must be answered by an instance made for `v.key`. -/
def Sound (e : Elem) (s : St) : Prop :=
  ∀ p ∈ s.cache, p.2.ver = s.ver ∧
    ∀ i o w, reqKey e i o w = some p.1 → fullKey e s.ver i o w = some p.2.key

/-- Accounting: `_num_in_cache` is the number of distinct live instance objects, it never exceeds
`max_in_cache`, and identities are fresh. -/
def Acc (e : Elem) (s : St) : Prop :=
  s.num = (s.cache.map (·.2.id)).toFinset.card ∧ s.num ≤ e.maxN ∧ ∀ p ∈ s.cache, p.2.id < s.next

/-- First entries appear in creation order: the list of identities is built by appending either an
identity that is already present (an alias) or one larger than all present (a new instance). -/
inductive FirstSorted : List Nat → Prop
  | nil : FirstSorted []
  | old (l : List Nat) (x : Nat) : FirstSorted l → x ∈ l → FirstSorted (l ++ [x])
  | new (l : List Nat) (x : Nat) : FirstSorted l → (∀ y ∈ l, y < x) → FirstSorted (l ++ [x])

/-- The dict is ordered oldest instance first. -/
def Fifo (s : St) : Prop := FirstSorted (s.cache.map (·.2.id))

/-- Every request with request key `k` leads, at parameter version `ver`, to the instance key `k2`.
`Sound e s` says of every entry `(k, v)` that `v.ver = s.ver` and `Resolves e s.ver k v.key`. -/
def Resolves (e : Elem) (ver : Nat) (k k2 : Key) : Prop :=
  ∀ i o w, reqKey e i o w = some k → fullKey e ver i o w = some k2

theorem sound_acc_of_empty (e : Elem) {s : St} (hc : s.cache = []) (hn : s.num = 0) :
    Sound e s ∧ Acc e s := by
  obtain ⟨cache, num, ver, next⟩ := s
  cases hc
  cases hn
  exact ⟨fun _ hp => absurd hp List.not_mem_nil, rfl, Nat.zero_le _,
    fun _ hp => absurd hp List.not_mem_nil⟩

theorem lookup_none_of_sub {c c' : List (Key × Inst)} {k : Key} (h : lookup c k = none)
    (hsub : ∀ p ∈ c', p ∈ c) : lookup c' k = none :=
  Dict.lookup_eq_none_iff.2 fun p hp => Dict.lookup_eq_none_iff.1 h p (hsub p hp)

def St.push (s : St) (k : Key) (v : Inst) : St := { s with cache := s.cache ++ [(k, v)] }

theorem St.mem_push {s : St} {k : Key} {v : Inst} {p : Key × Inst} (hp : p ∈ (s.push k v).cache) :
    p ∈ s.cache ∨ p = (k, v) :=
  (List.mem_append.1 hp).imp_right List.eq_of_mem_singleton

/-- `_get_cache_keys` in closed form. -/
theorem reqKey_eq (e : Elem) (i o : Option GridId) (w : Option WlKey) :
    reqKey e i o w =
      if (e.gridDep && i.isNone && o.isNone) || (e.wlDep && w.isNone) then none
      else some ⟨if e.gridDep then i else none, if e.gridDep then o else none,
        if e.wlDep then w else none⟩ := by
  unfold reqKey
  cases e.gridDep <;> cases e.wlDep <;> cases w <;> cases i <;> cases o <;> rfl

theorem resolve_isNone (e : Elem) (ver : Nat) (i o : Option GridId) (w : Option WlKey)
    (h : ((resolve e ver i o w).1.isNone && (resolve e ver i o w).2.isNone) = true) :
    (i.isNone && o.isNone) = true := by
  cases i <;> cases o <;> simp [resolve] at h ⊢

theorem resolve_idem (e : Elem) (ver : Nat) (i o : Option GridId) (w : Option WlKey) :
    resolve e ver (resolve e ver i o w).1 (resolve e ver i o w).2 w = resolve e ver i o w := by
  cases i with
  | none =>
    cases o with
    | none => simp [resolve]
    | some b =>
      cases h : e.getIn ver w b <;> simp [resolve, h]
  | some a =>
    cases o with
    | none =>
      cases h : e.getOut ver w a <;> simp [resolve, h]
    | some b => simp [resolve]

theorem fullKey_idem (e : Elem) (ver : Nat) (i o : Option GridId) (w : Option WlKey) :
    fullKey e ver (resolve e ver i o w).1 (resolve e ver i o w).2 w = fullKey e ver i o w := by
  unfold fullKey
  rw [resolve_idem]

/-- The second `_get_cache_keys` call cannot raise when the first did not. -/
theorem fullKey_isSome_of_reqKey {e : Elem} {i o : Option GridId} {w : Option WlKey} {k : Key}
    (ver : Nat) (h : reqKey e i o w = some k) : ∃ k2, fullKey e ver i o w = some k2 := by
  rw [reqKey_eq] at h
  rw [fullKey, reqKey_eq]
  split at h
  · cases h
  · rename_i hc
    rw [if_neg]
    · exact ⟨_, rfl⟩
    · intro hc'
      apply hc
      rw [Bool.or_eq_true, Bool.and_assoc, Bool.and_eq_true] at hc' ⊢
      exact hc'.imp_left (And.imp_right (resolve_isNone e ver i o w))

/-- For an element that is wavelength dependent or not grid dependent, a request leads where the request
spelt by its key leads: the key retains everything of the request that `fullKey` reads. -/
theorem fullKey_of_reqKey {e : Elem} (h : e.wlDep = true ∨ e.gridDep = false) (ver : Nat)
    {i o : Option GridId} {w : Option WlKey} {k : Key} (hk : reqKey e i o w = some k) :
    fullKey e ver i o w = fullKey e ver k.i k.o k.w := by
  rw [reqKey_eq] at hk
  split at hk
  · cases hk
  · cases hk
    cases hg : e.gridDep with
    | true => rw [h.resolve_right (by rw [hg]; nofun)]; rfl
    | false =>
      unfold fullKey
      rw [reqKey_eq, reqKey_eq, hg]
      cases e.wlDep <;> rfl

/-- For a truthful element one request speaks for all with its key; and the resolved request, whose
request key is the full key `k2`, speaks for all with key `k2`. -/
theorem resolves_of_request {e : Elem} (hT : Truthful e) {ver : Nat} {i o : Option GridId}
    {w : Option WlKey} {k1 k2 : Key} (hk1 : reqKey e i o w = some k1)
    (hk2 : fullKey e ver i o w = some k2) : Resolves e ver k1 k2 ∧ Resolves e ver k2 k2 :=
  ⟨fun i' o' w' h' => (hT ver i' o' w' i o w k1 h' hk1).trans hk2,
    fun i' o' w' h' => (hT ver i' o' w' _ _ w k2 h' hk2).trans ((fullKey_idem ..).trans hk2)⟩

/-- Both outcomes of `evict`: unchanged when not full; when full, the oldest entry and every other entry of
its instance go, and only an empty dict fails. -/
theorem evict_spec (e : Elem) (s : St) : Yields (evict e s)
    (fun s' => (s.num ≠ e.maxN ∧ s' = s) ∨
      ∃ k v rest, s.num = e.maxN ∧ s.cache = (k, v) :: rest ∧
        s' = { s with cache := s.cache.filter (fun p => p.2.id != v.id), num := s.num - 1 })
    (fun _ => s.num = e.maxN ∧ s.cache = []) := by
  unfold evict
  split
  · rename_i hfull
    split
    · rename_i hc
      exact .error ⟨hfull, hc⟩
    · rename_i k v rest hc
      exact .ok (.inr ⟨k, v, rest, hfull, hc, by rw [hc, List.filter_cons_of_neg (by simp)]⟩)
  · rename_i hfull
    exact .ok (.inl ⟨hfull, rfl⟩)

theorem evict_ok {e : Elem} {s s' : St} (h : evict e s = .ok s') :
    s'.ver = s.ver ∧ s'.next = s.next ∧ (∀ p ∈ s'.cache, p ∈ s.cache) := by
  rcases (evict_spec e s).1 s' h with ⟨_, rfl⟩ | ⟨k, v, rest, _, _, rfl⟩
  · exact ⟨rfl, rfl, fun _ hp => hp⟩
  · exact ⟨rfl, rfl, fun p hp => List.mem_of_mem_filter hp⟩

theorem FirstSorted.head_le {l : List Nat} (h : FirstSorted l) :
    ∀ x t, l = x :: t → ∀ y ∈ l, x ≤ y := by
  induction h with
  | nil => intro x t hl; cases hl
  | old l z _ hz ih =>
    intro x t hl y hy
    obtain ⟨a, l', rfl⟩ := List.exists_cons_of_ne_nil (List.ne_nil_of_mem hz)
    cases hl
    rcases List.mem_append.1 hy with hy | hy
    · exact ih x l' rfl y hy
    · exact List.eq_of_mem_singleton hy ▸ ih x l' rfl z hz
  | new l z _ hz ih =>
    intro x t hl y hy
    cases l with
    | nil =>
      cases hl
      exact (List.eq_of_mem_singleton hy).ge
    | cons a l' =>
      cases hl
      rcases List.mem_append.1 hy with hy | hy
      · exact ih x l' rfl y hy
      · exact List.eq_of_mem_singleton hy ▸ (hz x List.mem_cons_self).le

theorem FirstSorted.filter_ne {l : List Nat} (h : FirstSorted l) (z : Nat) :
    FirstSorted (l.filter (fun y => y != z)) := by
  induction h with
  | nil => exact .nil
  | old l x _ hx ih =>
    rw [List.filter_append, List.filter_singleton]
    by_cases hxz : x = z
    · rw [hxz, bne_self_eq_false, cond_false, List.append_nil]
      exact ih
    · rw [bne_iff_ne.2 hxz, cond_true]
      exact .old _ x ih (List.mem_filter.2 ⟨hx, bne_iff_ne.2 hxz⟩)
  | new l x _ hx ih =>
    rw [List.filter_append, List.filter_singleton]
    by_cases hxz : x = z
    · rw [hxz, bne_self_eq_false, cond_false, List.append_nil]
      exact ih
    · rw [bne_iff_ne.2 hxz, cond_true]
      exact .new _ x ih fun y hy => hx y (List.mem_of_mem_filter hy)

theorem evict_ids {e : Elem} {s : St} (hmax : 1 ≤ e.maxN) (ha : Acc e s) :
    ∃ s', evict e s = .ok s' ∧ Acc e s' ∧ s'.num < e.maxN ∧ (Fifo s → Fifo s') := by
  obtain ⟨hnum, hle, hid⟩ := ha
  cases h : evict e s with
  | error err =>
    -- a full cache counts at least one instance, so the dict is not empty
    obtain ⟨hfull, hc⟩ := (evict_spec e s).2 err h
    rw [hc] at hnum
    exact absurd (hfull.symm.trans hnum) (Nat.ne_of_gt hmax)
  | ok s' =>
    refine ⟨s', rfl, ?_⟩
    rcases (evict_spec e s).1 s' h with ⟨hne, rfl⟩ | ⟨k, v, rest, hfull, hc, rfl⟩
    · exact ⟨⟨hnum, hle, hid⟩, Nat.lt_of_le_of_ne hle hne, id⟩
    · have hmem : v.id ∈ (s.cache.map (·.2.id)).toFinset := by
        rw [hc]
        exact List.mem_toFinset.2 List.mem_cons_self
      -- the identities left are the identities without `v.id`: as a set, one fewer; as a list, still in order
      have hids : (s.cache.filter fun p => p.2.id != v.id).map (·.2.id) =
          (s.cache.map (·.2.id)).filter (· != v.id) := by rw [List.filter_map]; rfl
      refine ⟨⟨?_, Nat.le_trans (Nat.sub_le _ _) hle, fun q hq => hid q (List.mem_of_mem_filter hq)⟩, ?_,
        fun hf => show FirstSorted _ from hids ▸ hf.filter_ne v.id⟩
      · show s.num - 1 = (List.map _ (List.filter _ s.cache)).toFinset.card
        rw [hids, List.toFinset_filter]
        simp only [bne_iff_ne]
        rw [Finset.filter_ne', Finset.card_erase_of_mem hmem, hnum]
      · show s.num - 1 < e.maxN
        omega

/-- Both outcomes of one request.  A value: found under the request key; or found under the full key and
the request key pushed as its alias; or created after eviction, pushed under the full key and, if different,
under the request key.  An error: the `ValueError` of an incomplete request, or the error of `evict`. -/
theorem getInstanceDataHow_spec (e : Elem) (s : St) (i o : Option GridId) (w : Option WlKey) :
    Yields (getInstanceDataHow e s i o w)
      (fun (s', v, how) => ∃ k1 k2, reqKey e i o w = some k1 ∧ fullKey e s.ver i o w = some k2 ∧
        ((how = .hitRequest ∧ s' = s ∧ lookup s.cache k1 = some v) ∨
         (how = .hitFull ∧ lookup s.cache k1 = none ∧ lookup s.cache k2 = some v ∧ s' = s.push k1 v) ∨
         (how = .created ∧ lookup s.cache k1 = none ∧ lookup s.cache k2 = none ∧
            v = ⟨k2, s.ver, s.next⟩ ∧
            ∃ se, evict e s = .ok se ∧
              (s' = St.push { se with num := se.num + 1, next := s.next + 1 } k2 v ∨
               s' = (St.push { se with num := se.num + 1, next := s.next + 1 } k2 v).push k1 v))))
      (fun err => (err = .value ∧ reqKey e i o w = none) ∨ evict e s = .error err) := by
  unfold getInstanceDataHow
  split
  · rename_i hk1
    exact .error (.inl ⟨rfl, hk1⟩)
  · rename_i k1 hk1
    obtain ⟨k2', hk2'⟩ := fullKey_isSome_of_reqKey s.ver hk1
    split
    · rename_i v1 hl1
      exact .ok ⟨k1, k2', hk1, hk2', .inl ⟨rfl, rfl, hl1⟩⟩
    · rename_i hl1
      split
      · rename_i hk2
        cases hk2'.symm.trans hk2
      · rename_i k2 hk2
        split
        · rename_i v2 hl2
          exact .ok ⟨k1, k2, hk1, hk2, .inr (.inl ⟨rfl, hl1, hl2, by
            rw [show assign _ k1 v2 = _ from Dict.assign_of_lookup_none _ hl1]; rfl⟩)⟩
        · rename_i hl2
          unfold addToCache
          split
          · rename_i err hev
            exact .error (.inr hev)
          · rename_i se hev
            refine .ok ⟨k1, k2, hk1, hk2, .inr (.inr ⟨rfl, hl1, hl2, rfl, se, hev, ?_⟩)⟩
            have hsub := (evict_ok hev).2.2
            have h2 := lookup_none_of_sub hl2 hsub
            simp only [List.foldl_cons, List.foldl_nil, show assign _ k2 _ = _ from Dict.assign_of_lookup_none _ h2]
            by_cases hk : k1 = k2
            · subst hk
              exact .inl (by rw [show assign _ k1 _ = _ from Dict.assign_append_self _ h2]; rfl)
            · exact .inr (by
                rw [show assign _ k1 _ = _ from Dict.assign_of_lookup_none _
                  (Dict.lookup_append_none _ (lookup_none_of_sub hl1 hsub) (Ne.symm hk))]; rfl)

/-- With the accounting invariant `popitem` never meets an empty dict: only an incomplete request fails. -/
theorem getInstanceDataHow_error {e : Elem} {s : St} (hmax : 1 ≤ e.maxN) (ha : Acc e s)
    {i o : Option GridId} {w : Option WlKey} {err : Err} (h : getInstanceDataHow e s i o w = .error err) :
    err = .value ∧ reqKey e i o w = none := by
  rcases (getInstanceDataHow_spec e s i o w).2 err h with h | hev
  · exact h
  · obtain ⟨se, hev', -⟩ := evict_ids hmax ha
    cases hev.symm.trans hev'

theorem sound_of_sub {e : Elem} {s s' : St} (hs : Sound e s) (hver : s'.ver = s.ver)
    (hsub : ∀ p ∈ s'.cache, p ∈ s.cache) : Sound e s' :=
  fun p hp => hver ▸ hs p (hsub p hp)

theorem sound_push {e : Elem} {s : St} {k : Key} {v : Inst} (hs : Sound e s) (hv : v.ver = s.ver)
    (hk : Resolves e s.ver k v.key) : Sound e (s.push k v) := by
  intro p hp
  rcases St.mem_push hp with hp | rfl
  · exact hs p hp
  · exact ⟨hv, hk⟩

theorem getInstanceDataHow_sound {e : Elem} (hT : Truthful e) {s s' : St}
    {i o : Option GridId} {w : Option WlKey} {v : Inst} {how : How} (hs : Sound e s)
    (h : getInstanceDataHow e s i o w = .ok (s', v, how)) :
    fullKey e s.ver i o w = some v.key ∧ v.ver = s.ver ∧ s'.ver = s.ver ∧ Sound e s' := by
  obtain ⟨k1, k2, hk1, hk2, hcase⟩ := (getInstanceDataHow_spec e s i o w).1 _ h
  obtain ⟨via1, via2⟩ := resolves_of_request hT hk1 hk2
  rcases hcase with ⟨_, rfl, hl⟩ | ⟨_, hl1, hl2, rfl⟩ | ⟨_, hl1, hl2, rfl, se, hev, hs'⟩
  · obtain ⟨hv, hreq⟩ := hs _ (Dict.lookup_mem hl)
    exact ⟨hreq i o w hk1, hv, rfl, hs⟩
  · obtain ⟨hv, hreq⟩ := hs _ (Dict.lookup_mem hl2)
    -- the entry under `k2` and the resolved request, whose key is `k2`, name the same instance key
    have hvk : k2 = v.key := Option.some.inj ((via2 _ _ w hk2).symm.trans (hreq _ _ w hk2))
    exact ⟨hvk ▸ hk2, hv, rfl, sound_push hs hv (hvk ▸ via1)⟩
  · obtain ⟨hver, -, hsub⟩ := evict_ok hev
    have h1 : Sound e (St.push { se with num := se.num + 1, next := s.next + 1 } k2 ⟨k2, s.ver, s.next⟩) :=
      sound_push (sound_of_sub hs hver hsub) hver.symm (hver ▸ via2)
    rcases hs' with rfl | rfl
    · exact ⟨hk2, rfl, hver, h1⟩
    · exact ⟨hk2, rfl, hver, sound_push h1 hver.symm (hver ▸ via1)⟩

theorem ids_push (s : St) (k : Key) (v : Inst) :
    ((s.push k v).cache.map (·.2.id)).toFinset = insert v.id (s.cache.map (·.2.id)).toFinset := by
  show ((s.cache ++ [(k, v)]).map (·.2.id)).toFinset = _
  rw [List.map_append, List.toFinset_append, Finset.union_comm]
  rfl

theorem ids_push_alias {e : Elem} {s : St} {k k' : Key} {v : Inst} (ha : Acc e s)
    (hm : (k', v) ∈ s.cache) : Acc e (s.push k v) ∧ (Fifo s → Fifo (s.push k v)) := by
  obtain ⟨hnum, hle, hid⟩ := ha
  have hmem : v.id ∈ s.cache.map (·.2.id) := List.mem_map.2 ⟨_, hm, rfl⟩
  refine ⟨⟨?_, hle, fun p hp => ?_⟩, fun hf => ?_⟩
  · show s.num = ((s.push k v).cache.map (·.2.id)).toFinset.card
    rw [ids_push, Finset.insert_eq_of_mem (List.mem_toFinset.2 hmem), hnum]
  · rcases St.mem_push hp with hp | rfl
    · exact hid p hp
    · exact hid (k', v) hm
  · show FirstSorted ((s.cache ++ [(k, v)]).map (·.2.id))
    rw [List.map_append]
    exact .old _ _ hf hmem

theorem ids_push_new {e : Elem} {s : St} (ha : Acc e s) (hlt : s.num < e.maxN) (k : Key) (v : Inst)
    (hv : v.id = s.next) :
    Acc e (St.push { s with num := s.num + 1, next := s.next + 1 } k v) ∧
      (Fifo s → Fifo (St.push { s with num := s.num + 1, next := s.next + 1 } k v)) := by
  obtain ⟨hnum, hle, hid⟩ := ha
  have hlast : ∀ y ∈ s.cache.map (·.2.id), y < v.id := fun y hy => by
    obtain ⟨p, hp, rfl⟩ := List.mem_map.1 hy
    exact hv ▸ hid p hp
  refine ⟨⟨?_, hlt, fun p hp => ?_⟩, fun hf => ?_⟩
  · show s.num + 1 = ((s.push k v).cache.map (·.2.id)).toFinset.card
    rw [ids_push, Finset.card_insert_of_notMem fun hmem =>
      Nat.lt_irrefl _ (hlast _ (List.mem_toFinset.1 hmem)), hnum]
  · show p.2.id < s.next + 1
    rcases St.mem_push hp with hp | rfl
    · exact Nat.lt_succ_of_lt (hid p hp)
    · exact hv ▸ Nat.lt_succ_self _
  · show FirstSorted ((s.cache ++ [(k, v)]).map (·.2.id))
    rw [List.map_append]
    exact .new _ _ hf hlast

theorem getInstanceDataHow_ids {e : Elem} (hmax : 1 ≤ e.maxN) {s s' : St}
    {i o : Option GridId} {w : Option WlKey} {v : Inst} {how : How} (ha : Acc e s)
    (h : getInstanceDataHow e s i o w = .ok (s', v, how)) : Acc e s' ∧ (Fifo s → Fifo s') := by
  obtain ⟨k1, k2, hk1, hk2, hcase⟩ := (getInstanceDataHow_spec e s i o w).1 _ h
  rcases hcase with ⟨_, rfl, hl⟩ | ⟨_, hl1, hl2, rfl⟩ | ⟨_, hl1, hl2, rfl, se, hev, hs'⟩
  · exact ⟨ha, id⟩
  · exact ids_push_alias ha (Dict.lookup_mem hl2)
  · obtain ⟨se', hev', hse, hlt, hfe⟩ := evict_ids hmax ha
    cases hev.symm.trans hev'
    have h1 := ids_push_new hse hlt k2 ⟨k2, s.ver, s.next⟩ (evict_ok hev).2.1.symm
    rw [(evict_ok hev).2.1] at h1
    rcases hs' with rfl | rfl
    · exact ⟨h1.1, fun hf => h1.2 (hfe hf)⟩
    · have h2 := ids_push_alias (k := k1) h1.1 (List.mem_append_right _ (List.mem_singleton_self _))
      exact ⟨h2.1, fun hf => h2.2 (h1.2 (hfe hf))⟩

/-- One request at the level of `step`: `getInstanceDataHow` fails and the state stays, or it returns and what
the instance was made for is the answer. -/
@[elab_as_elim]
theorem step_req_elim {e : Elem} {s : St} {i o : Option GridId} {w : Option WlKey}
    {motive : St × Resp → Prop}
    (error : ∀ err, getInstanceDataHow e s i o w = .error err → motive (s, .error err))
    (ok : ∀ s' v how, getInstanceDataHow e s i o w = .ok (s', v, how) → motive (s', .inst v.key v.ver)) :
    motive (step e s (.req i o w)) := by
  simp only [step, getInstanceData]
  cases h : getInstanceDataHow e s i o w with
  | error err => exact error err h
  | ok r => exact ok r.1 r.2.1 r.2.2 h

theorem getInstanceData_ok {e : Elem} {s s' : St} {i o : Option GridId} {w : Option WlKey} {v : Inst}
    (h : getInstanceData e s i o w = .ok (s', v)) : ∃ how, getInstanceDataHow e s i o w = .ok (s', v, how) := by
  unfold getInstanceData at h
  split at h
  · cases h
  · cases h
    exact ⟨_, ‹_›⟩

/-- What a request is answered with at parameter version `ver`: a function of the request alone. -/
def answer (e : Elem) (ver : Nat) (i o : Option GridId) (w : Option WlKey) : Resp :=
  match reqKey e i o w, fullKey e ver i o w with
  | some _, some k2 => .inst k2 ver
  | _, _ => .error .value

/-- Under the invariants a request is answered by `answer` at the current version, whatever the cache
holds, and keeps the invariants and the version. -/
theorem step_req_spec {e : Elem} (hT : Truthful e) (hmax : 1 ≤ e.maxN) {s : St} (hs : Sound e s)
    (ha : Acc e s) (i o : Option GridId) (w : Option WlKey) :
    (step e s (.req i o w)).2 = answer e s.ver i o w ∧ Sound e (step e s (.req i o w)).1 ∧
      Acc e (step e s (.req i o w)).1 ∧ (step e s (.req i o w)).1.ver = s.ver := by
  refine step_req_elim (fun err h => ?_) fun s' v how h => ?_
  · obtain ⟨rfl, hn⟩ := getInstanceDataHow_error hmax ha h
    rw [answer, hn]
    exact ⟨rfl, hs, ha, rfl⟩
  · obtain ⟨k1, _, hk1, _⟩ := (getInstanceDataHow_spec e s i o w).1 _ h
    obtain ⟨hfk, hv, hver, hs'⟩ := getInstanceDataHow_sound hT hs h
    rw [answer, hk1, hfk, hv]
    exact ⟨rfl, hs', (getInstanceDataHow_ids hmax ha h).1, hver⟩

/-- Calls on one shared object, threading its hidden state. -/
def runObj {σ X Y : Type} (call : σ → X → σ × Y) : σ → List X → List Y
  | _, [] => []
  | s, x :: xs => (call s x).2 :: runObj call (call s x).1 xs

theorem hidden_state_history_transparent {σ X Y : Type} (call : σ → X → σ × Y) (Ok : σ → Prop)
    (ans : X → Y) (h : ∀ s x, Ok s → Ok (call s x).1 ∧ (call s x).2 = ans x) (xs : List X) :
    ∀ s, Ok s → runObj call s xs = xs.map ans := by
  induction xs with
  | nil => intro s _; rfl
  | cons x xs ih =>
    intro s hs
    obtain ⟨h1, h2⟩ := h s x hs
    rw [runObj, h2, ih _ h1, List.map_cons]

theorem foldl_collect {σ X Y : Type} (call : σ → X → σ × Y) (xs : List X) (s : σ) (out : List Y) :
    (xs.foldl (fun (acc : σ × List Y) x => ((call acc.1 x).1, acc.2 ++ [(call acc.1 x).2])) (s, out)).2
      = out ++ runObj call s xs := by
  induction xs generalizing s out with
  | nil => exact (List.append_nil out).symm
  | cons x xs ih => rw [List.foldl_cons, ih, runObj, List.append_assoc, List.singleton_append]

end HcipyVerif.Cache

/- `Acc` is also core's accessibility predicate.  Where `HcipyVerif.Cache` is only opened, the bare name
is ambiguous: both readings are elaborated and the failing one (a coercion of `e : Elem` to a relation)
is slow to fail.  An alias in the namespace of `Properties/C05.lean` is found before the root name is. -/
namespace HcipyVerif.C05
export HcipyVerif.Cache (Acc)
end HcipyVerif.C05
