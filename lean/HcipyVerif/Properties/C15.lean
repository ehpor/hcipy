import HcipyVerif.Lemmas.Layer
import HcipyVerif.Lemmas.LayerHeap
import HcipyVerif.Lemmas.MultiLayer
import HcipyVerif.Lemmas.ShiftCyc

/-!
# C15 — Turbulence layers are reproducible and translate rigidly with the wind

Theorems about `HcipyVerif.Shift` (spectral phase ramp, row/column extrusion: index bookkeeping with the
axis order and ravel order the code uses), `HcipyVerif.Layer` (the two layers as state machines with
the random generator as an explicit value; the generators as heap cells; `MultiLayerAtmosphere`), the models tied to
hcipy by harness/props/c15.py and c15_atmos.py.

Hypothesis used by the spectral theorems: `χ` is an additive character (`χ (a+b) = χ a * χ b`) —
satisfied by `t ↦ exp(i t)`; the counterexamples use the character `n ↦ (-1)^n` of `ℤ`.
-/
namespace HcipyVerif.C15
open HcipyVerif.Shift HcipyVerif.Layer

/-! ## Spectral shift (finite layer) -/

/-- **Axis order.** At every flat index the repaired phase array is `sx·x_j + sy·y_j` for the Fourier-grid
point `(x_j, y_j)` stored at that index (x fastest), for every pair of axis lengths. -/
theorem phase_axis_order {K : Type} [Add K] [Mul K] (sx sy : K) (kx ky : List K) :
    phases sx sy kx ky = List.zipWith (fun a b => sy * b + sx * a) (gridX kx ky) (gridY kx ky) := by
  rw [phases_eq_pts, ← zip_grid, List.zip_eq_zipWith, List.map_zipWith]

/-- **Shift theorem, exact form.** Multiplying the coefficients by `χ(−k·s)` as `shift` does translates
the synthesised screen: `shifted(x, y) = orig(x − sx, y − sy)` at every point, for every grid shape
(`kx`, `ky` arbitrary lists — square or not) and every coefficient list. -/
theorem shift_theorem {K F : Type} [CommRing K] [CommRing F] (χ : K → F)
    (hχ : ∀ a b, χ (a + b) = χ a * χ b) (sx sy : K) (kx ky : List K) (C : List F) (x y : K) :
    synth χ kx ky (shift χ sx sy kx ky C) x y = synth χ kx ky C (x - sx) (y - sy) := by
  rw [synth_eq_sum, synth_eq_sum, shift_eq_zipWith, zipWith_zipWith_same]
  congr 2; funext c p
  rw [mul_assoc, ← hχ]; congr 2; ring

/-- The multiscale noise is the sum of two syntheses on two Fourier grids, both shifted by the same code;
any (real-part, weight) post-processing `re` applied to the sum commutes with the shift. -/
theorem shift_theorem_multiscale {K F R : Type} [CommRing K] [CommRing F] (χ : K → F)
    (hχ : ∀ a b, χ (a + b) = χ a * χ b) (re : F → R) (sx sy : K) (kx1 ky1 kx2 ky2 : List K)
    (C1 C2 : List F) (x y : K) :
    re (synth χ kx1 ky1 (shift χ sx sy kx1 ky1 C1) x y + synth χ kx2 ky2 (shift χ sx sy kx2 ky2 C2) x y)
      = re (synth χ kx1 ky1 C1 (x - sx) (y - sy) + synth χ kx2 ky2 C2 (x - sx) (y - sy)) := by
  rw [shift_theorem χ hχ, shift_theorem χ hχ]

/-- **Whole-pixel shifts are index translations**: on the grid `x_i = x0 + i·δx`, `y_j = y0 + j·δy`, the
screen shifted by `(a·δx, b·δy)` has at pixel `(i, j)` the value the original has at pixel `(i − a, j − b)`
(wherever that pixel lies — on the overlap it is a sample of the original screen). -/
theorem whole_pixel_exact {K F : Type} [CommRing K] [CommRing F] (χ : K → F)
    (hχ : ∀ a b, χ (a + b) = χ a * χ b) (kx ky : List K) (C : List F) (x0 y0 δx δy : K) (a b i j : Int) :
    synth χ kx ky (shift χ (a * δx) (b * δy) kx ky C) (x0 + i * δx) (y0 + j * δy)
      = synth χ kx ky C (x0 + ((i - a : Int) : K) * δx) (y0 + ((j - b : Int) : K) * δy) := by
  rw [shift_theorem χ hχ, Int.cast_sub, Int.cast_sub, sub_mul, sub_mul, add_sub_assoc, add_sub_assoc]

/-- The finite layer translates with the wind, at one point and in terms of `synth` only:
`screen_t(x, y) = screen_0(x − vx t, y − vy t)`. -/
theorem finite_layer_translates_synth {F : Type} [CommRing F] (χ : Rat → F)
    (hχ : ∀ a b, χ (a + b) = χ a * χ b) (L : FinL) (t : Rat) (kx ky : List Rat) (C : List F) (x y : Rat) :
    synth χ kx ky (shift χ (L.evolve t).center.1 (L.evolve t).center.2 kx ky C) x y
      = synth χ kx ky C (x - L.vel.1 * t) (y - L.vel.2 * t) := by
  rw [shift_theorem χ hχ]; rfl

/-- **The finite layer translates with the wind — with the synthesis assumption as a hypothesis.**
`backward C pts` stands for `fourier.backward(C)` evaluated on the points `pts` of the input grid (FFT on the
high-frequency scale, MFT on the low-frequency one); `hback` is the kernel specification this framework assumes for it
(C01–C03 prove it for the FFT/MFT index bookkeeping): it is the character sum `synth`.  Then the screen the layer shows
at time `t` on the grid is the `t = 0` noise evaluated **on the grid displaced by `−velocity·t`** — which is literally
what the harness's `translate-any` oracle computes with the real code. -/
theorem finite_layer_translates {F : Type} [CommRing F] (χ : Rat → F) (hχ : ∀ a b, χ (a + b) = χ a * χ b)
    (kx ky : List Rat) (backward : List F → List (Rat × Rat) → List F)
    (hback : ∀ C pts, backward C pts = pts.map fun p => synth χ kx ky C p.1 p.2)
    (L : FinL) (t : Rat) (C : List F) (pts : List (Rat × Rat)) :
    backward (shift χ (L.evolve t).center.1 (L.evolve t).center.2 kx ky C) pts
      = backward C (pts.map fun p => (p.1 - L.vel.1 * t, p.2 - L.vel.2 * t)) := by
  rw [hback, hback, List.map_map]
  exact List.map_congr_left fun p _ => finite_layer_translates_synth χ hχ L t kx ky C p.1 p.2

/-- the synthesis hypothesis is satisfiable (by `synth` itself) -/
example : ∃ backward : List Int → List (Rat × Rat) → List Int,
    ∀ C pts, backward C pts = pts.map fun p => synth (fun _ => (1 : Int)) [0, 1] [0] C p.1 p.2 :=
  ⟨fun C pts => pts.map fun p => synth (fun _ => (1 : Int)) [0, 1] [0] C p.1 p.2, fun _ _ => rfl⟩

/-- non-vacuity of the character hypothesis -/
example : ∃ χ : Int → Int, (∀ a b, χ (a + b) = χ a * χ b) ∧ χ 1 ≠ χ 0 := ⟨parity, parity_add, by decide⟩

/-- **D16.** With the axis order of the code before the repair (`np.ix_(*S)`), on a 2×3 grid
(`nx = 2`, `ny = 3`) a shift along x does *not* translate the screen: there are coefficients, a character and
a point where `shiftOld` differs from `orig(x − s)`.  (On this non-square grid the old phase array is not
even the transposed one, it is scrambled.) -/
theorem shift_axes_swapped_counterexample :
    ∃ (kx ky : List Int) (C : List Int) (sx sy x y : Int),
      kx.length = 2 ∧ ky.length = 3 ∧
      synth parity kx ky (shiftOld parity sx sy kx ky C) x y ≠ synth parity kx ky C (x - sx) (y - sy) ∧
      synth parity kx ky (shift parity sx sy kx ky C) x y = synth parity kx ky C (x - sx) (y - sy) :=
  ⟨[0, 1], [0, 1, 2], [0, 1, 0, 0, 0, 0], 1, 0, 0, 0, by decide, by decide, by decide, by decide⟩

/-! ## Row / column extrusion (infinite layer) -/

variable {α : Type}

/-- **`_extrude('left')`** on an `H × W` screen (any shape): every retained sample moves one pixel to
+x (`ix → ix+1`, same row) and the new column sits at `ix = 0`. -/
theorem extrude_left (W H : Nat) (new s : List α) (hs : s.length = H * W) (hn : new.length = H)
    (iy ix : Nat) (hy : iy < H) :
    (ix + 1 < W → (extrude .left W H new s)[iy * W + (ix + 1)]? = s[iy * W + ix]?) ∧
    (0 < W → (extrude .left W H new s)[iy * W + 0]? = new[iy]?) := by
  have hrl := shaped_row_length W H s hs
  have hl := shaped_length W H s
  simp only [extrude, Where.flipped, Where.horizontal, if_true, if_false, Bool.false_eq_true]
  constructor
  · intro hx
    rw [ravel_at2 W _ (hstackNew_row_length W (by omega) new _ hrl) iy (ix + 1) hx,
      at2_hstackNew_succ W new _ (by omega) hrl iy ix hx, at2_shaped W H s iy ix hy (by omega)]
  · intro hW
    rw [ravel_at2 W _ (hstackNew_row_length W hW new _ hrl) iy 0 hW,
      at2_hstackNew_zero new _ (by omega) iy]

/-- **`_extrude('bottom')`**: every retained sample moves one pixel to +y (`iy → iy+1`, same column); the
new row is row 0. -/
theorem extrude_bottom (W H : Nat) (new s : List α) (hs : s.length = H * W) (hn : new.length = W)
    (iy ix : Nat) (hx : ix < W) :
    (iy + 1 < H → (extrude .bottom W H new s)[(iy + 1) * W + ix]? = s[iy * W + ix]?) ∧
    (0 < H → (extrude .bottom W H new s)[0 * W + ix]? = new[ix]?) := by
  have hrl := shaped_row_length W H s hs
  have hl := shaped_length W H s
  simp only [extrude, Where.flipped, Where.horizontal, if_false, Bool.false_eq_true]
  constructor
  · intro hy
    rw [ravel_at2 W _ (vstackNew_row_length W new hn _ hrl) (iy + 1) ix hx,
      at2_vstackNew_succ new _ iy ix (by omega), at2_shaped W H s iy ix (by omega) hx]
  · intro hH
    rw [ravel_at2 W _ (vstackNew_row_length W new hn _ hrl) 0 ix hx, at2_vstackNew_zero]

/-- **`_extrude('right')`** (flip, extrude left, flip back): every retained sample moves one pixel to −x. -/
theorem extrude_right (W H : Nat) (new s : List α) (hs : s.length = H * W) (hn : new.length = H)
    (iy ix : Nat) (hy : iy < H) (hx : ix + 1 < W) :
    (extrude .right W H new s)[iy * W + ix]? = s[iy * W + (ix + 1)]? := by
  have hsr : s.reverse.length = H * W := by rw [List.length_reverse, hs]
  obtain ⟨m, rfl⟩ := Nat.exists_eq_add_of_lt hx
  obtain ⟨p, rfl⟩ := Nat.exists_eq_add_of_lt hy
  -- seen from the opposite corner, pixel `(ix, iy)` is `(m + 1, p)` and `(ix + 1, iy)` is `(m, p)`
  rw [extrude_right_eq,
    getElem?_reverse_grid _ _ _ (extrude_length .left _ _ new _ hsr hn (Nat.succ_pos _) (Nat.succ_pos _)) iy ix p
      (m + 1) rfl (by omega),
    (extrude_left _ _ new _ hsr hn p m (by omega)).1 (by omega),
    getElem?_reverse_grid _ _ s hs p m iy (ix + 1) (by omega) (by omega)]

/-- **`_extrude('top')`**: every retained sample moves one pixel to −y. -/
theorem extrude_top (W H : Nat) (new s : List α) (hs : s.length = H * W) (hn : new.length = W)
    (iy ix : Nat) (hy : iy + 1 < H) (hx : ix < W) :
    (extrude .top W H new s)[iy * W + ix]? = s[(iy + 1) * W + ix]? := by
  have hsr : s.reverse.length = H * W := by rw [List.length_reverse, hs]
  obtain ⟨m, rfl⟩ := Nat.exists_eq_add_of_lt hx
  obtain ⟨p, rfl⟩ := Nat.exists_eq_add_of_lt hy
  rw [extrude_top_eq,
    getElem?_reverse_grid _ _ _ (extrude_length .bottom _ _ new _ hsr hn (Nat.succ_pos _) (Nat.succ_pos _)) iy ix
      (p + 1) m (by omega) rfl,
    (extrude_bottom _ _ new _ hsr hn p m (by omega)).1 (by omega),
    getElem?_reverse_grid _ _ s hs p m (iy + 1) ix (by omega) (by omega)]

/-- **All four extrusions in one statement** (`Where.off` = left (+1,0), right (−1,0), bottom (0,+1),
top (0,−1)): a sample at pixel `(ix', iy')` before `_extrude(w)` sits at `(ix' + ox, iy' + oy)` afterwards,
whenever both pixels are on the `H × W` screen — square or not. -/
theorem extrude_moves (w : Where) (W H : Nat) (new s : List α) (hs : s.length = H * W)
    (hn : new.length = w.slice W H) (iy ix iy' ix' : Nat) (hy : iy < H) (hx : ix < W) (hy' : iy' < H)
    (hx' : ix' < W) (ex : (ix : Int) = ix' + w.off.1) (ey : (iy : Int) = iy' + w.off.2) :
    (extrude w W H new s)[iy * W + ix]? = s[iy' * W + ix']? := by
  cases w <;> simp only [Where.off, Where.slice, Where.horizontal, if_true, if_false, Bool.false_eq_true] at ex ey hn
  · obtain rfl : iy = iy' := by omega
    obtain rfl : ix = ix' + 1 := by omega
    exact (extrude_left W H new s hs hn iy ix' hy).1 hx
  · obtain rfl : iy = iy' := by omega
    obtain rfl : ix' = ix + 1 := by omega
    exact extrude_right W H new s hs hn iy ix hy hx'
  · obtain rfl : ix = ix' := by omega
    obtain rfl : iy' = iy + 1 := by omega
    exact extrude_top W H new s hs hn iy ix hy' hx
  · obtain rfl : ix = ix' := by omega
    obtain rfl : iy = iy' + 1 := by omega
    exact (extrude_bottom W H new s hs hn iy' ix hx).1 hy

/-- `k` successive `_extrude(w)` calls of the layer move every retained sample by `k` pixels in the
direction of `w.off`, whatever new columns/rows were generated in between; the screen keeps its shape. -/
theorem extrudeN_moves (w : Where) (k : Nat) (L : InfL) (hs : L.screen.length = L.ny * L.nx)
    (hW : 0 < L.nx) (hH : 0 < L.ny) :
    (InfL.extrudeN w k L).screen.length = L.ny * L.nx ∧
    ∀ iy ix iy' ix' : Nat, iy < L.ny → ix < L.nx → iy' < L.ny → ix' < L.nx →
      (ix : Int) = ix' + k * w.off.1 → (iy : Int) = iy' + k * w.off.2 →
      (InfL.extrudeN w k L).screen[iy * L.nx + ix]? = L.screen[iy' * L.nx + ix']? := by
  refine ⟨InfL.extrudeN_length w k L hs hW hH, ?_⟩
  induction k generalizing L with
  | zero =>
    intro iy ix iy' ix' _ _ _ _ ex ey
    obtain rfl : ix = ix' := by simpa using ex
    obtain rfl : iy = iy' := by simpa using ey
    rfl
  | succ k ih =>
    intro iy ix iy' ix' hy hx hy' hx' ex ey
    -- after the first extrusion the sample is at `(ix' + ox, iy' + oy)`, between where it starts and where it ends
    obtain ⟨mx, hmx, ex₁, ex₂⟩ := first_step_inside w.off_range.1 hx' hx ex
    obtain ⟨my, hmy, ey₁, ey₂⟩ := first_step_inside w.off_range.2 hy' hy ey
    exact (ih (L.extrude1 w) (InfL.extrudeN_length w 1 L hs hW hH) hW hH iy ix my mx hy hx hmy hmx ex₂ ey₂).trans
      (extrude_moves w L.nx L.ny _ _ hs (by rw [List.length_map, List.length_range]; rfl) my mx iy' ix' hmy hmx hy' hx'
        ex₁ ey₁)

/-- **`evolve_until` translates the screen with the wind.**  With `(dx, dy)` the pixel displacement
`round(centre'/δ) − round(centre/δ)` of the step, the sample at pixel `(ix', iy')` before the step is found at
`(ix' + dx, iy' + dy)` after it — for every shape, both signs of both components, any number of extrusions. -/
theorem evolve_translates (L : InfL) (t : Rat) (hs : L.screen.length = L.ny * L.nx)
    (hW : 0 < L.nx) (hH : 0 < L.ny) (iy ix iy' ix' : Nat) (hy : iy < L.ny) (hx : ix < L.nx)
    (hy' : iy' < L.ny) (hx' : ix' < L.nx)
    (ex : (ix : Int) = ix' + (pixel (L.center.1 + L.vel.1 * (t - L.t)) L.delta.1 - pixel L.center.1 L.delta.1))
    (ey : (iy : Int) = iy' + (pixel (L.center.2 + L.vel.2 * (t - L.t)) L.delta.2 - pixel L.center.2 L.delta.2)) :
    (L.evolveWith sideX sideY t).screen[iy * L.nx + ix]? = L.screen[iy' * L.nx + ix']? := by
  simp only [InfL.evolveWith]
  generalize hdx : pixel (L.center.1 + L.vel.1 * (t - L.t)) L.delta.1 - pixel L.center.1 L.delta.1 = dx at ex
  generalize hdy : pixel (L.center.2 + L.vel.2 * (t - L.t)) L.delta.2 - pixel L.center.2 L.delta.2 = dy at ey
  have h1 := extrudeN_moves (sideX dx) dx.natAbs L hs hW hH
  -- the second sweep works on a screen of the same shape
  have h2 := extrudeN_moves (sideY dy) dy.natAbs (InfL.extrudeN (sideX dx) dx.natAbs L)
  simp only [InfL.extrudeN_params] at h2
  rw [(h2 h1.1 hW hH).2 iy ix iy' ix hy hx hy' hx (by rw [(sideY_off dy).1]; simp) (by rw [(sideY_off dy).2]; exact ey)]
  exact h1.2 iy' ix iy' ix' hy' hx hy' hx' (by rw [(sideX_off dx).1]; exact ex) (by rw [(sideX_off dx).2]; simp)

/-- **Sign convention = the wind** (`screen(x, t+dt) = screen(x − v·dt, t)`, as for the finite layer): from a
pixel-aligned centre, a displacement `v·dt = (a·δx, b·δy)` of whole pixels moves the sample at pixel
`(ix', iy')` to `(ix' + a, iy' + b)` exactly. -/
theorem direction_agrees_with_velocity (L : InfL) (t : Rat) (hs : L.screen.length = L.ny * L.nx)
    (hW : 0 < L.nx) (hH : 0 < L.ny) (hδx : L.delta.1 ≠ 0) (hδy : L.delta.2 ≠ 0) (m n a b : Int)
    (hcx : L.center.1 = m * L.delta.1) (hcy : L.center.2 = n * L.delta.2)
    (hvx : L.vel.1 * (t - L.t) = a * L.delta.1) (hvy : L.vel.2 * (t - L.t) = b * L.delta.2)
    (iy ix iy' ix' : Nat) (hy : iy < L.ny) (hx : ix < L.nx) (hy' : iy' < L.ny) (hx' : ix' < L.nx)
    (ex : (ix : Int) = ix' + a) (ey : (iy : Int) = iy' + b) :
    (L.evolveWith sideX sideY t).screen[iy * L.nx + ix]? = L.screen[iy' * L.nx + ix']? := by
  apply evolve_translates L t hs hW hH iy ix iy' ix' hy hx hy' hx'
  · rw [hvx, hcx, ← add_mul, ← Int.cast_add, pixel_whole _ _ hδx, pixel_whole _ _ hδx, add_sub_cancel_left]; exact ex
  · rw [hvy, hcy, ← add_mul, ← Int.cast_add, pixel_whole _ _ hδy, pixel_whole _ _ hδy, add_sub_cancel_left]; exact ey

/-- the hypotheses of `direction_agrees_with_velocity` are satisfiable: a fresh 3×2 layer, wind one pixel per
unit time along +x: the sample of pixel (0,0) is at pixel (1,0) at `t = 1` -/
example : ((InfL.new 3 2 (1/4, 1/4) (1/4, 0) ⟨1, 10⟩ 7).evolveWith sideX sideY 1).screen[0 * 3 + 1]?
    = (InfL.new 3 2 (1/4, 1/4) (1/4, 0) ⟨1, 10⟩ 7).screen[0 * 3 + 0]? := by decide +kernel

/-- **D18.** With the side table of the code before the repair the same step moves the screen *against* the
wind: the sample of pixel (1,0) is found at pixel (0,0). -/
theorem direction_old_counterexample :
    let L := InfL.new 3 2 (1/4, 1/4) (1/4, 0) ⟨1, 10⟩ 7
    (L.evolveWith Old.sideX Old.sideY 1).screen[0 * 3 + 0]? = L.screen[0 * 3 + 1]? ∧
    (L.evolveWith Old.sideX Old.sideY 1).screen[0 * 3 + 1]? ≠ L.screen[0 * 3 + 0]? := by decide +kernel

/-- The shape hypothesis of `evolve_translates` holds for every layer that exists: every reset (hence
construction) produces an `ny × nx` screen, and every evolution keeps the shape. -/
theorem screen_shape (L : InfL) (b : Bool) (t : Rat) :
    (L.reset b).screen.length = (L.reset b).ny * (L.reset b).nx ∧
    (L.screen.length = L.ny * L.nx → 0 < L.nx → 0 < L.ny →
      (L.evolveWith sideX sideY t).screen.length = L.ny * L.nx) := by
  constructor
  · cases b <;> simp [InfL.reset, InfL.pickRng, InfL.initScreen, Nat.mul_comm]
  · intro hs hW hH
    have h2 := fun w₁ k₁ w₂ k₂ => InfL.extrudeN_length w₂ k₂ (InfL.extrudeN w₁ k₁ L)
    simp only [InfL.extrudeN_params] at h2
    exact h2 _ _ _ _ (InfL.extrudeN_length _ _ L hs hW hH) hW hH

/-! ## Replay after reset -/

/-- `reset()` of a finite layer puts it, as a *state*, where a freshly built layer with the same original
generator and the *current* parameters (velocity, Cn², L0) is: same generator states, same noise key, centre and
time zero. -/
theorem finite_reset_is_fresh (L : FinL) : L.reset false = FinL.fresh L.nx L.ny L.vel L.par L.orig := rfl

theorem infinite_reset_is_fresh (L : InfL) :
    L.reset false = InfL.fresh L.nx L.ny L.delta L.vel L.par L.orig := rfl

/-- **Replay, general form (finite layer).** Build a layer with a seed, run *any* history `h₁` of evolutions,
non-independent resets **and parameter setters**, reset: the layer is then the state of a layer freshly built
with the same seed and the parameters in force at the reset, so every later history `h` shows exactly the screens
of that fresh layer. -/
theorem replay_after_reset_params (nx ny : Nat) (vel : V2) (par : Par) (seed : Nat) (h₁ h : List Op)
    (hh : ∀ o ∈ h₁, o.isIndep = false) :
    let L := (FinL.new nx ny vel par seed).run h₁
    (L.reset false).screens h = (FinL.new nx ny L.vel L.par seed).screens h ∧
    (L.reset false).screen = (FinL.new nx ny L.vel L.par seed).screen := by
  intro L
  have : L.reset false = FinL.new nx ny L.vel L.par seed := FinL.run_reset nx ny vel par ⟨seed, 0⟩ h₁ hh L rfl
  rw [this]; exact ⟨rfl, rfl⟩

/-- **Replay (finite layer)**, no setters in `h₁`: the replayed screens are those of the layer as it was built —
for EVERY history `h`, including the screen read right after the reset. -/
theorem replay_after_reset (nx ny : Nat) (vel : V2) (par : Par) (seed : Nat) (h₁ h : List Op)
    (hh : ∀ o ∈ h₁, o.isIndep = false) (hs : ∀ o ∈ h₁, o.isSet = false) :
    (((FinL.new nx ny vel par seed).run h₁).reset false).screens h = (FinL.new nx ny vel par seed).screens h ∧
    (((FinL.new nx ny vel par seed).run h₁).reset false).screen = (FinL.new nx ny vel par seed).screen := by
  have h := replay_after_reset_params nx ny vel par seed h₁ h hh
  obtain ⟨hv, hp⟩ := Prod.mk.inj ((FinL.new nx ny vel par seed).run_vp h₁ hs)
  simp only [AnyL.vel, AnyL.par] at hv hp
  simp only [hv, hp] at h
  exact h

/-- **`set parameter ; reset ; h` = `fresh(parameter) ; h`** (finite layer): changing `Cn_squared`, `L0` or the
velocity of an existing layer — at any point of any history — and resetting gives the screens of a layer built
with the new value and the same seed. -/
theorem set_param_then_reset (nx ny : Nat) (vel : V2) (par : Par) (seed : Nat) (h₁ h : List Op)
    (hh : ∀ o ∈ h₁, o.isIndep = false) (c l : Rat) (v : V2) :
    let L := (FinL.new nx ny vel par seed).run h₁
    ((L.setCn2 c).reset false).screens h = (FinL.new nx ny L.vel { L.par with cn2 := c } seed).screens h ∧
    ((L.setL0 l).reset false).screens h = (FinL.new nx ny L.vel { L.par with L0 := l } seed).screens h ∧
    ((L.setVel v).reset false).screens h = (FinL.new nx ny v L.par seed).screens h := by
  intro L
  have key := FinL.run_reset nx ny vel par ⟨seed, 0⟩ h₁ hh
  exact ⟨congrArg (·.screens h) (key (L.setCn2 c) rfl), congrArg (·.screens h) (key (L.setL0 l) rfl),
    congrArg (·.screens h) (key (L.setVel v) rfl)⟩

/-- **Replay, general form (infinite layer)**: the observation is the whole symbolic screen (every sample tagged
with the parameters it was generated with) and the sub-pixel offset; a refused (backwards) evolution in the
history changes nothing. -/
theorem replay_after_reset_params_infinite (nx ny : Nat) (delta vel : V2) (par : Par) (seed : Nat) (h₁ h : List Op)
    (hh : ∀ o ∈ h₁, o.isIndep = false) :
    let L := (InfL.new nx ny delta vel par seed).run h₁
    (L.reset false).screens h = (InfL.new nx ny delta L.vel L.par seed).screens h ∧
    (L.reset false).view = (InfL.new nx ny delta L.vel L.par seed).view := by
  intro L
  have : L.reset false = InfL.new nx ny delta L.vel L.par seed :=
    InfL.run_reset nx ny delta vel par _ h₁ hh L rfl
  rw [this]; exact ⟨rfl, rfl⟩

theorem replay_after_reset_infinite (nx ny : Nat) (delta vel : V2) (par : Par) (seed : Nat) (h₁ h : List Op)
    (hh : ∀ o ∈ h₁, o.isIndep = false) (hs : ∀ o ∈ h₁, o.isSet = false) :
    (((InfL.new nx ny delta vel par seed).run h₁).reset false).screens h
      = (InfL.new nx ny delta vel par seed).screens h ∧
    (((InfL.new nx ny delta vel par seed).run h₁).reset false).view = (InfL.new nx ny delta vel par seed).view := by
  have h := replay_after_reset_params_infinite nx ny delta vel par seed h₁ h hh
  obtain ⟨hv, hp⟩ := Prod.mk.inj ((InfL.new nx ny delta vel par seed).run_vp h₁ hs)
  simp only [AnyL.vel, AnyL.par] at hv hp
  simp only [hv, hp] at h
  exact h

/-- **`set parameter ; reset ; h` = `fresh(parameter) ; h`** (infinite layer).  In particular every row/column
extruded after `Cn_squared = c ; reset()` carries the *new* strength, like the initial screen. -/
theorem set_param_then_reset_infinite (nx ny : Nat) (delta vel : V2) (par : Par) (seed : Nat) (h₁ h : List Op)
    (hh : ∀ o ∈ h₁, o.isIndep = false) (c l : Rat) (v : V2) :
    let L := (InfL.new nx ny delta vel par seed).run h₁
    ((L.setCn2 c).reset false).screens h = (InfL.new nx ny delta L.vel { L.par with cn2 := c } seed).screens h ∧
    ((L.setL0 l).reset false).screens h = (InfL.new nx ny delta L.vel { L.par with L0 := l } seed).screens h ∧
    ((L.setVel v).reset false).screens h = (InfL.new nx ny delta v L.par seed).screens h := by
  intro L
  -- the setters keep the identity; the log of parameter changes, which they also touch, is dropped by the reset
  have key := InfL.run_reset nx ny delta vel par ((⟨seed, 0⟩ : Rng).draw (nx + ny)) h₁ hh
  exact ⟨congrArg (·.screens h) (key (L.setCn2 c) rfl), congrArg (·.screens h) (key (L.setL0 l) rfl),
    congrArg (·.screens h) (key (L.setVel v) rfl)⟩

/-- the hypothesis of the replay theorems is satisfiable by a non-trivial history -/
example : (∀ o ∈ [Op.evolve 1, Op.setCn2 4, Op.reset false, Op.evolve (3/2)], o.isIndep = false) ∧
    (∀ o ∈ [Op.evolve 1, Op.reset false, Op.evolve (3/2)], o.isSet = false) := by decide

/-- **Independent realisation only on request (1)**: without `reset(make_independent_realization=True)`
in the history the noise of the finite layer is always the one drawn from the seed's generator state. -/
theorem independent_only_on_request (nx ny : Nat) (vel : V2) (par : Par) (seed : Nat) (h : List Op)
    (hh : ∀ o ∈ h, o.isIndep = false) :
    ((FinL.new nx ny vel par seed).run h).noise = ⟨seed, 0⟩ := by
  have hi : ((FinL.new nx ny vel par seed).run h).Inv := FinL.run_inv h _ (FinL.reset_inv _ false)
  rw [hi.1]; exact congrArg Ident.orig ((FinL.new nx ny vel par seed).run_ident h hh)

/-- **Independent realisation only on request (2)**: when requested, the new noise is drawn from the part
of the stream that lies entirely behind the numbers used so far (fresh numbers), and a later plain reset
replays *this* realisation. -/
theorem independent_draws_fresh_numbers (L : FinL) (hL : L.Inv) :
    (L.reset true).noise.pos = L.noise.pos + L.draws ∧ (L.reset true).noise.seed = L.noise.seed ∧
    ((L.reset true).reset false).noise = (L.reset true).noise := by
  obtain ⟨h1, h2⟩ := hL
  simp [FinL.reset, FinL.pickRng, FinL.makeNoise, h2, h1, Rng.draw]

/-- **D17.** Before the repair a reset did not rewind the layer: evolve to `t = 1`, reset, read — the screen
is the one displaced by `v·1`, not the `t = 0` screen of a fresh layer; and the reported time is wrong. -/
theorem reset_old_counterexample :
    let L := FinL.new 4 4 (1, 0) ⟨1, 10⟩ 7
    ((L.stepOld (.evolve 1)).stepOld (.reset false)).screen ≠ L.screen ∧
    (L.stepOld (.evolve 1)).t ≠ 1 ∧
    ((L.step (.evolve 1)).step (.reset false)).screen = L.screen ∧ (L.step (.evolve 1)).t = 1 := by
  decide +kernel

/-! ## Scaling laws -/

/-- **`phase_for(λ) ∝ 1/λ`**: `phase_for(λ)·λ = phase_for(μ)·μ` (= the achromatic screen). -/
theorem phase_inverse_wavelength {K : Type} [Field K] (a l m : K) (hl : l ≠ 0) (hm : m ≠ 0) :
    phaseFor a l * l = phaseFor a m * m ∧ phaseFor a l = phaseFor a 1 / l := by
  unfold phaseFor
  constructor
  · rw [div_mul_cancel₀ _ hl, div_mul_cancel₀ _ hm]
  · rw [div_one]

/-- **Phase ∝ sqrt(Cn²) with `Cn_squared` changed on the running layer.**  Each extrusion uses the amplitude in force at
that time (`arRunLive`; the harness changes `Cn_squared` between extrusions on the layer and on its twin).  If the twin's
amplitudes are `k` times the layer's throughout and its initial screen is `k` times the layer's, every later screen is. -/
theorem phase_sqrt_strength_live {K : Type} [CommRing K] (k : K) (W H : Nat) (steps : List (ArStep K × K)) (s : List K) :
    arRunLive W H (steps.map fun p => (p.1, k * p.2)) (s.map (k * ·)) = (arRunLive W H steps s).map (k * ·) := by
  induction steps generalizing s with
  | nil => rfl
  | cons e es ih => obtain ⟨e, a⟩ := e; simp only [List.map_cons, arRunLive]; rw [arExtrude_scale, ih]

/-- `arRun` is `arRunLive` with a constant amplitude -/
theorem arRunLive_const {K : Type} [CommRing K] (amp : K) (W H : Nat) (steps : List (ArStep K)) (s : List K) :
    arRunLive W H (steps.map fun e => (e, amp)) s = arRun W H amp steps s := by
  induction steps generalizing s with
  | nil => rfl
  | cons e es ih => simp only [List.map_cons, arRunLive, arRun, ih]

/-- **Phase ∝ sqrt(Cn²), infinite layer, every later screen.**  `arRun` is the code's numeric extrusion
(`A.dot(screen[stencil]) + B.dot(normals)·sqrt(Cn²)`, then the `hstack`/`vstack`/flip surgery), run by the driver on
the real `A`, `B`, stencils and normals.  If the initial screen of the layer with strength `k²·c` is `k` times the
initial screen of the layer with strength `c`, then after **any** sequence of extrusions — any sides, any matrices,
any stencils, any normals, the same for both layers — every sample of the screen is `k` times the other layer's. -/
theorem phase_sqrt_strength {K : Type} [Field K] [LinearOrder K] [IsStrictOrderedRing K] (c k a₁ a₂ : K)
    (hk : 0 ≤ k) (h₁ : 0 ≤ a₁) (h₂ : 0 ≤ a₂) (e₁ : a₁ ^ 2 = c) (e₂ : a₂ ^ 2 = k ^ 2 * c)
    (W H : Nat) (steps : List (ArStep K)) (s : List K) :
    arRun W H a₂ steps (s.map (k * ·)) = (arRun W H a₁ steps s).map (k * ·) := by
  rw [sqrt_strength_amplitude c k a₁ a₂ hk h₁ h₂ e₁ e₂, ← arRunLive_const, ← arRunLive_const, ← phase_sqrt_strength_live,
    List.map_map]
  -- both step lists are `steps.map (·, k * a₁)`
  rfl

/-- one row/column element: `A·(k·stencil) + B·rnd·(k·amp) = k·(A·stencil + B·rnd·amp)` -/
theorem ar_sample_scales {K : Type} [CommRing K] (k amp : K) (A st B rnd : List K) :
    arSample A (st.map (k * ·)) B rnd (k * amp) = k * arSample A st B rnd amp := arSample_scale k amp A st B rnd

/-- **Linearity of the synthesis (finite layer).**  The finite layer's coefficients are `sqrt(psd)`·normals with
`psd ∝ Cn²` (checked on the real code by the twin-layer oracle); if every coefficient is multiplied by `k`, every
sample of the synthesised screen is. -/
theorem synth_scales {K F : Type} [CommRing K] [CommRing F] (χ : K → F) (k : F) (kx ky : List K) (C : List F) (x y : K) :
    synth χ kx ky (C.map (k * ·)) x y = k * synth χ kx ky C x y := by
  rw [synth_eq_sum, synth_eq_sum, AddPres.list_sum ⟨mul_zero k, mul_add k⟩, List.map_zipWith, List.zipWith_map_left]
  simp only [mul_assoc]

/-- non-vacuity: `c = 4`, `k = 3`: amplitudes 2 and 6 -/
example : (0:ℚ) ≤ 3 ∧ (0:ℚ) ≤ 2 ∧ (0:ℚ) ≤ 6 ∧ (2:ℚ) ^ 2 = 4 ∧ (6:ℚ) ^ 2 = 3 ^ 2 * 4 := by norm_num

/-! ## Periodicity: the shift is a character, never a wrap -/

/-- **Shifts compose without reduction**: shifting by `s` and then by `t` is shifting by `s + t` — the code multiplies
by `χ(−k·s)` with the *unreduced* displacement; nothing is ever folded back onto a period. Together with
`shift_theorem` (which has no periodicity hypothesis): the screen at displacement `s` is `orig(x − s)` for every `s`,
however many grid extents it spans. -/
theorem shift_composes {K F : Type} [CommRing K] [CommRing F] (χ : K → F) (hχ : ∀ a b, χ (a + b) = χ a * χ b)
    (sx sy tx ty : K) (kx ky : List K) (C : List F) :
    shift χ tx ty kx ky (shift χ sx sy kx ky C) = shift χ (sx + tx) (sy + ty) kx ky C := by
  rw [shift_eq_zipWith, shift_eq_zipWith, shift_eq_zipWith, zipWith_zipWith_same]
  congr 1; funext c p
  rw [mul_assoc, ← hχ]; congr 2; ring

/-- **Periodicity is a property of the character on the frequency lattice**: a displacement `P` acts as the identity on
one scale exactly through `χ(−k·P) = 1` for the frequencies `k` of *that* scale's lattice (extent for the FFT scale,
oversampling × extent for the low-frequency scale) — if that holds for all of them, `s + P` and `s` give the same
coefficients. -/
theorem shift_period_of_character {K F : Type} [CommRing K] [CommRing F] (χ : K → F)
    (hχ : ∀ a b, χ (a + b) = χ a * χ b) (sx sy px py : K) (kx ky : List K) (C : List F)
    (hP : ∀ a ∈ kx, ∀ b ∈ ky, χ (-(py * b + px * a)) = 1) :
    shift χ (sx + px) (sy + py) kx ky C = shift χ sx sy kx ky C := by
  rw [← shift_composes χ hχ, shift_eq_zipWith, shift_eq_zipWith χ sx, zipWith_zipWith_same]
  exact zipWith_congr_mem _ _ C _ fun c p hp => by rw [hP _ (mem_gridPts hp).1 _ (mem_gridPts hp).2, mul_one]

/-- the hypothesis of `shift_period_of_character` is satisfiable: frequencies `0, 2` (period 1 for `(−1)^n`) -/
example : ∀ a ∈ [(0 : Int), 2], ∀ b ∈ [(0 : Int)], parity (-(0 * b + 1 * a)) = 1 := by decide

/-- **Two scales, two periods: wrapping the displacement onto the shorter period is wrong.**  Scale 1 has
frequencies `0, 2` (period 1 under `(−1)^n`), scale 2 has frequencies `0, 1` (period 2 = "oversampling 2").
A displacement of one short period leaves scale 1 unchanged but not scale 2, so the two-scale screen shifted by 1
differs from the one shifted by "1 wrapped onto the short period" = 0. -/
theorem wrap_onto_one_period_counterexample :
    let kx1 : List Int := [0, 2]; let kx2 : List Int := [0, 1]; let ky : List Int := [0]
    let C1 : List Int := [1, 1]; let C2 : List Int := [1, 1]
    shift parity 1 0 kx1 ky C1 = shift parity 0 0 kx1 ky C1 ∧
    synth parity kx1 ky (shift parity 1 0 kx1 ky C1) 0 0 + synth parity kx2 ky (shift parity 1 0 kx2 ky C2) 0 0
      ≠ synth parity kx1 ky (shift parity 0 0 kx1 ky C1) 0 0 + synth parity kx2 ky (shift parity 0 0 kx2 ky C2) 0 0 ∧
    synth parity kx1 ky (shift parity 1 0 kx1 ky C1) 0 0 + synth parity kx2 ky (shift parity 1 0 kx2 ky C2) 0 0
      = synth parity kx1 ky C1 (0 - 1) (0 - 0) + synth parity kx2 ky C2 (0 - 1) (0 - 0) := by decide

/-! ## Independent realisations of the infinite layer -/

/-- **Independent realisation only on request (infinite layer, 1)**: without an independent reset in the history —
whatever evolutions, plain resets and parameter changes it contains — the realisation key and the original
generator are those of the seed (position `nx + ny`, right after the stencil draws). -/
theorem independent_only_on_request_infinite (nx ny : Nat) (delta vel : V2) (par : Par) (seed : Nat) (h : List Op)
    (hh : ∀ o ∈ h, o.isIndep = false) :
    ((InfL.new nx ny delta vel par seed).run h).start = nx + ny ∧
    ((InfL.new nx ny delta vel par seed).run h).orig = ⟨seed, nx + ny⟩ := by
  have h0 : (InfL.new nx ny delta vel par seed).Inv := InfL.reset_inv _ false rfl
  have hi := InfL.run_inv h _ h0
  have ho : ((InfL.new nx ny delta vel par seed).run h).orig = (InfL.new nx ny delta vel par seed).orig :=
    congrArg Ident.orig ((InfL.new nx ny delta vel par seed).run_ident h hh)
  have e : (InfL.new nx ny delta vel par seed).orig = ⟨seed, nx + ny⟩ := by
    simp [InfL.new, InfL.fresh, InfL.reset, InfL.pickRng, InfL.initScreen, Rng.draw]
  rw [hi.1, ho, e]
  exact ⟨rfl, rfl⟩

/-- **Independent realisation only on request (infinite layer, 2)**: when requested, the new realisation starts at the
current position of the working generator, which lies behind the whole initial screen of the current realisation
(and behind every extrusion drawn since): fresh numbers; and a later plain reset replays *this* realisation. -/
theorem independent_draws_fresh_numbers_infinite (L : InfL) (hL : L.Inv) :
    (L.reset true).start = L.rng.pos ∧ L.start + 4 * (L.nx * L.ny) ≤ (L.reset true).start ∧
    ((L.reset true).reset false).view = (L.reset true).view ∧ (L.reset true).Inv := by
  obtain ⟨h1, h2, h3⟩ := hL
  refine ⟨?_, ?_, ?_, InfL.reset_inv _ true h3⟩
  · simp [InfL.reset, InfL.pickRng, InfL.initScreen]
  · simp only [InfL.reset, InfL.pickRng, InfL.initScreen, if_true]; omega
  · simp [InfL.view, InfL.reset, InfL.pickRng, InfL.initScreen]

/-- the invariant is satisfiable: every constructed layer has it -/
example : (InfL.new 3 2 (1/4, 1/2) (1/4, 0) ⟨1, 10⟩ 7).Inv := InfL.reset_inv _ false rfl

/-- non-square pixels (`δx = 1/4`, `δy = 1/2`): the pixel displacement of each axis is computed with that axis' own
pixel size — wind `(1/4, −1/2)` per unit time moves the sample of pixel (0,1) to pixel (1,0) at `t = 1`
(instance of `evolve_translates` / `direction_agrees_with_velocity` with `a = 1`, `b = −1`). -/
example : ((InfL.new 3 3 (1/4, 1/2) (1/4, -1/2) ⟨1, 10⟩ 7).evolveWith sideX sideY 1).screen[0 * 3 + 1]?
    = (InfL.new 3 3 (1/4, 1/2) (1/4, -1/2) ⟨1, 10⟩ 7).screen[1 * 3 + 0]? := by decide +kernel

/-- **Sub-pixel offset: the decomposition of the centre** (`_partial`: the interpolation operator itself is not
modelled — the read-out `affine_transform(screen, offset = (−sub/δ)[::-1])` is compared with SciPy by the harness).
After every `evolve_until` the accumulated displacement is split exactly into the whole pixels the screen has been
extruded by and the offset handed to the interpolation: `centre = pixel·δ + sub` per axis, each axis with its own
pixel size; and the whole-pixel part is what `evolve_translates` moves the samples by. -/
theorem subpixel_offset_decomposition_partial (L : InfL) (t : Rat) :
    let L' := L.evolveWith sideX sideY t
    L'.center.1 = pixel L'.center.1 L.delta.1 * L.delta.1 + L'.sub.1 ∧
    L'.center.2 = pixel L'.center.2 L.delta.2 * L.delta.2 + L'.sub.2 ∧
    L'.center = (L.center.1 + L.vel.1 * (t - L.t), L.center.2 + L.vel.2 * (t - L.t)) := by
  simp only [InfL.evolveWith]
  refine ⟨by ring, by ring, trivial⟩

/-- **The read-out request** (`InfL.interpRequest`, executed by the driver and compared with the intercepted
`affine_transform` call of every `evolve_until` of an interpolating layer): the screen is asked at its own pixel grid
(`matrix = [1, 1]`, spline order 5, `mode='nearest'`) displaced by an offset that is — per axis, in pixels of that
axis, in (row, column) = (y, x) order — minus the part of the accumulated displacement the extrusions have not
taken: `centre/δ = whole pixels − offset`.  On a whole-pixel displacement the offset is zero.  (The spline operator
itself is SciPy's and stays outside the model: `subpixel_offset_decomposition_partial`.) -/
theorem interp_request_offset (L : InfL) (t : Rat) (hx : L.delta.1 ≠ 0) (hy : L.delta.2 ≠ 0) :
    let L' := L.evolveWith sideX sideY t
    L'.center.1 / L.delta.1 = pixel L'.center.1 L.delta.1 - L'.interpRequest.offset.2 ∧
    L'.center.2 / L.delta.2 = pixel L'.center.2 L.delta.2 - L'.interpRequest.offset.1 ∧
    L'.interpRequest.matrix = (1, 1) ∧ L'.interpRequest.order = 5 ∧ L'.interpRequest.nearest = true ∧
    (L'.sub = (0, 0) → L'.interpRequest.offset = (0, 0)) := by
  intro L'
  have hd : L'.delta = L.delta := by simp only [L', InfL.evolveWith, InfL.extrudeN_params]
  -- `sub` is by definition `centre − pixel·δ`, so both equations are this identity
  have key : ∀ c δ p : Rat, δ ≠ 0 → c / δ = p - -(c - p * δ) / δ := fun c δ p h => by field_simp; ring
  refine ⟨?_, ?_, rfl, rfl, rfl, fun h0 => ?_⟩
  · show _ = _ - -(L'.center.1 - pixel L'.center.1 L.delta.1 * L.delta.1) / L'.delta.1
    rw [hd]; exact key _ _ _ hx
  · show _ = _ - -(L'.center.2 - pixel L'.center.2 L.delta.2 * L.delta.2) / L'.delta.2
    rw [hd]; exact key _ _ _ hy
  · show ((-L'.sub.2 / L'.delta.2, -L'.sub.1 / L'.delta.1) : V2) = (0, 0)
    rw [h0]; simp

example : (InfL.new 3 3 (1/4, 1/2) (1/4, -1/2) ⟨1, 10⟩ 7).delta.1 ≠ 0 ∧ (InfL.new 3 3 (1/4, 1/2) (1/4, -1/2) ⟨1, 10⟩ 7).delta.2 ≠ 0 := by
  decide +kernel

/-! ## The synthesis hypothesis, executed: `synth` with the exact character into `ℚ[ℤ/M]`

The driver op `C15 synth` runs `Shift.synth` itself with the character `cycChar M : ℚ → ℚ[ℤ/M]` on the real factory's
frequency axes (in turns), output points and complex coefficients (times the real quadrature weight); the harness
evaluates the printed coefficient list at `ζ = e^{2πi/M}` and compares with `fourier.backward(C).real` of
`SpectralNoiseFFT` / `SpectralNoiseMultiscale`.  The two theorems say what that number is. -/

/-- What the driver prints for one point, evaluated at **any** `M`-th root of unity `ζ` of a field of characteristic 0,
is `synth` over that field with the character `q ↦ ζ^(⌊qM⌋ mod M)` and the coefficients `re + im·ζ^(M/4)`. -/
theorem synth_cyc_eval {G : Type} [Field G] [CharZero G] (M : Nat) (hM : 0 < M) (ζ : G) (hζ : ζ ^ M = 1)
    (kx ky cre cim : List Rat) (x y : Rat) :
    ((List.range M).map fun r =>
        (((synth (cycChar M) kx ky (List.zipWith Cyc.ofComplex cre cim) x y).coeff r : Rat) : G) * ζ ^ r).sum
      = synth (fun q => ζ ^ cycExp M q) kx ky (List.zipWith (fun (re im : Rat) => (re : G) + (im : G) * ζ ^ (M / 4)) cre cim) x y := by
  rw [Cyc.eval_dense ζ hζ hM, synth_map (Cyc.eval_hom ζ hζ), List.map_zipWith]
  simp only [cycChar, Cyc.eval_mono ζ hζ, Cyc.eval_ofComplex]

/-- **The executed `synth` is the `synth` of the translation theorems.**  For every character `E` of `ℚ` of period 1
(`E = q ↦ e^{2πi q}`; this is the `χ` of `shift_theorem` / `finite_layer_translates` with the frequencies in turns), if all
phases `kx[m]·x + ky[n]·y` lie in `(1/M)ℤ` (the driver refuses the request otherwise) and `4 ∣ M`, the printed coefficient
list evaluated at `ζ = E(1/M)` is `synth E` on the complex coefficients `re + im·E(1/4)`. -/
theorem synth_cyc_is_character_synth {G : Type} [Field G] [CharZero G] (E : ℚ → G) (hE : ∀ a b, E (a + b) = E a * E b)
    (h1 : E 1 = 1) (M : Nat) (hM : 0 < M) (h4 : 4 ∣ M) (kx ky cre cim : List Rat) (x y : Rat)
    (hph : ∀ a ∈ kx, ∀ b ∈ ky, ∃ n : ℤ, (a * x + b * y) * M = n) :
    ((List.range M).map fun r =>
        (((synth (cycChar M) kx ky (List.zipWith Cyc.ofComplex cre cim) x y).coeff r : Rat) : G) * E (1 / M) ^ r).sum
      = synth E kx ky (List.zipWith (fun (re im : Rat) => (re : G) + (im : G) * E (1 / 4)) cre cim) x y := by
  have hM' : (M : ℚ) ≠ 0 := Nat.cast_ne_zero.2 hM.ne'
  have hζ : E (1 / M) ^ M = 1 := by rw [← (isChar E hE h1).nat_mul, mul_one_div_cancel hM', h1]
  have hi : E (1 / M) ^ (M / 4) = E (1 / 4) := by
    rw [← (isChar E hE h1).nat_mul, mul_one_div]
    exact congrArg E ((div_eq_div_iff hM' four_ne_zero).2 (by rw [one_mul]; exact_mod_cast Nat.div_mul_cancel h4))
  rw [synth_cyc_eval M hM _ hζ, hi]
  exact synth_congr _ _ _ _ _ _ _ fun a ha b hb => cycExp_agrees E hE h1 hM _ (hph a ha b hb)

/-- the hypotheses are satisfiable: the trivial character, `M = 4`, a 2×1 lattice -/
example : ∃ E : ℚ → ℚ, (∀ a b, E (a + b) = E a * E b) ∧ E 1 = 1 ∧
    ∀ a ∈ [(0 : ℚ), 1/4], ∀ b ∈ [(0 : ℚ)], ∃ n : ℤ, (a * 1 + b * 0) * (4 : ℕ) = n :=
  ⟨fun _ => 1, fun _ _ => by norm_num, rfl, by
    intro a ha b hb
    simp only [List.mem_cons, List.not_mem_nil, or_false] at ha hb
    rcases ha with rfl | rfl <;> subst hb
    · exact ⟨0, by norm_num⟩
    · exact ⟨1, by norm_num⟩⟩

/-! ## Generators as heap cells: `deepcopy`, aliasing, a caller-owned generator

`Model/LayerHeap.lean`: the generators live in cells, the layer holds handles, `copy.deepcopy` allocates.  Here a
missing `deepcopy` *can* be written down (`HL.stepAliased`), and so can a generator shared with the caller
(`SeedKind.genShared`, `HL.foreignDraw`).  The replay theorems above are about the value-level layers; the
simulation theorems carry them to the heap layers, which the driver runs (`hfin`, `hinf`) and the harness compares
with the object identities and generator states of the real layers. -/

/-- **The heap layer with `deepcopy` is the value-level layer** (finite layer, including lazy noise and cached
screen): from a state with two valid handles to different cells, after any history the state seen through the
handles is the value-level run, and the handles still point to different cells. -/
theorem heap_simulates_finite (H : HFin) (hw : H.WF) (h : List COp) :
    (H.run finAccess h).view finAccess = (H.view finAccess).run h ∧ (H.run finAccess h).WF :=
  HL.run_view finAccess finAccess_lawful h H hw

theorem heap_simulates_infinite (H : HInf) (hw : H.WF) (h : List Op) :
    (H.run infAccess h).view infAccess = (H.view infAccess).run h ∧ (H.run infAccess h).WF :=
  HL.run_view infAccess infAccess_lawful h H hw

/-- Every constructed finite heap layer — whichever way the seed arrives — is in a good state and shows the fresh
value-level layer; with the snapshot (`SeedKind.gen`) the caller's cell 0 is not one of the layer's. -/
theorem heap_new_finite (k : SeedKind) (nx ny : Nat) (vel : V2) (par : Par) (g : Rng) :
    (HFin.new k nx ny vel par g).WF ∧ (HFin.new k nx ny vel par g).view finAccess = FinC.fresh nx ny vel par g ∧
    (k = .gen → (HFin.new k nx ny vel par g).Sep 0) := by
  -- the constructor is one `reset()` from a state whose two handles are valid, and the same
  cases k
  case gen =>
    refine (HL.step_view finAccess finAccess_lawful _ _ ?_ (.inr ?_)).imp id
      (And.imp id fun s _ => s 0 ⟨Nat.zero_lt_two, Nat.zero_ne_one, Nat.zero_ne_one⟩)
    · exact ⟨Nat.one_lt_two, Nat.one_lt_two⟩
    · exact List.cons_ne_nil _ _
  all_goals
    refine (HL.step_view finAccess finAccess_lawful _ _ ?_ (.inr ?_)).imp id (And.imp id fun _ => nofun)
    · exact ⟨Nat.zero_lt_one, Nat.zero_lt_one⟩
    · exact List.cons_ne_nil _ _

theorem heap_new_infinite (k : SeedKind) (nx ny : Nat) (delta vel : V2) (par : Par) (g : Rng) :
    (HInf.new k nx ny delta vel par g).WF ∧
    (HInf.new k nx ny delta vel par g).view infAccess = InfL.fresh nx ny delta vel par (g.draw (nx + ny)) ∧
    (k = .gen → (HInf.new k nx ny delta vel par g).Sep 0) := by
  cases k
  case gen =>
    -- the working generator leaves the caller's cell 0 only in this `reset()`: the handles after it are read off
    refine (HL.step_view infAccess infAccess_lawful _ _ ?_ (.inr ?_)).imp id
      (And.imp id fun _ _ => ⟨Nat.zero_lt_succ 3, (Nat.succ_ne_zero 2).symm, Nat.zero_ne_one⟩)
    · exact ⟨Nat.zero_lt_two, Nat.one_lt_two⟩
    · exact List.cons_ne_nil _ _
  all_goals
    refine (HL.step_view infAccess infAccess_lawful _ _ ?_ (.inr ?_)).imp id (And.imp id fun _ => nofun)
    · exact ⟨Nat.zero_lt_one, Nat.zero_lt_one⟩
    · exact List.cons_ne_nil _ _

/-- **A caller-owned generator is invisible (repaired construction).**  The layer was built from a `Generator`
object (cell 0) of which it took a snapshot; whatever the caller draws from its generator, whenever, the layer
shows exactly what the value-level layer shows under the layer's own operations — in particular every replay theorem
holds with the caller's draws interleaved anywhere. -/
theorem caller_generator_invisible_finite (nx ny : Nat) (vel : V2) (par : Par) (g : Rng) (h : List (HOp COp))
    (hc : ∀ o ∈ h, ∀ c n, o = HOp.foreign c n → c = 0) :
    ((HFin.new .gen nx ny vel par g).runH finAccess h).view finAccess
      = (FinC.fresh nx ny vel par g).run (HOp.owns h) := by
  obtain ⟨hw, hv, hs⟩ := heap_new_finite .gen nx ny vel par g
  rw [(HL.runH_view finAccess finAccess_lawful 0 h _ hw (hs rfl) hc).1, hv]; rfl

theorem caller_generator_invisible_infinite (nx ny : Nat) (delta vel : V2) (par : Par) (g : Rng) (h : List (HOp Op))
    (hc : ∀ o ∈ h, ∀ c n, o = HOp.foreign c n → c = 0) :
    ((HInf.new .gen nx ny delta vel par g).runH infAccess h).view infAccess
      = (InfL.fresh nx ny delta vel par (g.draw (nx + ny))).run (HOp.owns h) := by
  obtain ⟨hw, hv, hs⟩ := heap_new_infinite .gen nx ny delta vel par g
  rw [(HL.runH_view infAccess infAccess_lawful 0 h _ hw (hs rfl) hc).1, hv]; rfl

/-- the hypothesis is satisfiable by a history with interleaved foreign draws -/
example : ∀ o ∈ [HOp.own (COp.op (.evolve 1)), HOp.foreign 0 3, HOp.own (COp.op (.reset false)), HOp.own COp.read],
    ∀ c n, o = HOp.foreign c n → c = 0 := by
  intro o ho c n e; subst e; simp at ho; exact ho.1

/-- **D151 (before the repair): `_original_rng` *is* the caller's generator.**  Build a finite layer from a
`Generator`, let the caller draw 3 numbers, reset: the layer shows another realisation than before.  With the
snapshot it shows the same one. -/
theorem caller_generator_shared_counterexample :
    let old := HFin.new .genShared 2 2 (1, 0) ⟨1, 10⟩ ⟨7, 0⟩
    let new := HFin.new .gen 2 2 (1, 0) ⟨1, 10⟩ ⟨7, 0⟩
    (((old.foreignDraw 0 3).step finAccess (.op (.reset false))).view finAccess).shown ≠ (old.view finAccess).shown ∧
    (((new.foreignDraw 0 3).step finAccess (.op (.reset false))).view finAccess).shown = (new.view finAccess).shown := by
  decide +kernel

/-- the same for the infinite layer (the initial screens differ sample by sample) -/
theorem caller_generator_shared_counterexample_infinite :
    let old := HInf.new .genShared 2 2 (1, 1) (1, 0) ⟨1, 10⟩ ⟨7, 0⟩
    let new := HInf.new .gen 2 2 (1, 1) (1, 0) ⟨1, 10⟩ ⟨7, 0⟩
    (((old.foreignDraw 0 3).step infAccess (.reset false)).view infAccess).view ≠ (old.view infAccess).view ∧
    (((new.foreignDraw 0 3).step infAccess (.reset false)).view infAccess).view = (new.view infAccess).view := by
  decide +kernel

/-- **`self.rng = self._original_rng` without `deepcopy` breaks the replay (finite layer).**  With the plain
assignment the noise is drawn *from the original generator itself*; the second reset therefore starts from an
advanced generator and shows another realisation.  With `deepcopy` it shows the same one. -/
theorem reset_without_deepcopy_counterexample :
    let H := HFin.new .int 2 2 (1, 0) ⟨1, 10⟩ ⟨7, 0⟩
    let r : COp := .op (.reset false)
    (((H.stepAliased finAccess r).stepAliased finAccess r).view finAccess).shown ≠ (H.view finAccess).shown ∧
    ((H.stepAliased finAccess r).stepAliased finAccess r).rngH = ((H.stepAliased finAccess r).stepAliased finAccess r).origH ∧
    (((H.step finAccess r).step finAccess r).view finAccess).shown = (H.view finAccess).shown := by
  decide +kernel

/-- **Replay after reset, heap form (finite layer)**: build the layer any way (`k`), run any history of the layer's
own operations without an independent reset — evolutions, plain resets, parameter changes, reads (lazy re-draws) —
and reset: seen through the handles the layer is the freshly built layer with the parameters in force, so it shows the
same screens under every later history. -/
theorem heap_replay_after_reset_finite (k : SeedKind) (nx ny : Nat) (vel : V2) (par : Par) (g : Rng) (h₁ h : List COp)
    (hh : ∀ o ∈ h₁, o ≠ .op (.reset true)) :
    let H := (HFin.new k nx ny vel par g).run finAccess h₁
    let C := H.view finAccess
    ((H.step finAccess (.op (.reset false))).run finAccess h).view finAccess
      = (FinC.fresh nx ny C.base.vel C.base.par g).run h := by
  obtain ⟨hw, hv, _⟩ := heap_new_finite k nx ny vel par g
  exact HL.run_step_run_view finAccess finAccess_lawful _ hw _ h₁ h (fun C => FinC.fresh nx ny C.base.vel C.base.par g)
    (hv ▸ FinC.run_reset nx ny vel par g h₁ hh)

/-- **Replay after reset, heap form (infinite layer)**: build the layer any way (`k`: integer seed, a snapshot of the
caller's generator, or — before D151 — the caller's generator itself), run any history of the layer's own operations
without an independent reset (evolutions, refused backwards evolutions, plain resets, parameter changes) and reset:
seen through the handles the layer is the freshly built layer with the velocity and parameters in force, so it shows
the same screens under every later history. -/
theorem heap_replay_after_reset_infinite (k : SeedKind) (nx ny : Nat) (delta vel : V2) (par : Par) (g : Rng)
    (h₁ h : List Op) (hh : ∀ o ∈ h₁, o.isIndep = false) :
    let H := (HInf.new k nx ny delta vel par g).run infAccess h₁
    let L := H.view infAccess
    ((H.step infAccess (.reset false)).run infAccess h).view infAccess
      = (InfL.fresh nx ny delta L.vel L.par (g.draw (nx + ny))).run h := by
  obtain ⟨hw, hv, _⟩ := heap_new_infinite k nx ny delta vel par g
  exact HL.run_step_run_view infAccess infAccess_lawful _ hw _ h₁ h
    (fun L => InfL.fresh nx ny delta L.vel L.par (g.draw (nx + ny))) (hv ▸ InfL.run_reset nx ny delta vel par _ h₁ hh _ rfl)

example : ∀ o ∈ [Op.evolve 1, Op.setCn2 4, Op.evolve (1 / 2), Op.reset false, Op.evolve 3], o.isIndep = false := by decide

/-! ## The finite layer's lazy noise and cached screen (`FinC`) -/

/-- **A parameter change on a running layer re-draws the same realisation.**  From a layer built with generator
state `g`, after any history without an independent reset (parameter changes at any point, no reset needed), the
first read after an `evolve_until(t)` shows the realisation of `g` made with the *current* parameters, displaced by
`velocity·t` — exactly what a freshly built layer with the current parameters shows at time `t`. -/
theorem read_after_evolve_is_fresh (nx ny : Nat) (vel : V2) (par : Par) (g : Rng) (h : List COp) (t : Rat)
    (hh : ∀ o ∈ h, o ≠ .op (.reset true)) :
    let C := (FinC.fresh nx ny vel par g).run h
    (C.step (.op (.evolve t))).shown = (g, C.base.par, (C.base.vel.1 * t, C.base.vel.2 * t)) ∧
    (C.step (.op (.evolve t))).shown
      = ((FinC.fresh nx ny C.base.vel C.base.par g).step (.op (.evolve t))).shown := by
  intro C
  have h1 := FinC.shown_after_evolve C g t (FinC.run_live _ h g (FinC.fresh_live nx ny vel par g) hh)
  -- a fresh layer is live, so the same lemma says what it shows
  exact ⟨h1, h1.trans (FinC.shown_after_evolve (FinC.fresh nx ny C.base.vel C.base.par g) g t (FinC.fresh_live ..)).symm⟩

/-- the history hypothesis is satisfiable with setters and reads in the middle of a run -/
example : ∀ o ∈ [COp.op (.evolve 1), COp.read, COp.op (.setCn2 4), COp.read, COp.op (.evolve 2), COp.read],
    o ≠ COp.op (.reset true) := by decide

/-- **The cached screen survives a setter (the code as it is).**  `Cn_squared = c` / `outer_scale = l` drop `_noise`
but not `_achromatic_screen`: a read directly after the setter still shows the screen cached before it; only after
the next `evolve_until` (or `reset`) does the change show (`read_after_evolve_is_fresh`).  With the cache dropped by
the setter too (`FinC.stepInval`) the read shows the current parameters at once. -/
theorem setter_then_read_is_stale (C : FinC) (s : Rng × Par × V2) (c : Rat) (hc : C.cache = some s) :
    (C.step (.op (.setCn2 c))).shown = s ∧ (C.step (.op (.setL0 c))).shown = s ∧
    (C.stepInval (.op (.setCn2 c))).shown = (C.base.orig, { C.base.par with cn2 := c }, C.base.center) := by
  rcases C with ⟨b, v, ca⟩
  simp only at hc
  subst hc
  simp [FinC.step, FinC.stepInval, FinC.shown, FinC.read, FinL.redraw, FinL.makeNoise, FinL.screen, FinL.setCn2, FinL.setL0]

/-- `FinC` is `FinL` plus the two flags: every operation except a read acts on the bookkeeping exactly as the
value-level finite layer does; a read changes it only by the lazy re-draw. -/
theorem finC_refines_finL (C : FinC) (o : Op) :
    (C.step (.op o)).base = C.base.step o ∧ (C.valid = true → (C.step .read).base = C.base) := by
  constructor
  · cases o <;> rfl
  · intro hv
    rcases C with ⟨b, v, ca⟩
    cases ca <;> simp_all [FinC.step, FinC.read]

/-! ## `MultiLayerAtmosphere`: element list, fan-out, replay, scaling of the sum

All definitions are the ones the driver runs (`elements`, `atm …`, `mla …`, `atmphase`), compared with the real
`MultiLayerAtmosphere` after every operation. -/

/-- **Order of the elements**: the light meets the layers in order of non-increasing height — for every list of heights
(any order, ties, zeros, negative values) and both values of `scintillation`. -/
theorem elements_order_nonincreasing (s : Bool) (hs : List Rat) :
    ((layerOrder (buildElements s hs)).map (fun j => hs.getD j 0)).Pairwise (fun a b => b ≤ a) := by
  unfold buildElements
  rw [layerOrder_elementsOf, List.map_map]
  have : (sortDesc (indexed hs)).map ((fun j => hs.getD j 0) ∘ Prod.fst) = (sortDesc (indexed hs)).map Prod.snd :=
    List.map_congr_left (fun x hx => sorted_entry hs x hx)
  rw [this, List.pairwise_map]
  exact sortDesc_desc _

/-- **Every layer is used exactly once**: the layers of the element list are a permutation of `layers`. -/
theorem elements_layers_perm (s : Bool) (hs : List Rat) :
    (layerOrder (buildElements s hs)).Perm (List.range hs.length) := by
  unfold buildElements
  rw [layerOrder_elementsOf]
  exact ((sortDesc_perm (indexed hs)).map Prod.fst).trans
    (.of_eq (by rw [indexed, indexedFrom_eq, List.map_map, List.range_eq_range']; exact List.zipIdx_map_snd 0 hs))

/-- **The propagation distances sum to the highest layer height** (scintillation on, heights ≥ 0): from the highest
layer down to the ground, whatever the order in which the layers were given, with ties and with layers on the ground. -/
theorem elements_distances_sum (hs : List Rat) (hne : hs ≠ []) (h0 : ∀ h ∈ hs, 0 ≤ h) :
    ∃ m ∈ hs, (∀ h ∈ hs, h ≤ m) ∧ propSum (buildElements true hs) = m := by
  cases hsd : sortDesc (indexed hs) with
  | nil =>
    have := sortDesc_heights hs
    rw [hsd] at this
    exact absurd this.nil_eq.symm hne
  | cons x r =>
    have hd : Desc (x :: r) := hsd ▸ sortDesc_desc (indexed hs)
    refine ⟨x.2, mem_sortDesc_indexed (hsd ▸ List.mem_cons_self), ?_, ?_⟩
    · intro h hh
      obtain ⟨z, hz, rfl⟩ := List.mem_map.1 ((sortDesc_heights hs).mem_iff.2 hh)
      rw [hsd] at hz
      rcases List.mem_cons.1 hz with rfl | hzr
      · exact le_refl _
      · exact (List.pairwise_cons.1 hd).1 z hzr
    · unfold buildElements
      rw [hsd]
      exact propSum_elementsOf r x fun z hz => h0 _ (mem_sortDesc_indexed (hsd ▸ hz))

example : ([3, 0, 5/2] : List Rat) ≠ [] ∧ ∀ h ∈ ([3, 0, 5/2] : List Rat), 0 ≤ h := by
  refine ⟨by simp, ?_⟩; intro h hh; simp at hh; rcases hh with rfl | rfl | rfl <;> norm_num

/-- every propagation distance is non-negative (heights ≥ 0) -/
theorem elements_distances_nonneg (s : Bool) (hs : List Rat) (h0 : ∀ h ∈ hs, 0 ≤ h) :
    ∀ e ∈ buildElements s hs, 0 ≤ e.dist :=
  dist_nonneg_elementsOf s _ (sortDesc_desc _) fun _ hz => h0 _ (mem_sortDesc_indexed hz)

/-- **Scintillation off: no propagator at all**, the element list is the sorted list of layers. -/
theorem elements_without_scintillation (hs : List Rat) :
    ∀ e ∈ buildElements false hs, ∃ j, e = El.layer j := by
  intro e he
  unfold buildElements at he
  rw [elementsOf_false] at he
  obtain ⟨x, _, rfl⟩ := List.mem_map.1 he
  exact ⟨x.1, rfl⟩

/-- **The element list in use is current**: after any history of `layers = …`, `scintillation = …` (same value, other
value, repeated), explicit `calculate_propagators()` and propagations, the list a `forward`/`backward` uses is the one
of the current layers and the current flag (a pending rebuild survives a scintillation assignment). -/
theorem elements_current_after_propagate (hs : List Rat) (s : Bool) (h : List AOp)
    (hh : ∀ o ∈ h, o.isSetHeight = false) :
    let A := (Atm.new hs s).run h
    (A.step .propagate).elements = buildElements A.scint A.heights ∧ (A.step .propagate).dirty = false := by
  intro A
  have hi : A.Inv := Atm.run_inv h _ hh (Atm.new_inv hs s)
  by_cases hd : A.dirty = true
  · simp [Atm.step, hd, Atm.calc]
  · rcases hi with h1 | h1
    · exact absurd h1 hd
    · simpa [Atm.step, hd] using h1

example : ∀ o ∈ [AOp.setScint true, AOp.setLayers [1, 2], AOp.setScint true, AOp.propagate, AOp.recalc],
    o.isSetHeight = false := by decide

/-- the hypothesis of `elements_current_after_propagate` is needed: `layer.height = h` on a layer object is not
noticed by the atmosphere, the next propagation still uses the old distances (code as it is; recorded, not judged). -/
theorem elements_stale_after_height_change :
    (((Atm.new [1, 2] true).step (.setHeight 0 3)).step .propagate).elements
      ≠ buildElements true [3, 2] := by decide +kernel

/-- **Replay after reset, `MultiLayerAtmosphere`.**  Build the atmosphere from layers with seeds, run any history of
`evolve_until` / `t = …` (also refused ones, which leave some layers evolved and others not), `reset()`,
`Cn_squared = …`, `outer_scale = …` and operations on the individual layer objects (no independent realisation
requested on a layer), then `reset()`: the atmosphere is — as a state: every layer's generators, noise / symbolic
screen, centre, time, and `atm.t` — the atmosphere freshly built from the same seeds with the velocities and parameters
in force, hence every later history shows the screens and times of that fresh atmosphere. -/
theorem replay_after_reset_multilayer (specs : List Spec) (h₁ h : List MOp) (hh : ∀ o ∈ h₁, o.isIndep = false) :
    let B := (MLA.new specs).run h₁
    B.step .reset = MLA.new (currentSpecs specs B.layers) ∧
    (B.step .reset).screens h = (MLA.new (currentSpecs specs B.layers)).screens h := by
  intro B
  have hid : B.layers.map AnyL.ident = (specs.map AnyL.new).map AnyL.ident := MLA.run_idents h₁ (MLA.new specs) hh
  have : B.step .reset = MLA.new (currentSpecs specs B.layers) := by
    show B.reset = _
    rw [MLA.reset_eq, hid, ofIdents_new]
  rw [this]; exact ⟨rfl, rfl⟩

/-- … and without parameter changes in the first run it is the atmosphere as it was built. -/
theorem replay_after_reset_multilayer_same_params (specs : List Spec) (h₁ h : List MOp)
    (hh : ∀ o ∈ h₁, o.isIndep = false) (hs : ∀ o ∈ h₁, o.isSet = false) :
    (((MLA.new specs).run h₁).step .reset) = MLA.new specs ∧
    (((MLA.new specs).run h₁).step .reset).screens h = (MLA.new specs).screens h := by
  have : ((MLA.new specs).run h₁).step .reset = MLA.new specs := by
    rw [(replay_after_reset_multilayer specs h₁ h hh).1, currentSpecs_of_vp specs _ (MLA.run_vp h₁ _ hs)]
  rw [this]; exact ⟨rfl, rfl⟩

example : (∀ o ∈ [MOp.evolve 1, MOp.setCn2 4, MOp.direct 1 (.evolve 3), MOp.evolve 2, MOp.reset], o.isIndep = false) ∧
    (∀ o ∈ [MOp.evolve 1, MOp.direct 1 (.evolve 3), MOp.evolve 2, MOp.reset], o.isSet = false) := by decide

/-- **Fan-out of the time**: when no layer refuses (`t` not before any layer's time — always so for finite layers after
the atmosphere's own operations), `evolve_until(t)` / `atm.t = t` leaves every layer and the atmosphere at time `t`;
`reset()` leaves every layer and the atmosphere at time zero. -/
theorem multilayer_time_fanout (A : MLA) (t : Rat) (ht : ∀ a ∈ A.layers, a.t ≤ t) :
    (A.step (.evolve t)).t = t ∧ (∀ a ∈ (A.step (.evolve t)).layers, a.t = t) ∧
    (A.step .reset).t = 0 ∧ ∀ a ∈ (A.step .reset).layers, a.t = 0 := by
  obtain ⟨e, hall⟩ := A.step_evolve_accepts t fun a ha => a.accepts_of_le t (ht a ha)
  refine ⟨by rw [e], hall, rfl, ?_⟩
  intro a ha
  obtain ⟨b, _, rfl⟩ := List.mem_map.1 ha
  exact b.reset_t false

example : ∀ a ∈ (MLA.new [⟨false, 2, 2, (1, 1), (1, 0), ⟨1, 10⟩, 3⟩, ⟨true, 2, 2, (1, 1), (1, 0), ⟨1, 10⟩, 4⟩]).layers,
    a.t ≤ 5 := by decide +kernel

/-- **Fan-out of the time, whatever the atmosphere's own clock says.**  `evolve_until(t)` never consults `atm._t`: for an
atmosphere in *any* state — its stored time equal to `t` or not, its layers in step with it or not (a layer reset or
evolved directly, a finite layer ahead of `t`) — if no infinite layer is ahead of `t`, the call succeeds and leaves
every layer and the atmosphere at `t`. -/
theorem multilayer_time_fanout_any_clock (A : MLA) (t : Rat) (ht : ∀ a ∈ A.layers, a.accepts t) :
    (A.step (.evolve t)).t = t ∧ (∀ a ∈ (A.step (.evolve t)).layers, a.t = t) ∧
    ∀ s : Rat, (({ A with t := s } : MLA).step (.evolve t)) = A.step (.evolve t) := by
  obtain ⟨e, hall⟩ := A.step_evolve_accepts t ht
  exact ⟨by rw [e], hall, fun s => by rw [e, (MLA.step_evolve_accepts { A with t := s } t ht).1]⟩

example : ∀ a ∈ ((MLA.new [⟨false, 2, 2, (1, 1), (1, 0), ⟨1, 10⟩, 3⟩, ⟨true, 2, 2, (1, 1), (1, 0), ⟨1, 10⟩, 4⟩]).step
    (.direct 0 (.evolve 7))).layers, a.accepts 5 := by
  intro a ha
  simp [MLA.new, MLA.step, modifyAt, AnyL.new] at ha
  rcases ha with rfl | rfl
  · trivial
  · show (0 : Rat) ≤ 5
    decide

/-- **Equal target time after a layer was reset behind the atmosphere.**  `atm.evolve_until(T); layer.reset();
atm.evolve_until(T)`: for an atmosphere in any state (in particular `atm._t = t`), after `reset()` on the layer object
`j` and `evolve_until(t)` with a time no layer refuses, the atmosphere and every layer are at `t`, and layer `j` is —
as a state, hence in every screen it shows from then on — the layer freshly built with its seed and the velocity and
parameters in force, evolved to `t`. -/
theorem multilayer_equal_time_after_layer_reset (A : MLA) (j : Nat) (a : AnyL) (t : Rat) (h0 : 0 ≤ t)
    (hj : A.layers[j]? = some a) (ht : ∀ b ∈ A.layers, b.accepts t) :
    let B := (A.step (.direct j (.reset false))).step (.evolve t)
    B.t = t ∧ (∀ b ∈ B.layers, b.t = t) ∧
    B.layers[j]? = some ((AnyL.ofIdent a.ident a.vel a.par).step (.evolve t)) := by
  intro B
  have hacc : ∀ b ∈ (A.step (.direct j (.reset false))).layers, b.accepts t := by
    intro b hb
    rcases mem_modifyAt _ j A.layers b hb with hb | ⟨c, _, rfl⟩
    · exact ht b hb
    · exact AnyL.accepts_of_le _ t (by rw [AnyL.reset_t]; exact h0)
  obtain ⟨e, hall⟩ : B = _ ∧ ∀ b ∈ B.layers, b.t = t := (A.step (.direct j (.reset false))).step_evolve_accepts t hacc
  refine ⟨by rw [e], hall, ?_⟩
  rw [e]
  show ((modifyAt (·.step (.reset false)) j A.layers).map _)[j]? = _
  rw [List.getElem?_map, modifyAt_getElem?, hj, ← AnyL.reset_eq]
  rfl

example : (0 : Rat) ≤ 2 ∧
    ((MLA.new [⟨false, 2, 2, (1, 1), (1, 0), ⟨1, 10⟩, 3⟩]).step (.evolve 2)).layers[0]? =
      some (((MLA.new [⟨false, 2, 2, (1, 1), (1, 0), ⟨1, 10⟩, 3⟩]).step (.evolve 2)).layers.headD (AnyL.new ⟨false, 2, 2, (1, 1), (1, 0), ⟨1, 10⟩, 3⟩)) := by
  decide +kernel

/-- **Equal target time after new layers were assigned.**  `atm.layers = [Layer(…, seed=sᵢ) …]` on an atmosphere in any
state, then `evolve_until(t)` (`t ≥ 0`; in particular the time the atmosphere had recorded before): the atmosphere is,
as a state, the atmosphere freshly built from those layers and evolved to `t`. -/
theorem multilayer_equal_time_after_new_layers (A : MLA) (specs : List Spec) (t : Rat) (h0 : 0 ≤ t) :
    (A.setLayers specs).step (.evolve t) = (MLA.new specs).step (.evolve t) := by
  have hacc : ∀ b ∈ specs.map AnyL.new, b.accepts t := by
    intro b hb
    obtain ⟨s, _, rfl⟩ := List.mem_map.1 hb
    exact AnyL.accepts_of_le _ t (by rw [AnyL.new_t]; exact h0)
  rw [((A.setLayers specs).step_evolve_accepts t hacc).1, ((MLA.new specs).step_evolve_accepts t hacc).1]
  rfl

example : (0 : Rat) ≤ 2 := by decide

/-- **A new atmosphere around layers that have already been evolved** (`MultiLayerAtmosphere(atm.layers)`, own clock at
0): `evolve_until(t)` does to the layers exactly what it does in the old atmosphere — with
`multilayer_time_fanout_any_clock`: `evolve_until(0)` rewinds every finite layer to time zero. -/
theorem multilayer_rewrap_evolve (A : MLA) (t : Rat) :
    (A.rewrap.step (.evolve t)).layers = (A.step (.evolve t)).layers ∧ A.rewrap.layers = A.layers ∧ A.rewrap.t = 0 :=
  ⟨rfl, rfl, rfl⟩

/-- **Why the stored time must not be used as a shortcut**: an `evolve_until` that
returns early when `t` equals the atmosphere's stored time leaves a layer that was reset directly at time zero, where
the code as it is brings it back to `t`. -/
theorem multilayer_short_circuit_counterexample :
    let A := ((MLA.new [⟨false, 2, 2, (1, 1), (1, 0), ⟨1, 10⟩, 3⟩]).step (.evolve 2)).step (.direct 0 (.reset false))
    A.t = 2 ∧ (A.step (.evolve 2)).layers.map AnyL.t = [2] ∧
    (if (2 : Rat) = A.t then A else A.step (.evolve 2)).layers.map AnyL.t = [0] := by decide +kernel

/-- **D515.** Before the repair `MultiLayerAtmosphere.reset()` rewound the layers but not its own clock: after
`evolve_until(1); reset()` the atmosphere reports `t = 1` while every layer is at time zero. -/
theorem multilayer_reset_old_counterexample :
    let A := MLA.new [⟨false, 2, 2, (1, 1), (1, 0), ⟨1, 10⟩, 3⟩, ⟨true, 2, 2, (1, 1), (1, 0), ⟨1, 10⟩, 4⟩]
    ((A.stepOld (.evolve 1)).stepOld .reset).t = 1 ∧ (∀ a ∈ ((A.stepOld (.evolve 1)).stepOld .reset).layers, a.t = 0) ∧
    ((A.step (.evolve 1)).step .reset).t = 0 := by decide +kernel

/-- **A refused `evolve_until` is not atomic** (code as it is): with a finite layer in front of an infinite one, a
backwards time moves the finite layer, is refused by the infinite layer, and the atmosphere keeps its old time. -/
theorem multilayer_refused_evolve_is_partial :
    let A := (MLA.new [⟨false, 2, 2, (1, 1), (1, 0), ⟨1, 10⟩, 3⟩, ⟨true, 2, 2, (1, 1), (1, 0), ⟨1, 10⟩, 4⟩]).step (.evolve 3)
    (A.step (.evolve 1)).t = 3 ∧ (A.step (.evolve 1)).layers.map AnyL.t = [1, 3] := by decide +kernel

/-- **`atm.Cn_squared = T`**: every layer's strength is multiplied by the same factor `T / (old total)`, and the new
total is `T` — so (with `phase_sqrt_strength` for each layer) every layer's screen, hence the sum, scales by the root
of that factor. -/
theorem multilayer_setCn2_proportional (A : MLA) (T : Rat) (hT : totalCn2 A.layers ≠ 0) :
    totalCn2 (A.step (.setCn2 T)).layers = T ∧
    (A.step (.setCn2 T)).layers.map (·.par.cn2) = A.layers.map (fun a => a.par.cn2 * (T / totalCn2 A.layers)) := by
  have hf : ∀ a : AnyL, (a.step (.setCn2 (a.par.cn2 / totalCn2 A.layers * T))).par.cn2
      = a.par.cn2 * (T / totalCn2 A.layers) := by
    intro a; rw [(a.setCn2_par _).1]; field_simp
  constructor
  · show totalCn2 (A.layers.map _) = T
    rw [totalCn2_map (T / totalCn2 A.layers) _ hf]
    field_simp
  · show (A.layers.map _).map _ = _
    rw [List.map_map]
    exact List.map_congr_left (fun a _ => hf a)

example : totalCn2 (MLA.new [⟨false, 2, 2, (1, 1), (1, 0), ⟨1, 10⟩, 3⟩, ⟨true, 2, 2, (1, 1), (1, 0), ⟨3, 10⟩, 4⟩]).layers ≠ 0 := by
  decide +kernel

/-- **`atm.phase_for(λ) ∝ 1/λ`**: the sum over the layers times `λ` is the sum of the achromatic screens. -/
theorem multilayer_phase_inverse_wavelength {K : Type} [Field K] (as : List K) (l m : K) (hl : l ≠ 0) (hm : m ≠ 0) :
    atmPhase l as * l = atmPhase m as * m ∧ atmPhase l as * l = as.sum := by
  rw [atmPhase_eq, atmPhase_eq, div_mul_cancel₀ _ hl, div_mul_cancel₀ _ hm]; exact ⟨rfl, rfl⟩

/-- **`atm.phase_for ∝ sqrt(total Cn²)`**: when every layer's screen is `k` times as large, the sum is. -/
theorem multilayer_phase_sqrt_strength {K : Type} [Field K] (as : List K) (l k : K) :
    atmPhase l (as.map (k * ·)) = k * atmPhase l as := by
  rw [atmPhase_eq, atmPhase_eq, ← AddPres.list_sum ⟨mul_zero k, mul_add k⟩, mul_div_assoc]

end HcipyVerif.C15
