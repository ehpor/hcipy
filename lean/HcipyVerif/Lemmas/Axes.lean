import Mathlib.Data.List.InsertIdx
import HcipyVerif.Model.Axes

/-!
# ZoomFastFourierTransform axis bookkeeping (C02, defect D5)

`zoom_axes_ok`: for every tensor rank `r` and every `ndim`, the repaired loop
(`moveaxis(f, -i-1, -1); czt; moveaxis(f, -1, -i-1)`) transforms the axis with dims-index `i` at
iteration `i` and restores the initial layout.  The code as it stands (`moveaxis(f, -i, 0)` twice)
fails for a tensor field on a 2-D grid and for scalar fields on a 3-D grid
(`zoom_axes_old_counterexample_*`), and is fine for scalar fields up to 2-D.
-/

namespace HcipyVerif.Axes

section moveaxis
variable {α : Type}

theorem normIdx_neg_succ {n i : ℕ} (hi : i < n) : normIdx n (-(i : Int) - 1) = n - 1 - i := by
  unfold normIdx
  rw [if_pos (by omega)]
  omega

theorem axisOk_neg_succ {n i : ℕ} (hi : i < n) : axisOk n (-(i : Int) - 1) = true := by
  simp only [axisOk, Bool.and_eq_true, decide_eq_true_eq]
  omega

/-- `moveaxis(f, -i-1, -j-1)`: the axis at position `len-1-i` is taken out and put back at
position `len-1-j`. -/
theorem moveaxis_neg_succ (l : List α) {i j : ℕ} (hi : i < l.length) (hj : j < l.length) :
    moveaxis l (-(i : Int) - 1) (-(j : Int) - 1) =
      (l.eraseIdx (l.length - 1 - i)).insertIdx (l.length - 1 - j)
        (l[l.length - 1 - i]'(by omega)) := by
  unfold moveaxis
  simp only [normIdx_neg_succ hi, normIdx_neg_succ hj, axisOk_neg_succ hi, axisOk_neg_succ hj,
    Bool.and_self, if_true, List.getElem?_eq_getElem (show l.length - 1 - i < l.length by omega)]

/-- `moveaxis(f, -i-1, -1)`: the axis at position `len-1-i` goes to the end. -/
theorem moveaxis_to_last (l : List α) {i : ℕ} (hi : i < l.length) :
    moveaxis l (-(i : Int) - 1) (-1) =
      l.eraseIdx (l.length - 1 - i) ++ [l[l.length - 1 - i]'(by omega)] := by
  have hs : l.length - 1 - i < l.length := by omega
  have h := List.insertIdx_length_self (l := l.eraseIdx (l.length - 1 - i))
    (x := l[l.length - 1 - i]'hs)
  rw [List.length_eraseIdx_of_lt hs] at h
  exact (moveaxis_neg_succ l hi (j := 0) (by omega)).trans h

/-- `moveaxis(f, -1, -i-1)` applied to `m ++ [a]`: `a` is inserted at position `len-1-i`. -/
theorem moveaxis_from_last (m : List α) (a : α) {i : ℕ} (hi : i < m.length + 1) :
    moveaxis (m ++ [a]) (-1) (-(i : Int) - 1) = m.insertIdx (m.length - i) a := by
  have h := moveaxis_neg_succ (m ++ [a]) (i := 0) (j := i) (by simp) (by simpa using hi)
  simpa [List.eraseIdx_append_of_length_le (Nat.le_refl m.length)] using h

/-- the label the CZT sees after the first move -/
theorem getLast?_moveaxis_to_last (l : List α) {i : ℕ} (hi : i < l.length) :
    (moveaxis l (-(i : Int) - 1) (-1)).getLast? = some (l[l.length - 1 - i]'(by omega)) := by
  rw [moveaxis_to_last l hi, List.getLast?_concat]

theorem moveaxis_roundtrip (l : List α) {i : ℕ} (hi : i < l.length) :
    moveaxis (moveaxis l (-(i : Int) - 1) (-1)) (-1) (-(i : Int) - 1) = l := by
  have hs : l.length - 1 - i < l.length := by omega
  have hlen : (l.eraseIdx (l.length - 1 - i)).length = l.length - 1 :=
    List.length_eraseIdx_of_lt hs
  rw [moveaxis_to_last l hi, moveaxis_from_last _ _ (by omega), hlen]
  exact List.insertIdx_eraseIdx_getElem hs

end moveaxis

theorem length_initLayout (r ndim : ℕ) : (initLayout r ndim).length = r + ndim := by
  simp [initLayout]

theorem initLayout_getElem (r ndim : ℕ) {i : ℕ} (hi : i < ndim) :
    (initLayout r ndim)[r + ndim - 1 - i]'(by rw [length_initLayout]; omega) = Ax.g i := by
  unfold initLayout
  rw [List.getElem_append_right (by simp; omega)]
  simp only [List.length_map, List.length_range, List.getElem_map, List.getElem_reverse,
    List.getElem_range]
  congr 1
  omega

theorem zoomStep_init (r ndim : ℕ) {i : ℕ} (hi : i < ndim) :
    zoomStep (initLayout r ndim) i = ([Ax.g i], initLayout r ndim) := by
  have hi' : i < (initLayout r ndim).length := by rw [length_initLayout]; omega
  unfold zoomStep
  simp only [moveaxis_roundtrip _ hi', getLast?_moveaxis_to_last _ hi', Option.toList_some,
    length_initLayout, initLayout_getElem r ndim hi]

/-- **The repaired ZoomFFT loop is correct for every tensor rank and every dimension**: iteration
`i` transforms the axis with dims-index `i`, and the layout after the loop is the initial one. -/
theorem zoom_axes_ok : ∀ r ndim,
    zoomLoop r ndim = (List.range ndim |>.map Ax.g, initLayout r ndim) := by
  intro r ndim
  -- invariant: `k ≤ ndim` iterations have hit the grid axes `0, …, k-1` and restored the layout
  have h : ∀ k, k ≤ ndim →
      runLoop zoomStep (initLayout r ndim) k = ((List.range k).map Ax.g, initLayout r ndim) := by
    intro k
    induction k with
    | zero => intro _; rfl
    | succ k ih =>
      intro hk
      have ih := ih (by omega)
      unfold runLoop at ih ⊢
      rw [List.range_succ, List.foldl_append, ih]
      simp only [List.foldl_cons, List.foldl_nil, zoomStep_init r ndim (show k < ndim by omega),
        List.map_append, List.map_cons, List.map_nil]
  exact h ndim (Nat.le_refl _)

/-- tensor field (rank 1) on a 2-D grid: the current code returns the layout `[y, x, t]` instead
of `[t, y, x]` — the subsequent `reshape(tensor_shape + (-1,))` scrambles the data. -/
theorem zoom_axes_old_counterexample_tensor :
    zoomLoopOld 1 2 = ([Ax.g 0, Ax.g 1], [Ax.g 1, Ax.g 0, Ax.t 0]) ∧
    zoomLoopOld 1 2 ≠ (List.range 2 |>.map Ax.g, initLayout 1 2) := by
  decide

/-- scalar field on a 3-D grid: the current code returns the layout `[y, x, z]` instead of
`[z, y, x]`. -/
theorem zoom_axes_old_counterexample_3d :
    zoomLoopOld 0 3 = ([Ax.g 0, Ax.g 1, Ax.g 2], [Ax.g 1, Ax.g 0, Ax.g 2]) ∧
    zoomLoopOld 0 3 ≠ (List.range 3 |>.map Ax.g, initLayout 0 3) := by
  decide

/-- scalar field on a 4-D grid: here the current code also transforms a wrong axis (iteration 3
hits dims-index 2 again; dims-index 3 is never transformed). -/
theorem zoom_axes_old_counterexample_wrong_axis :
    (zoomLoopOld 0 4).1 = [Ax.g 0, Ax.g 1, Ax.g 2, Ax.g 2] ∧
    (zoomLoopOld 0 4).1 ≠ (List.range 4 |>.map Ax.g) := by
  decide

/-- scalar fields on 0-, 1-, 2-D grids: the current code is fine. -/
theorem zoom_axes_old_ok_2d_scalar : ∀ ndim ∈ [0, 1, 2],
    zoomLoopOld 0 ndim = (List.range ndim |>.map Ax.g, initLayout 0 ndim) := by
  decide

end HcipyVerif.Axes
