import HcipyVerif.Lemmas.NearFieldGRat
import HcipyVerif.Lemmas.NearFieldTensor

/-!
# C04 — the matrix-valued `FourierFilter` operator is the executable pipeline `filterMP`

`filterMP` of `Model/NearField.lean` (what the driver op `filtmp` runs on formal phase sums) at `ℂ` is
`filterM (dftPair2 …) (cutoutEmb p h)` of `Lemmas/NearFieldTensor.lean` (`filterMP_eq_filterM`), and `filterMN` commutes with
every map of scalars preserving `0`, `+`, `·`.
-/

namespace HcipyVerif.NearField

/-- As `filterP_eq_filter`: the matrices `D` are given on `ℕ × ℕ` and read on the internal grid only. -/
theorem filterMP_eq_filterM {n : ℕ} (p : Params) (h : padOK p = true) (D : ℕ → ℕ → Fin n → Fin n → ℂ)
    (x : Fin n → Fin p.ny × Fin p.nx → ℂ) (t : Fin n) (j : Fin p.ny × Fin p.nx) :
    filterMP p (kF (my p)) (kF (mx p)) (kB (my p)) (kB (mx p)) (((my p * mx p : ℕ) : ℂ)⁻¹) D (fun k => ext2 (x k)) t
        (j.1 : ℕ) (j.2 : ℕ)
      = filterM (dftPair2 (my p) (mx p) (my_pos h) (mx_pos h)) (cutoutEmb p h) (fun m => D (m.1 : ℕ) (m.2 : ℕ)) x t j := by
  refine (dftPair2_Finv_eq_dft2 (my p) (mx p) (my_pos h) (mx_pos h) _ (fun a ha b hb => ?_)
    (cutoutEmb p h j).1 (cutoutEmb p h j).2).symm
  exact congrArg (fun v => matVec (D a b) v t) (funext fun k => (F_pad_cutoutEmb p h (x k) ⟨a, ha⟩ ⟨b, hb⟩).symm)

theorem filterMN_map {C C' : Type} [Zero C] [Add C] [Mul C] [Zero C'] [Add C'] [Mul C'] {φ : C → C'} (h : ScalarHom φ)
    {n : ℕ} (My Mx : ℕ) (kFy kFx kBy kBx : ℤ → C) (sc : C) (sy sx ny nx : ℕ)
    (D : ℕ → ℕ → Fin n → Fin n → C) (x : Fin n → ℕ → ℕ → C) (t : Fin n) (ky kx : ℕ) :
    φ (filterMN My Mx kFy kFx kBy kBx sc sy sx ny nx D x t ky kx)
      = filterMN My Mx (fun m => φ (kFy m)) (fun m => φ (kFx m)) (fun m => φ (kBy m)) (fun m => φ (kBx m)) (φ sc)
          sy sx ny nx (fun a b i k => φ (D a b i k)) (fun k a b => φ (x k a b)) t ky kx := by
  simp only [filterMN, cropAt, Fft.dft2, padAt, matVec, sumFin, h.mul, h.sumRange, h.list_sum, List.map_map,
    Function.comp_def, apply_ite φ, h.zero]

end HcipyVerif.NearField
