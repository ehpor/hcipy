import Mathlib.Data.List.Basic
import Mathlib.Data.List.GetD

/-! Facts about lists and about the flat index `i * n + j` of a row-major layout that several areas use and the
library does not state. -/

namespace HcipyVerif.ListFacts

theorem flat_lt {m n i j : Nat} (hi : i < m) (hj : j < n) : i * n + j < m * n :=
  calc i * n + j < i * n + n := Nat.add_lt_add_left hj _
    _ = (i + 1) * n := (Nat.succ_mul i n).symm
    _ ≤ m * n := Nat.mul_le_mul_right n hi

theorem flat_div {n i j : Nat} (hj : j < n) : (i * n + j) / n = i := by
  rw [Nat.add_comm, Nat.add_mul_div_right _ _ (Nat.zero_lt_of_lt hj), Nat.div_eq_of_lt hj, Nat.zero_add]

theorem flat_surj {m n k : Nat} (hk : k < m * n) : k / n < m ∧ k % n < n ∧ k / n * n + k % n = k :=
  have hn : 0 < n := Nat.pos_of_ne_zero fun h0 => by rw [h0, Nat.mul_zero] at hk; exact Nat.not_lt_zero _ hk
  ⟨Nat.div_lt_of_lt_mul (Nat.mul_comm m n ▸ hk), Nat.mod_lt _ hn, Nat.div_add_mod' k n⟩

section
variable {α β γ : Type*}

/-- entry `j` of block `i` of a `flatMap` whose blocks all have length `c` -/
theorem flatMap_getElem? (l : List α) (f : α → List β) (c : Nat) (h : ∀ a ∈ l, (f a).length = c) (i j : Nat)
    (hj : j < c) : (l.flatMap f)[i * c + j]? = l[i]?.bind fun a => (f a)[j]? := by
  induction l generalizing i with
  | nil => rfl
  | cons a l ih =>
    have ha : (f a).length = c := h a List.mem_cons_self
    rw [List.flatMap_cons]
    cases i with
    | zero =>
      rw [Nat.zero_mul, Nat.zero_add, List.getElem?_append_left (ha ▸ hj)]
      rfl
    | succ i =>
      rw [Nat.succ_mul, Nat.add_right_comm, List.getElem?_append_right (ha ▸ Nat.le_add_left _ _), ha,
        Nat.add_sub_cancel, List.getElem?_cons_succ]
      exact ih (fun b hb => h b (List.mem_cons_of_mem _ hb)) i

theorem flatMap_map_getElem? (F : α → β → γ) (l : List α) (l' : List β) {i j : Nat} (hi : i < l.length)
    (hj : j < l'.length) : (l.flatMap fun a => l'.map (F a))[i * l'.length + j]? = some (F l[i] l'[j]) := by
  rw [flatMap_getElem? l _ l'.length (fun _ _ => List.length_map _) i j hj, List.getElem?_eq_getElem hi,
    Option.bind_some, List.getElem?_map, List.getElem?_eq_getElem hj, Option.map_some]

theorem getD_mem (l : List α) (d : α) (i : Nat) (h : i < l.length) : l.getD i d ∈ l :=
  List.getD_eq_getElem l d h ▸ List.getElem_mem h

theorem getD_append_length (l : List α) (x d : α) : (l ++ [x]).getD l.length d = x := by
  rw [List.getD_append_right _ _ _ _ (Nat.le_refl _), Nat.sub_self, List.getD_cons_zero]

theorem getD_map_of_eq (f : α → β) {d : α} {e : β} (h : f d = e) (l : List α) (i : Nat) :
    (l.map f).getD i e = f (l.getD i d) :=
  h ▸ List.getD_map l d f

theorem getD_map_range (f : Nat → α) {n i : Nat} (h : i < n) (d : α) : ((List.range n).map f).getD i d = f i := by
  rw [List.getD_eq_getElem?_getD, List.getElem?_map, List.getElem?_range h, Option.map_some, Option.getD_some]

theorem getD_map_lt (f : α → β) {l : List α} {i : Nat} (h : i < l.length) (d : α) (e : β) :
    (l.map f).getD i e = f (l.getD i d) := by
  rw [List.getD_eq_getElem _ _ h, List.getD_eq_getElem _ _ (by rwa [List.length_map]), List.getElem_map]

theorem getD_zipWith (f : α → β → γ) {u : List α} {v : List β} (h : u.length = v.length) (a : α) (b : β) (j : Nat) :
    (List.zipWith f u v).getD j (f a b) = f (u.getD j a) (v.getD j b) := by
  simp only [List.getD_eq_getElem?_getD, List.getElem?_zipWith]
  rcases Nat.lt_or_ge j u.length with hj | hj
  · rw [List.getElem?_eq_getElem hj, List.getElem?_eq_getElem (h ▸ hj)]; rfl
  · rw [List.getElem?_eq_none hj, List.getElem?_eq_none (h ▸ hj)]; rfl

theorem map_eq_range_map_getD (l : List α) (d : α) (g : α → β) :
    l.map g = (List.range l.length).map fun j => g (l.getD j d) := by
  apply List.ext_getElem
  · rw [List.length_map, List.length_map, List.length_range]
  · intro i h1 _
    rw [List.length_map] at h1
    rw [List.getElem_map, List.getElem_map, List.getElem_range, List.getD_eq_getElem _ _ h1]

theorem zipWith_map_same {δ : Type*} (k : β → γ → δ) (f : α → β) (g : α → γ) (l : List α) :
    List.zipWith k (l.map f) (l.map g) = l.map fun x => k (f x) (g x) := by
  rw [List.zipWith_map, List.zipWith_self]

theorem zipWith_replicate_right (f : α → β → γ) (b : β) {a : List α} {n : Nat} (h : a.length = n) :
    List.zipWith f a (List.replicate n b) = a.map (f · b) := by
  rw [← h, ← List.map_const', List.zipWith_map_right, List.zipWith_self]

theorem zipWith_replicate_left (f : α → β → γ) (a : α) {b : List β} {n : Nat} (h : b.length = n) :
    List.zipWith f (List.replicate n a) b = b.map (f a) := by
  rw [List.zipWith_comm, zipWith_replicate_right _ a h]

theorem set_append_singleton (l : List α) (v x : α) : (l ++ [v]).set l.length x = l ++ [x] := by
  rw [List.set_append_right _ _ (Nat.le_refl _), Nat.sub_self, List.set_cons_zero]

end

end HcipyVerif.ListFacts
