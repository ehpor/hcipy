import HcipyVerif.Lemmas.FftPipeline
import HcipyVerif.Lemmas.FftPipeline2
import HcipyVerif.Lemmas.FftBackward2
import HcipyVerif.Lemmas.FftPipelineN
import HcipyVerif.Lemmas.FourierExp
import HcipyVerif.Lemmas.Mft
import HcipyVerif.Lemmas.Czt
import HcipyVerif.Lemmas.Axes
import HcipyVerif.Lemmas.FftSelect
import HcipyVerif.Lemmas.FftState
import HcipyVerif.Lemmas.FftDecide
import HcipyVerif.Lemmas.FftPlan
import HcipyVerif.Lemmas.ZoomN
import HcipyVerif.Lemmas.ZoomNExp
import HcipyVerif.Model.FftWeights
import HcipyVerif.Lemmas.Nft
import HcipyVerif.Lemmas.Multiplex
import HcipyVerif.Lemmas.MftState

/-!
# C01 — every Fourier transform evaluates the same weighted Fourier sum

Model: `HcipyVerif/Model/FftGrid.lean` (sizes, cut-outs, output grid), `Model/FftIndex.lean`
(`fastForward`/`fastBackward`: the FastFourierTransform pipeline on one axis, both
`emulate_fftshifts` settings), `Model/FftIndex2/2b/N.lean` (the literal 2-D / 3-D array programs,
the iterated `n`-axis pipeline, the `n`-D defining sums), `Model/FftWeights.lean` (per-point
weights), `Model/FftState.lean` (the persistent internal array), `Model/Mft.lean` (the two gemm
products), `Model/Czt.lean` (Bluestein), `Model/ZoomN.lean` (the ZoomFFT axis loop with weights),
`Model/Axes.lean` (its `moveaxis` bookkeeping), `Model/FftSelect.lean` (`make_fourier_transform`,
`get_fft_parameters`).  Every one of these definitions is executed by the native driver
(`Driver/C01.lean`) and compared with the running code by `harness/props/c01.py` /
`c01_ties.py`; `tools/tie_report.py` measures this mechanically (no theorem of this file is about
a definition the driver does not run, except the `Complex.exp` casts `expT`/`expE`/`Cfg.ofPlanCast`
and the index helper `flat2`).

`exp` enters through abstract characters `T` (argument in turns, 1-periodic) and `E` (radians);
`expT`, `expE` (Lemmas/FourierExp.lean) instantiate them with `Complex.exp`, which also shows that
every hypothesis bundle below is satisfiable.

Hypotheses: `N ≤ M`, `Mo ≤ M` (zero padding, cropping), and the grid consistency
`dT·M·δ = 1`, i.e. `Δ·M·δ = 2π` — the frequency spacing belongs to the array the FFT is taken of
(this is what defect D4 violated; `plan` of the repaired code satisfies it by construction).
-/
set_option linter.unusedVariables false
set_option linter.unusedSectionVars false

namespace HcipyVerif.C01
open HcipyVerif.Fft HcipyVerif.Axes Finset

section abstract
variable {K C : Type} [Field K] [Field C] {T E : K → C}

/-- **FastFourierTransform.forward = the defining sum**, one axis, for both settings of
`emulate_fftshifts`, all `N ≤ M`, `Mo ≤ M`, all offsets/shifts:
`forward f k = Σ_{j<N} f_j·w·exp(-i·u_k·x_j)`, `x_j = z + jδ`, `u_k = 2π·dT·(k-⌊Mo/2⌋) + s`. -/
theorem fast_forward_eq_sum (hT : IsChar T) (hE : IsChar E) (hper : ∀ n : ℤ, T (n : K) = 1)
    (g : Cfg K C) (hN : g.N ≤ g.M) (hMo : g.Mo ≤ g.M) (hcons : g.dT * (g.M : K) * g.δ = 1)
    (f : ℕ → C) (k : ℕ) (hk : k < g.Mo) :
    fastForward T E g f k
      = ∑ j ∈ range g.N, f j * g.w * (T (-(g.a k * g.x j)) * E (-(g.s * g.x j))) := by
  rw [fastForward_eq_sumForward hT hE hper g hN hMo hcons f k hk, sumForward, sumRange_eq]

/-- the emulated-fftshift configuration, stated on its own -/
theorem fast_forward_emulated_eq_sum (hT : IsChar T) (hE : IsChar E) (hper : ∀ n : ℤ, T (n : K) = 1)
    (g : Cfg K C) (hemu : g.emu = true) (hN : g.N ≤ g.M) (hMo : g.Mo ≤ g.M)
    (hcons : g.dT * (g.M : K) * g.δ = 1) (f : ℕ → C) (k : ℕ) (hk : k < g.Mo) :
    fastForward T E g f k
      = ∑ j ∈ range g.N, f j * g.w * (T (-(g.a k * g.x j)) * E (-(g.s * g.x j))) :=
  fast_forward_eq_sum hT hE hper g hN hMo hcons f k hk

/-- **FastFourierTransform.backward = the defining backward sum** with the output weight
`wOut = Δ/(2π)` (`wOut·M·w = 1`): `backward F j = Σ_{k<Mo} F_k·wOut·exp(+i·u_k·x_j)`. -/
theorem fast_backward_eq_sum (hT : IsChar T) (hE : IsChar E) (hper : ∀ n : ℤ, T (n : K) = 1)
    (g : Cfg K C) (hN : g.N ≤ g.M) (hMo : g.Mo ≤ g.M) (hcons : g.dT * (g.M : K) * g.δ = 1)
    (wOut : C) (hw : wOut * (g.M : C) * g.w = 1) (F : ℕ → C) (j : ℕ) (hj : j < g.N) :
    fastBackward T E g F j
      = ∑ k ∈ range g.Mo, F k * wOut * (T (g.a k * g.x j) * E (g.s * g.x j)) := by
  rw [fastBackward_eq_sumBackward hT hE hper g hN hMo hcons wOut hw F j hj, sumBackward, sumRange_eq]

/-- **Separability**: the literal 2-D pipeline (`pad`/`ifftshift`/`fftn`/`fftshift`/crop on both
axes at once, 2-D multipliers `exp(-i·(c_x u_x + c_y u_y))` with one piston, one weight) is the 1-D
pipeline along `x` followed by the 1-D pipeline along `y`. -/
theorem fast_forward_2d_separable (hT : IsChar T) (hE : IsChar E) (gy gx : Cfg K C)
    (hemu : gy.emu = gx.emu) (f : ℕ → ℕ → C) (ky kx : ℕ) :
    fastForward2 T E gy gx f ky kx = fastForward T E gy (fun iy => fastForward T E gx (f iy) kx) ky :=
  fastForward2_eq_iter hT hE gy gx hemu f ky kx

/-- **FastFourierTransform.forward on a 2-D grid = the 2-D defining sum**
`Σ_{iy,ix} f[iy,ix]·w·exp(-i(u_x x + u_y y))`, non-square sizes, per-axis q/fov/shift, both
shift settings. -/
theorem fast_forward_eq_sum_2d (hT : IsChar T) (hE : IsChar E) (hper : ∀ n : ℤ, T (n : K) = 1)
    (gy gx : Cfg K C) (hemu : gy.emu = gx.emu)
    (hNy : gy.N ≤ gy.M) (hMoy : gy.Mo ≤ gy.M) (hcy : gy.dT * (gy.M : K) * gy.δ = 1)
    (hNx : gx.N ≤ gx.M) (hMox : gx.Mo ≤ gx.M) (hcx : gx.dT * (gx.M : K) * gx.δ = 1)
    (f : ℕ → ℕ → C) (ky kx : ℕ) (hky : ky < gy.Mo) (hkx : kx < gx.Mo) :
    fastForward2 T E gy gx f ky kx
      = ∑ iy ∈ range gy.N, ∑ ix ∈ range gx.N, f iy ix * (gy.w * gx.w) *
          (T (-(gx.a kx * gx.x ix + gy.a ky * gy.x iy)) * E (-(gx.s * gx.x ix + gy.s * gy.x iy))) :=
  fastForward2_eq_sum hT hE hper gy gx hemu hNy hMoy hcy hNx hMox hcx f ky kx hky hkx

/-- **Separability of `backward`** (literal 2-D pipeline, `ifftn` factor `1/(My·Mx)`). -/
theorem fast_backward_2d_separable (hT : IsChar T) (hE : IsChar E) (gy gx : Cfg K C)
    (hemu : gy.emu = gx.emu) (F : ℕ → ℕ → C) (jy jx : ℕ) :
    fastBackward2 T E gy gx F jy jx = fastBackward T E gy (fun ky => fastBackward T E gx (F ky) jx) jy :=
  fastBackward2_eq_iter hT hE gy gx hemu F jy jx

/-- **FastFourierTransform.backward on a 2-D grid = the 2-D backward sum** with the output weight
`woy·wox = Δy·Δx/(2π)²`. -/
theorem fast_backward_eq_sum_2d (hT : IsChar T) (hE : IsChar E) (hper : ∀ n : ℤ, T (n : K) = 1)
    (gy gx : Cfg K C) (hemu : gy.emu = gx.emu)
    (hNy : gy.N ≤ gy.M) (hMoy : gy.Mo ≤ gy.M) (hcy : gy.dT * (gy.M : K) * gy.δ = 1)
    (hNx : gx.N ≤ gx.M) (hMox : gx.Mo ≤ gx.M) (hcx : gx.dT * (gx.M : K) * gx.δ = 1)
    (woy wox : C) (hwy : woy * (gy.M : C) * gy.w = 1) (hwx : wox * (gx.M : C) * gx.w = 1)
    (F : ℕ → ℕ → C) (jy jx : ℕ) (hjy : jy < gy.N) (hjx : jx < gx.N) :
    fastBackward2 T E gy gx F jy jx
      = ∑ ky ∈ range gy.Mo, ∑ kx ∈ range gx.Mo, F ky kx * (woy * wox) *
          (T (gx.a kx * gx.x jx + gy.a ky * gy.x jy) * E (gx.s * gx.x jx + gy.s * gy.x jy)) :=
  fastBackward2_eq_sum hT hE hper gy gx hemu hNy hMoy hcy hNx hMox hcx woy wox hwy hwx F jy jx hjy hjx

/-- **Three axes, literally**: one 3-D pad / ifftshift / `fftn` / fftshift / crop with 3-D
multiplier arrays is the 1-D pipeline along `x`, `y`, `z`. -/
theorem fast_forward_3d_separable (hT : IsChar T) (hE : IsChar E) (gz gy gx : Cfg K C)
    (hey : gy.emu = gx.emu) (hez : gz.emu = gx.emu) (f : ℕ → ℕ → ℕ → C) (kz ky kx : ℕ) :
    fastForward3 T E gz gy gx f kz ky kx = fastForward3Iter T E gz gy gx f kz ky kx :=
  fastForward3_eq_iter hT hE gz gy gx hey hez f kz ky kx

/-- **FastFourierTransform.forward on a 3-D grid = the 3-D defining sum.** -/
theorem fast_forward_eq_sum_3d (hT : IsChar T) (hE : IsChar E) (hper : ∀ n : ℤ, T (n : K) = 1)
    (gz gy gx : Cfg K C) (hey : gy.emu = gx.emu) (hez : gz.emu = gx.emu)
    (hNz : gz.N ≤ gz.M) (hMoz : gz.Mo ≤ gz.M) (hcz : gz.dT * (gz.M : K) * gz.δ = 1)
    (hNy : gy.N ≤ gy.M) (hMoy : gy.Mo ≤ gy.M) (hcy : gy.dT * (gy.M : K) * gy.δ = 1)
    (hNx : gx.N ≤ gx.M) (hMox : gx.Mo ≤ gx.M) (hcx : gx.dT * (gx.M : K) * gx.δ = 1)
    (f : ℕ → ℕ → ℕ → C) (kz ky kx : ℕ) (hkz : kz < gz.Mo) (hky : ky < gy.Mo) (hkx : kx < gx.Mo) :
    fastForward3 T E gz gy gx f kz ky kx
      = ∑ iz ∈ range gz.N, ∑ iy ∈ range gy.N, ∑ ix ∈ range gx.N,
          f iz iy ix * (gz.w * gy.w * gx.w) *
            (T (-(gx.a kx * gx.x ix + gy.a ky * gy.x iy + gz.a kz * gz.x iz))
              * E (-(gx.s * gx.x ix + gy.s * gy.x iy + gz.s * gz.x iz))) := by
  rw [fastForward3_eq_sumForward3 hT hE hper gz gy gx hey hez hNz hMoz hcz hNy hMoy hcy hNx hMox hcx
    f kz ky kx hkz hky hkx]
  simp only [sumForward3, sumRange_eq]

/-- **FastFourierTransform.backward on a 3-D grid = the 3-D backward sum.** -/
theorem fast_backward_eq_sum_3d (hT : IsChar T) (hE : IsChar E) (hper : ∀ n : ℤ, T (n : K) = 1)
    (gz gy gx : Cfg K C) (hey : gy.emu = gx.emu) (hez : gz.emu = gx.emu)
    (hNz : gz.N ≤ gz.M) (hMoz : gz.Mo ≤ gz.M) (hcz : gz.dT * (gz.M : K) * gz.δ = 1)
    (hNy : gy.N ≤ gy.M) (hMoy : gy.Mo ≤ gy.M) (hcy : gy.dT * (gy.M : K) * gy.δ = 1)
    (hNx : gx.N ≤ gx.M) (hMox : gx.Mo ≤ gx.M) (hcx : gx.dT * (gx.M : K) * gx.δ = 1)
    (wz wy wx : C) (hwz : wz * (gz.M : C) * gz.w = 1) (hwy : wy * (gy.M : C) * gy.w = 1)
    (hwx : wx * (gx.M : C) * gx.w = 1)
    (F : ℕ → ℕ → ℕ → C) (jz jy jx : ℕ) (hjz : jz < gz.N) (hjy : jy < gy.N) (hjx : jx < gx.N) :
    fastBackward3 T E gz gy gx F jz jy jx
      = ∑ kz ∈ range gz.Mo, ∑ ky ∈ range gy.Mo, ∑ kx ∈ range gx.Mo,
          F kz ky kx * (wz * wy * wx) *
            (T (gx.a kx * gx.x jx + gy.a ky * gy.x jy + gz.a kz * gz.x jz)
              * E (gx.s * gx.x jx + gy.s * gy.x jy + gz.s * gz.x jz)) := by
  rw [fastBackward3_eq_sumBackward3 hT hE hper gz gy gx hey hez hNz hMoz hcz hNy hMoy hcy hNx hMox hcx
    wz wy wx hwz hwy hwx F jz jy jx hjz hjy hjx]
  simp only [sumBackward3, sumRange_eq]

/-- **n axes, by induction over the list of axes**: the pipeline applied axis by axis (arrays
indexed by index lists) evaluates the n-dimensional defining sum
`Σ_js f js · Πw · T(-Σ a_k x_j) · E(-Σ s x_j)`.  This is the *iterated* pipeline; that the literal
n-D array program (one n-D pad / shift / `fftn` / crop, n-D multiplier arrays) coincides with it is
proved for 2 axes (`fast_forward_2d_separable`) and 3 axes (`fast_forward_3d_separable`), and is
NumPy's specification (`fftn` = iterated 1-D DFT; `ifftshift`, slicing act per axis) beyond. -/
theorem fast_forward_nd_eq_sum (hT : IsChar T) (hE : IsChar E) (hper : ∀ n : ℤ, T (n : K) = 1)
    (gs : List (Cfg K C))
    (hgs : ∀ g ∈ gs, g.N ≤ g.M ∧ g.Mo ≤ g.M ∧ g.dT * (g.M : K) * g.δ = 1)
    (f : List ℕ → C) (ks : List ℕ) (hks : List.Forall₂ (fun k g => k < g.Mo) ks gs) :
    fastForwardN T E gs f ks = sumForwardN T E gs f ks :=
  fastForwardN_eq_sumForwardN hT hE hper gs hgs f ks hks

/-- the same for `backward` (per-axis output weights `wOut g = Δ/(2π)`) -/
theorem fast_backward_nd_eq_sum (hT : IsChar T) (hE : IsChar E) (hper : ∀ n : ℤ, T (n : K) = 1)
    (wOut : Cfg K C → C) (gs : List (Cfg K C))
    (hgs : ∀ g ∈ gs, g.N ≤ g.M ∧ g.Mo ≤ g.M ∧ g.dT * (g.M : K) * g.δ = 1 ∧
      wOut g * (g.M : C) * g.w = 1)
    (F : List ℕ → C) (js : List ℕ) (hjs : List.Forall₂ (fun j g => j < g.N) js gs) :
    fastBackwardN T E gs F js = sumBackwardN T E wOut gs F js :=
  fastBackwardN_eq_sumBackwardN hT hE hper wOut gs hgs F js hjs

/-- **FastFourierTransform.forward on a grid with per-point weights** (`relative_weights`
multiplied into the internal array, the cell area `g.w` in `shift_input`): the sum with the
grid's own weights `w_j = rel_j · g.w`, one axis. -/
theorem fast_forward_weights_eq_sum (hT : IsChar T) (hE : IsChar E) (hper : ∀ n : ℤ, T (n : K) = 1)
    (g : Cfg K C) (hN : g.N ≤ g.M) (hMo : g.Mo ≤ g.M) (hcons : g.dT * (g.M : K) * g.δ = 1)
    (rel f : ℕ → C) (k : ℕ) (hk : k < g.Mo) :
    fastForwardW T E g rel f k
      = ∑ j ∈ range g.N, f j * (rel j * g.w) * (T (-(g.a k * g.x j)) * E (-(g.s * g.x j))) := by
  unfold fastForwardW
  rw [fast_forward_eq_sum hT hE hper g hN hMo hcons _ k hk]
  exact Finset.sum_congr rfl fun j _ => by ring

/-- … on `n` axes (iterated pipeline), `relative_weights` an arbitrary `n`-D array: the `n`-D sum
with per-point weights `rel(js) · Π w_i`. -/
theorem fast_forward_weights_nd_eq_sum (hT : IsChar T) (hE : IsChar E)
    (hper : ∀ n : ℤ, T (n : K) = 1) (gs : List (Cfg K C))
    (hgs : ∀ g ∈ gs, g.N ≤ g.M ∧ g.Mo ≤ g.M ∧ g.dT * (g.M : K) * g.δ = 1)
    (rel f : List ℕ → C) (ks : List ℕ) (hks : List.Forall₂ (fun k g => k < g.Mo) ks gs) :
    fastForwardNW T E gs rel f ks
      = sumOverN (gs.map fun g => g.N) fun js =>
          f js * (rel js * weightN gs) * (T (-(dotA gs ks js)) * E (-(dotS gs js))) := by
  unfold fastForwardNW
  rw [fastForwardN_eq_sumForwardN hT hE hper gs hgs _ ks hks, sumForwardN]
  exact congrArg _ (funext fun js => by ring)

/-- **NaiveFourierTransform.forward = the defining sum**, for both code paths — the list
comprehension over output points (`precompute_matrices = False`) and the precomputed matrix of
`get_transformation_matrix_forward` (`A = exp(-i·coords_outᵀ·coords_in); A *= weights`) — on
arbitrary (unstructured) points in any number of dimensions (`dotCoords us xs k j = u_k · x_j`),
per-point weights.  The code *is* the sum up to the order of the factors; the statement is kept
because it is what ties the specification the other theorems refer to to running code (driver op
`nft`, family `tie-nft`). -/
theorem naive_forward_eq_sum (n : ℕ) (us xs : List (ℕ → K)) (w f : ℕ → C) (k : ℕ) :
    nftForwardFly E n us xs w f k = ∑ j ∈ range n, f j * w j * E (-(dotCoords us xs k j)) ∧
    nftForwardMat E n us xs w f k = ∑ j ∈ range n, f j * w j * E (-(dotCoords us xs k j)) :=
  ⟨nft_forward_fly_eq_sum E n us xs w f k, nft_forward_mat_eq_sum E n us xs w f k⟩

/-- **NaiveFourierTransform.backward = the backward sum** (`wOut = output weights/(2π)^ndim`),
both code paths. -/
theorem naive_backward_eq_sum (m : ℕ) (us xs : List (ℕ → K)) (wOut F : ℕ → C) (j : ℕ) :
    nftBackwardFly E m us xs wOut F j = ∑ k ∈ range m, F k * wOut k * E (dotCoords us xs k j) ∧
    nftBackwardMat E m us xs wOut F j = ∑ k ∈ range m, F k * wOut k * E (dotCoords us xs k j) :=
  ⟨nft_backward_fly_eq_sum E m us xs wOut F j, nft_backward_mat_eq_sum E m us xs wOut F j⟩

/-! ### Tensor fields: `multiplex_for_tensor_fields` -/

/-- **A tensor field is transformed component by component** — for every tensor shape `ts`
(any order, any extents), every valid tensor multi-index `idx` and every wrapped function `func`
(`n` samples ↦ `m` samples): sample `k` of component `idx` of the result (raveled position
`tensorRavel ts idx · m + k`, which lies inside the `tensorSize ts · m` output samples) is
`func` applied to component `idx` of the input (raveled block `tensorRavel ts idx · n + ·`).
`multiplexTensor` is the model of the decorator run by the driver op `C01 mux` and compared with
`NaiveFourierTransform.forward/backward` on tensor fields (family `tie-mux`). -/
theorem multiplex_componentwise (func : (ℕ → C) → ℕ → C) (ts idx : List ℕ) (hts : ts ≠ [])
    (hidx : TensorIdx ts idx) (n m : ℕ) (X : ℕ → C) (k : ℕ) (hk : k < m) :
    multiplexTensor func ts n m X (tensorRavel ts idx * m + k)
        = func (fun j => X (tensorRavel ts idx * n + j)) k ∧
      tensorRavel ts idx * m + k < tensorSize ts * m :=
  ⟨multiplexTensor_block func ts hts n m X _ k hk, flat_lt (tensorRavel_lt ts idx hidx) hk⟩

/-- a scalar field (`tensor_shape = ()`) goes straight to the wrapped function -/
theorem multiplex_scalar (func : (ℕ → C) → ℕ → C) (n m : ℕ) (X : ℕ → C) :
    multiplexTensor func [] n m X = func X := rfl

/-- **Transform of a tensor field = the defining sum of every component** (forward and backward,
both NaiveFourierTransform paths, any tensor shape, arbitrary point sets in any dimension): the
executed composition `multiplexTensor ∘ nft…` evaluates, at component `idx` and output sample `k`,
the weighted Fourier sum of component `idx` of the input. -/
theorem tensor_field_transform_eq_sums (ts idx : List ℕ) (hts : ts ≠ []) (hidx : TensorIdx ts idx)
    (n m : ℕ) (us xs : List (ℕ → K)) (w wOut : ℕ → C) (X : ℕ → C) :
    (∀ k < m, multiplexTensor (nftForwardFly E n us xs w) ts n m X (tensorRavel ts idx * m + k)
        = ∑ j ∈ range n, X (tensorRavel ts idx * n + j) * w j * E (-(dotCoords us xs k j))) ∧
    (∀ k < m, multiplexTensor (nftForwardMat E n us xs w) ts n m X (tensorRavel ts idx * m + k)
        = ∑ j ∈ range n, X (tensorRavel ts idx * n + j) * w j * E (-(dotCoords us xs k j))) ∧
    (∀ j < n, multiplexTensor (nftBackwardFly E m us xs wOut) ts m n X (tensorRavel ts idx * n + j)
        = ∑ k ∈ range m, X (tensorRavel ts idx * m + k) * wOut k * E (dotCoords us xs k j)) ∧
    (∀ j < n, multiplexTensor (nftBackwardMat E m us xs wOut) ts m n X (tensorRavel ts idx * n + j)
        = ∑ k ∈ range m, X (tensorRavel ts idx * m + k) * wOut k * E (dotCoords us xs k j)) := by
  refine ⟨fun k hk => ?_, fun k hk => ?_, fun j hj => ?_, fun j hj => ?_⟩
  · rw [multiplexTensor_block _ ts hts n m X _ k hk, nft_forward_fly_eq_sum]
  · rw [multiplexTensor_block _ ts hts n m X _ k hk, nft_forward_mat_eq_sum]
  · rw [multiplexTensor_block _ ts hts m n X _ j hj, nft_backward_fly_eq_sum]
  · rw [multiplexTensor_block _ ts hts m n X _ j hj, nft_backward_mat_eq_sum]

/-- satisfiability: the index `(1, 0, 2)` of a field of tensor shape `(2, 1, 3)` -/
example : ([2, 1, 3] : List ℕ) ≠ [] ∧ TensorIdx [2, 1, 3] [1, 0, 2] ∧ tensorRavel [2, 1, 3] [1, 0, 2] = 5 := by
  refine ⟨by simp, ?_, rfl⟩
  simp [TensorIdx]

/-- **NaiveFourierTransform = MatrixFourierTransform (1-D)** on the same coordinates, both weight
branches of the MFT, both NFT paths. -/
theorem naive_eq_mft_1d (n : ℕ) (x u : ℕ → K) (w : Weights C) (f : ℕ → C) (k : ℕ) :
    nftForwardFly E n [u] [x] w.get f k = mftForward1 E n x u w f k ∧
    nftForwardMat E n [u] [x] w.get f k = mftForward1 E n x u w f k := by
  rw [nft_forward_fly_eq_sum, nft_forward_mat_eq_sum, mft_forward_eq_sum_1d]
  simp only [dotCoords_one, and_self]

/-- The index core on its own: pad → ifftshift → DFT → fftshift → crop is the centred sum, for
every `M`-periodic kernel. -/
theorem fft_core_centred {M : ℕ} (c : PChar C M) (N Mo : ℕ) (hM : 0 < M) (hNM : N ≤ M)
    (hMo : Mo ≤ M) (f : ℕ → C) (k : ℕ) (hk : k < Mo) :
    core true N M Mo c.χ f k
      = ∑ j ∈ range N, f j * c.χ (((j : ℤ) - (N / 2 : ℕ)) * ((k : ℤ) - (Mo / 2 : ℕ))) :=
  fft_core_eq_sum c N Mo hM hNM hMo f k hk

/-- **MatrixFourierTransform.forward (2-D) = the 2-D sum**: the two gemm products with the
row-major `(Ny, Nx)` reshape (x fastest), array-weights branch. -/
theorem mft_eq_sum_2d (hE : IsChar E) (Nx Ny Nu Nv : ℕ) (x y u v : ℕ → K) (w f : ℕ → C)
    (iu iv : ℕ) (hiu : iu < Nu) (hiv : iv < Nv) :
    mftForward E Nx Ny Nu Nv x y u v (.array w) f (iv * Nu + iu)
      = ∑ iy ∈ range Ny, ∑ ix ∈ range Nx,
          f (iy * Nx + ix) * w (iy * Nx + ix) * E (-(u iu * x ix + v iv * y iy)) :=
  mft_forward_eq_sum_2d_get hE Nx Ny Nu Nv x y u v (.array w) f hiu

/-- the scalar-weights branch (`alpha = w0` folded into the second gemm) -/
theorem mft_eq_sum_2d_scalar (hE : IsChar E) (Nx Ny Nu Nv : ℕ) (x y u v : ℕ → K) (w0 : C)
    (w f : ℕ → C) (hw : ∀ i, w i = w0) (iu iv : ℕ) (hiu : iu < Nu) (hiv : iv < Nv) :
    mftForward E Nx Ny Nu Nv x y u v (.scalar w0) f (iv * Nu + iu)
      = ∑ iy ∈ range Ny, ∑ ix ∈ range Nx,
          f (iy * Nx + ix) * w (iy * Nx + ix) * E (-(u iu * x ix + v iv * y iy)) := by
  rw [mft_forward_eq_sum_2d_get hE Nx Ny Nu Nv x y u v (.scalar w0) f hiu]
  simp only [Weights.get, hw]

/-- **MatrixFourierTransform.backward (2-D)**: the conjugate-transposed products (`trans=2`)
evaluate the backward sum. -/
theorem mft_backward_eq_sum_2d' (hE : IsChar E) (cj : C → C) (hcj : ∀ a, cj (E a) = E (-a))
    (Nx Ny Nu Nv : ℕ) (x y u v : ℕ → K) (wOut F : ℕ → C) (ix iy : ℕ) (hix : ix < Nx) (hiy : iy < Ny) :
    mftBackward E cj Nx Ny Nu Nv x y u v (.array wOut) F (iy * Nx + ix)
      = ∑ iv ∈ range Nv, ∑ iu ∈ range Nu,
          F (iv * Nu + iu) * wOut (iv * Nu + iu) * E (u iu * x ix + v iv * y iy) :=
  mft_backward_eq_sum_2d_get hE cj hcj Nx Ny Nu Nv x y u v (.array wOut) F hix

/-- **Chirp-z transform**: Bluestein's pipeline (chirp multiply, circular convolution of length
`nfft ≥ n+m-1`, slice `[n-1, n+m-1)`, chirp multiply) equals `Σ_i x_i a^{-i} w^{ik}`. -/
theorem czt_eq_sum' {W : K → C} (hW : IsChar W) (h2 : (2 : K) ≠ 0) (n m nfft : ℕ) (hn : 0 < n)
    (hnfft : n + m - 1 ≤ nfft) (ω α : K) (x : ℕ → C) (k : ℕ) (hk : k < m) :
    cztBluestein n m nfft W ω α x k = cztSum n W ω α x k :=
  czt_eq_sum hW h2 n m nfft hn hnfft ω α x k hk

/-- **ZoomFastFourierTransform on one axis** (`w = exp(-iΔδ)`, `a = exp(i u₀ δ)`, shift
`exp(-i u_k x₀)`) evaluates the defining sum on arbitrary regular grids. -/
theorem zoom_axis_eq_sum' (hE : IsChar E) (h2 : (2 : K) ≠ 0) (n m nfft : ℕ) (hn : 0 < n)
    (hnfft : n + m - 1 ≤ nfft) (x0 δ u0 Δ : K) (f : ℕ → C) (k : ℕ) (hk : k < m) :
    zoomAxis n m nfft E x0 δ u0 Δ f k = zoomSum n E x0 δ u0 Δ f k :=
  zoom_axis_eq_sum hE h2 n m nfft hn hnfft x0 δ u0 Δ f k hk

/-- **MatrixFourierTransform.backward (2-D), both weight branches** (`Weights.get` is the scalar or
the array entry). -/
theorem mft_backward_eq_sum_2d_weights (hE : IsChar E) (cj : C → C) (hcj : ∀ a, cj (E a) = E (-a))
    (Nx Ny Nu Nv : ℕ) (x y u v : ℕ → K) (wOut : Weights C) (F : ℕ → C) (ix iy : ℕ) (hix : ix < Nx) :
    mftBackward E cj Nx Ny Nu Nv x y u v wOut F (iy * Nx + ix)
      = ∑ iv ∈ range Nv, ∑ iu ∈ range Nu,
          F (iv * Nu + iu) * wOut.get (iv * Nu + iu) * E (u iu * x ix + v iv * y iy) :=
  mft_backward_eq_sum_2d_get hE cj hcj Nx Ny Nu Nv x y u v wOut F hix

/-- **MatrixFourierTransform, ndim = 1** (`np.dot(M, field*weights)` and
`np.dot(M.conj().T, field*weights_output)`): forward and backward evaluate the 1-D sums, arbitrary
coordinates, both weight branches. -/
theorem mft_eq_sum_1d (cj : C → C) (hcj : ∀ a, cj (E a) = E (-a)) (Nx Nu : ℕ) (x u : ℕ → K)
    (w wOut : Weights C) (f F : ℕ → C) (iu ix : ℕ) :
    mftForward1 E Nx x u w f iu = ∑ jx ∈ range Nx, f jx * w.get jx * E (-(u iu * x jx)) ∧
    mftBackward1 E cj Nu x u wOut F ix = ∑ ju ∈ range Nu, F ju * wOut.get ju * E (u ju * x ix) :=
  ⟨mft_forward_eq_sum_1d Nx x u w f iu, mft_backward_eq_sum_1d cj hcj Nu x u wOut F ix⟩

/-- **ZoomFFT, one axis, whatever branch the code's powers use**: `w**(k²/2)` and `a**(-k)` are
computed from the complex numbers `w = exp(-iΔδ)`, `a = exp(i·u₀δ)`, i.e. with *some*
representatives `ω'`, `α'` with `E ω' = E(-(Δδ))`, `E α' = E(u₀δ)` (numpy: principal values, which
differ from `-(Δδ)` as soon as `|Δδ| > π`).  For every such pair the Bluestein pipeline times the
shift is the defining sum — `zoomChirp` (driver op `zoomchirp`) gives the canonical pair. -/
theorem zoom_eq_sum_any_branch (hE : IsChar E) (h2 : (2 : K) ≠ 0) (n m nfft : ℕ)
    (hn : 0 < n) (hnfft : n + m - 1 ≤ nfft) (x0 δ u0 Δ ω' α' : K)
    (hω : E ω' = E (zoomChirp δ u0 Δ).1) (hα : E α' = E (zoomChirp δ u0 Δ).2)
    (f : ℕ → C) (k : ℕ) (hk : k < m) :
    cztBluestein n m nfft E ω' α' f k * E (-((u0 + (k : K) * Δ) * x0))
      = zoomSum n E x0 δ u0 Δ f k := by
  rw [czt_eq_sum hE h2 n m nfft hn hnfft ω' α' f k hk, cztSum_congr hE n ω' _ α' _ hω hα f k]
  exact cztSum_shift_eq_zoomSum hE n x0 δ u0 Δ f k

/-- **ZoomFastFourierTransform.forward on `n` axes, including `field * input_weights`**: the
axis loop (`czt(f)·shift` on every axis, Model/ZoomN.lean) evaluates the `n`-D defining sum
`Σ_js f(js)·w(js)·exp(-i·Σ_i (u0_i + k_i Δ_i)(x0_i + j_i δ_i))`, for every list of axes, all
`nfft_i ≥ n_i + m_i - 1`, per-point weights, every in-range output index list. -/
theorem zoom_forward_nd_eq_sum (hE : IsChar E) (h2 : (2 : K) ≠ 0) (axs : List (ZAx K))
    (haxs : ∀ a ∈ axs, 0 < a.n ∧ a.n + a.m - 1 ≤ a.nfft)
    (w f : List ℕ → C) (ks : List ℕ) (hks : List.Forall₂ (fun k a => k < a.m) ks axs) :
    zoomForwardN E axs w f ks = zoomSumForwardN E axs w f ks :=
  zoomN_eq_sumN hE h2 axs haxs w f ks hks

/-- **ZoomFastFourierTransform.backward on `n` axes, including `field * output_weights`**
(`wOut = output_grid.weights/(2π)^n`). -/
theorem zoom_backward_nd_eq_sum (hE : IsChar E) (h2 : (2 : K) ≠ 0) (axs : List (ZAx K))
    (haxs : ∀ a ∈ axs, 0 < a.m ∧ a.m + a.n - 1 ≤ a.nfftInv)
    (wOut F : List ℕ → C) (js : List ℕ) (hjs : List.Forall₂ (fun j a => j < a.n) js axs) :
    zoomBackwardN E axs wOut F js = zoomSumBackwardN E axs wOut F js :=
  zoomN_backward_eq_sumN hE h2 axs haxs wOut F js hjs

/-- the `n`-axis forward loop run with arbitrary admissible branches `(ω'_i, α'_i)` per axis (the
loop as numpy executes it) evaluates the same `n`-D sum -/
theorem zoom_forward_nd_any_branch_eq_sum (hE : IsChar E) (h2 : (2 : K) ≠ 0)
    (axs : List (ZAx K × K × K))
    (haxs : ∀ p ∈ axs, 0 < p.1.n ∧ p.1.n + p.1.m - 1 ≤ p.1.nfft ∧
      E p.2.1 = E (-(p.1.Δ * p.1.δ)) ∧ E p.2.2 = E (p.1.u0 * p.1.δ))
    (w f : List ℕ → C) (ks : List ℕ) (hks : List.Forall₂ (fun k p => k < p.1.m) ks axs) :
    zoomLoopBranchN E axs (fun js => f js * w js) ks
      = zoomSumForwardN E (axs.map Prod.fst) w f ks :=
  zoomLoopBranchN_axiswise.congr ((zoomSumN_axiswise hE).comap Prod.fst) (·.1.m)
    (fun p hp f k hk => zoom_eq_sum_any_branch hE h2 p.1.n p.1.m p.1.nfft (haxs p hp).1 (haxs p hp).2.1
      p.1.x0 p.1.δ p.1.u0 p.1.Δ p.2.1 p.2.2 (haxs p hp).2.2.1 (haxs p hp).2.2.2 f k hk) _ hks

/-- **MatrixFourierTransform (2-D) = ZoomFastFourierTransform (2 axes)** on regular separated
grids, both weight branches of the MFT (flat C-ordered indices `iy·Nx+ix`, `iv·Nu+iu`). -/
theorem mft_eq_zoom_2d' (hE : IsChar E) (h2 : (2 : K) ≠ 0) (ay ax : ZAx K)
    (hy : 0 < ay.n ∧ ay.n + ay.m - 1 ≤ ay.nfft) (hx : 0 < ax.n ∧ ax.n + ax.m - 1 ≤ ax.nfft)
    (w : Weights C) (f : ℕ → C) (iv iu : ℕ) (hiv : iv < ay.m) (hiu : iu < ax.m) :
    mftForward E ax.n ay.n ax.m ay.m (fun i => ax.x0 + (i : K) * ax.δ) (fun i => ay.x0 + (i : K) * ay.δ)
        (fun k => ax.u0 + (k : K) * ax.Δ) (fun k => ay.u0 + (k : K) * ay.Δ) w f (iv * ax.m + iu)
      = zoomForwardN E [ay, ax] (flat2 ax.n w.get) (flat2 ax.n f) [iv, iu] := by
  rw [zoomN_eq_sumN hE h2 [ay, ax] (List.forall_mem_cons.2 ⟨hy, List.forall_mem_cons.2 ⟨hx, nofun⟩⟩)
      _ _ [iv, iu] (.cons hiv (.cons hiu .nil)),
    mft_forward_eq_sum_2d_get hE _ _ _ _ _ _ _ _ w f hiu]
  simp only [zoomSumForwardN, List.map_cons, List.map_nil, sumOverN, sumRange_eq, flat2_pair, dotUX]
  refine Finset.sum_congr rfl fun iy _ => Finset.sum_congr rfl fun ix _ => ?_
  congr 3
  rw [add_zero, add_comm]

end abstract

/-- **ZoomFFT axis bookkeeping (repaired code)**: for every tensor rank and every number of
dimensions, iteration `i` transforms the axis of `dims[i]` and the layout is restored. -/
theorem zoom_axes_ok' (r ndim : ℕ) :
    zoomLoop r ndim = ((List.range ndim).map Ax.g, initLayout r ndim) :=
  zoom_axes_ok r ndim

/-! ### `make_fourier_transform`: method selection (`Model/FftSelect.lean`)

`choose`/`makeFT` follow the decision logic literally (the planner's float comparison is an oracle
input `fftCheaper`; `numFft` is the numeric part of `get_fft_parameters`, modelled exactly per axis
by `getFftParameters`).  `detectFix` is the detection after repair D63 (an FFT grid must be
Cartesian and have the input's number of axes), `detectLit` the code as written. -/

/-- **Preconditions**: whichever detection, whichever way the planner decides — if a constructor
is reached (and an explicit output grid has the input's number of axes) its checks pass:
FFT ⇐ input regular Cartesian; MFT ⇐ both separated Cartesian, 1 or 2 axes; NFT ⇐ equal axes. -/
theorem selection_pre' (detect : GridDesc → GridDesc → Bool → Bool) (i : GridDesc)
    (o : Option OutReq) (fftCheaper : Bool) (ch : Choice)
    (hnd : ∀ r, o = some r → r.grid.ndim = i.ndim)
    (h : choose detect i o fftCheaper = some ch) : ctorPre i o ch :=
  selection_pre detect i o fftCheaper ch hnd h

/-- **`get_fft_parameters` ∘ `make_fft_grid` round trip**, one axis, exact arithmetic: the
FastFourierTransform built from the reconstructed `(q, fov, shift)` reports exactly the requested
axis (same `Mo`, spacing, zero), its value checks pass and its sizes are grid-consistent. -/
theorem fft_grid_roundtrip' (a : InAxis) (o : OutAxis) (p : FftParams) (z : Rat)
    (h : getFftParameters a o = some p) :
    AxisReproduced a z o p ∧ FftValuePre (p.toAxisIn a z) ∧
      ((plan (p.toAxisIn a z)).M : Rat) = p.q * (a.N : Rat) ∧
      FftConsistent a.N (plan (p.toAxisIn a z)).M (plan (p.toAxisIn a z)).Mo a.delta
        (plan (p.toAxisIn a z)).dT :=
  fft_grid_roundtrip a o p z h

/-- **`selection_sound`** (detection repaired, D63): whenever `make_fourier_transform` returns an
object, the chosen class's preconditions hold, the object's output grid is the requested grid, and
where the grid was replaced by reconstructed FFT parameters every axis is reproduced exactly. -/
theorem selection_sound' (i : GridDesc) (o : Option OutReq) (fftCheaper : Bool) (ch : Choice)
    (ins : List InAxis) (outs : List OutAxis)
    (hnum : ∀ r, o = some r → r.numFft = numFftAxes ins outs)
    (h : makeFT detectFix i o fftCheaper = .ok ch) :
    ctorPre i o ch ∧ ctorGrid i o ch = requestedDesc i o ∧
      (∀ r, o = some r → ch.via = .params → AxesReproduced ins outs) := by
  obtain ⟨hc, hp⟩ := makeFT_eq_ok.mp h
  refine ⟨hp, selection_grid_of (fun r hr hd => ?_) hc⟩
  obtain ⟨hd, hcart, hn⟩ := detectFix_iff.mp hd
  obtain ⟨-, hreg, hnf, -⟩ := detectLit_iff.mp hd
  exact ⟨eq_fftGridDesc hreg hcart hn, hnum r hr ▸ hnf⟩

/-- Non-vacuity of the round trip: `N = 87`, `M = Mo = 218`. -/
example : getFftParameters ⟨87, 1 / 4⟩ ⟨218, 2 / 109, 3 / 8, 0⟩
    = some ⟨218 / 87, 1, 3 / 8 + 2 / 109 * 109, 0⟩ := by decide +kernel

/-! ### the persistent internal array (`Model/FftState.lean`) -/

/-- **History independence**: `forward`/`backward` fully overwrite the object's internal array
before reading it (`internal_array[:] = field`, or `[:] = 0` followed by the cut-out assignment),
so for every previous content `buf` the FFT core equals the stateless model the theorems above
are about — a transform object may be re-used in any call sequence. -/
theorem fft_core_history_independent {C : Type} [CommRing C] (b : Bool) (N M Mo : ℕ) (hM : 0 < M)
    (hNM : N ≤ M) (ker : ℤ → C) (buf f : ℕ → C) (k : ℕ) :
    coreState b N M Mo ker buf f k = core b N M Mo ker f k :=
  coreState_eq_core b N M Mo hM ker buf f k

/-- skipping the clearing (the seeded "padding is clean" flags) makes the result depend on the
previous call -/
theorem fft_core_no_clear_counterexample :
    coreStateNoClear false 1 2 2 (fun _ => (1 : ℤ)) (fun _ => 1) (fun _ => 0) 0
      ≠ coreStateNoClear false 1 2 2 (fun _ => (1 : ℤ)) (fun _ => 0) (fun _ => 0) 0 := by
  decide

/-! ### several live objects, interleaved histories (`Model/FftMulti.lean`) -/

/-- **Independence from the history of the whole population**: any number of `FastFourierTransform`
objects alive at the same time (any sizes, equal or different padded sizes `M`, both
`emulate_fftshifts` settings), any initial contents of their internal arrays, any interleaving of
`forward`/`backward` calls on them: every call returns the value of the stateless model on a fresh
object (`callFresh` = `core`, the definition the sum theorems above are about).  `runOwn` is executed by the
driver op `C01 multi` and compared with a real population of objects (family `tie-multi`). -/
theorem multi_object_history_independent {C : Type} [CommRing C] (cfg : ℕ → ObjCfg)
    (h : ∀ i, 0 < (cfg i).M ∧ (cfg i).N ≤ (cfg i).M ∧ (cfg i).Mo ≤ (cfg i).M)
    (ker : Bool → ℕ → ℤ → C) (bufs : Bufs C) (cs : List (MCall C)) :
    runOwn cfg ker bufs cs = cs.map (callFresh cfg ker) :=
  runOwn_eq_map cfg (fun i => (h i).1) ker cs bufs

/-- the hypothesis is satisfiable (two objects sharing the padded size 4: `N = 2, q = 2` next to `N = 4, q = 1`) -/
example : ∀ i, 0 < ((fun i => if i = 0 then (⟨false, 2, 4, 4⟩ : ObjCfg) else ⟨true, 4, 4, 3⟩) i).M ∧
    ((fun i => if i = 0 then (⟨false, 2, 4, 4⟩ : ObjCfg) else ⟨true, 4, 4, 3⟩) i).N ≤
      ((fun i => if i = 0 then (⟨false, 2, 4, 4⟩ : ObjCfg) else ⟨true, 4, 4, 3⟩) i).M ∧
    ((fun i => if i = 0 then (⟨false, 2, 4, 4⟩ : ObjCfg) else ⟨true, 4, 4, 3⟩) i).Mo ≤
      ((fun i => if i = 0 then (⟨false, 2, 4, 4⟩ : ObjCfg) else ⟨true, 4, 4, 3⟩) i).M := by
  intro i; by_cases hi : i = 0 <;> simp [hi]

/-- **Calls on other objects are irrelevant**: the results an object `i` returns inside an interleaved
history are the results it returns when only its own calls are made (from any other array contents). -/
theorem multi_object_other_calls_irrelevant {C : Type} [CommRing C] (cfg : ℕ → ObjCfg)
    (h : ∀ i, 0 < (cfg i).M ∧ (cfg i).N ≤ (cfg i).M ∧ (cfg i).Mo ≤ (cfg i).M)
    (ker : Bool → ℕ → ℤ → C) (bufs bufs' : Bufs C) (cs : List (MCall C)) (i : ℕ) :
    ((cs.zip (runOwn cfg ker bufs cs)).filter (fun p => decide (p.1.obj = i))).map Prod.snd
      = runOwn cfg ker bufs' (cs.filter (fun c => decide (c.obj = i))) := by
  rw [runOwn_eq_map cfg fun i => (h i).1, runOwn_eq_map cfg fun i => (h i).1]
  induction cs with
  | nil => rfl
  | cons c cs ih =>
    by_cases hc : c.obj = i
    · simp only [List.map_cons, List.zip_cons_cons, List.filter_cons, hc, decide_true, if_true, ih]
    · simp only [List.map_cons, List.zip_cons_cons, List.filter_cons, hc, decide_false]
      exact ih

/-- a call rewrites only the called object's array -/
theorem multi_object_buffers_private {C : Type} [CommRing C] (cfg : ℕ → ObjCfg) (bufs : Bufs C)
    (c : MCall C) (i : ℕ) (hi : i ≠ c.obj) : callBufs cfg bufs c i = bufs i := by
  unfold callBufs; rw [if_neg hi]

/-- Work arrays taken from a pool keyed by the padded size, together with a per-object "my padding is still zero"
flag (the seeded class): with two live objects of the same padded size, `A.forward(0)`, `B.backward(1)`,
`A.forward(0)` makes `A` return `B`'s leftovers (`1` instead of the stateless value `0`). -/
theorem Bad.sharedPool :
    ((runPool (fun _ => ⟨false, 1, 2, 2⟩) (fun _ _ _ => (1 : ℤ)) ⟨fun _ _ => 0, fun _ => false⟩
        [⟨0, false, fun _ => 0⟩, ⟨1, true, fun _ => 1⟩, ⟨0, false, fun _ => 0⟩]).map (fun r => r 0))
      ≠ ([⟨0, false, fun _ => 0⟩, ⟨1, true, fun _ => 1⟩, ⟨0, false, fun _ => (0 : ℤ)⟩].map
          (callFresh (fun _ => ⟨false, 1, 2, 2⟩) (fun _ _ _ => (1 : ℤ)))).map (fun r => r 0) := by
  decide

/-- the same counterexample on the two executed front ends (`C01 multipool` vs `C01 multi`): two objects `N = 1`,
`M = Mo = 2`, history `A.forward, B.backward, A.forward` on unit impulses — the pooled model and the per-object model
disagree, so the correspondence with the real population (family `tie-multi`) tells them apart -/
theorem Bad.sharedPool_executed :
    multiPoolImpulse [⟨false, 1, 2, 2⟩, ⟨false, 1, 2, 2⟩] [(0, false, 0), (1, true, 0), (0, false, 0)] 0
      ≠ multiImpulse [⟨false, 1, 2, 2⟩, ⟨false, 1, 2, 2⟩] [(0, false, 0), (1, true, 0), (0, false, 0)] 0 := by
  decide +kernel

/-! ### the float decisions of `__init__` (`Model/FftDecide.lean`; repaired by D65, D66) -/

/-- the phase ramp of the output shift is skipped exactly when the shift is zero on every axis — the only
case in which the multiplication is the identity (`shiftNeeded` is run by `C01 decide shift`) -/
theorem shift_multiplier_skipped_iff_zero (s : List ℚ) : shiftNeeded s = false ↔ ∀ x ∈ s, x = 0 := by
  simp only [shiftNeeded, List.any_eq_false, bne_iff_ne, ne_eq, not_not]

/-- the decision does not depend on the unit of the coordinates -/
theorem shift_decision_scale_free (c : ℚ) (hc : c ≠ 0) (s : List ℚ) :
    shiftNeeded (s.map (fun x => c * x)) = shiftNeeded s := by
  unfold shiftNeeded
  rw [List.any_map]
  exact congrArg s.any (funext (bne_scale c hc))

/-- the zero-padding / cropping cut-out is omitted exactly when the two shapes are equal -/
theorem cutout_omitted_iff_same_shape (M N : List ℕ) : cutoutNeeded M N = false ↔ M = N := by
  unfold cutoutNeeded; simp

/-- D65: `np.allclose(shift, 0)` drops a quarter-pixel shift once the unit makes it smaller than `1e-8`,
although the same shift in another unit (scaled by `2^30`) is applied -/
theorem Bad.shiftDroppedOld :
    shiftNeededOld [1 / 2 ^ 30] = false ∧ shiftNeededOld ([1 / 2 ^ 30].map (fun x => 2 ^ 30 * x)) = true ∧
      shiftNeeded [1 / 2 ^ 30] = true := by
  decide +kernel

/-- D66: `np.allclose` on shapes: an axis of 100001 samples padded to 100002 is taken to need no cut-out -/
theorem Bad.cutoutDroppedOld :
    cutoutNeededOld [100002] [100001] = false ∧ cutoutNeeded [100002] [100001] = true := by
  decide +kernel

/-! ### MatrixFourierTransform: `precompute_matrices` / `allocate_intermediate` (`Model/MftState.lean`) -/

/-- **The result of an MFT call does not depend on the call history or on the switches**: for every
setting of `precompute_matrices`, `allocate_intermediate`, one or two axes, every history of calls
(precisions `ds`; a tensor field contributes one call per component) on one object starting from
`__init__`, at the `k`-th call the stored matrices are exactly the ones a fresh object builds for the
precision of this call, and on two axes the intermediate buffer has this precision — so the products
taken from the stored state (`mftResult`, for any `run`) are `run (build d) d f`, the value on a
fresh object.  `mftHistory` is run by the driver op `C01 mftstate` and compared, call by call, with
the attributes of the real object (family `tie-mftstate`). -/
theorem mft_call_history_independent {α β γ : Type} (c : MftCfg) (build : Prec → α)
    (run : α → Prec → β → γ) (ds : List Prec) (k : ℕ) (hk : k < ds.length) (f : β) :
    ∃ r, (mftHistory c build MftSt.init ds)[k]? = some r ∧
      mftResult c run r.1 ds[k] f = some (run (build ds[k]) ds[k] f) := by
  obtain ⟨r, hr, hm, hi⟩ := mftHistory_at_use c build ds MftSt.init (MftSt.init_good build) k hk
  exact ⟨r, hr, by simp only [mftResult, hm, true_and, if_pos hi]⟩

/-! ### Concrete instance: `Complex.exp` -/

/-- With `T = exp(2πi·)`, `E = exp(i·)`: the kernel is `exp(-i·u_k·x_j)`, `u_k = 2π·a_k + s`. -/
theorem fast_forward_eq_fourier_sum (g : Cfg ℝ ℂ) (hN : g.N ≤ g.M) (hMo : g.Mo ≤ g.M)
    (hcons : g.dT * (g.M : ℝ) * g.δ = 1) (f : ℕ → ℂ) (k : ℕ) (hk : k < g.Mo) :
    fastForward expT expE g f k
      = ∑ j ∈ range g.N, f j * g.w *
          Complex.exp (-(Complex.I * (((2 * Real.pi * g.a k + g.s : ℝ) : ℂ) * ((g.x j : ℝ) : ℂ)))) := by
  rw [fast_forward_eq_sum expT_isChar expE_isChar expT_period g hN hMo hcons f k hk]
  apply Finset.sum_congr rfl
  intro j _
  congr 1
  unfold expT expE
  rw [← Complex.exp_add]
  congr 1
  push_cast
  ring

/-- the same for `backward`, weight `Δ/(2π)` -/
theorem fast_backward_eq_fourier_sum (g : Cfg ℝ ℂ) (hN : g.N ≤ g.M) (hMo : g.Mo ≤ g.M)
    (hcons : g.dT * (g.M : ℝ) * g.δ = 1) (wOut : ℂ) (hw : wOut * (g.M : ℂ) * g.w = 1)
    (F : ℕ → ℂ) (j : ℕ) (hj : j < g.N) :
    fastBackward expT expE g F j
      = ∑ k ∈ range g.Mo, F k * wOut *
          Complex.exp (Complex.I * (((2 * Real.pi * g.a k + g.s : ℝ) : ℂ) * ((g.x j : ℝ) : ℂ))) := by
  rw [fast_backward_eq_sum expT_isChar expE_isChar expT_period g hN hMo hcons wOut hw F j hj]
  apply Finset.sum_congr rfl
  intro k _
  congr 1
  unfold expT expE
  rw [← Complex.exp_add]
  congr 1
  push_cast
  ring

/-! ### "Consequently all implementations agree" -/

/-- **FastFourierTransform = MatrixFourierTransform = ZoomFastFourierTransform = naive sum**
(`Complex.exp`, one axis): on a consistent FFT axis, with output coordinates `u_k = 2π·a_k + s`,
for every in-range output sample and every `nfft ≥ N + Mo - 1`. -/
theorem implementations_agree' (g : Cfg ℝ ℂ) (hN0 : 0 < g.N) (hN : g.N ≤ g.M) (hMo : g.Mo ≤ g.M)
    (hcons : g.dT * (g.M : ℝ) * g.δ = 1) (nfft : ℕ) (hnfft : g.N + g.Mo - 1 ≤ nfft)
    (f : ℕ → ℂ) (k : ℕ) (hk : k < g.Mo) :
    fastForward expT expE g f k
        = mftForward1 expE g.N g.x (fun k => 2 * Real.pi * g.a k + g.s) (.scalar g.w) f k
    ∧ fastForward expT expE g f k
        = zoomAxis g.N g.Mo nfft expE g.z g.δ (2 * Real.pi * g.a 0 + g.s) (2 * Real.pi * g.dT)
            (fun j => f j * g.w) k
    ∧ fastForward expT expE g f k
        = ∑ j ∈ range g.N, f j * g.w *
            Complex.exp (-(Complex.I * (((2 * Real.pi * g.a k + g.s : ℝ) : ℂ) * ((g.x j : ℝ) : ℂ)))) :=
  implementations_agree g hN0 hN hMo hcons nfft hnfft f k hk

/-- **… on `n` axes**: the iterated FFT pipeline = the `n`-axis zoom loop on the same grids (fed
with `field * weights`) = the `n`-D defining sum. -/
theorem implementations_agree_nd' (nf : Cfg ℝ ℂ → ℕ) (gs : List (Cfg ℝ ℂ))
    (hgs : ∀ g ∈ gs, 0 < g.N ∧ g.N ≤ g.M ∧ g.Mo ≤ g.M ∧ g.dT * (g.M : ℝ) * g.δ = 1 ∧
      g.N + g.Mo - 1 ≤ nf g)
    (f : List ℕ → ℂ) (ks : List ℕ) (hks : List.Forall₂ (fun k g => k < g.Mo) ks gs) :
    fastForwardN expT expE gs f ks
        = zoomForwardN expE (gs.map (Cfg.toZAx (2 * Real.pi) nf)) (fun _ => weightN gs) f ks
    ∧ fastForwardN expT expE gs f ks = sumForwardN expT expE gs f ks :=
  ⟨fftN_eq_zoomN expT_isChar expE_isChar expT_period _ expT_eq_expE two_ne_zero nf gs hgs f ks hks,
    fastForwardN_eq_sumForwardN expT_isChar expE_isChar expT_period gs
      (fun g hg => ⟨(hgs g hg).2.1, (hgs g hg).2.2.1, (hgs g hg).2.2.2.1⟩) f ks hks⟩

/-- **ZoomFFT, one axis, `Complex.exp`, every branch** `ω' = -Δδ + 2π·nω`, `α' = u₀δ + 2π·nα`
(in particular numpy's principal values). -/
theorem zoom_eq_fourier_sum_any_branch (n m nfft : ℕ) (hn : 0 < n) (hnfft : n + m - 1 ≤ nfft)
    (x0 δ u0 Δ : ℝ) (nω nα : ℤ) (f : ℕ → ℂ) (k : ℕ) (hk : k < m) :
    cztBluestein n m nfft expE (-(Δ * δ) + 2 * Real.pi * (nω : ℝ)) (u0 * δ + 2 * Real.pi * (nα : ℝ))
        f k * expE (-((u0 + (k : ℝ) * Δ) * x0))
      = ∑ i ∈ range n, f i *
          Complex.exp (-(Complex.I * (((u0 + (k : ℝ) * Δ : ℝ) : ℂ) * ((x0 + (i : ℝ) * δ : ℝ) : ℂ)))) := by
  rw [zoom_eq_sum_any_branch expE_isChar two_ne_zero n m nfft hn hnfft x0 δ u0 Δ _ _
    (expE_add_two_pi_int (-(Δ * δ)) nω) (expE_add_two_pi_int (u0 * δ) nα) f k hk]
  simp only [zoomSum, sumRange_eq]
  apply Finset.sum_congr rfl
  intro i _
  congr 1
  unfold expE
  congr 1
  push_cast
  ring

/-- satisfiability of the hypothesis bundles of the zoom theorems: two axes
`(n, m, nfft, nfftInv) = (2, 3, 4, 4)`, `(3, 2, 5, 4)`; and a non-trivial branch
(`Δδ = 4 > π`, representative `-4 + 2π`) -/
example : ∃ (axs : List (ZAx ℝ)) (ks js : List ℕ),
    (∀ a ∈ axs, 0 < a.n ∧ a.n + a.m - 1 ≤ a.nfft) ∧
    (∀ a ∈ axs, 0 < a.m ∧ a.m + a.n - 1 ≤ a.nfftInv) ∧
    List.Forall₂ (fun k a => k < a.m) ks axs ∧ List.Forall₂ (fun j a => j < a.n) js axs :=
  ⟨[⟨2, 3, 4, 4, 0, 1, 0, 1⟩, ⟨3, 2, 5, 4, -1, 1 / 2, 0, 1⟩], [2, 1], [1, 2],
    List.forall_mem_cons.mpr ⟨by decide, List.forall_mem_cons.mpr ⟨by decide, nofun⟩⟩,
    List.forall_mem_cons.mpr ⟨by decide, List.forall_mem_cons.mpr ⟨by decide, nofun⟩⟩,
    List.Forall₂.cons (by norm_num) (List.Forall₂.cons (by norm_num) List.Forall₂.nil),
    List.Forall₂.cons (by norm_num) (List.Forall₂.cons (by norm_num) List.Forall₂.nil)⟩

example : ∃ ω' : ℝ, ω' ≠ (zoomChirp (1 : ℝ) 0 4).1 ∧ expE ω' = expE (zoomChirp (1 : ℝ) 0 4).1 :=
  ⟨-(4 * 1) + 2 * Real.pi * ((1 : ℤ) : ℝ), by intro h; simp [zoomChirp] at h,
    expE_add_two_pi_int _ 1⟩

/-- satisfiability of the hypothesis bundle of `implementations_agree'` / `implementations_agree_nd'`
(`N = 2, M = 4, Mo = 3, δ = dT = 1/2, nfft = 4`) -/
example : ∃ (g : Cfg ℝ ℂ) (nfft k : ℕ), 0 < g.N ∧ g.N ≤ g.M ∧ g.Mo ≤ g.M ∧
    g.dT * (g.M : ℝ) * g.δ = 1 ∧ g.N + g.Mo - 1 ≤ nfft ∧ k < g.Mo :=
  ⟨{ N := 2, M := 4, Mo := 3, δ := 1 / 2, z := 0, dT := 1 / 2, s := 0, w := 1, emu := false },
    4, 2, by norm_num, by norm_num, by norm_num, by norm_num, by norm_num, by norm_num⟩

/-! ### "The selected transform evaluates the sum": `make_fourier_transform` composed with the classes -/

/-- what "an object of class `m` built for an input grid `i` evaluates the defining sum" means, at the
generality of each class (`Complex.exp`): the FFT pipeline on any number of consistent axes, the MFT on
one or two axes with arbitrary separated coordinates (both weight branches), the naive transform on
arbitrary point sets in any dimension (both code paths) -/
def EvaluatesSum (i : GridDesc) : Method → Prop
  | .fft => ∀ (gs : List (Cfg ℝ ℂ)),
      (∀ g ∈ gs, g.N ≤ g.M ∧ g.Mo ≤ g.M ∧ g.dT * (g.M : ℝ) * g.δ = 1) →
      ∀ (f : List ℕ → ℂ) (ks : List ℕ), List.Forall₂ (fun k g => k < g.Mo) ks gs →
        fastForwardN expT expE gs f ks = sumForwardN expT expE gs f ks
  | .mft => (i.ndim = 1 ∨ i.ndim = 2) ∧
      (∀ (Nx Nu : ℕ) (x u : ℕ → ℝ) (w : Weights ℂ) (f : ℕ → ℂ) (iu : ℕ),
        mftForward1 expE Nx x u w f iu = ∑ jx ∈ range Nx, f jx * w.get jx * expE (-(u iu * x jx))) ∧
      (∀ (Nx Ny Nu Nv : ℕ) (x y u v : ℕ → ℝ) (w : Weights ℂ) (wa : ℕ → ℂ) (f : ℕ → ℂ) (iu iv : ℕ),
        (∀ p, w.get p = wa p) → iu < Nu → iv < Nv →
        mftForward expE Nx Ny Nu Nv x y u v w f (iv * Nu + iu)
          = ∑ iy ∈ range Ny, ∑ ix ∈ range Nx,
              f (iy * Nx + ix) * wa (iy * Nx + ix) * expE (-(u iu * x ix + v iv * y iy)))
  | .naive => ∀ (n : ℕ) (us xs : List (ℕ → ℝ)) (w f : ℕ → ℂ) (k : ℕ),
      nftForwardFly expE n us xs w f k = ∑ j ∈ range n, f j * w j * expE (-(dotCoords us xs k j)) ∧
      nftForwardMat expE n us xs w f k = ∑ j ∈ range n, f j * w j * expE (-(dotCoords us xs k j))

/-- **Whatever branch `make_fourier_transform` takes, the object it returns evaluates the defining
sum on the requested grid**: for every input-grid descriptor, every request (parameters or an
explicit output grid), every outcome of the planner's comparison — if `makeFT` (detection repaired)
returns a choice `ch`, then (1) the chosen constructor's preconditions hold, (2) the object's output
grid is the requested grid, and when an explicit grid was replaced by reconstructed FFT parameters
every axis of it is reproduced exactly (so the sum is taken over the requested points), and (3) the
class `ch.method` evaluates the defining sum at its full generality (`EvaluatesSum`; for the MFT the
selection guarantees the one or two axes its model covers).  Composes `selection_sound'` with
`fast_forward_nd_eq_sum`, `mft_eq_sum_1d`, `mft_eq_sum_2d(_scalar)`, `naive_forward_eq_sum`. -/
theorem selected_transform_evaluates_sum (i : GridDesc) (o : Option OutReq) (fftCheaper : Bool)
    (ch : Choice) (ins : List InAxis) (outs : List OutAxis)
    (hnum : ∀ r, o = some r → r.numFft = numFftAxes ins outs)
    (h : makeFT detectFix i o fftCheaper = .ok ch) :
    ctorPre i o ch ∧ ctorGrid i o ch = requestedDesc i o ∧
      (∀ r, o = some r → ch.via = .params → AxesReproduced ins outs) ∧
      EvaluatesSum i ch.method := by
  obtain ⟨hpre, hgrid, hax⟩ := selection_sound' i o fftCheaper ch ins outs hnum h
  refine ⟨hpre, hgrid, hax, ?_⟩
  cases hm : ch.method with
  | fft => exact fast_forward_nd_eq_sum expT_isChar expE_isChar expT_period
  | mft =>
    have hp : mftPre i (ctorGrid i o ch) := by
      rw [ctorPre, hm] at hpre
      exact hpre
    refine ⟨hp.2.2.2.2.1, fun Nx _ => mft_forward_eq_sum_1d Nx, ?_⟩
    intro Nx Ny Nu Nv x y u v w wa f iu iv hw hiu hiv
    rw [mft_forward_eq_sum_2d_get expE_isChar Nx Ny Nu Nv x y u v w f hiu]
    simp only [hw]
  | naive => exact naive_forward_eq_sum

/-- non-vacuity: each of the three classes is selected for some request -/
example : makeFT detectFix ⟨.regular, true, 3⟩ none true = .ok ⟨.fft, .params⟩ ∧
    makeFT detectFix ⟨.regular, true, 2⟩ none false = .ok ⟨.mft, .params⟩ ∧
    makeFT detectFix ⟨.separated, true, 2⟩ (some ⟨⟨.separated, true, 2⟩, false⟩) true = .ok ⟨.mft, .grid⟩ ∧
    makeFT detectFix ⟨.unstructured, true, 3⟩ (some ⟨⟨.unstructured, true, 3⟩, false⟩) true = .ok ⟨.naive, .grid⟩ := by
  decide

/-! ### Hypothesis-free: the configuration comes out of `plan`

`plan` (`Model/FftGrid.lean`) is what the driver op `C01 plan` runs and what the harness compares
with the sizes, cut-outs, output spacing and zero the real `FastFourierTransform` reports.  For every
request the constructor accepts the hypotheses of the pipeline theorems hold. -/

/-- **`plan` is grid-consistent** for every request `FastFourierTransform.__init__` accepts
(`0 < N`, `δ ≠ 0`, `1 ≤ q`, `fov ≤ 1`; `q < 1` and `fov > 1` raise in the code, and
`plan_inconsistent_q_lt_one` / `plan_inconsistent_fov_gt_one` show that they are needed). -/
theorem plan_consistent' (a : AxisIn) (hN : 0 < a.N) (hδ : a.delta ≠ 0) (hq : 1 ≤ a.q)
    (hf : a.fov ≤ 1) :
    FftConsistent a.N (plan a).M (plan a).Mo a.delta (plan a).dT :=
  plan_consistent a hN hδ hq hf

/-- satisfiability of the side conditions (the D4 request `N = 87, q = 5/2`) -/
example : ∃ a : AxisIn, 0 < a.N ∧ a.delta ≠ 0 ∧ 1 ≤ a.q ∧ a.fov ≤ 1 :=
  ⟨⟨87, 1 / 4, -3, 5 / 2, 1, 0⟩, by decide +kernel, by decide +kernel, by decide +kernel, by decide +kernel⟩

/-- **`forward` of the FastFourierTransform that `plan` describes = the defining sum**, with no
hypothesis on sizes or spacings: any accepted request `(N, δ, z, q, fov, s)`, any weight, both
shift settings.  `g` is the pipeline configuration built from the plan (the reals that the plan's
rationals denote). -/
theorem fast_forward_of_plan (a : AxisIn) (hN : 0 < a.N) (hδ : a.delta ≠ 0) (hq : 1 ≤ a.q)
    (hf : a.fov ≤ 1) (w : ℂ) (emu : Bool) (f : ℕ → ℂ) (k : ℕ) (hk : k < (plan a).Mo) :
    let g : Cfg ℝ ℂ := Cfg.ofPlanCast (Rat.castHom ℝ) (plan a) w emu
    fastForward expT expE g f k
      = ∑ j ∈ range a.N, f j * w *
          Complex.exp (-(Complex.I * (((2 * Real.pi * g.a k + g.s : ℝ) : ℂ) * ((g.x j : ℝ) : ℂ)))) := by
  intro g
  obtain ⟨h1, h2, h3⟩ := Cfg.ofPlanCast_cons (C := ℂ) (Rat.castHom ℝ) a w emu hN hδ hq hf
  exact fast_forward_eq_fourier_sum g h1 h2 h3 f k hk

/-- **`backward` of the FastFourierTransform that `plan` describes = the backward sum** with the
weights of the two grids as the code has them on one axis: input weight `δ`, output weight
`Δ/(2π) = dT`. -/
theorem fast_backward_of_plan (a : AxisIn) (hN : 0 < a.N) (hδ : a.delta ≠ 0) (hq : 1 ≤ a.q)
    (hf : a.fov ≤ 1) (emu : Bool) (F : ℕ → ℂ) (j : ℕ) (hj : j < a.N) :
    let g : Cfg ℝ ℂ := Cfg.ofPlanCast (Rat.castHom ℝ) (plan a) (((a.delta : ℚ) : ℝ) : ℂ) emu
    fastBackward expT expE g F j
      = ∑ k ∈ range (plan a).Mo, F k * ((((plan a).dT : ℚ) : ℝ) : ℂ) *
          Complex.exp (Complex.I * (((2 * Real.pi * g.a k + g.s : ℝ) : ℂ) * ((g.x j : ℝ) : ℂ))) := by
  intro g
  obtain ⟨h1, h2, h3⟩ := Cfg.ofPlanCast_cons (C := ℂ) (Rat.castHom ℝ) a
    ((((a.delta : ℚ) : ℝ) : ℂ)) emu hN hδ hq hf
  exact fast_backward_eq_fourier_sum g h1 h2 h3 _ (map_consistent Complex.ofRealHom h3) F j hj

/-! ### `Old.*` — statements about code that no longer exists in /repo

Documentation of the defects D4, D5, D63 (all repaired in the tree): counterexamples for the
`…Old` / `detectLit` definitions and the soundness of the unrepaired selection on its restricted
domain.  They are **not evidence about the working tree**; none of the theorems above uses them.
(`zoomLoopOld`, `detectLit` are kept in the model only for these statements.) -/

/-- D5: the old loop (`moveaxis(f, -i, 0)` twice) leaves a tensor field on a 2-D grid permuted. -/
theorem Old.zoom_axes_counterexample_tensor :
    zoomLoopOld 1 2 ≠ ((List.range 2).map Ax.g, initLayout 1 2) :=
  zoom_axes_old_counterexample_tensor.2

/-- D5: … and a scalar field on a 3-D grid. -/
theorem Old.zoom_axes_counterexample_3d :
    zoomLoopOld 0 3 ≠ ((List.range 3).map Ax.g, initLayout 0 3) :=
  zoom_axes_old_counterexample_3d.2

/-- D4: the sizes the unrepaired code reported for `N = 87, q = 2.5` (FFT taken at 217 samples,
spacing `2π/(218·δ)`) are not grid-consistent, whatever the input spacing. -/
theorem Old.d4_reported_sizes_inconsistent (δ : Rat) :
    ¬ FftConsistent 87 217 217 δ (1 / ((218 : Rat) * δ)) := by
  intro ⟨_, _, _, h⟩
  by_cases hδ : δ = 0
  · subst hδ; simp at h
  · have h' : (217 : Rat) / 218 = 1 := by
      rw [← h]; push_cast; field_simp
    norm_num at h'

/-- the code as written is sound on requested grids that are Cartesian when regular and have the
input's number of axes -/
theorem Old.selection_sound_detectLit (i : GridDesc) (o : Option OutReq) (fftCheaper : Bool) (ch : Choice)
    (ins : List InAxis) (outs : List OutAxis)
    (hreq : ∀ r, o = some r → r.grid.ndim = i.ndim ∧
      (r.grid.isRegular = true → r.grid.cartesian = true) ∧ r.numFft = numFftAxes ins outs)
    (h : choose detectLit i o fftCheaper = some ch) :
    ctorPre i o ch ∧ ctorGrid i o ch = requestedDesc i o ∧
      (∀ r, o = some r → ch.via = .params → AxesReproduced ins outs) :=
  selection_sound i o fftCheaper ch ins outs hreq h

/-- D63: a regular polar grid with FFT-grid numbers is answered with a Cartesian grid. -/
theorem Old.selection_counterexample_noncartesian :
    ∃ (i : GridDesc) (r : OutReq) (c : Bool) (ch : Choice),
      makeFT detectLit i (some r) c = .ok ch ∧ r.grid.ndim = i.ndim ∧
        ctorGrid i (some r) ch ≠ requestedDesc i (some r) :=
  ⟨⟨.regular, true, 2⟩, ⟨⟨.regular, false, 2⟩, true⟩, true, ⟨.fft, .params⟩, by decide⟩

/-- D63: a regular grid with fewer axes is answered with a grid of the input's dimension. -/
theorem Old.selection_counterexample_ndim :
    ∃ (i : GridDesc) (r : OutReq) (c : Bool) (ch : Choice),
      makeFT detectLit i (some r) c = .ok ch ∧ r.grid.cartesian = true ∧
        ctorGrid i (some r) ch ≠ requestedDesc i (some r) :=
  ⟨⟨.regular, true, 2⟩, ⟨⟨.regular, true, 1⟩, true⟩, false, ⟨.mft, .params⟩, by decide⟩

/-- Non-vacuity: a consistent configuration exists (N = 2, M = 4, Mo = 3, δ = 1/2, dT = 1/2). -/
example : ∃ g : Cfg ℝ ℂ, g.N ≤ g.M ∧ g.Mo ≤ g.M ∧ g.dT * (g.M : ℝ) * g.δ = 1 :=
  ⟨{ N := 2, M := 4, Mo := 3, δ := 1 / 2, z := 0, dT := 1 / 2, s := 0, w := 1, emu := false },
    by norm_num, by norm_num, by norm_num⟩

/-- Non-vacuity of the model's consistency predicate: the plan of the repaired code for
`N = 87, q = 5/2` is consistent. -/
example : FftConsistent 87 218 218 (1 / 4) (plan ⟨87, 1 / 4, -3, 5 / 2, 1, 0⟩).dT := by decide +kernel

end HcipyVerif.C01
