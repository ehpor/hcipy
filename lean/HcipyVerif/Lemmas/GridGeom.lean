import HcipyVerif.Lemmas.GridAxes
import Mathlib.Tactic.Ring
import Mathlib.Algebra.Order.Field.Rat

/-! Points, dimension, kind, size and well-formedness of transformed coordinates. -/

namespace HcipyVerif.Grid

/-- apply one function per axis to a point -/
def applyAx (gs : List (Rat → Rat)) (p : List Rat) : List Rat := List.zipWith (fun g x => g x) gs p

theorem applyAx_cons (g : Rat → Rat) (gs) (x : Rat) (p) : applyAx (g :: gs) (x :: p) = g x :: applyAx gs p := rfl

theorem tensorPoints_zipWith {β} (k : β → Rat → Rat) : ∀ (axes : List (List Rat)) (p : List β), p.length = axes.length →
    tensorPoints (List.zipWith (fun ax pi => ax.map (k pi)) axes p) = (tensorPoints axes).map (List.zipWith k p)
  | [], [], _ => rfl
  | [], _ :: _, h | _ :: _, [], h => nomatch h
  | ax :: rest, pi :: p, h => by
    have ih := tensorPoints_zipWith k rest p (Nat.succ.inj h)
    simp only [List.zipWith_cons_cons, tensorPoints, ih, List.flatMap_map, List.map_flatMap, List.map_map]
    rfl

theorem pointsOfCols_zipWith {β} (k : β → Rat → Rat) (n : Nat) : ∀ (cols : List (List Rat)) (p : List β), p.length = cols.length →
    pointsOfCols n (List.zipWith (fun col pi => col.map (k pi)) cols p) = (pointsOfCols n cols).map (List.zipWith k p)
  | [], [], _ => by simp only [pointsOfCols, List.zipWith_nil_left, List.map_replicate]
  | [], _ :: _, h | _ :: _, [], h => nomatch h
  | c :: cs, pi :: p, h => by
    have ih := pointsOfCols_zipWith k n cs p (Nat.succ.inj h)
    simp only [List.zipWith_cons_cons, pointsOfCols, ih, List.map_zipWith, List.zipWith_map_left, List.zipWith_map_right]

theorem Coords.points_zipAx (ra : RegAxis → Rat → RegAxis) (k : Rat → Rat → Rat)
    (hval : ∀ x pi, (ra x pi).values = x.values.map (k pi)) (p : List Rat) (c : Coords) (h : p.length = c.ndim) :
    (c.zipAx ra k p).points = c.points.map (List.zipWith k p) := by
  cases c with
  | regular a =>
    have : (List.zipWith ra a p).map RegAxis.values = List.zipWith (fun ax pi => ax.map (k pi)) (a.map RegAxis.values) p := by
      simp only [List.map_zipWith, List.zipWith_map_left, hval]
    simp only [Coords.zipAx, Coords.points, this]
    exact tensorPoints_zipWith k _ p (h.trans (List.length_map _).symm)
  | separated a => exact tensorPoints_zipWith k a p h
  | unstructured a =>
    simp only [Coords.zipAx, Coords.points]
    rw [length_headD, lengths_zipWith_map k a p h, ← length_headD]
    exact pointsOfCols_zipWith k _ a p h

theorem values_scale (a : RegAxis) (f : Rat) :
    RegAxis.values { a with delta := a.delta * f, zero := a.zero * f } = a.values.map (· * f) := by
  simp only [RegAxis.values, List.map_map]
  exact List.map_congr_left fun i _ => by simp only [Function.comp]; ring

theorem values_shift (a : RegAxis) (b : Rat) :
    RegAxis.values { a with zero := a.zero + b } = a.values.map (· + b) := by
  simp only [RegAxis.values, List.map_map]
  exact List.map_congr_left fun i _ => by simp only [Function.comp]; ring

theorem Coords.points_scale (c : Coords) (f : List Rat) (h : f.length = c.ndim) :
    (c.scale f).points = c.points.map (scalePt f) := by
  rw [Coords.scale_eq_zipAx]; exact Coords.points_zipAx _ _ values_scale f c h

theorem Coords.points_shift (c : Coords) (b : List Rat) (h : b.length = c.ndim) :
    (c.shift b).points = c.points.map (shiftPt b) := by
  rw [Coords.shift_eq_zipAx]; exact Coords.points_zipAx _ _ values_shift b c h

theorem tensorPoints_reverse : ∀ (axes : List (List Rat)),
    tensorPoints (axes.map List.reverse) = (tensorPoints axes).reverse
  | [] => rfl
  | ax :: rest => by
    simp only [List.map_cons, tensorPoints, tensorPoints_reverse rest, List.reverse_flatMap, List.map_reverse]
    rfl

theorem pointsOfCols_length (n : Nat) : ∀ (cols : List (List Rat)), (∀ c ∈ cols, c.length = n) →
    (pointsOfCols n cols).length = n
  | [], _ => List.length_replicate
  | c :: cs, h => by
    simp only [pointsOfCols, List.length_zipWith, pointsOfCols_length n cs (fun d hd => h d (List.mem_cons_of_mem _ hd)),
      h c List.mem_cons_self, Nat.min_self]

theorem pointsOfCols_reverse (n : Nat) : ∀ (cols : List (List Rat)), (∀ c ∈ cols, c.length = n) →
    pointsOfCols n (cols.map List.reverse) = (pointsOfCols n cols).reverse
  | [], _ => List.reverse_replicate.symm
  | c :: cs, h => by
    have hcs := fun d hd => h d (List.mem_cons_of_mem _ hd)
    rw [List.map_cons, pointsOfCols, pointsOfCols, pointsOfCols_reverse n cs hcs,
      List.reverse_zipWith (by rw [pointsOfCols_length n cs hcs, h c List.mem_cons_self])]

theorem values_reverse (a : RegAxis) : a.reverse.values = a.values.reverse := by
  rw [RegAxis.values, RegAxis.values, reverse_map_range]
  refine List.map_congr_left fun i hi => ?_
  have hi : i < a.dim := List.mem_range.mp hi
  simp only [RegAxis.reverse]
  rw [Nat.cast_sub (by omega), Nat.cast_sub (by omega), Nat.cast_one]
  ring

theorem Coords.points_reverse (c : Coords) (h : c.WF) : c.reverse.points = c.points.reverse := by
  cases c with
  | regular a =>
    simp only [Coords.reverse, Coords.points, List.map_map, ← tensorPoints_reverse]
    exact congrArg tensorPoints (List.map_congr_left fun x _ => values_reverse x)
  | separated a => exact tensorPoints_reverse a
  | unstructured c =>
    cases c with
    | nil => rfl
    | cons c0 cs =>
      have hr := (rect_iff c0 cs).mp h.2
      simp only [Coords.reverse, Coords.points, List.map_cons, List.headD_cons, List.length_reverse]
      exact pointsOfCols_reverse _ (c0 :: cs) (List.forall_mem_cons.mpr ⟨rfl, hr⟩)

theorem dot_nil (p : List Rat) : dot [] p = 0 := rfl
theorem dot_cons (a : Rat) (r : List Rat) (x : Rat) (p : List Rat) : dot (a :: r) (x :: p) = a * x + dot r p := rfl
theorem linPt_nil (p : List Rat) : linPt [] p = [] := rfl
theorem linPt_cons (r : List Rat) (M : List (List Rat)) (p : List Rat) : linPt (r :: M) p = dot r p :: linPt M p := rfl

/-- columns computed from one list: point `k` collects what the functions give at entry `k` -/
theorem pointsOfCols_maps {α : Type} (xs : List α) : ∀ fs : List (α → Rat),
    pointsOfCols xs.length (fs.map fun f => xs.map f) = xs.map fun x => fs.map (· x)
  | [] => (List.map_const' ..).symm
  | f :: fs => by
    rw [List.map_cons, pointsOfCols, pointsOfCols_maps xs fs, List.zipWith_map_left, List.zipWith_map_right, List.zipWith_self]
    rfl

theorem pointsOfCols_linmap (pts : List (List Rat)) (M : List (List Rat)) :
    pointsOfCols pts.length (M.map fun r => pts.map (dot r)) = pts.map (linPt M) := by
  have := pointsOfCols_maps pts (M.map dot)
  rwa [List.map_map, (funext fun p => List.map_map : (fun p : List Rat => (M.map dot).map (· p)) = linPt M)] at this

theorem Coords.points_linmap (c : Coords) (M : List (List Rat)) (hM : M ≠ []) :
    (c.linmap M).points = c.points.map (linPt M) := by
  cases M with
  | nil => exact absurd rfl hM
  | cons r M =>
    rw [← pointsOfCols_linmap c.points (r :: M)]
    simp only [Coords.linmap, Coords.points, List.map_cons, List.headD_cons, List.length_map]

/-! What chaining the single-step theorems needs: the in-place operations keep kind and shape (`Coords.SameShape`, which
gives dimension, size and well-formedness); a linear map yields well-formed unstructured coordinates. -/

theorem Coords.ndim_linmap (c : Coords) (M : List (List Rat)) : (c.linmap M).ndim = M.length :=
  List.length_map _

theorem Coords.kind_scale (c : Coords) (f : List Rat) : (c.scale f).kind = c.kind := by
  cases c <;> rfl
theorem Coords.kind_shift (c : Coords) (f : List Rat) : (c.shift f).kind = c.kind := by
  cases c <;> rfl
theorem Coords.kind_reverse (c : Coords) : c.reverse.kind = c.kind := by
  cases c <;> rfl

theorem Coords.sameShape_reverse (c : Coords) : c.reverse.SameShape c := by
  refine ⟨Coords.kind_reverse c, ?_⟩
  cases c with
  | regular a => exact List.map_map.trans rfl
  | separated a | unstructured a => exact List.map_map.trans (List.map_congr_left fun ax _ => List.length_reverse)

theorem Coords.WF_linmap (c : Coords) (M : List (List Rat)) (hM : M ≠ []) : (c.linmap M).WF := by
  refine ⟨mt List.map_eq_nil_iff.mp hM, ?_⟩
  cases M with
  | nil => exact absurd rfl hM
  | cons r M => simp only [List.map_cons, rect_iff, List.mem_map, List.length_map, forall_exists_index, and_imp,
                  forall_apply_eq_imp_iff₂, implies_true]

end HcipyVerif.Grid
