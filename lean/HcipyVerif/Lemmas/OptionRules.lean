/-! Rules for showing that every value an `Option`-valued program can return has a property, one rule per construct of a
`do` block; and the same for the two outcomes of an `Except`-valued one. -/

namespace HcipyVerif

universe u
variable {α β : Type u} {P : β → Prop}

/-- Every value `o` can return satisfies `P`.  For invariants and case descriptions of protocol step functions written as
`do` blocks in `Option`: after `unfold` and `split`, each branch is closed by the rules below, naming the fact that carries
it, instead of decomposing a hypothesis `step s t = some r`.  `h a e : P a` for `e : o = some a` gives the usual form back. -/
def Returns (o : Option α) (P : α → Prop) : Prop := ∀ a, o = Option.some a → P a

theorem Returns.none : Returns (Option.none : Option β) P := fun _ e => nomatch e

/-- also for a result written `some b` -/
theorem Returns.pure {b : β} (h : P b) : Returns (pure b) P := fun _ e => Option.some.inj e ▸ h

theorem Returns.bind {o : Option α} {f : α → Option β} (h : ∀ a, o = Option.some a → Returns (f a) P) :
    Returns (o >>= f) P := fun b e =>
  let ⟨a, ha, hb⟩ := Option.bind_eq_some_iff.mp e
  h a ha b hb

theorem Returns.map {o : Option α} {g : α → β} (h : ∀ a, o = Option.some a → P (g a)) : Returns (o.map g) P := fun _ e =>
  let ⟨a, ha, hb⟩ := Option.map_eq_some_iff.mp e
  hb ▸ h a ha

theorem Returns.ite {c : Prop} [Decidable c] {x y : Option β} (hx : Returns x P) (hy : Returns y P) :
    Returns (if c then x else y) P := by
  split <;> assumption

section Except
variable {ε α : Type u} {P : α → Prop} {Q : ε → Prop}

/-- The sibling of `Returns` for `Except`: every outcome of `x` is described, a value by `P`, an error by `Q`.
One such statement about a step function serves both the proofs that start from `step … = .ok r` (`h.1 r e`) and
those that show the step cannot fail (`h.2 err e`). -/
def Yields (x : Except ε α) (P : α → Prop) (Q : ε → Prop) : Prop :=
  (∀ a, x = .ok a → P a) ∧ ∀ e, x = .error e → Q e

theorem Yields.ok {a : α} (h : P a) : Yields (.ok a : Except ε α) P Q :=
  ⟨fun _ e => Except.ok.inj e ▸ h, fun _ e => nomatch e⟩

theorem Yields.error {e : ε} (h : Q e) : Yields (.error e : Except ε α) P Q :=
  ⟨fun _ e' => (nomatch e'), fun _ e' => Except.error.inj e' ▸ h⟩

end Except

end HcipyVerif
