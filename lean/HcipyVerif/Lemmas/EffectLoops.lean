import HcipyVerif.Lemmas.Effects
import HcipyVerif.Model.Elements

/-!
C06 — the shipped programs with a loop meet the two hypotheses of `Effects.loop_safeAll`, both by evaluating the
table `Elements.loopPrograms`.
-/

namespace HcipyVerif.Elements
open HcipyVerif.Effects

theorem loopPrograms_base : ∀ np ∈ loopPrograms, np.2.baseAll = true := by decide +kernel

theorem loopPrograms_fixOk : ∀ np ∈ loopPrograms, np.2.fixAllOk = true := by decide +kernel

theorem loopPrograms_fix : ∀ np ∈ loopPrograms, np.2.FixAll :=
  fun np h => LoopProg.fixAll_of_fixAllOk (loopPrograms_fixOk np h)

end HcipyVerif.Elements
