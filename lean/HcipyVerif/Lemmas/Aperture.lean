import HcipyVerif.Lemmas.ApertureList

/-!
# C12 — the separated code path equals the point semantics

`A.bget i j` is the entry of `A` that a ufunc reads for position `(i, j)` of its result (NumPy broadcasting);
`bget` commutes with `Arr.map` and `Arr.zip` whatever the shapes are, and on rows, columns and slices it is the
list entry.  `Full A R C f` says that `A` has shape `(R, C)` and entries `f i j`; an array of known shape is
`Full` with entries `A.bget` (`Full.of_bget`), so a maker written with broadcasts needs its shape (the rules
`if 1 = 1 …`, `bc_one`, `ite_self`) and the `bget` rewrites.  With them each maker on a separated grid (pure
broadcasts, the regular polygon's bounding slices, the loop over the segments) is the map of `val` over the
grid's points; `evalSep_eq_val` assembles them along the recursion of `evalSep`.
-/

namespace HcipyVerif.Aperture
open HcipyVerif.ListFacts

theorem flatMap_length_of_length {ι α : Type} (l : List ι) (f : ι → List α) (c : Nat)
    (h : ∀ a ∈ l, (f a).length = c) : (l.flatMap f).length = l.length * c := by
  rw [List.length_flatMap, List.map_congr_left h, List.map_const', List.sum_replicate_nat]

theorem Arr.ravel_length {α : Type} (A : Arr α) : A.ravel.length = A.nr * A.nc := by
  unfold Arr.ravel
  rw [flatMap_length_of_length _ _ A.nc (by intro a _; simp)]
  simp

theorem sepPoints_length (xs ys : List Rat) : (sepPoints xs ys).length = ys.length * xs.length := by
  unfold sepPoints
  rw [flatMap_length_of_length _ _ xs.length (by intro a _; simp)]

theorem sepPoints_getElem? (xs ys : List Rat) {ix iy : Nat} (hx : ix < xs.length)
    (hy : iy < ys.length) :
    (sepPoints xs ys)[iy * xs.length + ix]? = some (xs.getD ix 0, ys.getD iy 0) := by
  unfold sepPoints
  rw [flatMap_map_getElem? _ ys xs hy hx, List.getD_eq_getElem _ _ hx, List.getD_eq_getElem _ _ hy]

theorem flatMap_eq_range_flatMap {α β : Type} (ys : List α) (d : α) (F : α → List β) :
    ys.flatMap F = (List.range ys.length).flatMap (fun i => F (ys.getD i d)) := by
  rw [List.flatMap_def, map_eq_range_map_getD ys d F, ← List.flatMap_def]

theorem Arr.ravel_map {α β : Type} (k : α → β) (A : Arr α) :
    (Arr.map k A).ravel = A.ravel.map k := by
  unfold Arr.ravel Arr.map
  simp [List.map_flatMap, Function.comp_def]

structure Full {α : Type} (A : Arr α) (R C : Nat) (f : Nat → Nat → α) : Prop where
  nr : A.nr = R
  nc : A.nc = C
  get : ∀ i j, i < R → j < C → A.get i j = f i j

def Arr.bget {α : Type} (A : Arr α) (i j : Nat) : α :=
  A.get (if A.nr = 1 then 0 else i) (if A.nc = 1 then 0 else j)

theorem bc_one (n : Nat) : (if n = 1 then 1 else n) = n := by
  split <;> omega

theorem bc_index {n i : Nat} (hi : i < n) : (if n = 1 then 0 else i) = i := by
  split <;> omega

theorem bc_index_zip (a b i : Nat) :
    (if a = 1 then 0 else (if (if a = 1 then b else a) = 1 then 0 else i))
      = (if a = 1 then 0 else i) ∧
    (if b = 1 then 0 else (if (if a = 1 then b else a) = 1 then 0 else i))
      = (if b = 1 then 0 else i) := by
  constructor <;> split_ifs <;> omega

section Broadcast
variable {α β γ : Type} {A : Arr α} {B : Arr β} {R C : Nat} {f : Nat → Nat → α} {g : Nat → Nat → β}

theorem Arr.bget_map (k : α → β) (A : Arr α) (i j : Nat) : (Arr.map k A).bget i j = k (A.bget i j) :=
  rfl

/-- no hypothesis on the shapes: stretching twice is stretching once -/
theorem Arr.bget_zip (k : α → β → γ) (A : Arr α) (B : Arr β) (i j : Nat) :
    (Arr.zip k A B).bget i j = k (A.bget i j) (B.bget i j) := by
  obtain ⟨e1, e2⟩ := bc_index_zip A.nr B.nr i
  obtain ⟨e3, e4⟩ := bc_index_zip A.nc B.nc j
  dsimp only [Arr.bget, Arr.zip]
  rw [e1, e2, e3, e4]

theorem Full.bget (h : Full A R C f) {i j : Nat} (hi : i < R) (hj : j < C) : A.bget i j = f i j := by
  rw [Arr.bget, bc_index (h.nr ▸ hi), bc_index (h.nc ▸ hj), h.get i j hi hj]

theorem Full.of_bget (hr : A.nr = R) (hc : A.nc = C) : Full A R C A.bget :=
  ⟨hr, hc, fun _ _ hi hj => (Full.bget ⟨hr, hc, fun _ _ _ _ => rfl⟩ hi hj).symm⟩

theorem Full.congr {f' : Nat → Nat → α} (h : Full A R C f)
    (hff' : ∀ i j, i < R → j < C → f i j = f' i j) : Full A R C f' :=
  ⟨h.nr, h.nc, fun i j hi hj => (h.get i j hi hj).trans (hff' i j hi hj)⟩

theorem Full.zip (hA : Full A R C f) (hB : Full B R C g) (k : α → β → γ) :
    Full (Arr.zip k A B) R C (fun i j => k (f i j) (g i j)) :=
  (Full.of_bget (by rw [Arr.zip, hA.nr, hB.nr, ite_self]) (by rw [Arr.zip, hA.nc, hB.nc, ite_self])).congr
    fun i j hi hj => by rw [Arr.bget_zip, hA.bget hi hj, hB.bget hi hj]

end Broadcast

theorem Arr.bget_row (xs : List Rat) (i : Nat) {j : Nat} (hj : j < xs.length) :
    (Arr.row xs).bget i j = xs.getD j 0 := by
  show xs.getD (if xs.length = 1 then 0 else j) 0 = _
  rw [bc_index hj]

theorem Arr.bget_col (ys : List Rat) (j : Nat) {i : Nat} (hi : i < ys.length) :
    (Arr.col ys).bget i j = ys.getD i 0 := by
  show ys.getD (if ys.length = 1 then 0 else i) 0 = _
  rw [bc_index hi]

theorem Full.ravel_eq {α : Type} {A : Arr α} {xs ys : List Rat} {f : Nat → Nat → α}
    (h : Full A ys.length xs.length f) (g : Pt → α)
    (hg : ∀ i j, i < ys.length → j < xs.length → f i j = g (xs.getD j 0, ys.getD i 0)) :
    A.ravel = (sepPoints xs ys).map g := by
  unfold Arr.ravel sepPoints
  rw [List.map_flatMap, flatMap_eq_range_flatMap ys 0, h.nr, h.nc]
  apply List.flatMap_congr
  intro i hi
  rw [List.map_map, map_eq_range_map_getD xs 0]
  apply List.map_congr_left
  intro j hj
  simp only [List.mem_range] at hi hj
  simp [h.get i j hi hj, hg i j hi hj]

theorem circleFast_eq (r cx cy : Rat) (xs ys : List Rat) :
    circleFast r cx cy xs ys = (sepPoints xs ys).map (val (.circle r cx cy)) := by
  unfold circleFast
  rw [← Arr.ravel_map]
  refine (Full.of_bget rfl (bc_one _)).ravel_eq _ fun i j hi hj => ?_
  simp only [Arr.bget_map, Arr.bget_zip, Arr.bget_row _ _ hj, Arr.bget_col _ _ hi]
  rfl

theorem halfFast_eq (gt : Bool) (a b c : Rat) (xs ys : List Rat) :
    halfFast gt a b c xs ys = (sepPoints xs ys).map (val (.halfplane gt a b c)) := by
  unfold halfFast
  rw [← Arr.ravel_map]
  refine (Full.of_bget rfl (bc_one _)).ravel_eq _ fun i j hi hj => ?_
  simp only [Arr.bget_map, Arr.bget_zip, Arr.bget_row _ _ hj, Arr.bget_col _ _ hi]
  cases gt <;> rfl

theorem rectFast_eq (hx hy cx cy : Rat) (xs ys : List Rat) :
    rectFast hx hy cx cy xs ys = (sepPoints xs ys).map (val (.rect hx hy cx cy)) := by
  unfold rectFast
  rw [← Arr.ravel_map]
  refine (Full.of_bget rfl (bc_one _)).ravel_eq _ fun i j hi hj => ?_
  simp only [Arr.bget_map, Arr.bget_zip, Arr.bget_row _ _ hj, Arr.bget_col _ _ hi]
  rfl

theorem ellipseFast_eq (cM sM cm sm cx cy mn : Rat) (xs ys : List Rat) :
    ellipseFast cM sM cm sm cx cy xs ys
      = (sepPoints xs ys).map (val (.ellipse cM sM cm sm cx cy mn)) := by
  unfold ellipseFast
  rw [← Arr.ravel_map]
  refine (Full.of_bget ?_ ?_).ravel_eq _ fun i j hi hj => ?_
  iterate 2
    dsimp only [Arr.map, Arr.zip, Arr.row, Arr.col]
    simp only [bc_one, if_true, ite_self, List.length_map]
  simp only [Arr.bget_map, Arr.bget_zip, Arr.bget_row _ _ ((List.length_map _).trans_gt hj),
    Arr.bget_col _ _ ((List.length_map _).trans_gt hi), getD_map_lt (· + cx) hj 0 0, getD_map_lt (· + cy) hi 0 0]
  rfl

theorem spiderFast_eq (sx sy c s hl hw : Rat) (xs ys : List Rat) :
    spiderFast sx sy c s hl hw xs ys = (sepPoints xs ys).map (val (.spider sx sy c s hl hw)) := by
  unfold spiderFast
  rw [← Arr.ravel_map]
  refine (Full.of_bget ?_ ?_).ravel_eq _ fun i j hi hj => ?_
  iterate 2
    dsimp only [Arr.map, Arr.zip, Arr.row, Arr.col]
    simp only [bc_one, if_true, ite_self]
  simp only [Arr.bget_map, Arr.bget_zip, Arr.bget_row _ _ hj, Arr.bget_col _ _ hi]
  rfl

theorem spiderInfFast_eq (px py c s hw : Rat) (xs ys : List Rat) :
    spiderInfFast px py c s hw xs ys = (sepPoints xs ys).map (val (.spiderInf px py c s hw)) := by
  unfold spiderInfFast
  rw [← Arr.ravel_map]
  refine (Full.of_bget ?_ ?_).ravel_eq _ fun i j hi hj => ?_
  iterate 2
    dsimp only [Arr.map, Arr.zip, Arr.row, Arr.col]
    simp only [bc_one, if_true, ite_self]
  simp only [Arr.bget_map, Arr.bget_zip, Arr.bget_row _ _ hj, Arr.bget_col _ _ hi]
  rfl

theorem firstTrue_lastTrue (b : List Bool) :
    (firstTrue b = none ∧ lastTrue b = none ∧ ∀ j, b.getD j false = false) ∨
    ∃ k l, firstTrue b = some k ∧ lastTrue b = some l ∧
      ∀ j, b.getD j false = true → k ≤ j ∧ j ≤ l := by
  induction b with
  | nil => exact Or.inl ⟨rfl, rfl, fun j => rfl⟩
  | cons a t ih =>
    rcases ih with ⟨hf, hl, hall⟩ | ⟨k, l, hf, hl, hall⟩
    · cases a with
      | false =>
        refine Or.inl ⟨by rw [firstTrue, if_neg Bool.false_ne_true, hf]; rfl,
          by rw [lastTrue, hl]; rfl, fun j => ?_⟩
        cases j with
        | zero => rfl
        | succ j => exact hall j
      | true =>
        refine Or.inr ⟨0, 0, rfl, by rw [lastTrue, hl]; rfl, fun j hj => ?_⟩
        cases j with
        | zero => exact ⟨le_rfl, le_rfl⟩
        | succ j => exact absurd ((hall j).symm.trans hj) Bool.false_ne_true
    · have hl' : lastTrue (a :: t) = some (l + 1) := by rw [lastTrue, hl]
      cases a with
      | false =>
        refine Or.inr ⟨k + 1, l + 1, by rw [firstTrue, if_neg Bool.false_ne_true, hf]; rfl, hl',
          fun j hj => ?_⟩
        cases j with
        | zero => exact absurd hj Bool.false_ne_true
        | succ j => exact ⟨Nat.succ_le_succ (hall j hj).1, Nat.succ_le_succ (hall j hj).2⟩
      | true =>
        refine Or.inr ⟨0, l + 1, rfl, hl', fun j hj => ?_⟩
        cases j with
        | zero => exact ⟨le_rfl, Nat.zero_le _⟩
        | succ j => exact ⟨Nat.zero_le _, Nat.succ_le_succ (hall j hj).2⟩

theorem Arr.bget_rowSlice (xs : List Rat) (a b i : Nat) {j : Nat} (hj : j < b - a) :
    (Arr.rowSlice xs a b).bget i j = xs.getD (a + j) 0 := by
  show xs.getD (a + if b - a = 1 then 0 else j) 0 = _
  rw [bc_index hj]

theorem Arr.bget_colSlice (ys : List Rat) (a b j : Nat) {i : Nat} (hi : i < b - a) :
    (Arr.colSlice ys a b).bget i j = ys.getD (a + i) 0 := by
  show ys.getD (a + if b - a = 1 then 0 else i) 0 = _
  rw [bc_index hi]

theorem hpArr_full (even : Bool) (a : Rat) (d : Rat × Rat) (xs ys : List Rat) (x0 x1 y0 y1 : Nat) :
    Full (hpArr even a d xs ys x0 x1 y0 y1) (y1 - y0) (x1 - x0)
      (fun i j => b2r (hp even a d (xs.getD (x0 + j) 0) (ys.getD (y0 + i) 0))) := by
  cases even
  all_goals
    refine (Full.of_bget rfl (bc_one _)).congr fun i j hi hj => ?_
    simp only [hpArr, Bool.false_eq_true, if_true, if_false, Arr.bget_map, Arr.bget_zip,
      Arr.bget_rowSlice _ _ _ _ hj, Arr.bget_colSlice _ _ _ _ hi]
    rfl

/-- a loop over arrays of one shape whose body acts pixel by pixel is the loop of the body at every pixel -/
theorem Full.foldl {ι α : Type} {R C : Nat} {step : Arr α → ι → Arr α} {u : ι → Nat → Nat → α → α}
    (hstep : ∀ d F f, Full F R C f → Full (step F d) R C fun i j => u d i j (f i j))
    (l : List ι) {F : Arr α} {f : Nat → Nat → α} (hF : Full F R C f) :
    Full (l.foldl step F) R C fun i j => l.foldl (fun acc d => u d i j acc) (f i j) := by
  induction l generalizing F f with
  | nil => exact hF
  | cons d ds ih => exact ih (hstep d F f hF)

theorem boxMask_getD (r : Rat) (xs : List Rat) {j : Nat} (hj : j < xs.length) :
    (xs.map fun x => decide (sq x ≤ sq r)).getD j false = decide (sq (xs.getD j 0) ≤ sq r) :=
  getD_map_lt _ hj 0 false

/-- pixel `(i, j)` of the sub-array `regpolySub` returns, written into an array of zeros -/
def subPixel : Option Sub → Nat → Nat → Rat
  | none, _, _ => 0
  | some sub, i, j =>
    if sub.y0 ≤ i ∧ i < sub.y0 + sub.F.nr ∧ sub.x0 ≤ j ∧ j < sub.x0 + sub.F.nc
    then sub.F.get (i - sub.y0) (j - sub.x0) else 0

/-- the only place where `regpolySub` is taken apart: what the returned sub-array holds at a pixel of the grid, and
that every pixel inside the box lies within its bounding slices -/
theorem regpolySub_spec (even : Bool) (r a : Rat) (dirs : List (Rat × Rat)) (xs ys : List Rat)
    {i j : Nat} (hi : i < ys.length) (hj : j < xs.length) :
    subPixel (regpolySub even r a dirs xs ys) i j
      = b2r (decide (sq (xs.getD j 0) ≤ sq r) && decide (sq (ys.getD i 0) ≤ sq r)
          && allHp even a dirs (xs.getD j 0) (ys.getD i 0)) ∧
    match regpolySub even r a dirs xs ys with
    | none => (decide (sq (xs.getD j 0) ≤ sq r) && decide (sq (ys.getD i 0) ≤ sq r)) = false
    | some sub => ¬ (sub.y0 ≤ i ∧ i < sub.y0 + sub.F.nr ∧ sub.x0 ≤ j ∧ j < sub.x0 + sub.F.nc) →
      (decide (sq (xs.getD j 0) ≤ sq r) && decide (sq (ys.getD i 0) ≤ sq r)) = false := by
  rw [← boxMask_getD r xs hj, ← boxMask_getD r ys hi]
  rcases firstTrue_lastTrue (xs.map fun x => decide (sq x ≤ sq r))
    with ⟨hf, hl, hx⟩ | ⟨x0, x1, hfx, hlx, hx⟩
  · simp only [regpolySub, hf, hl, hx j]
    exact ⟨rfl, rfl⟩
  rcases firstTrue_lastTrue (ys.map fun y => decide (sq y ≤ sq r))
    with ⟨hf, hl, hy⟩ | ⟨y0, y1, hfy, hly, hy⟩
  · simp only [regpolySub, hfx, hlx, hf, hl, hy i, Bool.and_false]
    exact ⟨rfl, trivial⟩
  -- the array program, on the slices `[y0, y1] × [x0, x1]`
  obtain ⟨F, hF, hsub⟩ : ∃ F, Full F (y1 + 1 - y0) (x1 + 1 - x0) (fun i j =>
        b2r (decide (sq (xs.getD (x0 + j) 0) ≤ sq r) && decide (sq (ys.getD (y0 + i) 0) ≤ sq r)
          && allHp even a dirs (xs.getD (x0 + j) 0) (ys.getD (y0 + i) 0))) ∧
      regpolySub even r a dirs xs ys = some ⟨y0, x0, F⟩ := by
    refine ⟨_, ?_, by simp only [regpolySub, hfx, hlx, hfy, hly]; rfl⟩
    refine (Full.foldl (fun d _ _ hF => hF.zip (hpArr_full even a d xs ys x0 (x1 + 1) y0 (y1 + 1)) (· * ·))
      dirs ((Full.of_bget (bc_one _) rfl).congr fun i j hi hj => ?_)).congr
      fun i j _ _ => foldl_mul_b2r _ dirs (decide (sq (xs.getD (x0 + j) 0) ≤ sq r)
        && decide (sq (ys.getD (y0 + i) 0) ≤ sq r))
    rw [Arr.bget_zip, Arr.bget_map, Arr.bget_map, Arr.bget_colSlice _ _ _ _ hi,
      Arr.bget_rowSlice _ _ _ _ hj, b2r_mul, Bool.and_comm]
  simp only [hsub, subPixel, hF.nr, hF.nc]
  split_ifs with hc
  -- within the slices the sub-array is read at `(i - y0, j - x0)`; outside them one of the two masks is false
  · have := hF.get (i - y0) (j - x0) (by omega) (by omega)
    rw [Nat.add_sub_of_le hc.1, Nat.add_sub_of_le hc.2.2.1] at this
    rw [this, boxMask_getD r xs hj, boxMask_getD r ys hi]
    exact ⟨rfl, fun h => absurd hc h⟩
  · have hb : ((xs.map fun x => decide (sq x ≤ sq r)).getD j false
        && (ys.map fun y => decide (sq y ≤ sq r)).getD i false) = false := by
      by_contra hb
      rw [Bool.not_eq_false, Bool.and_eq_true] at hb
      have := hx j hb.1
      have := hy i hb.2
      omega
    rw [hb]
    exact ⟨rfl, fun _ => rfl⟩

theorem regpolySub_pixel_eq_val {r : Rat} (h : 0 ≤ r) (even : Bool) (a : Rat) (dirs : List (Rat × Rat))
    (cx cy : Rat) (xs ys : List Rat) {i j : Nat} (hi : i < ys.length) (hj : j < xs.length) :
    subPixel (regpolySub even r a dirs (xs.map (· - cx)) (ys.map (· - cy))) i j
      = val (.regpoly even r a dirs cx cy) (xs.getD j 0, ys.getD i 0) := by
  rw [(regpolySub_spec even r a dirs _ _ (by rwa [List.length_map]) (by rwa [List.length_map])).1,
    getD_map_lt _ hj 0 0, getD_map_lt _ hi 0 0]
  -- the fast path spells the bounding box `x² ≤ R²`, the point predicate `|x| ≤ R`
  simp only [val, inRegpoly, sq_le_sq_iff_rabs h]

theorem regpolyFast_eq {r : Rat} (h : 0 ≤ r) (even : Bool) (a : Rat) (dirs : List (Rat × Rat))
    (cx cy : Rat) (xs ys : List Rat) :
    regpolyFast even r a dirs cx cy xs ys
      = (sepPoints xs ys).map (val (.regpoly even r a dirs cx cy)) := by
  have hpix := fun i j (hi : i < ys.length) (hj : j < xs.length) =>
    regpolySub_pixel_eq_val h even a dirs cx cy xs ys hi hj
  unfold regpolyFast
  generalize regpolySub even r a dirs (xs.map (· - cx)) (ys.map (· - cy)) = o at hpix ⊢
  cases o <;> exact Full.ravel_eq ⟨rfl, rfl, hpix⟩ _ fun _ _ _ _ => rfl

theorem Arr.setWhere_nr {α : Type} (A : Arr α) (r0 c0 : Nat) (M : Arr Bool) (t : α) :
    (A.setWhere r0 c0 M t).nr = A.nr := rfl

theorem Arr.setWhere_nc {α : Type} (A : Arr α) (r0 c0 : Nat) (M : Arr Bool) (t : α) :
    (A.setWhere r0 c0 M t).nc = A.nc := rfl

theorem ite_gt_half {c : Prop} [Decidable c] (v : Rat) :
    (if c then v else 0) > 1/2 ↔ c ∧ v > 1/2 := by
  split_ifs with h
  · exact (and_iff_right h).symm
  · exact iff_of_false (by norm_num) fun hc => h hc.1

/-- `res.shaped[mask][sub > 0.5] = t`, pixel by pixel, for whatever `func(…, return_with_mask=True)` returned -/
theorem Full.write {res : Arr Rat} {R C : Nat} {g : Nat → Nat → Rat} (hres : Full res R C g) (o : Option Sub)
    (t : Rat) :
    Full (match o with
      | none => res
      | some sub => Arr.setWhere res sub.y0 sub.x0 (Arr.map (fun v => decide (v > 1/2)) sub.F) t) R C
      fun i j => if subPixel o i j > 1/2 then t else g i j := by
  refine ⟨by cases o <;> exact hres.nr, by cases o <;> exact hres.nc, fun i j hi hj => ?_⟩
  rw [← hres.get i j hi hj]
  cases o with
  | none => exact (if_neg (by norm_num : ¬ ((0 : Rat) > 1/2))).symm
  | some sub =>
    refine if_congr ((ite_gt_half _).trans ?_).symm rfl rfl
    exact ⟨fun ⟨⟨a, b, c, d⟩, e⟩ => ⟨a, b, c, d, decide_eq_true e⟩,
      fun ⟨a, b, c, d, e⟩ => ⟨⟨a, b, c, d⟩, of_decide_eq_true e⟩⟩

theorem segFastArr_full {r : Rat} (h : 0 ≤ r) (even : Bool) (a : Rat) (dirs : List (Rat × Rat))
    (cx cy : Rat) (xs ys : List Rat) (segs : List (Pt × Rat)) :
    Full (segFastArr even r a dirs cx cy xs ys segs) ys.length xs.length fun i j =>
      val (.seg segs (.regpoly even r a dirs cx cy)) (xs.getD j 0, ys.getD i 0) := by
  refine Full.foldl (u := fun (s : Pt × Rat) i j acc => if val (.regpoly even r a dirs cx cy)
      (shiftPt s.1.1 s.1.2 (xs.getD j 0, ys.getD i 0)) > 1/2 then s.2 else acc)
    ?_ segs ⟨rfl, rfl, fun _ _ _ _ => rfl⟩
  intro s res g hres
  refine (hres.write _ s.2).congr fun i j hi hj => ?_
  rw [regpolySub_pixel_eq_val h even a dirs cx cy _ _ (by rwa [List.length_map])
    (by rwa [List.length_map]), getD_map_lt _ hj 0 0, getD_map_lt _ hi 0 0]
  rfl

theorem segFast_eq {r : Rat} (h : 0 ≤ r) (even : Bool) (a : Rat) (dirs : List (Rat × Rat))
    (cx cy : Rat) (xs ys : List Rat) (segs : List (Pt × Rat)) :
    (segFastArr even r a dirs cx cy xs ys segs).ravel
      = (sepPoints xs ys).map (val (.seg segs (.regpoly even r a dirs cx cy))) :=
  (segFastArr_full h even a dirs cx cy xs ys segs).ravel_eq _ fun _ _ _ _ => rfl

/-- every regular polygon occurring in the shape has a non-negative circum-radius
(needed for `x² ≤ R² ↔ |x| ≤ R`, i.e. for the two spellings of the bounding box to agree) -/
def WF : Shape → Prop
  | .regpoly _ r _ _ _ _ => 0 ≤ r
  | .compl a => WF a
  | .mul a b => WF a ∧ WF b
  | .sub a b => WF a ∧ WF b
  | .rot _ _ a => WF a
  | .shift _ _ a => WF a
  | .seg _ a => WF a
  | _ => True

theorem sepPoints_map_shift (dx dy : Rat) (xs ys : List Rat) :
    sepPoints (xs.map (· - dx)) (ys.map (· - dy)) = (sepPoints xs ys).map (shiftPt dx dy) := by
  simp [sepPoints, List.map_flatMap, List.flatMap_map, shiftPt, Function.comp_def]

theorem evalSep_eq_val (s : Shape) (xs ys : List Rat) (h : WF s) :
    evalSep s xs ys = (sepPoints xs ys).map (val s) := by
  fun_induction evalSep s xs ys with
  | case1 r cx cy xs ys | case2 r xs ys => exact circleFast_eq ..
  | case3 gt a b c xs ys => exact halfFast_eq ..
  | case4 cM sM cm sm cx cy mn xs ys => exact ellipseFast_eq ..
  | case5 hx hy cx cy xs ys => exact rectFast_eq ..
  | case6 even r a dirs cx cy xs ys => exact regpolyFast_eq h ..
  | case7 vs hx hy bx by_ xs ys m =>
    have hm : m = (sepPoints xs ys).map fun p => inRect hx hy bx by_ p := by
      simp only [m, rectFast_eq, List.map_map]
      exact List.map_congr_left fun p _ => b2r_ne_zero _
    rw [hm, scatter_mask_eq_map]
    exact List.map_congr_left fun p _ => ite_b2r _ _
  | case8 sx sy c s hl hw xs ys => exact spiderFast_eq ..
  | case9 px py c s hw xs ys => exact spiderInfFast_eq ..
  | case10 v xs ys => rfl
  | case11 a xs ys ih => rw [ih h, List.map_map]; rfl
  | case12 a b xs ys iha ihb | case13 a b xs ys iha ihb => rw [iha h.1, ihb h.2, zipWith_map_same]; rfl
  | case14 c s a xs ys => rw [evalPts_eq_val, List.map_map]; rfl
  | case15 dx dy a xs ys ih => rw [ih h, sepPoints_map_shift, List.map_map]; rfl
  | case16 segs even r a dirs cx cy xs ys => exact segFast_eq h ..
  | case17 segs a xs ys _ ih =>
    refine segFold_map_foldl (sepPoints xs ys) segs _ (val a) (fun res s => ?_) _
    rw [ih s h, sepPoints_map_shift, List.map_map, List.map_map, setMask_map]
    simp only [Function.comp_def, decide_eq_true_eq]

end HcipyVerif.Aperture
