import Mathlib.Tactic.Linarith
import Mathlib.Data.List.Forall2
import HcipyVerif.Lemmas.Aperture

/-!
# C12 — `evaluate_supersampled` on separated grids (`supersampledStat`, `supersampled`, `supersampledList`)

When it is defined and which exception it raises otherwise; what its value is made of (`Supersamples`: the
fields of the dithered grids, the same for every statistic, each a list of point values of the aperture); and,
pixel by pixel, how the four statistics relate: a pixel of a fold of pointwise operations is the fold over that
pixel of the fields (`foldl_zipWith_getD`), so the bounds are facts about folds of rationals; what holds of every
entry and passes through the operation holds of the fold (`foldl_zipWith_forall`), for 'min' / 'max' every predicate.
-/

namespace HcipyVerif.Aperture
open HcipyVerif.ListFacts

theorem deltas_length {x d : List Rat} (h : deltas x = some d) : d.length = x.length := by
  match x, h with
  | x0 :: x1 :: rest, h =>
    obtain rfl := Option.some.inj h
    simp only [List.length_cons, List.length_append, List.length_zipWith, List.length_drop,
      List.length_nil]
    omega

theorem deltas_eq_none_iff (x : List Rat) : deltas x = none ↔ x.length < 2 := by
  match x with
  | [] => exact iff_of_true rfl Nat.zero_lt_two
  | [_] => exact iff_of_true rfl Nat.one_lt_two
  | _ :: _ :: l => exact iff_of_false nofun (Nat.not_lt.mpr (Nat.le_add_left 2 l.length))

theorem ditherGrids_eq_none_iff (nx ny : Nat) (xs ys : List Rat) :
    ditherGrids nx ny xs ys = none ↔ xs.length < 2 ∨ ys.length < 2 := by
  rw [← deltas_eq_none_iff, ← deltas_eq_none_iff]
  unfold ditherGrids
  cases deltas xs <;> cases deltas ys <;> simp

theorem ditherGrids_some_length {nx ny : Nat} {xs ys : List Rat} {gs : List (List Rat × List Rat)}
    (h : ditherGrids nx ny xs ys = some gs) : 2 ≤ xs.length ∧ 2 ≤ ys.length := by
  have := mt (ditherGrids_eq_none_iff nx ny xs ys).mpr (by rw [h]; nofun)
  omega

theorem ditherGrids_some {nx ny : Nat} {xs ys : List Rat} {gs : List (List Rat × List Rat)}
    (h : ditherGrids nx ny xs ys = some gs) :
    gs.length = ny * nx ∧ ∀ g ∈ gs, g.1.length = xs.length ∧ g.2.length = ys.length := by
  unfold ditherGrids at h
  match hx : deltas xs, hy : deltas ys, h with
  | some dx, some dy, h =>
    obtain rfl := Option.some.inj h
    constructor
    · rw [flatMap_length_of_length _ _ nx (fun ey _ => by simp [dithers]), dithers, List.length_map,
        List.length_range]
    · intro g hg
      simp only [List.mem_flatMap, List.mem_map] at hg
      obtain ⟨ey, _, ex, _, rfl⟩ := hg
      simp [deltas_length hx, deltas_length hy]

/-- the fields a successful call combines: they do not depend on the statistic, there is one per dither, each (for a
well-formed aperture) the aperture's values at as many points as the grid has -/
structure Supersamples (s : Shape) (nx ny : Nat) (xs ys : List Rat) (fs : List (List Rat)) : Prop where
  ne : fs ≠ []
  card : fs.length = ny * nx
  ok : ∀ st, supersampledStat st s nx ny xs ys = .ok (combineFields st (xs.length * ys.length) fs)
  length : WF s → ∀ f ∈ fs, f.length = xs.length * ys.length
  vals : WF s → ∀ {P : Rat → Prop}, (∀ p, P (val s p)) → ∀ f ∈ fs, ∀ v ∈ f, P v

theorem supersampledStat_ok {st : Stat} {s : Shape} {nx ny : Nat} {xs ys f : List Rat}
    (h : supersampledStat st s nx ny xs ys = .ok f) :
    ∃ fs, Supersamples s nx ny xs ys fs ∧ f = combineFields st (xs.length * ys.length) fs := by
  revert h
  fun_cases supersampledStat st s nx ny xs ys with
  | case1 hg | case2 gs hg hn => nofun
  | case3 gs hg hn =>
    intro h
    obtain ⟨hlen, hgs⟩ := ditherGrids_some hg
    refine ⟨_, ⟨fun he => ?_, (List.length_map _).trans hlen, fun st' => ?_, fun hw f hf => ?_,
      fun hw P hP f hf v hv => ?_⟩, (Except.ok.inj h).symm⟩
    · rw [List.map_eq_nil_iff.mp he, List.length_nil, eq_comm, Nat.mul_eq_zero] at hlen
      omega
    · unfold supersampledStat
      rw [hg]
      exact if_neg hn
    · obtain ⟨g, hgm, rfl⟩ := List.mem_map.mp hf
      rw [evalSep_eq_val s _ _ hw, List.length_map, sepPoints_length, (hgs g hgm).1, (hgs g hgm).2,
        Nat.mul_comm]
    · obtain ⟨g, _, rfl⟩ := List.mem_map.mp hf
      rw [evalSep_eq_val s _ _ hw] at hv
      exact (List.mem_map.mp hv).elim fun p hp => hp.2 ▸ hP p

theorem foldl_zipWith_length {g : Rat → Rat → Rat} (n : Nat) (fs : List (List Rat)) (acc : List Rat)
    (hacc : acc.length = n) (hlen : ∀ f ∈ fs, f.length = n) :
    (fs.foldl (List.zipWith g) acc).length = n :=
  List.foldlRecOn (motive := fun acc : List Rat => acc.length = n) fs _ hacc fun b hb f hf => by
    rw [List.length_zipWith, hb, hlen f hf, Nat.min_self]

theorem foldl_zipWith_getD (g : Rat → Rat → Rat) (n : Nat) (fs : List (List Rat)) (acc : List Rat)
    (hacc : acc.length = n) (hlen : ∀ f ∈ fs, f.length = n) (k : Nat) (hk : k < n) :
    (fs.foldl (List.zipWith g) acc).getD k 0 = (fs.map (·.getD k 0)).foldl g (acc.getD k 0) := by
  induction fs generalizing acc with
  | nil => rfl
  | cons f fs ih =>
    have hf := hlen f List.mem_cons_self
    rw [List.foldl_cons, List.map_cons, List.foldl_cons,
      ih _ (by rw [List.length_zipWith, hacc, hf, Nat.min_self])
        fun f' hf' => hlen f' (List.mem_cons_of_mem _ hf')]
    congr 1
    simp [List.getD_eq_getElem?_getD, List.getElem?_zipWith, List.getElem?_eq_getElem (hacc ▸ hk),
      List.getElem?_eq_getElem (hf ▸ hk)]

theorem foldl_add_between (vs : List Rat) (a lo hi : Rat) (h : ∀ v ∈ vs, lo ≤ v ∧ v ≤ hi) :
    a + vs.length * lo ≤ vs.foldl (· + ·) a ∧ vs.foldl (· + ·) a ≤ a + vs.length * hi := by
  induction vs generalizing a with
  | nil => simp
  | cons v vs ih =>
    have hv := h v List.mem_cons_self
    have := ih (a + v) fun w hw => h w (List.mem_cons_of_mem _ hw)
    rw [List.foldl_cons, List.length_cons, Nat.cast_succ]
    constructor <;> linarith [this.1, this.2, hv.1, hv.2]

/-- a running extremum: `R` is `≤` for the minimum, `≥` for the maximum -/
theorem foldl_rel_all {R : Rat → Rat → Prop} (hrefl : ∀ x, R x x)
    (htrans : ∀ {x y z}, R x y → R y z → R x z) {g : Rat → Rat → Rat}
    (hg : ∀ u v, R (g u v) u ∧ R (g u v) v) (vs : List Rat) (a : Rat) :
    ∀ x ∈ a :: vs, R (vs.foldl g a) x := by
  induction vs generalizing a with
  | nil => intro x hx; rw [List.mem_singleton.mp hx]; exact hrefl _
  | cons v vs ih =>
    intro x hx
    have h0 := ih (g a v) (g a v) List.mem_cons_self
    rcases List.mem_cons.mp hx with rfl | hx
    · exact htrans h0 (hg x v).1
    · rcases List.mem_cons.mp hx with rfl | hx
      · exact htrans h0 (hg a x).2
      · exact ih (g a v) x (List.mem_cons_of_mem _ hx)

theorem sumFields_length (n : Nat) (fs : List (List Rat)) (hlen : ∀ f ∈ fs, f.length = n) :
    (sumFields n fs).length = n :=
  foldl_zipWith_length n fs _ List.length_replicate hlen

theorem combineFields_length (st : Stat) (n : Nat) (fs : List (List Rat)) (hne : fs ≠ [])
    (hlen : ∀ f ∈ fs, f.length = n) : (combineFields st n fs).length = n := by
  cases fs with
  | nil => exact absurd rfl hne
  | cons f r =>
    have hr := fun g hg => hlen g (List.mem_cons_of_mem _ hg)
    cases st with
    | mean => exact (List.length_map _).trans (sumFields_length n _ hlen)
    | sum => exact sumFields_length n _ hlen
    | min | max => exact foldl_zipWith_length n r f (hlen f List.mem_cons_self) hr

theorem sumFields_getD_between (n : Nat) (fs : List (List Rat)) (hlen : ∀ f ∈ fs, f.length = n)
    (k : Nat) (hk : k < n) (lo hi : Rat) (hb : ∀ f ∈ fs, lo ≤ f.getD k 0 ∧ f.getD k 0 ≤ hi) :
    fs.length * lo ≤ (sumFields n fs).getD k 0 ∧ (sumFields n fs).getD k 0 ≤ fs.length * hi := by
  have e : (sumFields n fs).getD k 0 = _ :=
    foldl_zipWith_getD (· + ·) n fs (List.replicate n 0) List.length_replicate hlen k hk
  have h0 : (List.replicate n (0 : Rat)).getD k 0 = 0 := by simp [List.getD_eq_getElem?_getD, hk]
  have hb' : ∀ v ∈ fs.map (·.getD k 0), lo ≤ v ∧ v ≤ hi := List.forall_mem_map.mpr hb
  have := foldl_add_between _ 0 lo hi hb'
  rw [zero_add, zero_add, List.length_map] at this
  rwa [e, h0]

theorem sumFields_mem_bounds (n : Nat) (fs : List (List Rat)) (hlen : ∀ f ∈ fs, f.length = n)
    (hu : ∀ f ∈ fs, ∀ v ∈ f, 0 ≤ v ∧ v ≤ 1) : ∀ v ∈ sumFields n fs, 0 ≤ v ∧ v ≤ fs.length := by
  have hl := sumFields_length n fs hlen
  refine List.forall_mem_iff_getElem.mpr fun k hk => ?_
  rw [List.getElem_eq_getD 0]
  have := sumFields_getD_between n fs hlen k (hl ▸ hk) 0 1
    fun f hf => hu f hf _ (getD_mem _ 0 _ (hlen f hf ▸ hl ▸ hk))
  rwa [mul_zero, mul_one] at this

theorem min_ite_le (u v : Rat) : (if u ≤ v then u else v) ≤ u ∧ (if u ≤ v then u else v) ≤ v :=
  min_def u v ▸ ⟨min_le_left u v, min_le_right u v⟩

theorem le_max_ite (u v : Rat) : u ≤ (if u ≤ v then v else u) ∧ v ≤ (if u ≤ v then v else u) :=
  max_def u v ▸ ⟨le_max_left u v, le_max_right u v⟩

theorem combine_min_mean_max (n : Nat) (fs : List (List Rat)) (hne : fs ≠ [])
    (hlen : ∀ g ∈ fs, g.length = n) (k : Nat) (hk : k < n) :
    (combineFields .min n fs).getD k 0 ≤ (combineFields .mean n fs).getD k 0 ∧
      (combineFields .mean n fs).getD k 0 ≤ (combineFields .max n fs).getD k 0 := by
  cases fs with
  | nil => exact absurd rfl hne
  | cons f r =>
    have hf := hlen f List.mem_cons_self
    have hr : ∀ g ∈ r, g.length = n := fun g hg => hlen g (List.mem_cons_of_mem _ hg)
    have emin : (r.foldl minFields f).getD k 0 = _ := foldl_zipWith_getD _ n r f hf hr k hk
    have emax : (r.foldl maxFields f).getD k 0 = _ := foldl_zipWith_getD _ n r f hf hr k hk
    have hsum := sumFields_getD_between n (f :: r) hlen k hk _ _ fun g hg =>
      ⟨emin ▸ foldl_rel_all le_refl le_trans min_ite_le _ _ _
          (List.mem_map_of_mem (f := fun l : List Rat => l.getD k 0) hg),
        emax ▸ foldl_rel_all (R := (· ≥ ·)) le_refl (fun h1 h2 => le_trans h2 h1) le_max_ite _ _ _
          (List.mem_map_of_mem (f := fun l : List Rat => l.getD k 0) hg)⟩
    have hpos : (0 : Rat) < (f :: r).length := Nat.cast_pos.mpr (List.length_pos_iff.mpr hne)
    have hmean : (meanFields n (f :: r)).getD k 0 = (sumFields n (f :: r)).getD k 0 / (f :: r).length :=
      getD_map_lt _ ((sumFields_length n _ hlen).symm ▸ hk) 0 0
    show _ ≤ (meanFields n (f :: r)).getD k 0 ∧ (meanFields n (f :: r)).getD k 0 ≤ _
    rw [hmean, le_div_iff₀ hpos, div_le_iff₀ hpos, mul_comm, mul_comm (List.getD _ k 0)]
    exact hsum

/-- whatever holds of the entries of all fields and passes through `g` holds of the entries of their
pointwise fold; for `np.minimum` / `np.maximum`, which return one of their arguments, that is every predicate -/
theorem foldl_zipWith_forall {g : Rat → Rat → Rat} {P : Rat → Prop} (hg : ∀ u v, P u → P v → P (g u v))
    (r : List (List Rat)) (f : List Rat) (h : ∀ f' ∈ f :: r, ∀ w ∈ f', P w) :
    ∀ w ∈ r.foldl (List.zipWith g) f, P w :=
  List.foldlRecOn (motive := fun acc : List Rat => ∀ w ∈ acc, P w) r _ (h f List.mem_cons_self)
    fun b hb f' hf' w hw => by
      obtain ⟨i, hi, rfl⟩ := List.getElem_of_mem hw
      rw [List.getElem_zipWith]
      exact hg _ _ (hb _ (List.getElem_mem _)) (h f' (List.mem_cons_of_mem _ hf') _ (List.getElem_mem _))

theorem combineFields_minmax_forall {st : Stat} (hst : st = .min ∨ st = .max) (n : Nat)
    {fs : List (List Rat)} {P : Rat → Prop} (h : ∀ f ∈ fs, ∀ w ∈ f, P w) :
    ∀ w ∈ combineFields st n fs, P w := by
  cases fs with
  | nil => rcases hst with rfl | rfl <;> exact fun w hw => nomatch hw
  | cons f r =>
    rcases hst with rfl | rfl <;> exact foldl_zipWith_forall (fun u v hu hv => by split_ifs <;> assumption) r f h

theorem supersampledListAux_ok_iff (st : Stat) (nx ny : Nat) (xs ys : List Rat) (ss : List Shape)
    (fs : List (List Rat)) :
    supersampledListAux st nx ny xs ys ss = .ok fs ↔
      List.Forall₂ (fun s f => supersampledStat st s nx ny xs ys = .ok f) ss fs := by
  induction ss generalizing fs with
  | nil => simp [supersampledListAux, eq_comm]
  | cons s rest ih =>
    rw [List.forall₂_cons_left_iff]
    simp only [supersampledListAux, ← ih]
    cases supersampledStat st s nx ny xs ys with
    | error e => simp
    | ok f =>
      cases supersampledListAux st nx ny xs ys rest with
      | error e => simp
      | ok fs' => simp [eq_comm]

end HcipyVerif.Aperture
