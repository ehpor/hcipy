import HcipyVerif.Lemmas.ModeBasis
import Mathlib.Algebra.Order.Field.Basic
import Mathlib.Algebra.Order.BigOperators.Group.List
import Mathlib.Data.Complex.Basic
import Mathlib.Algebra.Order.BigOperators.Group.Finset
import Mathlib.Algebra.BigOperators.Ring.Finset
import Mathlib.Algebra.BigOperators.Intervals
import Mathlib.Tactic.Ring

/-!
Least squares over a scalar with a squared modulus `SqNorm`: `(conj, re, N)` with
`N (a + b) = N a + N b + 2 re (conj b · a)`.  The list-level `linComb`, `normalResidual` and `resid`
are written as finite sums over index ranges (`linComb_fn`, `normalResidual_fn`, `resid_fn`); on index functions
a residual orthogonal to the columns of `A` cannot be shortened by adding any `A w` (`fin_normal_min`).
-/
set_option linter.unusedSectionVars false

namespace HcipyVerif.ModeBasis
open HcipyVerif.ListFacts

section
variable {K R : Type} [CommRing K] [Field R] [LinearOrder R] [IsStrictOrderedRing R]

/-- `Σ N((u − v)ᵢ)`: the squared residual norm for a "squared modulus" `N` -/
def resid (N : K → R) (u v : List K) : R := ((List.zipWith (· - ·) u v).map N).sum

/-- A squared modulus on `K` with values in an ordered field: `(id, id, z²)` over an ordered field
(`SqNorm.real`), (conjugation, `Re`, `|z|²`) over ℂ (`SqNorm.complex`). -/
structure SqNorm (K R : Type) [CommRing K] [Field R] [LinearOrder R] [IsStrictOrderedRing R] where
  conj : K →+* K
  re : K →+ R
  N : K → R
  add : ∀ a b, N (a + b) = N a + N b + 2 * re (conj b * a)
  nonneg : ∀ z, 0 ≤ N z
  eq_zero : ∀ z, N z = 0 → z = 0

theorem SqNorm.N_zero (S : SqNorm K R) : S.N 0 = 0 := by
  have := S.add 0 0
  rw [add_zero, mul_zero, map_zero, mul_zero, add_zero] at this
  exact left_eq_add.mp this

theorem sum_nonneg_le_zero (l : List R) (h : ∀ x ∈ l, 0 ≤ x) (hs : l.sum ≤ 0) : ∀ x ∈ l, x = 0 :=
  fun _ hx => List.all_zero_of_le_zero_le_of_sum_eq_zero h (le_antisymm hs (List.sum_nonneg h)) hx

theorem resid_self (N : K → R) (hN0 : N 0 = 0) (u : List K) : resid N u u = 0 := by
  unfold resid
  induction u with
  | nil => simp
  | cons a u ih => simp [hN0]

theorem eq_of_zipWith_sub_zero (u v : List K) (hl : u.length = v.length)
    (h : ∀ z ∈ List.zipWith (· - ·) u v, z = 0) : u = v :=
  List.ext_getElem hl fun i h1 h2 => sub_eq_zero.mp <|
    h _ (List.mem_iff_getElem.mpr ⟨i, by simp [h1, h2], List.getElem_zipWith⟩)

/-- `f` is the linear-combination map of the basis -/
theorem lstsq_recovers_gen (S : SqNorm K R) (f : List K → List K)
    (hlen : ∀ x y, (f x).length = (f y).length) (n : Nat)
    (hinj : ∀ x y, x.length = n → y.length = n → f x = f y → x = y)
    (c x : List K) (hc : c.length = n) (hx : x.length = n)
    (hmin : ∀ y, y.length = n → resid S.N (f x) (f c) ≤ resid S.N (f y) (f c)) : x = c := by
  have h0 := hmin c hc
  rw [resid_self S.N S.N_zero] at h0
  have hz := sum_nonneg_le_zero _ (by
    intro t ht
    obtain ⟨z, _, rfl⟩ := List.mem_map.mp ht
    exact S.nonneg z) h0
  apply hinj x c hx hc
  apply eq_of_zipWith_sub_zero _ _ (hlen x c)
  intro z hzm
  exact S.eq_zero z (hz (S.N z) (List.mem_map_of_mem hzm))

end

theorem linComb_length {K : Type} [Zero K] [Add K] [Mul K] (b : Basis K) (hb : WF b) (c : List K) :
    (linComb b c).length = b.npix := by
  cases b with
  | dense n m rows => simp [linComb, matvec, hb.1, Basis.npix]
  | sparse n m cols => simp [linComb, Basis.npix]

open Finset in
/-- A residual `r` orthogonal to the columns of `A` (`Aᴴ r = 0`) is orthogonal to every `A w`
(`⟨A w, r⟩ = ⟨w, Aᴴ r⟩`), so `‖r + A w‖² = ‖r‖² + ‖A w‖²` -/
theorem fin_normal_min {K R : Type} [CommRing K] [Field R] [LinearOrder R] [IsStrictOrderedRing R]
    (S : SqNorm K R) (n m : Nat) (A : Nat → Nat → K) (r w : Nat → K)
    (h : ∀ j ∈ range m, ∑ i ∈ range n, S.conj (A i j) * r i = 0) :
    ∑ i ∈ range n, S.N (r i) ≤ ∑ i ∈ range n, S.N (r i + ∑ j ∈ range m, A i j * w j) := by
  have hcross : ∑ i ∈ range n, S.conj (∑ j ∈ range m, A i j * w j) * r i = 0 := by
    simp only [map_sum, map_mul, Finset.sum_mul]
    rw [Finset.sum_comm]
    refine Finset.sum_eq_zero fun j hj => ?_
    rw [← mul_zero (S.conj (w j)), ← h j hj, Finset.mul_sum]
    exact Finset.sum_congr rfl fun i _ => by ring
  simp only [S.add, Finset.sum_add_distrib]
  rw [← Finset.mul_sum, ← map_sum, hcross, map_zero, mul_zero, add_zero]
  exact le_add_of_nonneg_right (Finset.sum_nonneg fun i _ => S.nonneg _)

open Finset in
/-- `Aᴴ A z = 0 ⇒ A z = 0`: `A z` is orthogonal to the columns, so `‖A z‖² ≤ ‖A z − A z‖² = 0` -/
theorem gram_kernel {K R : Type} [CommRing K] [Field R] [LinearOrder R] [IsStrictOrderedRing R]
    (S : SqNorm K R) (n m : Nat) (A : Nat → Nat → K) (z : Nat → K)
    (h : ∀ j ∈ range m, ∑ i ∈ range n, S.conj (A i j) * ∑ j' ∈ range m, A i j' * z j' = 0) :
    ∀ i ∈ range n, ∑ j ∈ range m, A i j * z j = 0 := by
  have hmin := fin_normal_min S n m A _ (fun j => -z j) h
  simp only [mul_neg, Finset.sum_neg_distrib, add_neg_cancel, S.N_zero, Finset.sum_const_zero] at hmin
  have := (Finset.sum_eq_zero_iff_of_nonneg fun i _ => S.nonneg _).mp
    (le_antisymm hmin (Finset.sum_nonneg fun i _ => S.nonneg _))
  exact fun i hi => S.eq_zero _ (this i hi)

def SqNorm.real (R : Type) [Field R] [LinearOrder R] [IsStrictOrderedRing R] : SqNorm R R where
  conj := RingHom.id R
  re := AddMonoidHom.id R
  N t := t * t
  add a b := by
    simp only [RingHom.id_apply, AddMonoidHom.id_apply]
    ring
  nonneg := mul_self_nonneg
  eq_zero _ := mul_self_eq_zero.mp

def SqNorm.complex : SqNorm ℂ ℝ where
  conj := starRingEnd ℂ
  re := Complex.reAddGroupHom
  N := Complex.normSq
  add a b := by
    rw [Complex.normSq_add, mul_comm (starRingEnd ℂ b) a]
    rfl
  nonneg := Complex.normSq_nonneg
  eq_zero _ := Complex.normSq_eq_zero.mp

theorem zipWith_range {α β γ} (n : Nat) (f : α → β → γ) (g : Nat → α) (x : List β) (d : β) (hx : x.length = n) :
    List.zipWith f ((List.range n).map g) x = (List.range n).map fun i => f (g i) (x.getD i d) := by
  conv_lhs => rw [← List.map_id x, map_eq_range_map_getD x d id, hx]
  rw [List.zipWith_map, List.zipWith_self]
  rfl

section
variable {K : Type} [CommSemiring K]

/-- no hypothesis on the lengths: beyond the shorter list the products vanish -/
theorem dot_eq_sum (r w : List K) :
    dot r w = ∑ c ∈ Finset.range r.length, r.getD c 0 * w.getD c 0 := by
  induction r generalizing w with
  | nil => simp [dot]
  | cons a r ih =>
    cases w with
    | nil => simp [dot]
    | cons b w =>
      rw [List.length_cons, Finset.sum_range_succ']
      simp only [List.getD_cons_succ, List.getD_cons_zero, ← ih w]
      simp [dot, add_comm]

theorem dot_range_list (n : Nat) (f : Nat → K) (x : List K) :
    dot ((List.range n).map f) x = ∑ i ∈ Finset.range n, f i * x.getD i 0 := by
  rw [dot_eq_sum, List.length_map, List.length_range]
  exact Finset.sum_congr rfl fun i hi => by rw [getD_map_range f (Finset.mem_range.mp hi)]

theorem linComb_fn (b : Basis K) (hb : WF b) (x : List K) :
    linComb b x = (List.range b.npix).map fun i => ∑ j ∈ Finset.range b.nmodes, ent b i j * x.getD j 0 := by
  rw [linComb_eq b hb]
  unfold toDense table matvec
  rw [List.map_map]
  apply List.map_congr_left
  intro i _
  exact dot_range_list _ _ _
end

section
variable {K : Type} [CommRing K]

theorem getD_zipWith_sub (u v : List K) (h : u.length = v.length) (j : Nat) :
    (List.zipWith (· - ·) u v).getD j 0 = u.getD j 0 - v.getD j 0 := by
  have := getD_zipWith (· - ·) h 0 0 j
  rwa [sub_zero] at this

theorem dot_sub_add (r a c : List K) (h : c.length = a.length) :
    dot r c + dot r (List.zipWith (· - ·) a c) = dot r a := by
  simp only [dot_eq_sum, ← Finset.sum_add_distrib]
  refine Finset.sum_congr rfl fun i _ => ?_
  rw [getD_zipWith_sub a c h.symm]
  ring

theorem matvec_sub_add (infl : List (List K)) (a c : List K) (h : c.length = a.length) :
    List.zipWith (· + ·) (matvec infl c) (matvec infl (List.zipWith (· - ·) a c)) = matvec infl a := by
  unfold matvec
  rw [zipWith_map_same]
  exact List.map_congr_left fun r _ => dot_sub_add r a c h

theorem normalResidual_fn (conj : K → K) (b : Basis K) (x y : List K) (hy : y.length = b.npix) :
    normalResidual conj b x y = (List.range b.nmodes).map fun j =>
      ∑ i ∈ Finset.range b.npix, conj (ent b i j) *
        ((∑ j' ∈ Finset.range b.nmodes, ent b i j' * x.getD j' 0) - y.getD i 0) := by
  unfold normalResidual adjRows column matvec toDense table
  rw [List.map_map, List.map_map]
  apply List.map_congr_left
  intro j _
  simp only [Function.comp]
  rw [zipWith_range b.npix _ _ y 0 hy, List.map_map]
  rw [dot_range_list]
  apply Finset.sum_congr rfl
  intro i hi
  simp only [Function.comp]
  rw [getD_map_range _ (Finset.mem_range.mp hi), dot_range_list]

theorem resid_fn {R : Type} [Field R] [LinearOrder R] [IsStrictOrderedRing R] (N : K → R) (n : Nat)
    (U : Nat → K) (y : List K) (hy : y.length = n) :
    resid N ((List.range n).map U) y = ∑ i ∈ Finset.range n, N (U i - y.getD i 0) := by
  unfold resid
  rw [zipWith_range n _ U y 0 hy, List.map_map]
  rfl
end

section
variable {K R : Type} [CommRing K] [Field R] [LinearOrder R] [IsStrictOrderedRing R]

theorem normal_eq_minimises_gen (S : SqNorm K R) (b : Basis K) (hb : WF b) (x y : List K)
    (hy : y.length = b.npix) (h : ∀ t ∈ normalResidual S.conj b x y, t = 0) (z : List K) :
    resid S.N (linComb b x) y ≤ resid S.N (linComb b z) y := by
  rw [linComb_fn b hb x, linComb_fn b hb z, resid_fn S.N _ _ y hy, resid_fn S.N _ _ y hy]
  have := fin_normal_min S b.npix b.nmodes (ent b)
    (fun i => (∑ j ∈ Finset.range b.nmodes, ent b i j * x.getD j 0) - y.getD i 0)
    (fun j => z.getD j 0 - x.getD j 0) fun j hj => h _ (by
      rw [normalResidual_fn S.conj b x y hy]
      exact List.mem_map.mpr ⟨j, List.mem_range.mpr (Finset.mem_range.mp hj), rfl⟩)
  simpa only [mul_sub, Finset.sum_sub_distrib, sub_add_sub_cancel'] using this
end

end HcipyVerif.ModeBasis
