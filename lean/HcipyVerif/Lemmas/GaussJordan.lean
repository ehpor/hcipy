import HcipyVerif.Lemmas.Lstsq

/-!
The executable least-squares model of C14 (`ModeBasis.lstsq`: normal equations + Gauss–Jordan
elimination on lists).

* A successful `pivotStep` normalises the first row `p` from position `k` on with `p[k] ≠ 0`, moves it
  to position `k` and eliminates it from every other row (`pivotStep_some`; up to the order of rows
  `pivotStep_perm`).  A property of rows that both operations respect holds of all rows after the
  step iff before (`pivotStep_forall`): the width (`pivotStep_len`), vanishing at a vector
  (`pivotStep_sol`).
* `Red M₀ n k M`: `M` has the solution set of `M₀` (as linear forms on vectors) and its first `k`
  columns are unit columns.  A successful `pivotStep` takes `Red … k` to `Red … (k+1)`
  (`pivotStep_red`), so the fold either ends in `Red … n n`, i.e. `[I | x]`, or stops at a failed
  pivot search in some `Red … j` (`foldlM_red`).
* A row of `Red … k` applied to a vector that vanishes beyond column `k` is read off the unit
  columns and column `k` (`Red.dot_row`).  For `k = n`: row `i` of `[I | x]` on `(v, a)` is
  `vᵢ + xᵢ·a` (`Red.dot_full`), so `(x, −1)` solves the system and `(d, 0)` solves it only for
  `d = 0`.  For a failed pivot search in column `k`: `kerVec` is a non-zero `(z, 0)` that solves it
  (`pivot_fail_kernel`).
* The system built by `lstsq` is `Aᴴ A x = Aᴴ y` (`lstsq_eq`, `normalRows_sol`).
-/
set_option linter.unusedSectionVars false

namespace HcipyVerif.ModeBasis
open HcipyVerif.ListFacts

section
variable {K : Type} [Field K] [DecidableEq K]

theorem getD_elimRow (k : Nat) (p r : List K) (hl : r.length = p.length) (c : Nat) :
    (elimRow k p r).getD c 0 = r.getD c 0 - r.getD k 0 * p.getD c 0 := by
  have := getD_zipWith (fun a q => a - r.getD k 0 * q) hl 0 0 c
  rwa [mul_zero, sub_zero] at this

theorem elimRow_length (k : Nat) (p r : List K) : (elimRow k p r).length = min r.length p.length := by
  simp [elimRow]

theorem dot_elimRow (k : Nat) (p r v : List K) (hl : r.length = p.length) :
    dot (elimRow k p r) v = dot r v - r.getD k 0 * dot p v := by
  rw [dot_eq_sum, dot_eq_sum, dot_eq_sum, elimRow_length, ← hl, Nat.min_self, Finset.mul_sum,
    ← Finset.sum_sub_distrib]
  exact Finset.sum_congr rfl fun c _ => by rw [getD_elimRow k p r hl]; ring

theorem dot_map_div (pv : K) (p v : List K) : dot (p.map (· / pv)) v = dot p v / pv := by
  simp only [dot_eq_sum, List.length_map, getD_map_of_eq (· / pv) (zero_div pv)]
  rw [div_eq_mul_inv, Finset.sum_mul]
  exact Finset.sum_congr rfl fun _ _ => by ring

theorem dot_append_single (g x : List K) (a c : K) (h : g.length = x.length) :
    dot (g ++ [a]) (x ++ [c]) = dot g x + a * c := by
  rw [dot_eq_sum, dot_eq_sum, List.length_append, List.length_singleton, Finset.sum_range_succ,
    getD_append_length, h, getD_append_length, ← h]
  congr 1
  exact Finset.sum_congr rfl fun i hi => by
    have hi := Finset.mem_range.mp hi
    rw [List.getD_append _ _ _ _ hi, List.getD_append _ _ _ _ (h ▸ hi)]

theorem getD_map_take {α β} (f : α → β) (M : List α) (k i : Nat) (d : α) (d' : β) (hi : i < k)
    (hiM : i < M.length) : ((M.take k).map f).getD i d' = f (M.getD i d) := by
  simp only [List.getD_eq_getElem?_getD]
  rw [List.getElem?_map, List.getElem?_take, if_pos hi, List.getElem?_eq_getElem hiM]
  rfl

theorem getD_mem_drop {α} (M : List α) (d : α) {k i : Nat} (hk : k ≤ i) (hi : i < M.length) :
    M.getD i d ∈ M.drop k := by
  have := getD_mem (M.drop k) d (i - k) (by rw [List.length_drop]; omega)
  rwa [List.getD_eq_getElem?_getD, List.getElem?_drop, show k + (i - k) = i by omega,
    ← List.getD_eq_getElem?_getD] at this

/-- What a successful pivot step does: the rows from `k` on are `A ++ p :: B`, `p` being the first
with a non-zero entry in column `k`; `p` is normalised, moved up to position `k`, and subtracted
from every other row. -/
theorem pivotStep_some (M M' : List (List K)) (k : Nat) (h : pivotStep M k = some M') :
    ∃ A p B, M.drop k = A ++ p :: B ∧ p.getD k 0 ≠ 0 ∧
      M' = (M.take k).map (elimRow k (p.map (· / p.getD k 0))) ++ [p.map (· / p.getD k 0)] ++
        (A ++ B).map (elimRow k (p.map (· / p.getD k 0))) := by
  simp only [pivotStep] at h
  split at h
  · cases h
  · next p hp =>
    obtain ⟨hpv, A, B, hd, hA⟩ := List.find?_eq_some_iff_append.mp hp
    refine ⟨A, p, B, hd, by simpa using hpv, ?_⟩
    rw [← Option.some.inj h, hd, List.eraseP_append_right _ (by simpa using hA),
      List.eraseP_cons_of_pos (p := fun r : List K => decide (r.getD k 0 ≠ 0)) hpv]

/-- Up to the order of the rows: `M` is `p :: R` and `M'` is `p / p[k] :: R` with `p / p[k]`
eliminated from `R`. -/
theorem pivotStep_perm (M M' : List (List K)) (k : Nat) (h : pivotStep M k = some M') :
    ∃ p R, p.getD k 0 ≠ 0 ∧ M.Perm (p :: R) ∧
      M'.Perm (p.map (· / p.getD k 0) :: R.map (elimRow k (p.map (· / p.getD k 0)))) := by
  obtain ⟨A, p, B, hd, hpv, rfl⟩ := pivotStep_some M M' k h
  refine ⟨p, M.take k ++ (A ++ B), hpv, ?_, ?_⟩
  · rw [← List.append_assoc]
    refine .trans (.of_eq ?_) List.perm_middle
    rw [List.append_assoc, ← hd, List.take_append_drop]
  · rw [List.append_assoc, List.singleton_append, List.map_append (l₁ := M.take k)]
    exact List.perm_middle

/-- A property of rows that the normalised pivot row has iff `p` has it and that, once it has it,
elimination neither creates nor destroys, holds of all rows after the step iff it did before. -/
theorem pivotStep_forall (M M' : List (List K)) (k : Nat) (h : pivotStep M k = some M') (X : List K → Prop)
    (hdiv : ∀ p ∈ M, p.getD k 0 ≠ 0 → (X (p.map (· / p.getD k 0)) ↔ X p))
    (hE : ∀ p ∈ M, X (p.map (· / p.getD k 0)) →
      ∀ r ∈ M, (X (elimRow k (p.map (· / p.getD k 0)) r) ↔ X r)) :
    (∀ r ∈ M', X r) ↔ ∀ r ∈ M, X r := by
  obtain ⟨p, R, hpv, hM, hM'⟩ := pivotStep_perm M M' k h
  have hp : p ∈ M := hM.mem_iff.mpr List.mem_cons_self
  simp only [hM'.mem_iff, hM.mem_iff, List.forall_mem_cons, List.forall_mem_map]
  exact (and_congr_right fun h0 => forall₂_congr fun r hr =>
    hE p hp h0 r (hM.mem_iff.mpr (List.mem_cons_of_mem _ hr))).trans (and_congr_left' (hdiv p hp hpv))

theorem pivotStep_len (M M' : List (List K)) (k W : Nat) (h : pivotStep M k = some M')
    (hW : ∀ r ∈ M, r.length = W) : ∀ r ∈ M', r.length = W :=
  (pivotStep_forall M M' k h (·.length = W) (fun p _ _ => by rw [List.length_map])
    (fun p hp h0 r hr => by rw [elimRow_length, h0, hW r hr, Nat.min_self])).mpr hW

theorem pivotStep_sol (M M' : List (List K)) (k W : Nat) (v : List K) (h : pivotStep M k = some M')
    (hW : ∀ r ∈ M, r.length = W) : (∀ r ∈ M', dot r v = 0) ↔ ∀ r ∈ M, dot r v = 0 :=
  pivotStep_forall M M' k h (dot · v = 0)
    (fun p _ hpv => by rw [dot_map_div, div_eq_zero_iff, or_iff_left hpv])
    (fun p hp h0 r hr => by
      rw [dot_elimRow k _ r v (by rw [List.length_map, hW r hr, hW p hp]), h0, mul_zero, sub_zero])

theorem foldlM_len (ks : List Nat) (M M' : List (List K)) (W : Nat)
    (h : ks.foldlM pivotStep M = some M') (hW : ∀ r ∈ M, r.length = W) : ∀ r ∈ M', r.length = W := by
  induction ks generalizing M with
  | nil => cases h; exact hW
  | cons k ks ih =>
    rw [List.foldlM_cons] at h
    obtain ⟨M1, h1, h2⟩ := Option.bind_eq_some_iff.mp h
    exact ih M1 h2 (pivotStep_len M M1 k W h1 hW)

/-- `M` is `M₀` after `k` pivot steps on an `n × (n+1)` system: the same solutions, and the first
`k` columns are unit columns -/
structure Red (M₀ : List (List K)) (n k : Nat) (M : List (List K)) : Prop where
  len : M.length = n
  row : ∀ r ∈ M, r.length = n + 1
  diag : ∀ i, i < k → ∀ c, c < k → (M.getD i []).getD c 0 = if i = c then 1 else 0
  low : ∀ r ∈ M.drop k, ∀ c, c < k → r.getD c 0 = 0
  sol : ∀ v, (∀ r ∈ M, dot r v = 0) ↔ ∀ r ∈ M₀, dot r v = 0

theorem Red.init (n : Nat) (M : List (List K)) (hl : M.length = n) (hW : ∀ r ∈ M, r.length = n + 1) :
    Red M n 0 M :=
  ⟨hl, hW, fun i hi => by omega, fun r _ c hc => by omega, fun v => Iff.rfl⟩

theorem pivotStep_red (M₀ : List (List K)) (n k : Nat) (M M' : List (List K)) (hk : k < n)
    (h : pivotStep M k = some M') (hR : Red M₀ n k M) : Red M₀ n (k + 1) M' := by
  have hrow' := pivotStep_len M M' k (n + 1) h hR.row
  have hsol := fun v => (pivotStep_sol M M' k (n + 1) v h hR.row).trans (hR.sol v)
  obtain ⟨A, p, B, hd, hpv, rfl⟩ := pivotStep_some M M' k h
  have hAB : ∀ r ∈ A ++ B, r ∈ M.drop k := fun r hr => by
    rw [hd]; exact (List.mem_append.mp hr).elim (fun h => by simp [h]) fun h => by simp [h]
  have hp : p ∈ M.drop k := by rw [hd]; simp
  set pn := p.map (· / p.getD k 0) with hpn
  have hpl : pn.length = n + 1 := by rw [hpn, List.length_map, hR.row p (List.mem_of_mem_drop hp)]
  have hpn_lt : ∀ c, c < k → pn.getD c 0 = 0 := by
    intro c hc; rw [hpn, getD_map_of_eq (· / p.getD k 0) (zero_div _), hR.low p hp c hc, zero_div]
  have hpn_k : pn.getD k 0 = 1 := by
    rw [hpn, getD_map_of_eq (· / p.getD k 0) (zero_div _)]; exact div_self hpv
  -- eliminating with `pn` keeps the columns before `k` and clears column `k`
  have hE_lt : ∀ r, r ∈ M → ∀ c, c < k → (elimRow k pn r).getD c 0 = r.getD c 0 := by
    intro r hr c hc
    rw [getD_elimRow k _ r (by rw [hR.row r hr, hpl]), hpn_lt c hc, mul_zero, sub_zero]
  have hE_k : ∀ r, r ∈ M → (elimRow k pn r).getD k 0 = 0 := by
    intro r hr
    rw [getD_elimRow k _ r (by rw [hR.row r hr, hpl]), hpn_k, mul_one, sub_self]
  have htake : ((M.take k).map (elimRow k pn)).length = k := by
    rw [List.length_map, List.length_take, hR.len]; omega
  refine ⟨?_, hrow', ?_, ?_, hsol⟩
  · have := congrArg List.length hd
    simp only [List.length_append, List.length_map, List.length_cons, List.length_nil, htake, List.length_drop,
      hR.len] at this ⊢
    omega
  · intro i hi c hc
    -- row `i ≤ k` lies in the block `take k ++ [pn]`
    rw [List.getD_append _ _ _ _ (by rw [List.length_append, htake]; exact hi)]
    rcases Nat.lt_or_eq_of_le (Nat.lt_succ_iff.mp hi) with hi' | rfl
    · have hiM : i < M.length := by rw [hR.len]; omega
      rw [List.getD_append _ _ _ _ (htake.symm ▸ hi'), getD_map_take _ M k i [] [] hi' hiM]
      rcases Nat.lt_or_eq_of_le (Nat.lt_succ_iff.mp hc) with hc' | rfl
      · rw [hE_lt _ (getD_mem M [] i hiM) c hc', hR.diag i hi' c hc']
      · rw [hE_k _ (getD_mem M [] i hiM), if_neg (Nat.ne_of_lt hi')]
    · rw [List.getD_append_right _ _ _ _ htake.le, htake, Nat.sub_self, List.getD_cons_zero]
      rcases Nat.lt_or_eq_of_le (Nat.lt_succ_iff.mp hc) with hc' | rfl
      · rw [hpn_lt c hc', if_neg (Nat.ne_of_gt hc')]
      · rw [hpn_k, if_pos rfl]
  · intro r hr c hc
    rw [List.drop_left' (by rw [List.length_append, htake]; rfl)] at hr
    obtain ⟨r0, hr0, rfl⟩ := List.mem_map.mp hr
    have hr0d : r0 ∈ M.drop k := hAB r0 hr0
    have hr0M : r0 ∈ M := List.mem_of_mem_drop hr0d
    rcases Nat.lt_or_eq_of_le (Nat.lt_succ_iff.mp hc) with hc' | rfl
    · rw [hE_lt _ hr0M c hc', hR.low r0 hr0d c hc']
    · exact hE_k _ hr0M

theorem foldlM_red (n : Nat) (M₀ : List (List K)) (hl : M₀.length = n)
    (hW : ∀ r ∈ M₀, r.length = n + 1) (k : Nat) (hk : k ≤ n) :
    (∃ M, (List.range k).foldlM pivotStep M₀ = some M ∧ Red M₀ n k M) ∨
    ((List.range k).foldlM pivotStep M₀ = none ∧
      ∃ j M, j < k ∧ Red M₀ n j M ∧ pivotStep M j = none) := by
  induction k with
  | zero => exact Or.inl ⟨M₀, rfl, Red.init n M₀ hl hW⟩
  | succ k ih =>
    rw [List.range_succ, List.foldlM_append]
    rcases ih (by omega) with ⟨M, hf, hR⟩ | ⟨hf, j, M, hj, hR, hp⟩
    · rw [hf]
      cases h1 : pivotStep M k with
      | none => exact Or.inr ⟨by simp [h1], k, M, Nat.lt_succ_self k, hR, h1⟩
      | some M1 => exact Or.inl ⟨M1, by simp [h1], pivotStep_red M₀ n k M M1 (by omega) h1 hR⟩
    · exact Or.inr ⟨by rw [hf]; rfl, j, M, by omega, hR, hp⟩

/-- A row of a system reduced up to column `k`, applied to a vector that vanishes beyond column
`k`: the unit columns pick entry `i` of the vector (rows below the reduced block see nothing of
it), column `k` contributes its own entry.  For `k = n` every vector of length at most `n + 1` qualifies. -/
theorem Red.dot_row {M₀ M : List (List K)} {n k : Nat} (hR : Red M₀ n k M) (hk : k ≤ n) (i : Nat)
    (hi : i < n) (w : List K) (hsupp : ∀ c, k < c → w.getD c 0 = 0) :
    dot (M.getD i []) w = (if i < k then w.getD i 0 else 0) + (M.getD i []).getD k 0 * w.getD k 0 := by
  have hiM : i < M.length := hR.len ▸ hi
  have hlen : (M.getD i []).length = n + 1 := hR.row _ (getD_mem M [] i hiM)
  rw [dot_eq_sum, hlen, ← Finset.sum_range_add_sum_Ico _ (by omega : k ≤ n + 1)]
  congr 1
  · split_ifs with hik
    · rw [Finset.sum_congr rfl fun c hc => by rw [hR.diag i hik c (Finset.mem_range.mp hc)]]
      simp only [ite_mul, one_mul, zero_mul, Finset.sum_ite_eq, Finset.mem_range, hik, if_true]
    · exact Finset.sum_eq_zero fun c hc => by
        rw [hR.low _ (getD_mem_drop M [] (Nat.le_of_not_lt hik) hiM) c (Finset.mem_range.mp hc), zero_mul]
  · refine Finset.sum_eq_single_of_mem k (Finset.mem_Ico.mpr ⟨le_rfl, by omega⟩) fun c hc hck => ?_
    rw [hsupp c (by have := (Finset.mem_Ico.mp hc).1; omega), mul_zero]

theorem Red.dot_full {M₀ M : List (List K)} {n : Nat} (hR : Red M₀ n n M) (i : Nat) (hi : i < n)
    (v : List K) (hv : v.length = n) (a : K) :
    dot (M.getD i []) (v ++ [a]) = v.getD i 0 + (M.getD i []).getD n 0 * a := by
  rw [hR.dot_row le_rfl i hi _
      fun c hc => List.getD_eq_default _ _ (by rw [List.length_append, hv]; exact hc),
    if_pos hi, List.getD_append _ _ _ i (hv ▸ hi), ← hv, getD_append_length]

theorem gaussJordan_red (n : Nat) (M : List (List K)) (x : List K) (hl : M.length = n)
    (hW : ∀ r ∈ M, r.length = n + 1) (h : gaussJordan n M = some x) :
    ∃ M', Red M n n M' ∧ x = M'.map (·.getD n 0) := by
  unfold gaussJordan at h
  rcases foldlM_red n M hl hW n (Nat.le_refl n) with ⟨M', hf, hR⟩ | ⟨hf, _⟩
  · rw [hf] at h
    exact ⟨M', hR, (Option.some.inj h).symm⟩
  · rw [hf] at h; simp at h

/-- a row `r = (g | h)` of the augmented system has `g · x = h`, written `r · (x, −1) = 0` -/
theorem gaussJordan_sound (n : Nat) (M : List (List K)) (x : List K) (hl : M.length = n)
    (hW : ∀ r ∈ M, r.length = n + 1) (h : gaussJordan n M = some x) :
    x.length = n ∧ ∀ r ∈ M, dot r (x ++ [-1]) = 0 := by
  obtain ⟨M', hR, rfl⟩ := gaussJordan_red n M x hl hW h
  have hx : (M'.map (·.getD n 0)).length = n := by rw [List.length_map, hR.len]
  refine ⟨hx, (hR.sol _).mp ?_⟩
  intro r hr
  obtain ⟨i, hi, rfl⟩ := exists_getD_of_mem M' [] r hr
  rw [hR.dot_full i (hR.len ▸ hi) _ hx, show (M'.map (·.getD n 0)).getD i 0 = _ from List.getD_map M' [] _]
  ring

theorem gaussJordan_unique (n : Nat) (M : List (List K)) (x : List K) (hl : M.length = n)
    (hW : ∀ r ∈ M, r.length = n + 1) (h : gaussJordan n M = some x) (d : List K) (hd : d.length = n)
    (hs : ∀ r ∈ M, dot r (d ++ [0]) = 0) : ∀ i, i < n → d.getD i 0 = 0 := by
  obtain ⟨M', hR, rfl⟩ := gaussJordan_red n M x hl hW h
  intro i hi
  have := (hR.sol _).mpr hs _ (getD_mem M' [] i (by rw [hR.len]; exact hi))
  rwa [hR.dot_full i hi d hd, mul_zero, add_zero] at this

/-- the kernel vector exhibited by a failed pivot search in column `k` -/
def kerVec (k : Nat) (M : List (List K)) (c : Nat) : K :=
  if c < k then (M.getD c []).getD k 0 else if c = k then -1 else 0

/-- a failed pivot search in column `k`: the reduced columns express column `k`, so
`(column k of the upper block, −1, 0, …)` is a common zero of the rows -/
theorem pivot_fail_kernel (M₀ : List (List K)) (n k : Nat) (M : List (List K)) (hk : k < n)
    (hR : Red M₀ n k M) (hfail : pivotStep M k = none) :
    ∀ r ∈ M, dot r ((List.range (n + 1)).map (kerVec k M)) = 0 := by
  intro r hr
  obtain ⟨i, hi, rfl⟩ := exists_getD_of_mem M [] r hr
  have hz : ¬ i < k → (M.getD i []).getD k 0 = 0 := fun hik => by
    simp only [pivotStep] at hfail
    split at hfail
    · next hnone => simpa using List.find?_eq_none.mp hnone _ (getD_mem_drop M [] (Nat.le_of_not_lt hik) hi)
    · cases hfail
  have hw : ∀ c, ((List.range (n + 1)).map (kerVec k M)).getD c 0 = kerVec k M c := fun c => by
    rcases Nat.lt_or_ge c (n + 1) with h | h
    · exact getD_map_range _ h _
    · rw [List.getD_eq_default _ _ (by simpa using h), kerVec, if_neg (by omega), if_neg (by omega)]
  rw [hR.dot_row (by omega) i (hR.len ▸ hi) _ fun c hc => by
    rw [hw, kerVec, if_neg (by omega), if_neg (by omega)]]
  simp only [hw, kerVec, if_neg (Nat.lt_irrefl k), if_true, mul_neg, mul_one]
  split_ifs with hik
  · exact add_neg_cancel _
  · rw [hz hik, neg_zero, add_zero]

theorem gaussJordan_none_kernel (n : Nat) (M : List (List K)) (hl : M.length = n)
    (hW : ∀ r ∈ M, r.length = n + 1) (h : gaussJordan n M = none) :
    ∃ z : List K, z.length = n ∧ (∃ k, k < n ∧ z.getD k 0 = -1) ∧ ∀ r ∈ M, dot r (z ++ [0]) = 0 := by
  unfold gaussJordan at h
  rcases foldlM_red n M hl hW n (Nat.le_refl n) with ⟨M', hf, _⟩ | ⟨_, j, Mj, hj, hR, hpj⟩
  · rw [hf] at h; cases h
  · refine ⟨(List.range n).map (kerVec j Mj), by simp, ⟨j, hj, ?_⟩, ?_⟩
    · rw [getD_map_range _ hj, kerVec, if_neg (Nat.lt_irrefl _), if_pos rfl]
    · have := (hR.sol _).mp (pivot_fail_kernel M n j Mj hj hR hpj)
      rwa [List.range_succ, List.map_append, List.map_singleton, kerVec, if_neg (by omega),
        if_neg (by omega)] at this

/-- the augmented normal equations: row `j` is `(⟨aⱼ, a_j'⟩)_j' | ⟨aⱼ, y⟩` for the columns `aⱼ` -/
def normalRows (conj : K → K) (b : Basis K) (y : List K) : List (List K) :=
  (List.range b.nmodes).map fun j =>
    ((List.range b.nmodes).map fun j' => dot ((column b j).map conj) (column b j')) ++
      [dot ((column b j).map conj) y]

theorem lstsq_eq (conj : K → K) (b : Basis K) (y : List K) :
    lstsq conj b y = gaussJordan b.nmodes (normalRows conj b y) := by
  simp only [lstsq, normalRows, adjRows, matvec]
  rw [List.map_map, List.map_map, List.zipWith_map, List.zipWith_self]
  simp only [Function.comp, List.map_map]
  rfl

theorem normalRows_length (conj : K → K) (b : Basis K) (y : List K) :
    (normalRows conj b y).length = b.nmodes := by simp [normalRows]

theorem normalRows_row (conj : K → K) (b : Basis K) (y : List K) :
    ∀ r ∈ normalRows conj b y, r.length = b.nmodes + 1 := by
  intro r hr
  obtain ⟨j, _, rfl⟩ := List.mem_map.mp hr
  simp

open Finset in
theorem dot_conj_column (conj : K → K) (b : Basis K) (j : Nat) (y : List K) :
    dot ((column b j).map conj) y = ∑ i ∈ range b.npix, conj (ent b i j) * y.getD i 0 := by
  unfold column
  rw [List.map_map, dot_range_list b.npix]
  rfl

open Finset in
/-- the augmented normal equations at `(v, a)`: `Aᴴ (A v) + a · Aᴴ y = 0` -/
theorem normalRows_sol (conj : K → K) (b : Basis K) (y v : List K) (hv : v.length = b.nmodes) (a : K) :
    (∀ r ∈ normalRows conj b y, dot r (v ++ [a]) = 0) ↔ ∀ j, j < b.nmodes →
      ∑ i ∈ range b.npix, conj (ent b i j) * ∑ j' ∈ range b.nmodes, ent b i j' * v.getD j' 0 +
        (∑ i ∈ range b.npix, conj (ent b i j) * y.getD i 0) * a = 0 := by
  simp only [normalRows, List.forall_mem_map, List.mem_range]
  refine forall₂_congr fun j _ => ?_
  have hcol : ∀ j', dot ((column b j).map conj) (column b j') =
      ∑ i ∈ range b.npix, conj (ent b i j) * ent b i j' := fun j' => by
    rw [dot_conj_column conj b j]
    exact Finset.sum_congr rfl fun i hi => by rw [column, getD_map_range _ (Finset.mem_range.mp hi)]
  rw [dot_append_single _ _ _ _ (by simp [hv]), dot_range_list b.nmodes _ v, dot_conj_column]
  simp only [hcol, Finset.sum_mul, Finset.mul_sum]
  rw [Finset.sum_comm]
  simp only [mul_assoc]

end

section
variable {K R : Type} [Field K] [DecidableEq K] [Field R] [LinearOrder R] [IsStrictOrderedRing R]

/-- a failed pivot search exhibits `z ≠ 0` with `Aᴴ A z = 0`, hence `A z = 0` (`gram_kernel`),
which independent modes exclude -/
theorem lstsq_complete_gen (S : SqNorm K R) (b : Basis K) (hb : WF b)
    (hind : ∀ x y : List K, x.length = b.nmodes → y.length = b.nmodes → linComb b x = linComb b y → x = y)
    (y : List K) : ∃ x, lstsq S.conj b y = some x := by
  cases h : lstsq S.conj b y with
  | some x => exact ⟨x, rfl⟩
  | none =>
    exfalso
    rw [lstsq_eq] at h
    obtain ⟨z, hzl, ⟨k, hk, hzk⟩, hsol⟩ := gaussJordan_none_kernel b.nmodes _
      (normalRows_length S.conj b y) (normalRows_row S.conj b y) h
    have hAz := gram_kernel S b.npix b.nmodes (ent b) (fun j => z.getD j 0) fun j hj => by
      have := (normalRows_sol S.conj b y z hzl 0).mp hsol j (Finset.mem_range.mp hj)
      rwa [mul_zero, add_zero] at this
    have hl0 : (List.replicate b.nmodes (0 : K)).length = b.nmodes := by simp
    have hlc : linComb b z = linComb b (List.replicate b.nmodes 0) := by
      rw [linComb_fn b hb z, linComb_fn b hb]
      apply List.map_congr_left
      intro i hi
      rw [hAz i (Finset.mem_range.mpr (List.mem_range.mp hi))]
      exact (Finset.sum_eq_zero fun j hj => by
        rw [List.getD_replicate 0 (Finset.mem_range.mp hj), mul_zero]).symm
    rw [hind z _ hzl hl0 hlc, List.getD_replicate 0 hk] at hzk
    exact absurd hzk.symm (neg_ne_zero.mpr one_ne_zero)

end

end HcipyVerif.ModeBasis
