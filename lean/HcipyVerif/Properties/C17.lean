import HcipyVerif.Lemmas.Detector
import Mathlib.Algebra.Order.Field.Rat

/-!
# C17 — Detectors accumulate linearly, conserve counts and reset on read-out

All theorems are about `HcipyVerif.Detector.run` / `pRun`, the model of
`NoiselessDetector` / `NoisyDetector` (with the pending repairs D15, D29, D30, D31 applied), for
**every** history of `integrate` / `readOut` operations, every detector shape and subsampling
factor, over an arbitrary field `K`; the model is tied to the code by the C17 correspondence
(harness/props/c17.py).  In `run` images are values (lists of pixels); aliasing — arrays as heap cells, the caller
overwriting buffers it passed in and images it got back — is the subject of the reference-level model `rStep`
(section "reference level" below: bridge to `run`, `caller_arrays_untouched`; a variant that does alias is in `Lemmas/DetectorOld.lean`), which
the driver runs next to every noiseless history and the harness compares with the real objects (contents of every
array the caller holds after every operation, `np.shares_memory`).  The grid an image is labelled with is modelled by
`tStep` (`image_grid_is_detector_grid`).

The only hypothesis that occurs, `Rep g st cur` ("the accumulator of `st` is the sum of the pending
integrations `cur`"), holds for the freshly constructed detector with `cur = []` (`Rep.init`).
-/

namespace HcipyVerif.Detector
open HcipyVerif.Binning

variable {K : Type} [Field K]

/-- **Read-out = sum since the last read-out**, for every history, from every state that
represents some pending integrations `cur`: the images returned are, in order, the sums
`Σ bin(p)·dt·w` over the completed exposures, and the final state represents the integrations
made after the last read-out. -/
theorem readout_is_sum_from (g : Geom) (ops : List (Op K)) (st : St K) (cur : List (List K × K × K))
    (hr : Rep g st cur) :
    images (run g st ops).2 = (exposures g cur ops).map (sumCharges g) ∧
      Rep g (run g st ops).1 (pendingFrom g cur ops) := by
  -- along the recursion of `exposures`: no operation left, a read-out, an integration of the right size, a refused one
  fun_induction exposures g cur ops generalizing st with
  | case1 => exact ⟨rfl, hr⟩
  | case2 cur ops ih =>
    obtain ⟨h1, h2⟩ := ih _ (Rep.init g)
    exact ⟨congrArg₂ List.cons hr.img h1, h2⟩
  | case3 cur p dt w ops hp ih =>
    rw [run_cons, images_step_integrate, pendingFrom, if_pos hp]
    exact ih _ (hr.integrate p dt w hp)
  | case4 cur p dt w ops hp ih =>
    rw [run_cons, images_step_integrate, pendingFrom, if_neg hp]
    simpa only [step, Detector.integrate, if_neg hp] using ih st hr

/-- **C17, first clause**: on a freshly constructed detector, for every history, the `k`-th
read-out is the sum over the integrations of the `k`-th exposure of `power·dt·weight` (binned
onto the detector grid) — the zero image when the exposure is empty. -/
theorem readout_is_sum (g : Geom) (ops : List (Op K)) :
    images (run g ({} : St K) ops).2 = (exposures g [] ops).map (sumCharges g) :=
  (readout_is_sum_from g ops {} [] (Rep.init g)).1

/-- what a read-out issued right after the history `ops` returns -/
theorem next_readout_is_sum (g : Geom) (ops : List (Op K)) :
    (step g (run g ({} : St K) ops).1 .readOut).2 = .image (sumCharges g (pendingFrom g [] ops)) :=
  congrArg Obs.image (readout_is_sum_from g ops {} [] (Rep.init g)).2.img

set_option linter.unusedVariables false in
/-- **Pixel by pixel**: pixel `i` of the sum image is `Σ_j bin(p_j)[i]·dt_j·w_j` (for every `i`: outside the grid both
sides are 0). -/
theorem sumCharges_pixel (g : Geom) (l : List (List K × K × K)) (hv : Valid g l) (i : Nat)
    (hi : i < g.npix) :
    (sumCharges g l).getD i 0 =
      (l.map fun x => (binNDs g.ss g.dims x.1).getD i 0 * x.2.1 * x.2.2).sum := by
  simp only [sumCharges_eq_vsum, vsum_getD _ _ hv.charges, List.map_map, Function.comp_def, charge_getD]

/-- **Reset**: a read-out leaves the detector in the state of a freshly constructed one, so
whatever follows is independent of everything that happened before. -/
theorem readout_resets (g : Geom) (st : St K) (ops : List (Op K)) :
    (step g st .readOut).1 = ({} : St K) ∧
      (run g st (.readOut :: ops)).2.tail = (run g ({} : St K) ops).2 := by
  constructor <;> simp [run_cons, step, readOut]

/-- two read-outs in a row: the second image is the zero image -/
theorem readout_twice_zero (g : Geom) (st : St K) :
    (run g st [.readOut, .readOut]).2.tail = [.image (vzero g.npix)] := by
  simp [run_cons, run_nil, step, readOut]

/-- **Value semantics of returned images**: the images returned during a history are a prefix of
the images returned during any extension of it — later operations cannot change them. -/
theorem returned_images_immutable (g : Geom) (st : St K) (ops more : List (Op K)) :
    images (run g st (ops ++ more)).2 =
      images (run g st ops).2 ++ images (run g (run g st ops).1 more).2 := by
  rw [run_append, images_append]

/-- **Images live on the detector grid**: every image returned has exactly `npix` pixels. -/
theorem on_detector_grid (g : Geom) (ops : List (Op K)) :
    ∀ img ∈ images (run g ({} : St K) ops).2, img.length = g.npix := by
  rw [readout_is_sum]
  intro img h
  obtain ⟨e, he, rfl⟩ := List.mem_map.mp h
  apply sumCharges_length
  exact exposures_valid g ops [] (Valid.nil g) e he

/-! ### well-sized histories

The model refuses an integration whose power array has not the size of the input grid (`Obs.refused`,
state unchanged) — what `reshape` raising does in the code, and what `NoiselessDetector` with
subsampling 1 does after the repair D170 (before it, that one detector kind accepted any array; the
harness sends wrong-size arrays and compares refusal and the unchanged state).  Independently of how a
wrong-size array is treated, the clauses hold for every history that contains none: -/

/-- a well-sized history is never refused -/
theorem wellsized_never_refused (g : Geom) (ops : List (Op K)) (h : WellSized g ops) (st : St K) :
    Obs.refused ∉ (run g st ops).2 := by
  induction ops generalizing st with
  | nil => simp [run_nil]
  | cons op ops ih =>
    rw [run_cons]
    intro hm
    rcases List.mem_cons.mp hm with h1 | h1
    · cases op with
      | readOut => simp [step, readOut] at h1
      | integrate p dt w => simp [step, Detector.integrate, h.head_integrate] at h1
    · exact ih h.tail _ h1

/-- **first clause, for well-sized histories**: no size test occurs in the statement — the images are
the sums over *all* integrations between consecutive read-outs -/
theorem readout_is_sum_wellsized (g : Geom) (ops : List (Op K)) (h : WellSized g ops) :
    images (run g ({} : St K) ops).2 = (exposuresAll [] ops).map (sumCharges g) := by
  rw [readout_is_sum, exposures_eq_all g ops [] h]

/-- **Pixel by pixel, assembled**: the `k`-th image a history returns exists as soon as there is a
`k`-th exposure, and its pixel `i` is `Σ_j bin(p_j)[i]·dt_j·w_j` over the integrations of that
exposure.  (Which fine pixels `bin(p)[i]` adds up: `readout_pixel_index` below.) -/
theorem readout_pixel (g : Geom) (ops : List (Op K)) (k : Nat) (e : List (List K × K × K))
    (he : (exposures g [] ops)[k]? = some e) (i : Nat) (hi : i < g.npix) :
    ∃ img, (images (run g ({} : St K) ops).2)[k]? = some img ∧
      img.getD i 0 = (e.map fun x => (binNDs g.ss g.dims x.1).getD i 0 * x.2.1 * x.2.2).sum := by
  refine ⟨sumCharges g e, ?_, ?_⟩
  · rw [readout_is_sum, List.getElem?_map, he]; rfl
  · exact sumCharges_pixel g e
      (exposures_valid g ops [] (Valid.nil g) e (List.mem_of_getElem? he)) i hi

/-- **Pixel by pixel, down to the fine samples**: pixel `c` (multi-index on the detector grid) of the `k`-th
image is `Σ_j (Σ_{r in the s×…×s box of c} p_j[fine index of c·s + r])·dt_j·w_j` — `boxSums` is that box sum in closed
form (Model/Binning.lean).  No `binND` occurs on the right-hand side: a binning that permuted pixels would
violate this. -/
theorem readout_pixel_index (g : Geom) (ops : List (Op K)) (k : Nat) (e : List (List K × K × K))
    (he : (exposures g [] ops)[k]? = some e) (c : List Nat) (hc : InBounds g.dims c) :
    ∃ img, (images (run g ({} : St K) ops).2)[k]? = some img ∧
      img.getD (flatIdx g.dims c) 0 = (e.map fun x =>
        boxSums g.dims g.ss c (fun f => x.1.getD f 0) * x.2.1 * x.2.2).sum := by
  obtain ⟨img, h1, h2⟩ := readout_pixel g ops k e he (flatIdx g.dims c) (flatIdx_lt g.dims c hc)
  refine ⟨img, h1, ?_⟩
  rw [h2]
  congr 1
  apply List.map_congr_left
  intro x hx
  have hv := exposures_valid g ops [] (Valid.nil g) e (List.mem_of_getElem? he) x hx
  rw [binNDs_getD g.dims g.ss c g.hl hc x.1 hv]

example : WellSized (Geom.uniform [1, 2] 2)
    ([.readOut, .integrate [1, 2, 3, 4, 5, 6, 7, 8] (1/2) 3, .readOut] : List (Op Rat)) := by decide

/-- **Binning conserves counts** (`statistic='sum'`, any shape, any per-axis factors): stated about the binning the
detector model executes, `binNDs g.ss g.dims`. -/
theorem binning_conserves_counts (g : Geom) (p : List K) (h : p.length = g.ninput) :
    (binNDs g.ss g.dims p).sum = p.sum :=
  binNDs_sum g.ss g.dims p h

/-- one common factor `s` (`subsamping=<scalar>`) is the per-axis detector with `s` on every axis: its binning is
`binND s`, its input grid has `fineSize s dims` samples -/
theorem uniform_is_scalar_factor (dims : List Nat) (s : Nat) (p : List K) :
    binNDs (Geom.uniform dims s).ss (Geom.uniform dims s).dims p = binND s dims p ∧
      (Geom.uniform dims s).ninput = fineSize s dims :=
  ⟨binNDs_replicate s dims p, fineSizes_replicate s dims⟩

/-- total counts of a read-out = `Σ_j total(p_j)·dt_j·w_j`: nothing is lost or created by the
sub-pixel binning or by the accumulation. -/
theorem readout_total (g : Geom) (l : List (List K × K × K)) (hv : Valid g l) :
    (sumCharges g l).sum = (l.map fun x => x.1.sum * x.2.1 * x.2.2).sum := by
  rw [sumCharges_eq_vsum, vsum_sum _ _ hv.charges, List.map_map]
  exact congrArg _ (List.map_congr_left fun x hx => by
    rw [Function.comp, charge_sum, binNDs_sum g.ss g.dims x.1 (hv x hx)])

/-- **A noisy detector with all noise sources off returns the same observations as the noiseless
one**, operation by operation, for every history.  The statement is about `pRun`/`pStep`, the
definitions the driver executes for every noisy detector (`Driver/C17.lean`, kind `noisy`), started
from `allOff g` = `NoisyDetector(grid, 0, 0, 0, False, s)`. -/
theorem noisy_off_eq_noiseless [DecidableEq K] (g : Geom) (ops : List (Op K)) :
    (pRun g (allOff g : PSt K) (ops.map lift)).2 = (run g ({} : St K) ops).2 := by
  -- the simulation of `setters_off_eq_noiseless`: the accumulators agree while the exposure is clean; here it always is
  have key : ∀ (ops : List (Op K)) (pst : PSt K) (st : St K), ParamsOff g pst → (pst.clean = true → pst.acc = st.acc) →
      Sized g.npix st.acc →
      (pRun g pst (ops.map lift)).2 = (run g st ops).2 := by
    intro ops
    induction ops with
    | nil => intro _ _ _ _ _; rfl
    | cons op ops ih =>
      intro pst st hoff hacc hlen
      rw [List.map_cons, pRun_cons, run_cons]
      refine congrArg₂ _ ?_ (ih _ _ (hoff.step _ (offOp_lift g op)) (pStep_lift_acc op hacc hlen)
        (step_acc_length g st op hlen))
      cases op with
      | readOut => exact pStep_readOut_snd hoff.off hacc hlen
      | integrate p dt w => by_cases hp : p.length = g.ninput <;> simp [lift, pStep, step, Detector.integrate, hp]
  exact key ops _ _ (allOff_paramsOff g) (fun _ => rfl) (Sized.none _)

/-- **The "everything is off" flag is true whenever nothing was switched on**: from a state in
which every noise parameter has its off value, along any history of integrations, read-outs and
assignments of *off* values (re-assigning what is already off, in any spelling), every read-out is
flagged `off`.  (`pReads` pairs each read-out with `PSt.off`, the flag the driver prints and the
harness compares with its own account of the real object's parameters.) -/
theorem off_flag_true [DecidableEq K] (g : Geom) (ops : List (POp K))
    (hops : ∀ op ∈ ops, OffOp g op = true) (pst : PSt K) (h : ParamsOff g pst) :
    ∀ r ∈ pReads g pst ops, r.1 = true := by
  fun_induction pReads g pst ops with
  | case1 => exact fun _ hr => nomatch hr
  | case2 pst ops ih =>
    exact List.forall_mem_cons.2 ⟨h.off, ih (fun o ho => hops o (List.mem_cons_of_mem _ ho)) (h.step _ (hops _ List.mem_cons_self))⟩
  | case3 pst op ops _ ih =>
    exact ih (fun o ho => hops o (List.mem_cons_of_mem _ ho)) (h.step _ (hops _ List.mem_cons_self))

/-- the flag on the freshly constructed all-off detector with no setters at all -/
theorem off_flag_true_no_setters [DecidableEq K] (g : Geom) (ops : List (Op K)) :
    ∀ r ∈ pReads g (allOff g : PSt K) (ops.map lift), r.1 = true :=
  off_flag_true g _ (by intro op ho; obtain ⟨o, _, rfl⟩ := List.mem_map.mp ho; exact offOp_lift g o) _
    (allOff_paramsOff g)

/-- **Parameter setters between operations**: `flat_field`, `dark_current_rate`, `read_noise`,
`include_photon_noise` may be assigned at any point of a history.  Whenever a read-out happens
while every noise source is off *now* (unit flat field, zero read noise, no photon noise) and no
dark current was in force during the integrations of that exposure, it returns exactly what the
noiseless detector returns at the same point of the history with the setters removed — whatever
the parameters were before, and whatever was assigned and re-assigned in between. -/
theorem setters_off_eq_noiseless [DecidableEq K] (g : Geom) :
    ∀ (ops : List (POp K)) (pst : PSt K) (st : St K),
      (pst.clean = true → pst.acc = st.acc) →
      (∀ a, st.acc = some a → a.length = g.npix) →
      List.Forall₂ (fun (r : Bool × Obs K) (o : Obs K) => r.1 = true → r.2 = o)
        (pReads g pst ops) (reads g st (strip ops)) := by
  intro ops
  induction ops with
  | nil => intro _ _ _ _; exact List.Forall₂.nil
  | cons op ops ih =>
    intro pst st hacc hlen
    cases op with
    | readOut =>
      simp only [pReads, strip, reads]
      exact List.Forall₂.cons (fun hoff => pStep_readOut_snd hoff hacc hlen)
        (ih _ _ (pStep_lift_acc .readOut hacc hlen) (step_acc_length g st .readOut hlen))
    | integrate p dt w =>
      simp only [pReads, strip, reads]
      exact ih _ _ (pStep_lift_acc (.integrate p dt w) hacc hlen) (step_acc_length g st _ hlen)
    | setFlat m | setDark m | setSigma m | setPhoton m =>
      simp only [pReads, strip]
      -- a setter leaves `acc` and `clean` as they are, by definition
      exact ih _ st hacc hlen

/-- **Clause 4 with setters, unconditional form**: on a noisy detector constructed with everything
off, along any history in which parameters are only ever assigned their off values, *every*
read-out equals the noiseless detector's read-out at the same point of the history without the
setters (the flag of `setters_off_eq_noiseless` is discharged by `off_flag_true`). -/
theorem off_setters_eq_noiseless [DecidableEq K] (g : Geom) (ops : List (POp K))
    (hops : ∀ op ∈ ops, OffOp g op = true) :
    (pReads g (allOff g : PSt K) ops).map Prod.snd = reads g ({} : St K) (strip ops) := by
  rw [← List.forall₂_eq_eq_eq, List.forall₂_map_left_iff]
  exact ((List.forall₂_and_left _ _).2 ⟨off_flag_true g ops hops _ (allOff_paramsOff g),
    setters_off_eq_noiseless g ops (allOff g) {} (fun _ => rfl) (Sized.none _)⟩).imp fun _ _ h => h.2 h.1

/-- the seeded-defect shape, concretely: scalar 0 (unit map) → explicit map → scalar 0 again: the
last read-out is flagged "off" and equals the noiseless image -/
example :
    pReads (Geom.uniform [2] 1)
      ({ flat := [1, 1], dark := [0, 0], sigma := [0, 0] } : PSt Rat)
      [.setFlat [2, 3], .integrate [1, 1] 1 1, .readOut, .setFlat [1, 1], .integrate [1, 2] 1 1, .readOut]
      = [(false, .image [2, 3]), (true, .image [1, 2])] := by decide +kernel

/-! ### noise sources on: the order of operations of `NoisyDetector.read_out` (`pReadOutRng`, driver op `readrng`) -/

section
variable [DecidableEq K]

/-- **Read-out resets, noise or no noise**: whatever the draws, the state after a noisy read-out is the state after
the deterministic one — accumulator empty — so nothing of one exposure's noise leaks into the next. -/
theorem noisy_readout_resets (g : Geom) (pst : PSt K) (δ z : List K) :
    (pReadOutRng g pst δ z).1 = (pStep g pst .readOut).1 ∧ (pReadOutRng g pst δ z).1.acc = none ∧
      (pReadOutRng g pst δ z).1.lam g = vzero g.npix := by
  refine ⟨?_, rfl, rfl⟩
  rw [pStep_readOut_fst]; rfl

/-- **Bridge to the deterministic read-out**: with photon noise off and zero read noise the draws do not matter:
`pReadOutRng` is the read-out `pStep` performs (the op `read` of the driver). -/
theorem noisy_readout_deterministic (g : Geom) (pst : PSt K) (δ z : List K)
    (hdet : pst.deterministic g = true) (hz : z.length = g.npix)
    (hl : (vmul (pst.lam g) pst.flat).length = g.npix) :
    (pStep g pst .readOut).2 = .image (pReadOutRng g pst δ z).2 := by
  have hd := hdet
  simp only [PSt.deterministic, Bool.and_eq_true, Bool.not_eq_true', decide_eq_true_eq] at hd
  simp only [pStep, hdet, if_true, pReadOutRng, noisyImage, hd.1, hd.2, Bool.false_eq_true, if_false]
  rw [vmul_vzero_left _ _ hz, vadd_vzero_right _ _ hl]
  rfl

/-- **Every noise source at its neutral value: the pipeline is the identity** on the accumulated charge, whatever the
draws. -/
theorem noise_neutral_identity (g : Geom) (pst : PSt K) (δ z : List K) (hoff : ParamsOff g pst)
    (hz : z.length = g.npix) (hl : (pst.lam g).length = g.npix) :
    (pReadOutRng g pst δ z).2 = pst.lam g := by
  simp only [pReadOutRng, noisyImage, hoff.photon, hoff.flat, hoff.sigma, Bool.false_eq_true, if_false]
  rw [vmul_vzero_left _ _ hz, vmul_ones _ _ hl, vadd_vzero_right _ _ hl]

/-- **What the photon-noise stage sees** (order of operations, first half): after the integrations `l` of an exposure
the accumulated charge — the expectation handed to the Poisson draw — is `Σ_j bin(p_j)·dt_j·w_j + dark·Σ_j dt_j·w_j`:
binned power *and* dark current, not yet multiplied by the flat field, no read noise. -/
theorem noisy_charge_is_sum_plus_dark (g : Geom) (l : List (List K × K × K)) (hv : Valid g l) (pst : PSt K)
    (h0 : pst.acc = none) (hd : pst.dark.length = g.npix) :
    (pIntegrateAll g pst l).lam g = vadd (sumCharges g l) (pst.dark.map (· * darkTime l)) := by
  have := (pIntegrateAll_rep g l hv pst [] (PRep.init g pst h0 hd)).lam
  obtain ⟨a, c, h⟩ := pIntegrateAll_frame g l pst
  rw [h] at this ⊢
  exact this

/-- **Binning conserves counts before the noise**: the total charge handed to the photon-noise stage is
`Σ_j total(p_j)·dt_j·w_j` plus the dark counts `Σ_i dark_i · Σ_j dt_j·w_j`. -/
theorem noisy_charge_total (g : Geom) (l : List (List K × K × K)) (hv : Valid g l) (pst : PSt K)
    (h0 : pst.acc = none) (hd : pst.dark.length = g.npix) :
    ((pIntegrateAll g pst l).lam g).sum =
      (l.map fun x => x.1.sum * x.2.1 * x.2.2).sum + pst.dark.sum * darkTime l := by
  rw [noisy_charge_is_sum_plus_dark g l hv pst h0 hd,
    vadd_sum _ _ (by rw [sumCharges_length g l hv]; simp [hd]), readout_total g l hv, List.sum_map_mul_right]
  simp

/-- **The noise pipeline, pixel by pixel** (order of operations, complete): an exposure `l` on an empty detector
followed by a read-out whose draws came out as `δ` (Poisson deviation) and `z` (read-noise deviates) gives, in pixel
`i`, `((Σ_j bin(p_j)[i]·dt_j·w_j + dark_i·Σ_j dt_j·w_j) + [photon noise] δ_i) · flat_i + σ_i·z_i`: the dark current is
inside the Poisson expectation, the flat field multiplies charge and photon noise, the read noise is added last and
is not multiplied by the flat field. -/
theorem noisy_exposure_pixel (g : Geom) (l : List (List K × K × K)) (hv : Valid g l) (pst : PSt K)
    (h0 : pst.acc = none) (hd : pst.dark.length = g.npix) (hf : pst.flat.length = g.npix)
    (hs : pst.sigma.length = g.npix) (δ z : List K) (hδ : δ.length = g.npix) (hz : z.length = g.npix)
    (i : Nat) (hi : i < g.npix) :
    (pReadOutRng g (pIntegrateAll g pst l) δ z).2.getD i 0 =
      (((l.map fun x => (binNDs g.ss g.dims x.1).getD i 0 * x.2.1 * x.2.2).sum + pst.dark.getD i 0 * darkTime l)
        + (if pst.photon then δ.getD i 0 else 0)) * pst.flat.getD i 0 + pst.sigma.getD i 0 * z.getD i 0 := by
  have hlam := noisy_charge_is_sum_plus_dark g l hv pst h0 hd
  have hS := sumCharges_length g l hv
  have hD : (pst.dark.map (· * darkTime l)).length = g.npix := by rw [List.length_map, hd]
  have hL : ((pIntegrateAll g pst l).lam g).length = g.npix := by rw [hlam, vadd_length, hS, hD, Nat.min_self]
  -- the parameters the read-out uses are those of `pst`
  obtain ⟨a, c, h⟩ := pIntegrateAll_frame g l pst
  rw [h] at hlam hL ⊢
  rw [pReadOutRng, noisyImage_getD g _ δ z g.npix hL hf hs hδ hz, hlam,
    vadd_getD _ _ _ (hS.trans hD.symm), sumCharges_pixel g l hv i hi, ListFacts.getD_map_of_eq (· * darkTime l) (zero_mul _)]

/-- the hypotheses of the noise theorems are satisfiable, and the formula on a concrete exposure: per-axis factors
`[1, 2]`, dark current ½, flat field `[2, 3]`, read noise `[1, ½]`, photon noise on -/
example :
    let g : Geom := { dims := [1, 2], ss := [1, 2] }
    let pst : PSt Rat := { flat := [2, 3], dark := [1/2, 1/2], sigma := [1, 1/2], photon := true }
    Valid g [([1, 2, 3, 4], (1 : Rat), (2 : Rat))] ∧ pst.acc = none ∧ pst.dark.length = g.npix ∧
      (pIntegrateAll g pst [([1, 2, 3, 4], 1, 2)]).lam g = [7, 15] ∧
      (pReadOutRng g (pIntegrateAll g pst [([1, 2, 3, 4], 1, 2)]) [1, -1] [2, 4]).2 = [18, 44] := by
  refine ⟨by intro x hx; simp at hx; subst hx; decide +kernel, rfl, by decide +kernel, by decide +kernel, by decide +kernel⟩

end

/-! ### the grid an image is labelled with -/

/-- **Images live on the detector grid — the grid label**: whatever the caller hands to `integrate` (a Field on the
input grid, a Field on a foreign grid, a plain array), every image of every history is labelled with the
detector grid (driver ops `tint` / `tread`, compared with `image.grid` of the real object). -/
theorem image_grid_is_detector_grid (ops : List TOp) (st : TSt)
    (h : st.acc = none ∨ st.acc = some .detector) : ∀ t ∈ tRunWith relabel st ops, t = .detector := by
  induction ops generalizing st with
  | nil => simp [tRunWith]
  | cons op ops ih =>
    cases op with
    | integrate p =>
      simp only [tRunWith, tStepWith]
      apply ih
      rcases h with h | h <;> simp [h, tagAdd, relabel]
    | readOut =>
      simp only [tRunWith, tStepWith, List.mem_cons]
      rintro t (rfl | ht)
      · rcases h with h | h <;> simp [h]
      · exact ih _ (Or.inl rfl) t ht

/-! ### reference level: aliasing

Model/Detector.lean `rStep`: arrays are heap cells, the caller holds handles and may write through them. -/

/-- **Bridge reference level → value level**: with arrays as heap cells and the caller free to overwrite every
array it holds (buffers it passed in, images it got back) at any time, the images the read-outs return — each
as it is when it is returned — are those of the value model `run` on the history in which every integration
sees the content its buffer has at the call.  So every theorem above about `run` (`readout_is_sum`,
`readout_pixel_index`, `readout_total`, …) holds for the reference-level detector, whatever the caller scribbles. -/
theorem ref_images_eq_value_images (g : Geom) (ops : List (ROp K)) (st : RSt K) (h : RInv st) :
    rImages g st ops = images (run g (absSt st) (valueOps g st ops)).2 := by
  induction ops generalizing st with
  | nil => simp [rImages, valueOps, run_nil, images]
  | cons op ops ih =>
    have hi := rStep_inv g st op h
    cases op with
    | alloc v =>
      simp only [rImages, valueOps]
      rw [ih _ hi, absSt_frame h rfl]
    | write r v =>
      simp only [rImages, valueOps]
      rw [ih _ hi, absSt_frame h (by simp only [rStep]; split <;> rfl)]
    | integrate buf dt w =>
      simp only [rImages, valueOps, run_cons]
      rw [ih _ hi, absSt_integrate g st buf dt w, images_step_integrate]
    | readOut =>
      obtain ⟨e1, e2⟩ := absSt_readOut g st
      simp only [rImages, valueOps, run_cons]
      rw [ih _ hi, e1, e2]
      simp [images]

/-- **No aliasing**: an array the caller holds (a buffer it passed in, an image it got back) keeps its
content through every later operation of the detector; only the caller's own writes to *that* array
change it. -/
theorem caller_arrays_untouched (g : Geom) (ops : List (ROp K)) (st : RSt K) (h : RInv st) (r : Nat)
    (hr : r ∈ st.known) (hw : ∀ v, ROp.write r v ∉ ops) : (rRun g st ops).1.at r = st.at r := by
  induction ops generalizing st with
  | nil => rfl
  | cons op ops ih =>
    exact (ih _ (rStep_inv g st op h) (rStep_known_sub g st op r hr) fun v hv => hw v (List.mem_cons_of_mem _ hv)).trans
      (rStep_at g st op r (h.known_lt r hr) fun v e => absurd (e ▸ List.mem_cons_self) (hw v))

/-- the first clause at reference level: the images are the sums over the exposures of the value history -/
theorem ref_readout_is_sum (g : Geom) (ops : List (ROp K)) :
    rImages g ({} : RSt K) ops = (exposures g [] (valueOps g {} ops)).map (sumCharges g) := by
  rw [ref_images_eq_value_images g ops {} RInv.init]
  exact readout_is_sum g _

/-- the hypotheses of `caller_arrays_untouched` are satisfiable, and a write to another array is allowed -/
example : RInv (rRun (Geom.uniform [2] 1) ({} : RSt Rat) [.alloc [1, 2], .integrate 0 2 1]).1 ∧
    (0 : Nat) ∈ (rRun (Geom.uniform [2] 1) ({} : RSt Rat) [.alloc [1, 2], .integrate 0 2 1]).1.known :=
  ⟨by
    have h0 : RInv ({} : RSt Rat) := RInv.init
    exact rStep_inv _ _ _ (rStep_inv _ _ _ h0), by decide +kernel⟩

/-! ### non-vacuity: a concrete history -/

example :
    images (run (Geom.uniform [1, 2] 2) ({} : St Rat)
      [.readOut, .integrate [1, 2, 3, 4, 5, 6, 7, 8] (1/2) 3, .integrate [1, 1, 1, 1, 1, 1, 1, 1] 2 1,
       .readOut, .readOut]).2 = [[0, 0], [29, 41], [0, 0]] := by decide +kernel

/-- one factor per axis: a 1×2 detector with factors (2, 3) — input 2×6, slowest axis first — over two integrations -/
example :
    images (run ({ dims := [1, 2], ss := [2, 3] } : Geom) ({} : St Rat)
      [.integrate [1, 2, 3, 4, 5, 6, 7, 8, 9, 10, 11, 12] 1 1, .integrate [1, 1, 1, 1, 1, 1, 1, 1, 1, 1, 1, 1] (1/2) 2,
       .readOut, .readOut]).2 = [[36, 54], [0, 0]] ∧
    WellSized ({ dims := [1, 2], ss := [2, 3] } : Geom)
      ([.integrate [1, 2, 3, 4, 5, 6, 7, 8, 9, 10, 11, 12] 1 1, .readOut] : List (Op Rat)) := by
  decide +kernel

/-- `allOff` is what the driver builds for `new noisy <s> <dims> 0 -`, and the flag is `true` on it -/
example : (allOff (Geom.uniform [2] 1) : PSt Rat).flat = [1, 1] ∧
    (allOff (Geom.uniform [2] 1) : PSt Rat).dark = [0, 0] ∧
    pReads (Geom.uniform [2] 1) (allOff (Geom.uniform [2] 1) : PSt Rat)
      [.setFlat [1, 1], .integrate [1, 2] 1 1, .setPhoton false, .readOut] = [(true, .image [1, 2])] := by
  refine ⟨by decide +kernel, by decide +kernel, by decide +kernel⟩

/-! ### re-used wavefront objects, parameter maps on other grids -/

/-- **Re-used wavefront objects** (driver ops `wcreate` / `wfield` / `wweights` / `wint` / `wread`): the caller keeps
Wavefront objects, changes their electric field or the weights of their grid at any time and integrates the same
object again.  What the detector observes is the value-level history `run` in which every integration sees
`|E|²·weights` of what its wavefront holds **at the call** — so every theorem about `run` (`readout_is_sum`,
`readout_pixel_index`, `readout_total`, …) holds for such histories; no power computed earlier survives an edit. -/
theorem reused_wavefront_eq_value_history (g : Geom) (ops : List (WOp K)) (st : WSt K) :
    wRun g st ops = (run g st.det (wValueOps st.wfs ops)).2 := by
  induction ops generalizing st with
  | nil => simp [wRun, wValueOps, run_nil]
  | cons op ops ih =>
    cases op with
    | integrate j dt w | readOut => simp only [wRun, wStep, wValueOps, run_cons]; rw [ih]
    | create re im wt | setField j re im | setWeights j wt => simp only [wRun, wStep, wValueOps]; rw [ih]

/-- **Read-out = sum of the powers the re-used wavefronts had when they were integrated**: the images of a history
with re-used, edited wavefront objects are the sums `Σ bin(|E_j|²·w_j)·dt·w` over the exposures, with `E_j`, `w_j` the
contents at the time of the `j`-th call. -/
theorem reused_wavefront_readout_is_sum (g : Geom) (ops : List (WOp K)) (wfs : List (Wf K)) :
    images (wRun g { det := {}, wfs := wfs } ops) = (exposures g [] (wValueOps wfs ops)).map (sumCharges g) := by
  rw [reused_wavefront_eq_value_history]
  exact readout_is_sum g (wValueOps wfs ops)

/-- the seeded shape: integrate, edit the same object in place, integrate again, read out — the image is the sum of
the two binned powers, the second one of the **edited** contents -/
theorem reintegrated_after_edit (g : Geom) (f : Wf K) (re im : List K) (dt₁ w₁ dt₂ w₂ : K)
    (h₁ : f.power.length = g.ninput) (h₂ : ({ f with re := re, im := im } : Wf K).power.length = g.ninput) :
    images (wRun g { det := {}, wfs := [f] } [.integrate 0 dt₁ w₁, .setField 0 re im, .integrate 0 dt₂ w₂, .readOut]) =
      [sumCharges g [(f.power, dt₁, w₁), (({ f with re := re, im := im } : Wf K).power, dt₂, w₂)]] := by
  rw [reused_wavefront_readout_is_sum]
  simp [wValueOps, wfsStep, wfAt, exposures, h₁, h₂]

example : ∃ (g : Geom) (f : Wf ℚ) (re im : List ℚ), f.power.length = g.ninput ∧
    ({ f with re := re, im := im } : Wf ℚ).power.length = g.ninput :=
  ⟨Geom.uniform [2] 1, ⟨[1, 2], [0, 1], [1, 1]⟩, [0, 0], [1, 1], by decide, by decide⟩

/-- **Images of the noisy detector live on the detector grid, whatever grid the parameter maps live on** (driver ops
`ntset` / `ntint` / `ntread`, compared with `image.grid` of the real `NoisyDetector`): flat field, dark current
and read noise may be scalars, plain arrays or Fields on any grid object, set in the constructor or between any two
operations — every image of every history carries the detector grid. -/
theorem noisy_image_grid_is_detector_grid (ops : List NTOp) (st : NTSt)
    (h : st.acc = none ∨ st.acc = some .detector) : ∀ t ∈ ntRun st ops, t = .detector := by
  induction ops generalizing st with
  | nil => simp [ntRun]
  | cons op ops ih =>
    cases op with
    | integrate p =>
      simp only [ntRun, ntStep]
      apply ih
      rcases h with h | h <;> simp [h, tagOp, relabel]
    | readOut =>
      simp only [ntRun, ntStep, tagOp, List.mem_cons]
      rintro t (rfl | ht)
      · rcases h with h | h <;> simp [h]
      · exact ih _ (Or.inl rfl) t ht
    | setDark m | setFlat m | setSigma m => simp only [ntRun, ntStep]; exact ih _ h

example : (({} : NTSt).acc = none ∨ ({} : NTSt).acc = some .detector) := Or.inl rfl

/-! ### Linear accumulation in time -/

/-- **Time-additivity of an exposure**: integrating the same light with the same weight for `dt₁` and then for `dt₂`
accumulates exactly what one integration of `dt₁ + dt₂` accumulates, after any pending integrations `l`. -/
theorem integrate_split_time (g : Geom) (l : List (List K × K × K)) (p : List K) (dt₁ dt₂ w : K) :
    sumCharges g (l ++ [(p, dt₁, w), (p, dt₂, w)]) = sumCharges g (l ++ [(p, dt₁ + dt₂, w)]) := by
  -- the two integrations are two steps of the fold `sumCharges`
  simp only [sumCharges, List.foldl_append, List.foldl_cons, List.foldl_nil, vadd_assoc_det, ← charge_add_dt]

example : sumCharges (Geom.uniform [2] 1) ([] ++ [(([1, 2] : List Rat), (1/2 : Rat), (1 : Rat)), ([1, 2], 1/4, 1)]) = [3/4, 3/2] := by
  decide +kernel

/-- **Homogeneity of an exposure in the incident power**: making every integrated power image `c` times brighter makes
the accumulated image `c` times brighter, for every detector geometry (any subsampling), every list of integrations. -/
theorem exposure_scales_with_power (g : Geom) (c : K) (l : List (List K × K × K)) :
    sumCharges g (l.map fun x => (x.1.map (c * ·), x.2)) = (sumCharges g l).map (c * ·) := by
  simp only [sumCharges_eq_vsum, ← vsum_smul, List.map_map, Function.comp_def, binNDs_smul, charge_smul_power]

example : sumCharges (Geom.uniform [1] 2) ([(([1, 2] : List Rat), (1/2 : Rat), (1 : Rat))].map fun x => (x.1.map ((3 : Rat) * ·), x.2))
    = [9/2] := by decide +kernel

/-- **Additivity in the weight**: integrating the same light for the same time with weights `w₁` and then `w₂`
(two spectral channels of a broadband exposure, say) accumulates what one integration with weight `w₁ + w₂` does. -/
theorem integrate_split_weight (g : Geom) (l : List (List K × K × K)) (p : List K) (dt w₁ w₂ : K) :
    sumCharges g (l ++ [(p, dt, w₁), (p, dt, w₂)]) = sumCharges g (l ++ [(p, dt, w₁ + w₂)]) := by
  simp only [sumCharges, List.foldl_append, List.foldl_cons, List.foldl_nil, vadd_assoc_det, ← charge_add_w]

end HcipyVerif.Detector
