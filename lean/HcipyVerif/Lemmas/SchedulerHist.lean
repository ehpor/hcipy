import HcipyVerif.Lemmas.SchedulerTile
import Mathlib.Data.List.Induction

/-! C20, histories of interface calls (`add_callback` / `evolve_until`): one call (`stepOp_*`), the
hypotheses `AddsFrom` / `NoFuelOut` of the history theorem as instances of `EachCall`,
`history_induction`, what holds of every history (`HCons`; `created_keys`: where the created entries
come from), the functions that decide the hypotheses, and the invariant `HInv` the hypotheses give. -/

namespace HcipyVerif.Scheduler

theorem runOps_nil (kids : Entry → List (Rat × Nat)) (fuel : Nat) (h : Hist) :
    runOps kids fuel h [] = h := rfl

theorem runOps_cons (kids : Entry → List (Rat × Nat)) (fuel : Nat) (h : Hist) (op : Op) (ops : List Op) :
    runOps kids fuel h (op :: ops) = runOps kids fuel (stepOp kids fuel h op) ops := rfl

theorem runOps_append (kids : Entry → List (Rat × Nat)) (fuel : Nat) (h : Hist) (a b : List Op) :
    runOps kids fuel h (a ++ b) = runOps kids fuel (runOps kids fuel h a) b :=
  List.foldl_append

theorem runOps_snoc (kids : Entry → List (Rat × Nat)) (fuel : Nat) (h : Hist) (ops : List Op) (op : Op) :
    runOps kids fuel h (ops ++ [op]) = stepOp kids fuel (runOps kids fuel h ops) op :=
  runOps_append kids fuel h ops [op]

theorem stepOp_backwards (kids : Entry → List (Rat × Nat)) (fuel : Nat) (h : Hist) (T : Rat)
    (hT : T < h.s.t) : stepOp kids fuel h (.evolve T) = h := by
  simp only [stepOp, evolveUntil_backwards hT, if_true, fired, spawned, List.append_nil]

theorem stepOp_forward (kids : Entry → List (Rat × Nat)) (fuel : Nat) (h : Hist) (T : Rat)
    (hT : h.s.t ≤ T) : stepOp kids fuel h (.evolve T) =
      { s := (loop kids T fuel h.s).s, hz := if h.hz < T then T else h.hz,
        trace := h.trace ++ (loop kids T fuel h.s).trace,
        created := h.created ++ spawned kids h.s.ctr (fired (loop kids T fuel h.s).trace) } := by
  simp only [stepOp, evolveUntil_forward hT, if_neg (loop_runs kids T fuel h.s).not_backwards]

theorem stepOp_add (kids : Entry → List (Rat × Nat)) (fuel : Nat) (h : Hist) (t : Rat) (id : Nat) :
    stepOp kids fuel h (.add t id) =
      { h with s := addCallback h.s t id, created := h.created ++ [⟨t, h.s.ctr, id⟩] } := rfl

/-- every call `op` of `ops`, run from `h`, satisfies `C` at the history it is issued in -/
def EachCall (C : Hist → Op → Prop) (kids : Entry → List (Rat × Nat)) (fuel : Nat) (h : Hist)
    (ops : List Op) : Prop :=
  ∀ pre op post, ops = pre ++ op :: post → C (runOps kids fuel h pre) op

section EachCall
variable {C : Hist → Op → Prop} {kids : Entry → List (Rat × Nat)} {fuel : Nat} {h : Hist}

theorem eachCall_nil : EachCall C kids fuel h [] := fun pre _ _ he => by cases pre <;> cases he

theorem eachCall_cons {op : Op} {ops : List Op} :
    EachCall C kids fuel h (op :: ops) ↔ C h op ∧ EachCall C kids fuel (stepOp kids fuel h op) ops := by
  constructor
  · intro H
    exact ⟨H [] op ops rfl, fun pre x post he => H (op :: pre) x post (by rw [he]; rfl)⟩
  · rintro ⟨H1, H2⟩ pre x post he
    cases pre with
    | nil => cases he; exact H1
    | cons p pre' => cases he; exact H2 pre' x post rfl

theorem eachCall_append {a b : List Op} :
    EachCall C kids fuel h (a ++ b) ↔
      EachCall C kids fuel h a ∧ EachCall C kids fuel (runOps kids fuel h a) b := by
  induction a generalizing h with
  | nil => exact (and_iff_right eachCall_nil).symm
  | cons op a ih => rw [List.cons_append, eachCall_cons, eachCall_cons, ih, and_assoc, runOps_cons]

theorem eachCall_snoc {ops : List Op} {op : Op} :
    EachCall C kids fuel h (ops ++ [op]) ↔
      EachCall C kids fuel h ops ∧ C (runOps kids fuel h ops) op := by
  rw [eachCall_append, eachCall_cons]
  exact and_congr_right' (and_iff_left eachCall_nil)

end EachCall

/-- Every `add_callback(t, ·)` of the history is issued at a state `h` with `f h ≤ t`
(`f = (·.s.t)`: not before the clock; `f = (·.hz)`: not before the time already evolved to). -/
def AddsFrom (f : Hist → Rat) (kids : Entry → List (Rat × Nat)) (fuel : Nat) (ops : List Op) : Prop :=
  ∀ pre t id post, ops = pre ++ Op.add t id :: post → f (runOps kids fuel hinit pre) ≤ t

/-- No `evolve_until` of the history exhausts the fuel (i.e. every one of them returns). -/
def NoFuelOut (kids : Entry → List (Rat × Nat)) (fuel : Nat) (ops : List Op) : Prop :=
  ∀ pre T post, ops = pre ++ Op.evolve T :: post →
    (evolveUntil kids fuel (runOps kids fuel hinit pre).s T).status ≠ .outOfFuel

/-- what `AddsFrom f` asks of a single call -/
def AddOk (f : Hist → Rat) (h : Hist) : Op → Prop
  | .add t _ => f h ≤ t
  | .evolve _ => True

/-- what `NoFuelOut` asks of a single call -/
def EvolveOk (kids : Entry → List (Rat × Nat)) (fuel : Nat) (h : Hist) : Op → Prop
  | .add .. => True
  | .evolve T => (evolveUntil kids fuel h.s T).status ≠ .outOfFuel

theorem addsFrom_iff {f : Hist → Rat} {kids : Entry → List (Rat × Nat)} {fuel : Nat} {ops : List Op} :
    AddsFrom f kids fuel ops ↔ EachCall (AddOk f) kids fuel hinit ops :=
  ⟨fun H pre op post he => by cases op <;> [exact H pre _ _ post he; trivial],
    fun H pre t id post he => H pre _ post he⟩

theorem noFuelOut_iff {kids : Entry → List (Rat × Nat)} {fuel : Nat} {ops : List Op} :
    NoFuelOut kids fuel ops ↔ EachCall (EvolveOk kids fuel) kids fuel hinit ops :=
  ⟨fun H pre op post he => by cases op <;> [trivial; exact H pre _ post he],
    fun H pre T post he => H pre _ post he⟩

theorem addsFrom_nil (f : Hist → Rat) (kids : Entry → List (Rat × Nat)) (fuel : Nat) :
    AddsFrom f kids fuel [] :=
  addsFrom_iff.mpr eachCall_nil

theorem noFuelOut_nil (kids : Entry → List (Rat × Nat)) (fuel : Nat) : NoFuelOut kids fuel [] :=
  noFuelOut_iff.mpr eachCall_nil

theorem noFuelOut_prefix {kids : Entry → List (Rat × Nat)} {f : Nat} {a b : List Op}
    (h : NoFuelOut kids f (a ++ b)) : NoFuelOut kids f a :=
  noFuelOut_iff.mpr (eachCall_append.mp (noFuelOut_iff.mp h)).1

theorem history_induction {kids : Entry → List (Rat × Nat)} {fuel : Nat} {C : Hist → Op → Prop}
    {P : Hist → Prop} (init : P hinit)
    (add : ∀ h t id, P h → C h (.add t id) → P (stepOp kids fuel h (.add t id)))
    (evolve : ∀ h T, P h → C h (.evolve T) → h.s.t ≤ T → P (stepOp kids fuel h (.evolve T)))
    {ops : List Op} (hc : EachCall C kids fuel hinit ops) : P (runOps kids fuel hinit ops) := by
  induction ops using List.reverseRecOn with
  | nil => exact init
  | append_singleton ops op ih =>
    obtain ⟨h1, h2⟩ := eachCall_snoc.mp hc
    rw [runOps_snoc]
    cases op with
    | add t id => exact add _ t id (ih h1) h2
    | evolve T =>
      rcases lt_or_ge T (runOps kids fuel hinit ops).s.t with hT | hT
      · rw [stepOp_backwards kids fuel _ T hT]; exact ih h1
      · exact evolve _ T (ih h1) h2 hT

structure HCons (h : Hist) : Prop where
  /-- executed + pending is a rearrangement of everything ever created -/
  perm : (fired h.trace ++ h.s.queue).Perm h.created
  /-- the created entries carry the counters `0, 1, …, ctr - 1` in creation order -/
  ctrs : h.created.map (·.ctr) = List.range h.s.ctr
  /-- the whole event history is clock-consistent from time 0 to the current clock -/
  tiles : Consistent 0 h.trace h.s.t

theorem hcons_init : HCons hinit := ⟨List.Perm.refl _, rfl, rfl⟩

theorem hcons_run (kids : Entry → List (Rat × Nat)) (fuel : Nat) (ops : List Op) :
    HCons (runOps kids fuel hinit ops) := by
  refine history_induction (C := fun _ _ => True) hcons_init ?_ ?_ fun _ _ _ _ => trivial
  · intro h t id hc _
    refine ⟨?_, ?_, hc.tiles⟩
    · refine ((insert_perm _ _).append_left _).trans (List.perm_middle.trans ?_)
      exact (List.perm_append_singleton _ _).symm.trans (hc.perm.append_right _)
    · simp only [stepOp_add, addCallback, List.map_append, hc.ctrs, List.map_cons, List.map_nil,
        List.range_succ]
  · intro h T hc _ hT
    rw [stepOp_forward kids fuel h T hT]
    have hr := loop_runs kids T fuel h.s
    refine ⟨?_, ?_, hc.tiles.append hr.consistent⟩
    · simp only [fired_append, List.append_assoc]
      refine (hr.perm.append_left _).trans ?_
      rw [← List.append_assoc]
      exact hc.perm.append_right _
    · simp only [List.map_append, hc.ctrs, spawned_ctr, hr.ctr, List.range_eq_range']
      have := @List.range'_append_1 0 h.s.ctr (nKids kids (fired (loop kids T fuel h.s).trace))
      rwa [Nat.zero_add] at this

theorem HCons.created_nodup {h : Hist} (hc : HCons h) : h.created.Nodup :=
  nodup_of_ctr_nodup (by rw [hc.ctrs]; exact List.nodup_range)

theorem HCons.nodup {h : Hist} (hc : HCons h) : (fired h.trace ++ h.s.queue).Nodup :=
  hc.perm.nodup_iff.mpr hc.created_nodup

/-- what an interface call asks to be scheduled -/
def Op.added : Op → List (Rat × Nat)
  | .add t id => [(t, id)]
  | .evolve _ => []

theorem Op.mem_added {k : Rat × Nat} {op : Op} : k ∈ op.added ↔ op = .add k.1 k.2 := by
  cases op <;> simp [Op.added, Prod.ext_iff, eq_comm]

/-- the created entries, read as what they were created for, are the `add_callback`s of the history and the
children of the executed callbacks -/
theorem created_keys (kids : Entry → List (Rat × Nat)) (fuel : Nat) (ops : List Op) :
    ((runOps kids fuel hinit ops).created.map Entry.key).Perm
      (ops.flatMap Op.added ++ (fired (runOps kids fuel hinit ops).trace).flatMap kids) := by
  induction ops using List.reverseRecOn with
  | nil => rfl
  | append_singleton ops op ih =>
    rw [runOps_snoc, List.flatMap_append, List.flatMap_singleton]
    cases op with
    | add t id =>
      rw [stepOp_add, List.map_append, List.append_assoc]
      exact (ih.append_right _).trans ((List.append_assoc ..).symm ▸ List.perm_append_comm.append_left _)
    | evolve T =>
      rcases lt_or_ge T (runOps kids fuel hinit ops).s.t with hT | hT
      · rw [stepOp_backwards kids fuel _ T hT, Op.added, List.append_nil]; exact ih
      · rw [stepOp_forward kids fuel _ T hT, Op.added, List.append_nil, List.map_append, spawned_eq,
          mkEntries_key, fired_append, List.flatMap_append, ← List.append_assoc]
        exact ih.append_right _

theorem addsFromB_iff (f : Hist → Rat) (kids : Entry → List (Rat × Nat)) (fuel : Nat) (ops : List Op) (h : Hist) :
    addsFromB f kids fuel h ops = true ↔ EachCall (AddOk f) kids fuel h ops := by
  fun_induction addsFromB f kids fuel h ops with
  | case1 => exact iff_of_true rfl eachCall_nil
  | case2 h t id ops ih => rw [eachCall_cons, ← ih, Bool.and_eq_true, decide_eq_true_eq]; rfl
  | case3 h T ops ih => rw [eachCall_cons, ← ih]; exact (and_iff_right trivial).symm

theorem noFuelOutB_iff (kids : Entry → List (Rat × Nat)) (fuel : Nat) (ops : List Op) (h : Hist) :
    noFuelOutB kids fuel h ops = true ↔ EachCall (EvolveOk kids fuel) kids fuel h ops := by
  fun_induction noFuelOutB kids fuel h ops with
  | case1 => exact iff_of_true rfl eachCall_nil
  | case2 h t id ops ih => rw [eachCall_cons, ← ih]; exact (and_iff_right trivial).symm
  | case3 h T ops ih => rw [eachCall_cons, ← ih, Bool.and_eq_true, decide_eq_true_eq]; rfl

/-- The history invariant under the hypotheses of the history theorem. -/
structure HInv (h : Hist) : Prop where
  inv : Inv h.s
  /-- the clock never passes the time evolved to … -/
  t_le : h.s.t ≤ h.hz
  /-- … and lags it by at most the coalescing threshold -/
  lag : h.hz - h.s.t ≤ eps
  /-- whatever is still queued is due at or after the time evolved to -/
  pending : ∀ q ∈ h.s.queue, h.hz ≤ q.time
  /-- everything executed so far, over all evolutions, ran in strict `(time, counter)` order -/
  sorted : Sorted (fired h.trace)
  /-- everything executed so far was due strictly before the time evolved to -/
  below : ∀ f ∈ fired h.trace, f.time < h.hz ∧ f.ctr < h.s.ctr
  /-- every callback ever executed ran with the clock at most `eps` behind its time -/
  clock : ∀ e clk, Event.fire e clk ∈ h.trace → clk ≤ e.time ∧ e.time - clk ≤ eps

theorem hinv_init : HInv hinit :=
  ⟨inv_init, le_refl _, (sub_self (0 : Rat)).trans_le (le_of_lt eps_pos), List.forall_mem_nil _, sorted_nil,
    List.forall_mem_nil _, fun _ _ h => absurd h List.not_mem_nil⟩

end HcipyVerif.Scheduler
