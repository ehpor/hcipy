import HcipyVerif.Model.Scheduler
import Mathlib.Tactic.Linarith
import Mathlib.Algebra.Order.Field.Rat

/-! C20, the data of the scheduler model, in this order: the key order, sorted insertion, `mkEntries` /
`addAll`, `advance`, the threshold `eps` among the doubles, the projections of a trace, and the entries
executed callbacks spawn.  Nothing here mentions the loop. -/

namespace HcipyVerif.Scheduler

theorem Entry.lt_irrefl (a : Entry) : ¬ a.lt a := by
  rintro (h | ⟨_, h⟩)
  · exact _root_.lt_irrefl _ h
  · exact Nat.lt_irrefl _ h

theorem Entry.time_le_of_lt {a b : Entry} (h : a.lt b) : a.time ≤ b.time := by
  rcases h with h | ⟨h, _⟩
  · exact le_of_lt h
  · exact le_of_eq h

theorem Entry.lt_trans {a b c : Entry} (h1 : a.lt b) (h2 : b.lt c) : a.lt c := by
  rcases h1 with h1 | ⟨h1, h1'⟩
  · exact Or.inl (lt_of_lt_of_le h1 (Entry.time_le_of_lt h2))
  · rcases h2 with h2 | ⟨h2, h2'⟩
    · exact Or.inl (lt_of_le_of_lt (le_of_eq h1) h2)
    · exact Or.inr ⟨h1.trans h2, Nat.lt_trans h1' h2'⟩

theorem Entry.lt_of_not_lt {a b : Entry} (h : ¬ a.lt b) (hc : a.ctr ≠ b.ctr) : b.lt a := by
  rcases lt_trichotomy a.time b.time with h1 | h1 | h1
  · exact absurd (Or.inl h1) h
  · rcases Nat.lt_or_gt_of_ne hc with h2 | h2
    · exact absurd (Or.inr ⟨h1, h2⟩) h
    · exact Or.inr ⟨h1.symm, h2⟩
  · exact Or.inl h1

theorem Entry.lt_of_le_of_ctr {b q : Entry} (ht : b.time ≤ q.time) (hc : b.ctr < q.ctr) : b.lt q := by
  rcases lt_or_eq_of_le ht with h | h
  · exact Or.inl h
  · exact Or.inr ⟨h, hc⟩

/-- the queue invariant: sorted by the strict key order -/
def Sorted (l : List Entry) : Prop := l.Pairwise Entry.lt

theorem sorted_nil : Sorted [] := List.Pairwise.nil

theorem sorted_cons {e : Entry} {l : List Entry} : Sorted (e :: l) ↔ (∀ q ∈ l, e.lt q) ∧ Sorted l :=
  List.pairwise_cons

/-- `Entry.lt` is transitive: below the next entry is below all that follow -/
theorem sorted_cons_cons {x y : Entry} {l : List Entry} : Sorted (x :: y :: l) ↔ x.lt y ∧ Sorted (y :: l) :=
  ⟨fun h => ⟨(sorted_cons.mp h).1 y (List.mem_cons_self ..), (sorted_cons.mp h).2⟩, fun ⟨hxy, hs⟩ =>
    sorted_cons.mpr ⟨List.forall_mem_cons.mpr ⟨hxy, fun q hq => Entry.lt_trans hxy ((sorted_cons.mp hs).1 q hq)⟩, hs⟩⟩

theorem Sorted.le_of_head {l : List Entry} (h : Sorted l) {T : Rat} (hh : ∀ e ∈ l.head?, T ≤ e.time) :
    ∀ q ∈ l, T ≤ q.time := by
  cases l with
  | nil => exact List.forall_mem_nil _
  | cons e rest =>
    have he : T ≤ e.time := hh e rfl
    exact List.forall_mem_cons.mpr ⟨he, fun q hq => he.trans (Entry.time_le_of_lt ((sorted_cons.mp h).1 q hq))⟩

theorem Sorted.nodup {l : List Entry} (h : Sorted l) : l.Nodup :=
  List.Pairwise.imp (R := Entry.lt) (fun {a b} (h : a.lt b) (hab : a = b) => Entry.lt_irrefl b (hab ▸ h)) h

theorem insert_perm (e : Entry) (l : List Entry) : (insert e l).Perm (e :: l) := by
  fun_induction insert e l with
  | case1 => exact .refl _
  | case2 => exact .refl _
  | case3 x xs _ ih => exact (ih.cons x).trans (.swap e x xs)

theorem insert_length (e : Entry) (l : List Entry) : (insert e l).length = l.length + 1 :=
  (insert_perm e l).length_eq

theorem mem_insert {e q : Entry} {l : List Entry} : q ∈ insert e l ↔ q = e ∨ q ∈ l :=
  (insert_perm e l).mem_iff.trans List.mem_cons

theorem forall_mem_insert {e : Entry} {l : List Entry} {p : Entry → Prop} :
    (∀ q ∈ insert e l, p q) ↔ p e ∧ ∀ q ∈ l, p q := by
  simp only [mem_insert, forall_eq_or_imp]

theorem sorted_insert {e : Entry} {l : List Entry} (hs : Sorted l) (hc : ∀ q ∈ l, q.ctr ≠ e.ctr) :
    Sorted (insert e l) := by
  fun_induction insert e l with
  | case1 => exact List.pairwise_singleton _ _
  | case2 x xs h => exact sorted_cons_cons.mpr ⟨h, hs⟩
  | case3 x xs h ih =>
    obtain ⟨hx, hxs⟩ := sorted_cons.mp hs
    exact sorted_cons.mpr ⟨forall_mem_insert.mpr ⟨Entry.lt_of_not_lt h (hc x (List.mem_cons_self ..)).symm, hx⟩,
      ih hxs fun q hq => hc q (List.mem_cons_of_mem _ hq)⟩

theorem mkEntries_length (c : Nat) (l : List (Rat × Nat)) : (mkEntries c l).length = l.length := by
  fun_induction mkEntries c l <;> simp only [List.length_cons, List.length_nil, *]

theorem mkEntries_append (c : Nat) (a b : List (Rat × Nat)) :
    mkEntries c (a ++ b) = mkEntries c a ++ mkEntries (c + a.length) b := by
  fun_induction mkEntries c a <;>
    simp only [List.cons_append, List.nil_append, mkEntries, List.length_cons, List.length_nil, Nat.add_zero,
      Nat.add_assoc, Nat.add_comm 1, *]

theorem mkEntries_ctr (c : Nat) (l : List (Rat × Nat)) :
    (mkEntries c l).map (·.ctr) = List.range' c l.length := by
  fun_induction mkEntries c l <;> simp only [List.map_cons, List.map_nil, List.length_cons, List.length_nil,
    List.range'_succ, List.range'_zero, *]

/-- what a queue entry was created for: the arguments of `add_callback` -/
def Entry.key (q : Entry) : Rat × Nat := (q.time, q.id)

theorem mkEntries_key (c : Nat) (l : List (Rat × Nat)) : (mkEntries c l).map Entry.key = l := by
  fun_induction mkEntries c l <;> simp only [List.map_cons, List.map_nil, Entry.key, *]

theorem mem_mkEntries {c : Nat} {l : List (Rat × Nat)} {q : Entry} (h : q ∈ mkEntries c l) :
    (q.time, q.id) ∈ l ∧ c ≤ q.ctr ∧ q.ctr < c + l.length :=
  ⟨mkEntries_key c l ▸ List.mem_map_of_mem (f := Entry.key) h,
    List.mem_range'_1.mp (mkEntries_ctr c l ▸ List.mem_map_of_mem (f := (·.ctr)) h)⟩

theorem addAll_t (s : Sys) (l : List (Rat × Nat)) : (addAll s l).t = s.t := by
  fun_induction addAll s l with
  | case1 => rfl
  | case2 _ _ _ _ ih => exact ih

theorem addAll_ctr (s : Sys) (l : List (Rat × Nat)) : (addAll s l).ctr = s.ctr + l.length := by
  fun_induction addAll s l with
  | case1 => rfl
  | case2 s _ _ rest ih => rw [ih, List.length_cons, Nat.add_comm rest.length, ← Nat.add_assoc]; rfl

theorem addAll_queue_perm (s : Sys) (l : List (Rat × Nat)) :
    (addAll s l).queue.Perm (s.queue ++ mkEntries s.ctr l) := by
  fun_induction addAll s l with
  | case1 => rw [mkEntries, List.append_nil]
  | case2 s a b _ ih =>
    exact ih.trans (((insert_perm ⟨a, s.ctr, b⟩ s.queue).append_right _).trans List.perm_middle.symm)

theorem addAll_queue_length (s : Sys) (l : List (Rat × Nat)) :
    (addAll s l).queue.length = s.queue.length + l.length := by
  rw [(addAll_queue_perm s l).length_eq, List.length_append, mkEntries_length]

theorem mem_addAll_iff {s : Sys} {l : List (Rat × Nat)} {q : Entry} :
    q ∈ (addAll s l).queue ↔ q ∈ s.queue ∨ q ∈ mkEntries s.ctr l :=
  (addAll_queue_perm s l).mem_iff.trans List.mem_append

theorem mem_addAll {s : Sys} {l : List (Rat × Nat)} {q : Entry} (hq : q ∈ (addAll s l).queue) :
    q ∈ s.queue ∨ (s.ctr ≤ q.ctr ∧ (q.time, q.id) ∈ l) :=
  (mem_addAll_iff.mp hq).imp_right fun h => ⟨(mem_mkEntries h).2.1, (mem_mkEntries h).1⟩

theorem mem_addAll_of_kid {s : Sys} {l : List (Rat × Nat)} {c : Rat × Nat} (hc : c ∈ l) :
    ∃ q ∈ (addAll s l).queue, q.time = c.1 ∧ q.id = c.2 ∧ s.ctr ≤ q.ctr := by
  obtain ⟨q, hq, rfl⟩ := List.mem_map.mp ((mkEntries_key s.ctr l).symm ▸ hc)
  exact ⟨q, mem_addAll_iff.mpr (Or.inr hq), rfl, rfl, (mem_mkEntries hq).2.1⟩

theorem eps_pos : (0 : Rat) < eps := by unfold eps; norm_num

theorem advance_queue (s : Sys) (dt : Rat) : (advance s dt).1.queue = s.queue := by
  unfold advance; split <;> rfl

theorem advance_ctr (s : Sys) (dt : Rat) : (advance s dt).1.ctr = s.ctr := by
  unfold advance; split <;> rfl

theorem advance_events (s : Sys) (q : List Entry) (dt : Rat) :
    (advance { s with queue := q } dt).2 = (advance s dt).2 := by
  unfold advance; split <;> rfl

theorem advance_fired (s : Sys) (dt : Rat) : fired (advance s dt).2 = [] := by
  unfold advance; split <;> rfl

theorem advance_to_t (s : Sys) (τ : Rat) :
    (advance s (τ - s.t)).1.t = if eps < τ - s.t then τ else s.t := by
  unfold advance; split
  · exact add_sub_cancel _ _
  · rfl

theorem advance_lag (s : Sys) (τ : Rat) (h : s.t ≤ τ) :
    (advance s (τ - s.t)).1.t ≤ τ ∧ τ - (advance s (τ - s.t)).1.t ≤ eps := by
  rw [advance_to_t]; split
  · exact ⟨le_refl _, by rw [sub_self]; exact le_of_lt eps_pos⟩
  · exact ⟨h, not_lt.mp ‹_›⟩

theorem advance_ge_sub_eps (s : Sys) (τ : Rat) : τ - eps ≤ (advance s (τ - s.t)).1.t := by
  rw [advance_to_t]; split
  · linarith [eps_pos]
  · linarith

theorem advance_le_of_le (s : Sys) (τ B : Rat) (h1 : s.t ≤ B) (h2 : τ ≤ B) :
    (advance s (τ - s.t)).1.t ≤ B := by
  rw [advance_to_t]; split
  · exact h2
  · exact h1

theorem eps_lt_decimal : eps < 1 / 1000000 := by unfold eps; norm_num

/-- a (generalised) IEEE-754 binary64 number: `m · 2^k` with `|m| < 2^53` (any exponent, so
subnormals and numbers beyond the exponent range are included) -/
def IsDouble (x : Rat) : Prop := ∃ (m : Int) (k : Int), m.natAbs < 2 ^ 53 ∧ x = m * (2 : Rat) ^ k

/-- a double above `eps = M · 2⁻⁷²` is at least `(M + 1) · 2⁻⁷²`: the mantissa `M` has 53 bits, so no
`n · 2^k` with `n < 2^53` lies strictly between the two -/
theorem double_gt_eps {x : Rat} (hx : IsDouble x) (h : eps < x) :
    4722366482869646 / 4722366482869645213696 ≤ x := by
  obtain ⟨m, k, hm, rfl⟩ := hx
  have h2 : (0 : Rat) < 2 := two_pos
  rcases le_or_gt (-72) k with hk | hk
  · -- `x = N · 2⁻⁷²` for the integer `N = m · 2^(k+72)`
    obtain ⟨j, rfl⟩ : ∃ j : Nat, k = (j : Int) + (-72) := ⟨(k + 72).toNat, by omega⟩
    have hN : (m : Rat) * (2 : Rat) ^ ((j : Int) + (-72)) = ((m * 2 ^ j : Int) : Rat) / 2 ^ 72 := by
      rw [zpow_add₀ (ne_of_gt h2), zpow_natCast, zpow_neg, ← div_eq_mul_inv, ← mul_div_assoc]
      push_cast; rfl
    rw [hN] at h ⊢
    have e72 : (2 : Rat) ^ 72 = 4722366482869645213696 := by norm_num
    rw [e72] at h ⊢
    rw [eps, div_lt_div_iff_of_pos_right (by norm_num)] at h
    rw [div_le_div_iff_of_pos_right (by norm_num)]
    have h' : (4722366482869645 : Int) < m * 2 ^ j := by exact_mod_cast h
    exact_mod_cast Int.add_one_le_iff.mpr h'
  · -- `x < 2^53 · 2⁻⁷³ = 2⁻²⁰ < eps`
    exfalso
    have h1 : (m : Rat) < 2 ^ 53 := by
      have : m < 2 ^ 53 := by omega
      exact_mod_cast this
    have h3 : (m : Rat) * (2 : Rat) ^ k ≤ 2 ^ 53 * (2 : Rat) ^ (-73 : Int) := by
      rcases le_or_gt m 0 with hm0 | hm0
      · exact (mul_nonpos_of_nonpos_of_nonneg (by exact_mod_cast hm0) (zpow_nonneg h2.le k)).trans
          (by positivity)
      · exact mul_le_mul h1.le (zpow_le_zpow_right₀ one_le_two (by omega)) (zpow_nonneg h2.le k)
          (by positivity)
    have h4 : (2 : Rat) ^ 53 * (2 : Rat) ^ (-73 : Int) < eps := by unfold eps; norm_num
    exact absurd h (not_lt.mpr (h3.trans h4.le))

theorem sumDt_append (a b : List Event) : sumDt (a ++ b) = sumDt a + sumDt b := by
  fun_induction sumDt a <;> simp only [List.cons_append, List.nil_append, sumDt, zero_add, add_assoc, *]

theorem fired_append (a b : List Event) : fired (a ++ b) = fired a ++ fired b := by
  fun_induction fired a <;> simp only [List.cons_append, List.nil_append, fired, *]

theorem mem_fired {tr : List Event} {e : Entry} : e ∈ fired tr ↔ ∃ clk, Event.fire e clk ∈ tr := by
  induction tr with
  | nil => simp [fired]
  | cons x xs ih => cases x <;> simp [fired, ih, exists_or]

theorem mem_fired_of_fire {tr : List Event} {e : Entry} {clk : Rat} (hm : Event.fire e clk ∈ tr) :
    e ∈ fired tr :=
  mem_fired.mpr ⟨clk, hm⟩

theorem not_fire_mem_advance (s : Sys) (dt : Rat) (e : Entry) (clk : Rat) :
    Event.fire e clk ∉ (advance s dt).2 :=
  fun h => List.not_mem_nil (advance_fired s dt ▸ mem_fired_of_fire h)

theorem lastFireClock_append_fire (t : Rat) (a b : List Event) (e : Entry) (clk : Rat) :
    lastFireClock t (a ++ Event.fire e clk :: b) = lastFireClock clk b := by
  fun_induction lastFireClock t a <;> simp only [List.cons_append, List.nil_append, lastFireClock, *]

theorem lastFireClock_advance (s : Sys) (dt : Rat) : lastFireClock s.t (advance s dt).2 = s.t := by
  unfold advance; split <;> rfl

theorem nKids_append (kids : Entry → List (Rat × Nat)) (a b : List Entry) :
    nKids kids (a ++ b) = nKids kids a + nKids kids b := by
  simp only [nKids, List.map_append, List.sum_append]

theorem nKids_cons (kids : Entry → List (Rat × Nat)) (e : Entry) (l : List Entry) :
    nKids kids (e :: l) = (kids e).length + nKids kids l := by
  simp only [nKids, List.map_cons, List.sum_cons]

/-- the entries spawned by the executed list are the children of all of them, in order, numbered
consecutively -/
theorem spawned_eq (kids : Entry → List (Rat × Nat)) (c : Nat) (l : List Entry) :
    spawned kids c l = mkEntries c (l.flatMap kids) := by
  induction l generalizing c with
  | nil => rfl
  | cons e es ih => rw [spawned, ih, List.flatMap_cons, mkEntries_append]

theorem spawned_length (kids : Entry → List (Rat × Nat)) (c : Nat) (l : List Entry) :
    (spawned kids c l).length = nKids kids l := by
  rw [spawned_eq, mkEntries_length, List.length_flatMap]; rfl

theorem spawned_ctr (kids : Entry → List (Rat × Nat)) (c : Nat) (l : List Entry) :
    (spawned kids c l).map (·.ctr) = List.range' c (nKids kids l) := by
  rw [spawned_eq, mkEntries_ctr, List.length_flatMap]; rfl

theorem spawned_append (kids : Entry → List (Rat × Nat)) (c : Nat) (a b : List Entry) :
    spawned kids c (a ++ b) = spawned kids c a ++ spawned kids (c + nKids kids a) b := by
  rw [spawned_eq, spawned_eq, spawned_eq, List.flatMap_append, mkEntries_append, List.length_flatMap]; rfl

theorem spawned_congr {K K' : Entry → List (Rat × Nat)} (c : Nat) (l : List Entry)
    (h : ∀ x ∈ l, K x = K' x) : spawned K c l = spawned K' c l := by
  rw [spawned_eq, spawned_eq, List.flatMap_def, List.flatMap_def, List.map_congr_left h]

theorem mem_spawned {kids : Entry → List (Rat × Nat)} {c : Nat} {l : List Entry} {q : Entry}
    (h : q ∈ spawned kids c l) : (∃ e ∈ l, (q.time, q.id) ∈ kids e) ∧ c ≤ q.ctr := by
  rw [spawned_eq] at h
  exact ⟨List.mem_flatMap.mp (mem_mkEntries h).1, (mem_mkEntries h).2.1⟩

theorem nodup_of_ctr_nodup {l : List Entry} (h : (l.map (·.ctr)).Nodup) : l.Nodup :=
  List.Pairwise.of_map (·.ctr) (fun a b hab heq => hab (by rw [heq])) h

end HcipyVerif.Scheduler
