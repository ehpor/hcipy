import HcipyVerif.Model.Aperture
import Mathlib.Tactic.NormNum
import Mathlib.Algebra.Order.Ring.Abs
import Mathlib.Data.List.Induction
import HcipyVerif.Lemmas.ListFacts

/-! C12 — masked list operations; the scalars `b2r`, `rabs`, `sq`; the non-separated code path
(`evalPts`) equals the point semantics (`val`); value ranges; counterexamples for the shipped
behaviour. -/

namespace HcipyVerif.Aperture

section Masked
variable {α β : Type}

@[simp] theorem compress_nil_left (v : List α) : compress [] v = [] := rfl

@[simp] theorem compress_nil_right (m : List Bool) : compress m ([] : List α) = [] := by
  cases m <;> rfl

@[simp] theorem compress_cons_true (m : List Bool) (x : α) (v : List α) :
    compress (true :: m) (x :: v) = x :: compress m v := rfl

@[simp] theorem compress_cons_false (m : List Bool) (x : α) (v : List α) :
    compress (false :: m) (x :: v) = compress m v := rfl

@[simp] theorem scatter_nil_left (base sub : List α) : scatter [] base sub = base := rfl

@[simp] theorem scatter_nil_base (m : List Bool) (sub : List α) : scatter m [] sub = [] := by
  cases m <;> rfl

@[simp] theorem scatter_cons_true (m : List Bool) (x s : α) (base sub : List α) :
    scatter (true :: m) (x :: base) (s :: sub) = s :: scatter m base sub := rfl

@[simp] theorem scatter_cons_true_nil (m : List Bool) (x : α) (base : List α) :
    scatter (true :: m) (x :: base) [] = x :: scatter m base [] := rfl

@[simp] theorem scatter_cons_false (m : List Bool) (x : α) (base sub : List α) :
    scatter (false :: m) (x :: base) sub = x :: scatter m base sub := rfl

@[simp] theorem scatterWhere_nil_left (sel : List Bool) (res : List α) (t : α) :
    scatterWhere [] sel res t = res := rfl

@[simp] theorem scatterWhere_nil_res (m sel : List Bool) (t : α) :
    scatterWhere m sel ([] : List α) t = [] := by
  cases m <;> rfl

@[simp] theorem scatterWhere_cons_true (m sel : List Bool) (s : Bool) (x : α) (res : List α) (t : α) :
    scatterWhere (true :: m) (s :: sel) (x :: res) t
      = (if s then t else x) :: scatterWhere m sel res t := rfl

@[simp] theorem scatterWhere_cons_true_nil (m : List Bool) (x : α) (res : List α) (t : α) :
    scatterWhere (true :: m) [] (x :: res) t = x :: scatterWhere m [] res t := rfl

@[simp] theorem scatterWhere_cons_false (m sel : List Bool) (x : α) (res : List α) (t : α) :
    scatterWhere (false :: m) sel (x :: res) t = x :: scatterWhere m sel res t := rfl

/-- `base[m] = g(v[m])` is the element-wise "where" -/
theorem scatter_compress_map (m : List Bool) (base : List β) (v : List α) (g : α → β)
    (h1 : m.length = v.length) (h2 : base.length = v.length) :
    scatter m base ((compress m v).map g)
      = List.zipWith (fun (bx : Bool × β) a => if bx.1 then g a else bx.2) (m.zip base) v := by
  induction m generalizing base v with
  | nil => cases v with
    | nil => cases base with
      | nil => simp
      | cons _ _ => simp at h2
    | cons _ _ => simp at h1
  | cons b m ih =>
    cases v with
    | nil => simp at h1
    | cons a v =>
      cases base with
      | nil => simp at h2
      | cons x base =>
        simp only [List.length_cons, Nat.add_right_cancel_iff] at h1 h2
        cases b <;> simp [ih base v h1 h2]

theorem compress_map_map (pts : List α) (mask : α → Bool) (h : α → β) :
    compress (pts.map mask) (pts.map h) = (compress (pts.map mask) pts).map h := by
  induction pts with
  | nil => simp
  | cons p ps ih => cases hm : mask p <;> simp [hm, ih]

theorem compress_map_eq_filter (f : α → Bool) (l : List α) : compress (l.map f) l = l.filter f := by
  induction l with
  | nil => rfl
  | cons x l ih => cases h : f x <;> simp [h, ih]

theorem scatter_mask_eq_map (pts : List α) (mask : α → Bool) (g : α → Rat) :
    scatter (pts.map mask) (pts.map fun _ => (0 : Rat)) ((compress (pts.map mask) pts).map g)
      = pts.map fun p => if mask p then g p else 0 := by
  induction pts with
  | nil => simp
  | cons p ps ih =>
    cases hm : mask p <;>
      simp only [List.map_cons, hm, compress_cons_true, compress_cons_false, scatter_cons_true,
        scatter_cons_false, ih, if_true, if_false, Bool.false_eq_true]

/-- the compressed array may be a mapped copy (`h`) of the points, as it is in the loop over the segments -/
theorem scatterWhere_eq {γ : Type} (pts : List α) (mask : α → Bool) (h : α → β) (sel : β → Bool)
    (res : α → γ) (t : γ) :
    scatterWhere (pts.map mask) ((compress (pts.map mask) (pts.map h)).map sel) (pts.map res) t
      = pts.map fun p => if mask p && sel (h p) then t else res p := by
  induction pts with
  | nil => simp
  | cons p ps ih => cases hm : mask p <;> simp [hm, ih]

theorem setMask_map {γ : Type} (pts : List α) (sel : α → Bool) (res : α → γ) (t : γ) :
    setMask (pts.map sel) (pts.map res) t = pts.map fun p => if sel p then t else res p := by
  unfold setMask
  induction pts with
  | nil => simp
  | cons p ps ih => simp [ih]

end Masked

theorem b2r_cases (b : Bool) : b2r b = 0 ∨ b2r b = 1 := by
  cases b
  · exact Or.inl rfl
  · exact Or.inr rfl

theorem zero_one_compl {x : Rat} (h : x = 0 ∨ x = 1) : 1 - x = 0 ∨ 1 - x = 1 := by
  rcases h with rfl | rfl
  · exact Or.inr (sub_zero 1)
  · exact Or.inl (sub_self 1)

theorem zero_one_mul {x y : Rat} (hx : x = 0 ∨ x = 1) (hy : y = 0 ∨ y = 1) : x * y = 0 ∨ x * y = 1 := by
  rcases hx with rfl | rfl
  · exact Or.inl (zero_mul y)
  · rwa [one_mul]

theorem zero_one_sub {x y : Rat} (hx : x = 0 ∨ x = 1) (hy : y = 0 ∨ y = 1) (hle : y ≤ x) :
    x - y = 0 ∨ x - y = 1 := by
  rcases hy with rfl | rfl
  · rwa [sub_zero]
  · rcases hx with rfl | rfl
    · exact absurd hle (by norm_num)
    · exact Or.inl (sub_self 1)

theorem mul_mem_unit {a b : Rat} (ha : 0 ≤ a ∧ a ≤ 1) (hb : 0 ≤ b ∧ b ≤ 1) : 0 ≤ a * b ∧ a * b ≤ 1 :=
  ⟨mul_nonneg ha.1 hb.1, mul_le_one₀ ha.2 hb.1 hb.2⟩

theorem b2r_eq_one (b : Bool) : b2r b = 1 ↔ b = true := by
  cases b
  · exact iff_of_false zero_ne_one Bool.false_ne_true
  · exact iff_of_true rfl rfl

theorem one_sub_b2r_eq_zero (b : Bool) : 1 - b2r b = 0 ↔ b = true := by
  rw [sub_eq_zero, eq_comm, b2r_eq_one]

theorem b2r_mul (a b : Bool) : b2r a * b2r b = b2r (a && b) := by
  cases a
  · exact zero_mul _
  · exact one_mul _

theorem b2r_le_b2r {a b : Bool} (h : a = true → b = true) : b2r a ≤ b2r b := by
  cases a
  · cases b2r_cases b with
    | inl h0 => exact h0.ge
    | inr h1 => rw [h1]; exact zero_le_one
  · rw [h rfl]

theorem ite_b2r (m c : Bool) : (if m = true then b2r c else 0) = b2r (m && c) := by
  cases m <;> rfl

theorem b2r_gt_half_iff_true (b : Bool) : b2r b > 1/2 ↔ b = true := by
  cases b
  · exact iff_of_false (by norm_num [b2r]) Bool.false_ne_true
  · exact iff_of_true (by norm_num [b2r]) rfl

theorem decide_b2r_gt_half (b : Bool) : decide (b2r b > 1/2) = b := by
  simp only [b2r_gt_half_iff_true, Bool.decide_eq_true]

/-- `.astype('bool')` of a 0/1 array -/
theorem b2r_ne_zero (b : Bool) : decide (b2r b ≠ 0) = b := by
  cases b
  · exact decide_eq_false (not_not.mpr rfl)
  · exact decide_eq_true one_ne_zero

theorem rabs_eq_abs (x : Rat) : rabs x = |x| := by
  unfold rabs
  split_ifs with h
  · exact (abs_of_nonneg h).symm
  · exact (abs_of_neg (not_le.mp h)).symm

theorem rabs_of_nonneg {x : Rat} (h : 0 ≤ x) : rabs x = x :=
  if_pos h

theorem rabs_nonneg (x : Rat) : 0 ≤ rabs x :=
  rabs_eq_abs x ▸ abs_nonneg x

theorem sq_rabs (x : Rat) : sq (rabs x) = sq x :=
  rabs_eq_abs x ▸ abs_mul_abs_self x

/-- the two spellings of the bounding box, `x² ≤ R²` (fast path) and `|x| ≤ R` (rectangular mask) -/
theorem sq_le_sq_iff_rabs {x r : Rat} (h : 0 ≤ r) : sq x ≤ sq r ↔ rabs x ≤ r := by
  rw [← sq_rabs x]
  exact (mul_self_le_mul_self_iff (rabs_nonneg x) h).symm

theorem sq_le_sq_of_rabs_le {x y : Rat} (h : rabs x ≤ rabs y) : sq x ≤ sq y :=
  sq_rabs y ▸ (sq_le_sq_iff_rabs (rabs_nonneg y)).mpr h

theorem foldl_mul_b2r {ι : Type} (t : ι → Bool) (l : List ι) (c : Bool) :
    l.foldl (fun acc d => acc * b2r (t d)) (b2r c) = b2r (c && l.all t) := by
  induction l generalizing c with
  | nil => rw [List.all_nil, Bool.and_true]; rfl
  | cons d ds ih => rw [List.foldl_cons, b2r_mul, ih, List.all_cons, Bool.and_assoc]

theorem hpProd_eq (even : Bool) (a : Rat) (dirs : List (Rat × Rat)) (x y : Rat) :
    hpProd even a dirs x y = b2r (allHp even a dirs x y) :=
  foldl_mul_b2r (fun d => hp even a d x y) dirs true

/-- the slow path's `(f_sub, m)`: the rectangular mask around the centre and, at the masked points, the
half-plane tests -/
theorem regpolySlowSub_eq (even : Bool) (r a : Rat) (dirs : List (Rat × Rat)) (cx cy : Rat) (pts : List Pt) :
    regpolySlowSub even r a dirs cx cy pts
      = ((compress (pts.map (inRect r r cx cy)) pts).map fun p => b2r (allHp even a dirs (p.1 - cx) (p.2 - cy)),
        pts.map (inRect r r cx cy)) := by
  simp only [regpolySlowSub, hpProd_eq]

theorem regpolySlow_eq (even : Bool) (r a : Rat) (dirs : List (Rat × Rat)) (cx cy : Rat)
    (pts : List Pt) :
    regpolySlow even r a dirs cx cy pts = pts.map (val (.regpoly even r a dirs cx cy)) := by
  rw [regpolySlow, regpolySlowSub_eq]
  dsimp only
  rw [scatter_mask_eq_map]
  exact List.map_congr_left fun p _ => ite_b2r _ _

theorem segFold_map_foldl (pts : List Pt) (segs : List (Pt × Rat))
    (step : List Rat → Pt × Rat → List Rat) (f : Pt → Rat)
    (hstep : ∀ (res : Pt → Rat) (s : Pt × Rat), step (pts.map res) s
      = pts.map fun p => if f (shiftPt s.1.1 s.1.2 p) > 1/2 then s.2 else res p)
    (res : Pt → Rat) :
    segs.foldl step (pts.map res) = pts.map fun p => segFold f p segs (res p) := by
  induction segs generalizing res with
  | nil => rfl
  | cons s segs ih =>
    rw [List.foldl_cons, hstep, ih]
    rfl

theorem evalPts_eq_val (s : Shape) (pts : List Pt) : evalPts s pts = pts.map (val s) := by
  fun_induction evalPts s pts with
  | case1 even r a dirs cx cy pts => exact regpolySlow_eq ..
  | case2 vs hx hy bx by_ pts m =>
    rw [scatter_mask_eq_map]
    exact List.map_congr_left fun p _ => ite_b2r _ _
  | case3 a pts ih | case6 c s a pts ih | case7 dx dy a pts ih => rw [ih, List.map_map]; rfl
  | case4 a b pts iha ihb | case5 a b pts iha ihb => rw [iha, ihb, ListFacts.zipWith_map_same]; rfl
  | case8 segs even r a dirs cx cy pts =>
    refine segFold_map_foldl pts segs _ (val (.regpoly even r a dirs cx cy)) (fun res s => ?_) _
    rw [regpolySlowSub_eq]
    dsimp only
    rw [List.map_map, List.map_map, scatterWhere_eq]
    apply List.map_congr_left
    intro p _
    simp only [Function.comp_def, val, b2r_gt_half_iff_true, inRegpoly, inRect, Bool.decide_eq_true]
  | case9 segs a pts _ ih =>
    refine segFold_map_foldl pts segs _ (val a) (fun res s => ?_) _
    rw [ih, List.map_map, List.map_map, setMask_map]
    simp only [Function.comp_def, decide_eq_true_eq]
  | case10 s pts => rfl

inductive Binary : Shape → Prop
  | circle (r cx cy : Rat) : Binary (.circle r cx cy)
  | disk (r : Rat) : Binary (.disk r)
  | halfplane (gt : Bool) (a b c : Rat) : Binary (.halfplane gt a b c)
  | ellipse (cM sM cm sm cx cy mn : Rat) : Binary (.ellipse cM sM cm sm cx cy mn)
  | rect (hx hy cx cy : Rat) : Binary (.rect hx hy cx cy)
  | regpoly (even : Bool) (r a : Rat) (dirs : List (Rat × Rat)) (cx cy : Rat) :
      Binary (.regpoly even r a dirs cx cy)
  | irrpoly (vs : List Pt) (hx hy bx by_ : Rat) : Binary (.irrpoly vs hx hy bx by_)
  | spider (sx sy c s hl hw : Rat) : Binary (.spider sx sy c s hl hw)
  | spiderInf (px py c s hw : Rat) : Binary (.spiderInf px py c s hw)
  | const0 : Binary (.const 0)
  | const1 : Binary (.const 1)
  | compl {a : Shape} : Binary a → Binary (.compl a)
  | mul {a b : Shape} : Binary a → Binary b → Binary (.mul a b)
  | sub {a b : Shape} : Binary a → Binary b → (∀ p, val b p ≤ val a p) → Binary (.sub a b)
  | rot (c s : Rat) {a : Shape} : Binary a → Binary (.rot c s a)
  | shift (dx dy : Rat) {a : Shape} : Binary a → Binary (.shift dx dy a)
  | seg {segs : List (Pt × Rat)} {a : Shape} : Binary a → (∀ s ∈ segs, s.2 = 1) →
      Binary (.seg segs a)

theorem segFold_snoc (f : Pt → Rat) (p : Pt) (segs : List (Pt × Rat)) (s : Pt × Rat) (init : Rat) :
    segFold f p (segs ++ [s]) init
      = if f (shiftPt s.1.1 s.1.2 p) > 1/2 then s.2 else segFold f p segs init := by
  simp [segFold, List.foldl_append]

theorem segFold_cover (f : Pt → Rat) (p : Pt) (segs : List (Pt × Rat)) (init : Rat) :
    ((∀ s ∈ segs, ¬ f (shiftPt s.1.1 s.1.2 p) > 1/2) ∧ segFold f p segs init = init) ∨
      ∃ s ∈ segs, f (shiftPt s.1.1 s.1.2 p) > 1/2 ∧ segFold f p segs init = s.2 := by
  induction segs using List.reverseRecOn with
  | nil => exact Or.inl ⟨fun _ hs => absurd hs List.not_mem_nil, rfl⟩
  | append_singleton segs s ih =>
    rw [segFold_snoc]
    by_cases hcov : f (shiftPt s.1.1 s.1.2 p) > 1/2
    · exact Or.inr ⟨s, List.mem_append_right _ (List.mem_singleton_self s), hcov, if_pos hcov⟩
    · rw [if_neg hcov]
      rcases ih with ⟨hno, hv⟩ | ⟨s', hs', hc, hv⟩
      · refine Or.inl ⟨fun t ht => ?_, hv⟩
        rcases List.mem_append.mp ht with ht | ht
        · exact hno t ht
        · rwa [List.mem_singleton.mp ht]
      · exact Or.inr ⟨s', List.mem_append_left _ hs', hc, hv⟩

theorem seg_val_mem (segs : List (Pt × Rat)) (a : Shape) (p : Pt) :
    val (.seg segs a) p = 0 ∨ ∃ s ∈ segs, val (.seg segs a) p = s.2 := by
  rcases segFold_cover (val a) p segs 0 with ⟨_, h⟩ | ⟨s, hs, _, h⟩
  · exact Or.inl h
  · exact Or.inr ⟨s, hs, h⟩

theorem binary_seg_unit_transmissions {segs : List (Pt × Rat)} {a : Shape} {p : Pt}
    (h : ∀ s ∈ segs, 0 ≤ s.2 ∧ s.2 ≤ 1) :
    0 ≤ val (.seg segs a) p ∧ val (.seg segs a) p ≤ 1 := by
  rcases seg_val_mem segs a p with h0 | ⟨s, hs, hv⟩
  · rw [h0]; exact ⟨le_rfl, zero_le_one⟩
  · rw [hv]; exact h s hs

theorem binary_val {s : Shape} (h : Binary s) (p : Pt) : val s p = 0 ∨ val s p = 1 := by
  induction h generalizing p with
  | circle | disk | halfplane | ellipse | rect | regpoly | irrpoly => exact b2r_cases _
  | spider | spiderInf => exact zero_one_compl (b2r_cases _)
  | const0 => left; rfl
  | const1 => right; rfl
  | compl _ ih => exact zero_one_compl (ih p)
  | mul _ _ iha ihb => exact zero_one_mul (iha p) (ihb p)
  | sub _ _ hle iha ihb => exact zero_one_sub (iha p) (ihb p) (hle p)
  | rot _ _ _ ih | shift _ _ _ ih => exact ih _
  | @seg segs a _ hs ih =>
    rcases seg_val_mem segs a p with h0 | ⟨s, hs', hv⟩
    · left; exact h0
    · right; rw [hv]; exact hs s hs'

theorem values_in_unit_interval {s : Shape} (h : Binary s) (p : Pt) :
    0 ≤ val s p ∧ val s p ≤ 1 := by
  rcases binary_val h p with h0 | h1
  · rw [h0]; exact ⟨le_rfl, zero_le_one⟩
  · rw [h1]; exact ⟨zero_le_one, le_rfl⟩

theorem circle_sub_le {ri ro cx cy : Rat} {p : Pt} (h : rabs ri ≤ rabs ro) :
    val (.circle ri cx cy) p ≤ val (.circle ro cx cy) p :=
  b2r_le_b2r fun hi => decide_eq_true (le_trans (of_decide_eq_true hi) (sq_le_sq_of_rabs_le h))

theorem circlePolarOld_counterexample :
    ∃ r cx cy p, circlePolarOld r cx cy p ≠ inCircle r cx cy p :=
  ⟨1, 3, 0, (3, 0), by decide +kernel⟩

theorem regpolySlowOld_counterexample :
    ∃ even r a dirs cx cy pts,
      regpolySlowOld even r a dirs cx cy pts ≠ pts.map (val (.regpoly even r a dirs cx cy)) :=
  ⟨true, 1, 7/10, [(1, 0), (0, 1)], 3, 0, [(3, 0)], by decide +kernel⟩

end HcipyVerif.Aperture
