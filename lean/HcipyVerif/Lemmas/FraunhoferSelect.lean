import HcipyVerif.Lemmas.FraunhoferMft
import HcipyVerif.Model.FftSelect

/-!
# C03 — the lens propagator with the transform that `make_fourier_transform` selects

`lensPropagator` is a `FraunhoferPropagator` between two regular Cartesian grids whose Fourier transform is,
**for every wavelength**, the one C01's model of `make_fourier_transform` (`Fft.choose detectFix`, Model/FftSelect.lean) picks
for the descriptor of the scaled grid `uv = focal.scaled(2π/(λ f))`:

* `numFft` (the numerical part of `get_fft_parameters`, exact arithmetic) is `NativeAt`: `λ f ≠ 0` and on both axes
  there is a padded size `M` with `N ≤ M`, `Mo ≤ M`, `M·δ·Δ = λ f`;
* `fftCheaper` (the planner's floating-point estimate) is an oracle input `cheaper : ℝ → Bool`, any function;
* `⟨fft, params⟩` → the model of `FastFourierTransform` (`fftTransform2`, literal 2-D pipeline) on the axis
  configurations `axisCfg` reconstructed from the grids (`uvGrid2_axisCfg`: its output grid *is* the uv grid);
* `⟨mft, _⟩`     → the model of `MatrixFourierTransform` (`mftTransform2`) on the uv grid;
* `⟨naive, _⟩`   → the defining sum (never selected for two regular Cartesian 2-D grids: `lensMethod_ne_naive`).

Nothing about the transform is a hypothesis, and no branch is "correct by definition".
-/

namespace HcipyVerif.FourierLink
open HcipyVerif.Fft HcipyVerif.Fraunhofer

/-- one axis of a regular grid: `n` points `x_j = z + j·δ` -/
structure RegAxis where
  n : ℕ
  δ : ℝ
  z : ℝ

def RegAxis.x (a : RegAxis) (j : ℕ) : ℝ := a.z + (j : ℝ) * a.δ

/-- A regular 2-D Cartesian grid (`CartesianGrid(RegularCoords(delta, dims, zero))`), weights `δy·δx`
(positive spacings). -/
def regGrid2 (ay ax : RegAxis) : Grid (Fin ay.n × Fin ax.n) 2 := sepGrid ax.x ay.x (fun _ => ay.δ * ax.δ)

/-- One axis of `get_fft_parameters(uv, pupil)` in exact arithmetic, `lf = λ f`, `uv` spacing `2π·Δ/lf`:
`q·N = M` is an integer, `q ≥ 1` (`N ≤ M`), the requested number of samples fits (`Mo ≤ M`). -/
def NativeAxis (p F : RegAxis) (lf : ℝ) (M : ℕ) : Prop := p.n ≤ M ∧ F.n ≤ M ∧ (M : ℝ) * (p.δ * F.δ) = lf

/-- `get_fft_parameters` succeeds for the uv grid at `lf = λ f` (both axes). -/
def NativeAt (py px Fy Fx : RegAxis) (lf : ℝ) : Prop :=
  lf ≠ 0 ∧ ∃ My Mx : ℕ, NativeAxis py Fy lf My ∧ NativeAxis px Fx lf Mx

/-- The `FastFourierTransform` axis configuration reconstructed from pupil axis `p`, focal axis `F`, `lf = λ f`
and padded size `M`: output spacing `2π·dT` with `dT = Δ/lf`, shift `s = (2π/lf)·(Z + Δ·⌊Mo/2⌋)`. -/
@[reducible] noncomputable def axisCfg (p F : RegAxis) (lf : ℝ) (M : ℕ) (emu : Bool) : Cfg ℝ ℂ :=
  { N := p.n, M := M, Mo := F.n, δ := p.δ, z := p.z, dT := F.δ / lf,
    s := 2 * Real.pi / lf * (F.z + F.δ * ((F.n / 2 : ℕ) : ℝ)), w := ((p.δ : ℝ) : ℂ), emu := emu }

theorem axisCfg_ok {p F : RegAxis} {lf : ℝ} {M : ℕ} (h : NativeAxis p F lf M) (hlf : lf ≠ 0) (emu : Bool) :
    AxisOK (axisCfg p F lf M emu) := by
  refine ⟨h.1, h.2.1, ?_, rfl⟩
  show F.δ / lf * (M : ℝ) * p.δ = 1
  have := h.2.2
  field_simp
  linarith

/-- **the output grid of the reconstructed `FastFourierTransform` is the scaled focal grid** (C01
`fft_grid_roundtrip'` for the lens): same points, same weights. -/
theorem uvGrid2_axisCfg (py px Fy Fx : RegAxis) (lf : ℝ) (My Mx : ℕ) (emu : Bool) :
    uvGrid2 (axisCfg py Fy lf My emu) (axisCfg px Fx lf Mx emu) = (regGrid2 Fy Fx).scaled (2 * Real.pi / lf) := by
  have hx : ∀ (p F : RegAxis) (M k : ℕ), 2 * Real.pi * (axisCfg p F lf M emu).a k + (axisCfg p F lf M emu).s
      = 2 * Real.pi / lf * F.x k := by
    intro p F M k
    simp only [Cfg.a, RegAxis.x]
    ring
  unfold regGrid2 uvGrid2 sepGrid Grid.scaled
  simp only [hx, sq_abs]
  congr 1
  · funext k i
    fin_cases i <;> rfl
  · funext k
    ring

/-- descriptor of a regular Cartesian 2-D grid -/
def regDesc : GridDesc := ⟨.regular, true, 2⟩

theorem choose_regDesc (numFft cheaper : Bool) :
    Fft.choose detectFix regDesc (some ⟨regDesc, numFft⟩) cheaper
      = some (if numFft then (if cheaper then ⟨.fft, .params⟩ else ⟨.mft, .params⟩) else ⟨.mft, .grid⟩) := by
  cases numFft <;> cases cheaper <;> rfl

theorem choose_regular_cases {numFft cheaper : Bool} {m : Method}
    (hm : (Fft.choose detectFix regDesc (some ⟨regDesc, numFft⟩) cheaper).map (·.method) = some m) :
    m = .mft ∨ (m = .fft ∧ numFft = true) := by
  rw [choose_regDesc] at hm
  obtain rfl := Option.some.inj hm
  cases numFft <;> cases cheaper <;> simp

open Classical in
/-- **What `make_fourier_transform(pupil, uv)` decides** (C01's `choose` with the detection `detectFix`): `numFft` is the
exact `NativeAt`, `cheaper` the outcome of the planner's float comparison. -/
noncomputable def lensChoice (py px Fy Fx : RegAxis) (lf : ℝ) (cheaper : Bool) : Option Choice :=
  Fft.choose detectFix regDesc (some ⟨regDesc, decide (NativeAt py px Fy Fx lf)⟩) cheaper

open Classical in
theorem lensChoice_eq (py px Fy Fx : RegAxis) (lf : ℝ) (c : Bool) :
    lensChoice py px Fy Fx lf c
      = some (if NativeAt py px Fy Fx lf then (if c then ⟨.fft, .params⟩ else ⟨.mft, .params⟩) else ⟨.mft, .grid⟩) := by
  rw [lensChoice, choose_regDesc]
  simp only [decide_eq_true_eq]

/-- the FFT is selected only for FFT-native uv grids -/
theorem lensChoice_fft_native {py px Fy Fx : RegAxis} {lf : ℝ} {c : Bool} {v : Via}
    (h : lensChoice py px Fy Fx lf c = some ⟨.fft, v⟩) : NativeAt py px Fy Fx lf := by
  by_contra hn
  rw [lensChoice_eq, if_neg hn] at h
  simp at h

/-- two regular Cartesian 2-D grids never end up with the naive transform -/
theorem lensMethod_ne_naive (py px Fy Fx : RegAxis) (lf : ℝ) (c : Bool) (v : Via) :
    lensChoice py px Fy Fx lf c ≠ some ⟨.naive, v⟩ := by
  rw [lensChoice_eq]
  split_ifs <;> simp

/-- the `MatrixFourierTransform` `make_instance` builds for `(pupil, focal.scaled(2π/lf))`: output coordinates
in units of 2π are `X/lf`; both grids have constant weights, so both weight arrays take the scalar branch;
`weights_output = w_uv/(2π)² = Δy·Δx/lf²`. -/
noncomputable def mftLens (py px Fy Fx : RegAxis) (lf : ℝ) :
    FourierTransform (Fin py.n × Fin px.n) (Fin Fy.n × Fin Fx.n) :=
  mftTransform2 px.n py.n Fx.n Fy.n px.x py.x (fun k => Fx.x k / lf) (fun k => Fy.x k / lf)
    (.scalar ((py.δ * px.δ : ℝ) : ℂ)) (.scalar (((1 / lf) ^ 2 * (Fy.δ * Fx.δ) : ℝ) : ℂ))

theorem mftLens_isFT (py px Fy Fx : RegAxis) (lf : ℝ) :
    IsFT (mftLens py px Fy Fx lf) (regGrid2 py px) ((regGrid2 Fy Fx).scaled (2 * Real.pi / lf)) := by
  refine ⟨mft2_evaluates _ _ _ _ _ _ _ _ _ _ _ _ _ (fun p => rfl), mft2_adjoint _ _ _ _ _ _ _ _ _ _ _ _ _ fun k => ?_⟩
  show (((1 / lf) ^ 2 * (Fy.δ * Fx.δ) : ℝ) : ℂ) = _
  rw [← Complex.ofReal_div, sq_abs]
  congr 1
  rw [eq_div_iff (pow_ne_zero 2 Real.two_pi_pos.ne')]
  ring

/-- the padded sizes of a native uv grid -/
noncomputable def nativeMy {py px Fy Fx : RegAxis} {lf : ℝ} (h : NativeAt py px Fy Fx lf) : ℕ := h.2.choose
noncomputable def nativeMx {py px Fy Fx : RegAxis} {lf : ℝ} (h : NativeAt py px Fy Fx lf) : ℕ :=
  h.2.choose_spec.choose

theorem native_spec {py px Fy Fx : RegAxis} {lf : ℝ} (h : NativeAt py px Fy Fx lf) :
    NativeAxis py Fy lf (nativeMy h) ∧ NativeAxis px Fx lf (nativeMx h) := h.2.choose_spec.choose_spec

/-- the `FastFourierTransform` model on the axis configurations reconstructed for padded sizes `My Mx` -/
noncomputable def fftAt {py px Fy Fx : RegAxis} {lf : ℝ} {My Mx : ℕ} (hlf : lf ≠ 0) (hy : NativeAxis py Fy lf My)
    (hx : NativeAxis px Fx lf Mx) (emu : Bool) : FourierTransform (Fin py.n × Fin px.n) (Fin Fy.n × Fin Fx.n) :=
  fftTransform2 (axisCfg py Fy lf My emu) (axisCfg px Fx lf Mx emu) (axisCfg_ok hy hlf emu) (axisCfg_ok hx hlf emu) rfl

theorem fftAt_isFT {py px Fy Fx : RegAxis} {lf : ℝ} {My Mx : ℕ} (hlf : lf ≠ 0) (hy : NativeAxis py Fy lf My)
    (hx : NativeAxis px Fx lf Mx) (emu : Bool) :
    IsFT (fftAt hlf hy hx emu) (regGrid2 py px) ((regGrid2 Fy Fx).scaled (2 * Real.pi / lf)) := by
  rw [← uvGrid2_axisCfg py px Fy Fx lf My Mx emu]
  exact fft2_isFT _ _ _ _ _

/-- `fftAt` at the padded sizes `nativeMy`, `nativeMx` of a native uv grid -/
noncomputable def fftLens (py px Fy Fx : RegAxis) (lf : ℝ) (emu : Bool) (h : NativeAt py px Fy Fx lf) :
    FourierTransform (Fin py.n × Fin px.n) (Fin Fy.n × Fin Fx.n) :=
  fftTransform2 (axisCfg py Fy lf (nativeMy h) emu) (axisCfg px Fx lf (nativeMx h) emu)
    (axisCfg_ok (native_spec h).1 h.1 emu) (axisCfg_ok (native_spec h).2 h.1 emu) rfl

open Classical in
/-- **`make_fourier_transform(pupil, focal.scaled(2π/lf))`**: the constructor call on the method selected by
`lensChoice`. -/
noncomputable def lensTransform (py px Fy Fx : RegAxis) (lf : ℝ) (cheaper emu : Bool) :
    FourierTransform (Fin py.n × Fin px.n) (Fin Fy.n × Fin Fx.n) :=
  match (lensChoice py px Fy Fx lf cheaper).map (·.method) with
  | some Method.fft =>
    if h : NativeAt py px Fy Fx lf then fftLens py px Fy Fx lf emu h
    else mftLens py px Fy Fx lf   -- unreachable (`lensChoice_fft_native`)
  | some Method.mft => mftLens py px Fy Fx lf
  | _ => naiveTransform (regGrid2 py px) ((regGrid2 Fy Fx).scaled (2 * Real.pi / lf))

open Classical in
/-- the FFT model exactly when the uv grid is FFT-native and the planner prefers it, the MFT model otherwise -/
theorem lensTransform_eq (py px Fy Fx : RegAxis) (lf : ℝ) (c emu : Bool) :
    lensTransform py px Fy Fx lf c emu
      = if h : NativeAt py px Fy Fx lf ∧ c = true then fftLens py px Fy Fx lf emu h.1 else mftLens py px Fy Fx lf := by
  unfold lensTransform
  rw [lensChoice_eq]
  by_cases h : NativeAt py px Fy Fx lf <;> cases c <;> simp [h]

theorem lensTransform_isFT (py px Fy Fx : RegAxis) (lf : ℝ) (cheaper emu : Bool) :
    IsFT (lensTransform py px Fy Fx lf cheaper emu) (regGrid2 py px) ((regGrid2 Fy Fx).scaled (2 * Real.pi / lf)) := by
  rw [lensTransform_eq]
  split_ifs with h
  · exact fftAt_isFT h.1.1 (native_spec h.1).1 (native_spec h.1).2 emu
  · exact mftLens_isFT _ _ _ _ _

/-- The focal grid is a **full conjugate** of the pupil grid at `lf = λ f`: the padded size is the focal size on
both axes (any position of the grid — the shift does not matter for power and inverse). -/
def FullAt (py px Fy Fx : RegAxis) (lf : ℝ) : Prop :=
  lf ≠ 0 ∧ NativeAxis py Fy lf Fy.n ∧ NativeAxis px Fx lf Fx.n

theorem FullAt.native {py px Fy Fx : RegAxis} {lf : ℝ} (h : FullAt py px Fy Fx lf) : NativeAt py px Fy Fx lf :=
  ⟨h.1, Fy.n, Fx.n, h.2.1, h.2.2⟩

end HcipyVerif.FourierLink
