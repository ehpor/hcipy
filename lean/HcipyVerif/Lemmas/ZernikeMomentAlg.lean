import HcipyVerif.Lemmas.Zernike
import Mathlib.Data.Nat.Choose.Basic
import Mathlib.Algebra.BigOperators.Ring.Finset
import Mathlib.Algebra.Order.BigOperators.Ring.Finset
import Mathlib.Tactic.Positivity
import Mathlib.Tactic.Linarith
import Mathlib.Tactic.FieldSimp

/-! The moments `Σ_i c_i / (n - 2i + e + 1)` of the factorial formula of `R_n^m` (`radialMoment`), in closed form: against
`r^(m+2j)·r` the moment is a partial-fraction sum `Σ_i c_i / (x - i)`, `x = m + K + j + 1`, of one rational function
(`altSum_rise_div`) whose numerator vanishes for `j < K` (`radialMoment_closed`, `radialMoment_spec`).  Rational algebra only. -/

namespace HcipyVerif.Zernike
open Finset

/-- `Σ_{i ≤ K} (-1)^i C(K,i) f i`: the `K`-th difference of `f` at `0`, up to sign -/
def altSum (K : ℕ) (f : ℕ → ℚ) : ℚ := ∑ i ∈ range (K + 1), (-1) ^ i * (K.choose i : ℚ) * f i

/-- Pascal's rule -/
theorem altSum_succ (K : ℕ) (f : ℕ → ℚ) : altSum (K + 1) f = altSum K fun i => f i - f (i + 1) := by
  unfold altSum
  -- `C(K, K+1) = 0` lengthens the sum for `K`; then both sums are split at `i = 0`
  have h : ∑ i ∈ range (K + 1), (-1) ^ i * (K.choose i : ℚ) * f i
      = ∑ i ∈ range (K + 1), (-1) ^ (i + 1) * (K.choose (i + 1) : ℚ) * f (i + 1) + f 0 := by
    rw [sum_range_succ', sum_range_succ _ K, Nat.choose_succ_self, Nat.cast_zero, mul_zero, zero_mul, add_zero,
      Nat.choose_zero_right, pow_zero, Nat.cast_one, one_mul, one_mul]
  simp only [mul_sub, sum_sub_distrib]
  rw [h, sum_range_succ', Nat.choose_zero_right, pow_zero, Nat.cast_one, one_mul, one_mul, add_sub_right_comm,
    ← sum_sub_distrib]
  congr 1
  refine sum_congr rfl fun i _ => ?_
  rw [Nat.choose_succ_succ, pow_succ]
  push_cast
  ring

theorem altSum_lin {K : ℕ} {c d : ℚ} {f g g' : ℕ → ℚ} (h : ∀ i ≤ K, f i = c * g i + d * g' i) :
    altSum K f = c * altSum K g + d * altSum K g' := by
  unfold altSum
  rw [mul_sum, mul_sum, ← sum_add_distrib]
  exact sum_congr rfl fun i hi => by rw [h i (by have := mem_range.mp hi; omega)]; ring

/-- rising product `(z+1)(z+2)⋯(z+K)` -/
def rise (K : ℕ) (z : ℚ) : ℚ := ∏ l ∈ range K, (z + l + 1)

theorem rise_succ (K : ℕ) (z : ℚ) : rise (K + 1) z = rise K z * (z + K + 1) := prod_range_succ _ _

theorem rise_succ' (K : ℕ) (z : ℚ) : rise (K + 1) (z - 1) = rise K z * z := by
  unfold rise
  rw [prod_range_succ']
  simp only [Nat.cast_add, Nat.cast_one, Nat.cast_zero]
  congr 1
  · exact prod_congr rfl fun l _ => by ring
  · ring

theorem rise_pos (K : ℕ) {z : ℚ} (hz : 0 ≤ z) : 0 < rise K z :=
  prod_pos fun l _ => by positivity

theorem rise_natCast (K w : ℕ) : rise K (w : ℚ) * w.factorial = (w + K).factorial := by
  induction K with
  | zero => simp [rise]
  | succ K ih =>
    rw [rise_succ, ← Nat.add_assoc, Nat.factorial_succ]
    push_cast
    linear_combination ((w : ℚ) + K + 1) * ih

/-- Partial fractions: `Σ_{i≤K} (-1)^i C(K,i) (a-i+1)⋯(a-i+K) / (x-i) = K! (x-a-1)⋯(x-a-K) / (x(x-1)⋯(x-K))`.
By Pascal's rule the sum `A K x` on the left satisfies `A (K+1) x = (a+K+1-x) A K x - (a+1-x) A K (x-1)` (the polynomial
parts of the two quotients cancel), and so does the right-hand side. -/
theorem altSum_rise_div (a : ℚ) (K : ℕ) : ∀ x : ℚ, (∀ i ≤ K, x ≠ i) →
    altSum K (fun i => rise K (a - i) / (x - i)) * rise (K + 1) (x - K - 1) = K.factorial * rise K (x - a - K - 1) := by
  induction K with
  | zero =>
    intro x hx
    have := hx 0 (le_refl _)
    simp [altSum, rise] at this ⊢
    field_simp
  | succ K ih =>
    intro x hx
    have hx' : ∀ i ≤ K, x - 1 ≠ i := fun i hi h => hx (i + 1) (by omega) (by push_cast; linear_combination h)
    have hstep : ∀ i ≤ K, rise (K + 1) (a - i) / (x - i) - rise (K + 1) (a - (i + 1 : ℕ)) / (x - (i + 1 : ℕ)) =
        (a + K + 1 - x) * (rise K (a - i) / (x - i)) + (-(a + 1 - x)) * (rise K (a - i) / (x - 1 - i)) := by
      intro i hi
      have h1 := mul_inv_cancel₀ (sub_ne_zero.mpr (hx i (by omega)))
      have h2 := mul_inv_cancel₀ (sub_ne_zero.mpr (hx' i hi))
      rw [show a - ((i + 1 : ℕ) : ℚ) = (a - i) - 1 by push_cast; ring, show x - ((i + 1 : ℕ) : ℚ) = x - 1 - i by push_cast; ring,
        rise_succ, rise_succ']
      linear_combination rise K (a - i) * h1 - rise K (a - i) * h2
    rw [altSum_succ, altSum_lin hstep]
    have h1 := ih x fun i hi => hx i (by omega)
    have h2 := ih (x - 1) hx'
    have d1 := rise_succ' (K + 1) (x - K - 1)
    have d2 := rise_succ (K + 1) (x - 1 - K - 1)
    have q1 := rise_succ' K (x - a - K - 1)
    have q2 := rise_succ K (x - 1 - a - K - 1)
    rw [show x - ((K + 1 : ℕ) : ℚ) - 1 = x - K - 1 - 1 by push_cast; ring,
      show x - a - ((K + 1 : ℕ) : ℚ) - 1 = x - a - K - 1 - 1 by push_cast; ring, Nat.factorial_succ]
    rw [show x - 1 - (K : ℚ) - 1 = x - K - 1 - 1 by ring] at d2 h2
    rw [show x - 1 - a - (K : ℚ) - 1 = x - a - K - 1 - 1 by ring] at q2 h2
    push_cast at d2 ⊢
    linear_combination (a + K + 1 - x) * (x - K - 1) * h1 - (a + 1 - x) * x * h2
      + (a + K + 1 - x) * altSum K (fun i => rise K (a - i) / (x - i)) * d1
      - (a + 1 - x) * altSum K (fun i => rise K (a - i) / (x - 1 - i)) * d2
      + (x - K - 1) * K.factorial * q1 - x * K.factorial * q2

/-- `∫₀¹ R_n^m(x) x^e dx`, term by term on the factorial formula -/
def radialMoment (n m e : Nat) : Rat :=
  ∑ i ∈ range ((n - m) / 2 + 1), defCoeff n m i / ((n - 2 * i + e + 1 : Nat) : Rat)

/-- the factorial coefficient in the variables of `altSum_rise_div`, `(n - m) / 2 = u + i` -/
theorem defCoeff_eq_rise (m u i : ℕ) :
    defCoeff (m + 2 * (u + i)) m i * (u + i).factorial = (-1) ^ i * ((u + i).choose i : ℚ) * rise (u + i) ((m : ℚ) + u) := by
  have hc : (((u + i).choose i * u.factorial * i.factorial : ℕ) : ℚ) = (u + i).factorial := by
    rw [Nat.add_choose_mul_factorial_mul_factorial]
  have hr := rise_natCast (u + i) (m + u)
  unfold defCoeff
  simp only [fact_eq_factorial, show (m + 2 * (u + i) + m) / 2 - i = m + u by omega,
    show (m + 2 * (u + i) - m) / 2 - i = u by omega, show m + 2 * (u + i) - i = m + u + (u + i) by omega]
  push_cast at hc hr ⊢
  rw [div_mul_eq_mul_div, div_eq_iff (by positivity)]
  linear_combination -((-1 : ℚ) ^ i * ((u + i).factorial : ℚ)) * hr
    - (-1 : ℚ) ^ i * rise (u + i) ((m : ℚ) + u) * ((m + u).factorial : ℚ) * hc

/-- **The moments of `R_n^m` against `r^(m+2j)·r`, every order and every `j`** (`n = m + 2K`): the right-hand side has
the factor `j - K + l + 1 = 0` at `l = K - 1 - j` when `j < K`, and is `K!` for `j = K`. -/
theorem radialMoment_closed (m K j : ℕ) :
    radialMoment (m + 2 * K) m (m + 2 * j + 1) * (2 * rise (K + 1) ((m : ℚ) + j)) = rise K ((j : ℚ) - K) := by
  have hxi : ∀ i ≤ K, (m : ℚ) + K + j + 1 ≠ i := fun i hi h => by
    have : ((i : ℕ) : ℚ) ≤ K := by exact_mod_cast hi
    have : (0 : ℚ) ≤ (m : ℚ) + j := by positivity
    linarith
  have key : radialMoment (m + 2 * K) m (m + 2 * j + 1) * (2 * K.factorial) =
      altSum K fun i => rise K ((m : ℚ) + K - i) / ((m : ℚ) + K + j + 1 - i) := by
    unfold radialMoment altSum
    rw [show (m + 2 * K - m) / 2 = K by omega, sum_mul]
    refine sum_congr rfl fun i hi => ?_
    obtain ⟨u, rfl⟩ : ∃ u, K = u + i := ⟨K - i, by have := mem_range.mp hi; omega⟩
    dsimp only
    rw [show ((m + 2 * (u + i) - 2 * i + (m + 2 * j + 1) + 1 : ℕ) : ℚ) = 2 * ((m : ℚ) + (u + i : ℕ) + j + 1 - i) by
        rw [show m + 2 * (u + i) - 2 * i = m + 2 * u by omega]; push_cast; ring,
      show (m : ℚ) + (u + i : ℕ) - i = m + u by push_cast; ring]
    generalize (m : ℚ) + (u + i : ℕ) + j + 1 - i = y
    linear_combination y⁻¹ * defCoeff_eq_rise m u i
  have h := altSum_rise_div ((m : ℚ) + K) K _ hxi
  rw [← key, show (m : ℚ) + K + j + 1 - K - 1 = m + j by ring, show (m : ℚ) + K + j + 1 - (m + K) - K - 1 = j - K by ring] at h
  exact mul_left_cancel₀ (show (K.factorial : ℚ) ≠ 0 by positivity) (by linear_combination h)

theorem radialMoment_spec (n m : Nat) (hm : m ≤ n) (hpar : (n - m) % 2 = 0) :
    (∀ j, m + 2 * j < n → radialMoment n m (m + 2 * j + 1) = 0) ∧
      defCoeff n m 0 * radialMoment n m (n + 1) = 1 / (2 * ((n : Rat) + 1)) := by
  obtain ⟨K, rfl⟩ : ∃ K, n = m + 2 * K := ⟨(n - m) / 2, by omega⟩
  constructor
  · intro j hj
    obtain ⟨s, rfl⟩ : ∃ s, K = j + s + 1 := ⟨K - j - 1, by omega⟩
    have h := radialMoment_closed m (j + s + 1) j
    rw [show rise (j + s + 1) ((j : ℚ) - (j + s + 1 : ℕ)) = 0 from
      prod_eq_zero (mem_range.mpr (show s < j + s + 1 by omega)) (by push_cast; ring)] at h
    exact (mul_eq_zero.mp h).resolve_right (mul_ne_zero two_ne_zero (rise_pos _ (by positivity)).ne')
  · have h := radialMoment_closed m K K
    have hc := defCoeff_eq_rise m K 0
    have hr := rise_natCast K 0
    simp only [Nat.add_zero, pow_zero, Nat.choose_zero_right, Nat.cast_one, one_mul, Nat.factorial_zero, mul_one,
      Nat.cast_zero, zero_add] at hc hr
    rw [sub_self, hr, rise_succ] at h
    have hK : (K.factorial : ℚ) ≠ 0 := by positivity
    rw [eq_div_of_mul_eq hK hc]
    push_cast
    field_simp
    linear_combination h

end HcipyVerif.Zernike
