import HcipyVerif.Model.Interp
import HcipyVerif.Lemmas.Binning
import Mathlib.Algebra.Order.Field.Basic
import Mathlib.Tactic.Linarith
import Mathlib.Tactic.Ring
import Mathlib.Tactic.FieldSimp

set_option linter.unusedSectionVars false

namespace HcipyVerif.Interp
open HcipyVerif.Binning

variable {K : Type} [Field K] [LinearOrder K] [IsStrictOrderedRing K]

/-- strictly increasing knots -/
def StrictInc : List K → Prop
  | a :: b :: rest => a < b ∧ StrictInc (b :: rest)
  | _ => True

/-- the point lies between the first and the last knot of every axis (in either order: the
knots may ascend or descend) -/
def InDomain : List (List K) → List K → Prop
  | [], [] => True
  | ax :: axes, x :: p =>
    (∃ a b, ax.head? = some a ∧ ax.getLast? = some b ∧ ((a ≤ x ∧ x ≤ b) ∨ (b ≤ x ∧ x ≤ a))) ∧ InDomain axes p
  | _, _ => False

/-- strictly decreasing knots -/
def StrictDec : List K → Prop
  | a :: b :: rest => b < a ∧ StrictDec (b :: rest)
  | _ => True

/-- strictly monotone knots: ascending or descending (what `RegularGridInterpolator` accepts) -/
def StrictMono (l : List K) : Prop := StrictInc l ∨ StrictDec l

theorem inLo_inc {a b : K} (h : a < b) (x : K) : inLo a b x = decide (a ≤ x) := by
  simp [inLo, le_of_lt h]

theorem inHi_inc {a b : K} (h : a < b) (x : K) : inHi a b x = decide (x ≤ b) := by
  simp [inHi, le_of_lt h]

theorem inLo_dec {a b : K} (h : b < a) (x : K) : inLo a b x = decide (x ≤ a) := by
  simp [inLo, not_le.mpr h]

theorem inHi_dec {a b : K} (h : b < a) (x : K) : inHi a b x = decide (b ≤ x) := by
  simp [inHi, not_le.mpr h]

theorem strictDec_neg : ∀ (l : List K), StrictDec l → StrictInc (l.map fun t => -t) := by
  intro l
  induction l with
  | nil => intro _; trivial
  | cons a l ih =>
    intro h
    cases l with
    | nil => trivial
    | cons b rest => exact ⟨neg_lt_neg h.1, ih h.2⟩

theorem lerp_neg (a b va vb x : K) : lerp (-a) (-b) va vb (-x) = lerp a b va vb x := by
  unfold lerp
  have h1 : -x - -a = -(x - a) := by ring
  have h2 : -b - -a = -(b - a) := by ring
  rw [h1, h2, mul_neg, neg_div_neg_eq]

theorem knot_gt : ∀ (b : K) (l : List K), StrictInc (b :: l) → ∀ y ∈ l, b < y := by
  intro b l
  induction l generalizing b with
  | nil => intro _ y hy; simp at hy
  | cons c l ih =>
    intro hs y hy
    rcases List.mem_cons.mp hy with rfl | h
    · exact hs.1
    · exact lt_trans hs.1 (ih c hs.2 y h)

theorem knot_ge {b : K} {l : List K} (hs : StrictInc (b :: l)) {y : K} (hy : y ∈ b :: l) : b ≤ y := by
  rcases List.mem_cons.mp hy with rfl | h
  · exact le_refl _
  · exact le_of_lt (knot_gt b l hs y h)

theorem lerp_left (a b va vb : K) : lerp a b va vb a = va := by
  simp [lerp]

theorem lerp_right (a b va vb : K) (h : a ≠ b) : lerp a b va vb b = vb := by
  rw [lerp, mul_div_cancel_right₀ _ (sub_ne_zero.mpr h.symm), add_sub_cancel]

theorem lerp_affine (a b A c x : K) (h : a ≠ b) :
    lerp a b (A + c * a) (A + c * b) x = A + c * x := by
  have : b - a ≠ 0 := sub_ne_zero.mpr (Ne.symm h)
  unfold lerp
  field_simp
  ring

theorem dot_cons (c x : K) (cs p : List K) : dot (c :: cs) (x :: p) = c * x + dot cs p := by
  simp [dot]

theorem affine_cons (c0 c x : K) (cs p : List K) :
    affine c0 (c :: cs) (x :: p) = affine (c0 + c * x) cs p := by
  simp [affine, dot_cons]; ring

theorem affine_add (c0 d : K) (cs p : List K) : affine (c0 + d) cs p = affine c0 cs p + d := by
  simp only [affine, add_right_comm]

theorem affine_nil (c0 : K) : affine c0 [] [] = c0 := by simp [affine, dot]

theorem interpAxis_neg (ext : Bool) (m : Nat) (rec : List K → Option K) :
    ∀ (knots vals : List K) (first : Bool) (x : K), StrictDec knots →
      interpAxis ext m rec first knots vals x
        = interpAxis ext m rec first (knots.map fun t => -t) vals (-x) := by
  intro knots
  induction knots with
  | nil => intro vals first x _; simp [interpAxis]
  | cons a knots ih =>
    intro vals first x hs
    cases knots with
    | nil => simp [interpAxis]
    | cons b rest =>
      have hab : b < a := hs.1
      have hab' : -a < -b := neg_lt_neg hab
      have ih' := ih (vals.drop m) false x hs.2
      simp only [List.map_cons] at ih' ⊢
      rw [interpAxis, interpAxis]
      simp only [inLo_dec hab, inHi_dec hab, inLo_inc hab', inHi_inc hab', neg_le_neg_iff, lerp_neg,
        List.isEmpty_map]
      rw [ih']

/-- `g t`: the block of samples at knot `t`; `rec`: the interpolant along the remaining axes.  The cases are the
branches of `interpAxis`: `x` in the cell `(a, b)` and both blocks interpolated; one of them not; `x` not in the cell;
fewer than two knots. -/
theorem interpAxis_affine_inc (ext : Bool) (m : Nat) (rec : List K → Option K) (A c x : K)
    (g : K → List K) (hg : ∀ t, (g t).length = m) (hrec : ∀ t, rec (g t) = some (A + c * t))
    (knots vals : List K) (first : Bool) (hv : vals = knots.flatMap g) (h2 : 2 ≤ knots.length) (hs : StrictInc knots)
    (hlo : (first = true ∧ ext = true) ∨ ∀ a ∈ knots.head?, a ≤ x)
    (hhi : ext = true ∨ ∀ b ∈ knots.getLast?, x ≤ b) :
    interpAxis ext m rec first knots vals x = some (A + c * x) := by
  have ht : ∀ a l, rec (((a :: l).flatMap g).take m) = some (A + c * a) := fun a l => by
    rw [List.flatMap_cons, List.take_left' (hg a), hrec]
  have hd : ∀ a l, ((a :: l).flatMap g).drop m = l.flatMap g := fun a l => by
    rw [List.flatMap_cons, List.drop_left' (hg a)]
  fun_induction interpAxis ext m rec first knots vals x with
  | case1 first a b rest vals x last hc va vb hvb hva =>
    subst hv
    rw [ht, Option.some.injEq] at hva
    rw [hd, ht, Option.some.injEq] at hvb
    rw [← hva, ← hvb, lerp_affine a b A c x (ne_of_lt hs.1)]
  | case2 first a b rest vals x last hc hn =>
    subst hv
    exact (hn _ _ (ht a _) (by rw [hd, ht])).elim
  | case3 first a b rest vals x last hc ih =>
    subst hv
    have h1 : (ext && first || decide (a ≤ x)) = true := by
      rcases hlo with ⟨hf, he⟩ | h
      · simp [hf, he]
      · simp [h a rfl]
    simp only [inLo_inc hs.1, inHi_inc hs.1, h1, Bool.true_and, Bool.or_eq_true, not_or, Bool.and_eq_true,
      decide_eq_true_eq, last] at hc
    -- `x` is to the right of `b`, so `b` is not the last knot
    match rest, hs, hhi, hc, ih with
    | [], _, hhi, hc, _ => exact absurd (hhi.imp (⟨·, rfl⟩) (· b rfl)) (not_or.mpr hc)
    | k :: rest, hs, hhi, hc, ih =>
      exact ih (hd a _) (by simp) hs.2 (Or.inr fun _ h => Option.some.inj h ▸ le_of_lt (not_le.mp hc.2)) hhi
  | case4 knots _ _ _ hn =>
    match knots, h2 with
    | a :: b :: rest, _ => exact (hn a b rest rfl).elim

theorem head_le_getLast {knots : List K} (hs : StrictInc knots) {f l : K} (hf : knots.head? = some f)
    (hl : knots.getLast? = some l) : f ≤ l := by
  cases knots with
  | nil => nomatch hf
  | cons a rest =>
    cases hf
    exact knot_ge hs (List.mem_of_getLast? hl)

/-- the whole axis, with the domain hypothesis as `InDomain` states it -/
theorem interpAxis_affine_asc (ext : Bool) (m : Nat) (rec : List K → Option K) (A c x : K)
    (g : K → List K) (hg : ∀ t, (g t).length = m) (hrec : ∀ t, rec (g t) = some (A + c * t))
    (knots : List K) (h2 : 2 ≤ knots.length) (hs : StrictInc knots)
    (hin : ext = true ∨ ∃ f l, knots.head? = some f ∧ knots.getLast? = some l ∧ ((f ≤ x ∧ x ≤ l) ∨ (l ≤ x ∧ x ≤ f))) :
    interpAxis ext m rec true knots (knots.flatMap g) x = some (A + c * x) := by
  have hd : ext = true ∨ ∃ f l, knots.head? = some f ∧ knots.getLast? = some l ∧ f ≤ x ∧ x ≤ l :=
    hin.imp id fun ⟨f, l, hf, hl, hd⟩ => ⟨f, l, hf, hl, hd.elim id fun h =>
      have := head_le_getLast hs hf hl
      ⟨this.trans h.1, h.2.trans this⟩⟩
  exact interpAxis_affine_inc ext m rec A c x g hg hrec knots _ true rfl h2 hs
    (hd.imp (⟨rfl, ·⟩) fun ⟨f, l, hf, hl, hd⟩ a ha => Option.some.inj (hf.symm.trans ha) ▸ hd.1)
    (hd.imp id fun ⟨f, l, hf, hl, hd⟩ b hb => Option.some.inj (hl.symm.trans hb) ▸ hd.2)

/-- the knots may ascend or descend: a descending axis is read as the negated axis at the negated point -/
theorem interpAxis_affine (ext : Bool) (m : Nat) (rec : List K → Option K) (A c x : K)
    (g : K → List K) (hg : ∀ t, (g t).length = m) (hrec : ∀ t, rec (g t) = some (A + c * t))
    (knots : List K) (h2 : 2 ≤ knots.length) (hs : StrictMono knots)
    (hin : ext = true ∨ ∃ f l, knots.head? = some f ∧ knots.getLast? = some l ∧ ((f ≤ x ∧ x ≤ l) ∨ (l ≤ x ∧ x ≤ f))) :
    interpAxis ext m rec true knots (knots.flatMap g) x = some (A + c * x) := by
  rcases hs with hs | hs
  · exact interpAxis_affine_asc ext m rec A c x g hg hrec knots h2 hs hin
  · have := interpAxis_affine_asc ext m rec A (-c) (-x) (fun t => g (-t)) (fun t => hg _)
      (fun t => by rw [hrec, mul_neg, neg_mul]) (knots.map fun t => -t) (by simpa using h2) (strictDec_neg _ hs)
      (hin.imp id fun ⟨f, l, hf, hl, hd⟩ => ⟨-f, -l, by simp [hf], by simp [hl],
        hd.symm.imp (fun h => ⟨neg_le_neg h.2, neg_le_neg h.1⟩) fun h => ⟨neg_le_neg h.2, neg_le_neg h.1⟩⟩)
    rw [interpAxis_neg ext m rec _ _ true x hs]
    simpa [List.flatMap_map] using this

theorem dot_nil_left (x : List K) : dot ([] : List K) x = 0 := by simp [dot]

theorem dot_vzero (e : List K) (n : Nat) (h : e.length = n) : dot e (vzero n) = 0 := by
  rw [dot, vzero, ListFacts.zipWith_replicate_right _ _ h]
  simp

theorem dot_vadd (e a b : List K) (ha : a.length = e.length) (hb : b.length = e.length) :
    dot e (vadd a b) = dot e a + dot e b := by
  induction a, e, ha using length_eq_induction generalizing b with
  | nil => simp [dot]
  | cons x a c e ha ih =>
    obtain ⟨y, b, rfl⟩ := List.exists_cons_of_length_eq_add_one hb
    have := ih b (Nat.succ.inj hb)
    simp only [vadd] at this
    simp only [vadd, List.zipWith_cons_cons, dot_cons, this]
    ring

theorem dot_smul (e v : List K) (l : K) : dot e (v.map (l * ·)) = l * dot e v := by
  simp only [dot, List.zipWith_map_right, mul_left_comm, List.sum_zipWith_distrib_left]

theorem wsum_length (n : Nat) (lam : List K) (verts : List (List K))
    (hv : ∀ v ∈ verts, v.length = n) : (wsum n lam verts).length = n := by
  induction lam generalizing verts with
  | nil => simp [wsum, vzero]
  | cons l lam ih =>
    cases verts with
    | nil => simp [wsum, vzero]
    | cons v verts =>
      simp [wsum, vadd_length, hv v (by simp), ih verts (fun w hw => hv w (by simp [hw]))]

theorem combine_affine (c0 : K) (c : List K) (lam : List K) (verts : List (List K))
    (hlen : lam.length = verts.length) (hv : ∀ v ∈ verts, v.length = c.length) :
    combine lam (verts.map (affine c0 c)) = c0 * lam.sum + dot c (wsum c.length lam verts) := by
  induction lam, verts, hlen using length_eq_induction with
  | nil => simp [combine, wsum, dot_vzero c c.length rfl, dot_nil_left]
  | cons l lam v verts hlen ih =>
    rw [List.forall_mem_cons] at hv
    have := ih hv.2
    simp only [combine] at this
    simp only [combine, List.map_cons, dot_cons, this, wsum, List.sum_cons]
    rw [dot_vadd _ _ _ (by simp [hv.1]) (wsum_length _ _ _ hv.2), dot_smul]
    simp [affine]; ring

/-! ### barycentric coordinates on a `d`-simplex (`baryN`, `linearSimplex`)

`baryN` verifies its answer, so it answers as soon as Cramer's weights reproduce the point.  That they do is Cramer's
rule for the Laplace-expanded `detN`: `Lemmas/Cramer.lean` (`baryN_eq_some`, every `d`). -/

theorem range2_eq : List.range 2 = [0, 1] := rfl
theorem range3_eq : List.range 3 = [0, 1, 2] := rfl

theorem cramer_sum (E : List (List K)) (r : List K) : (cramer E r).sum = 1 := by
  simp [cramer]

theorem baryN_of_det_eq_zero (verts : List (List K)) (p : List K) (h : simplexDet verts = 0) : baryN verts p = none := by
  cases verts with
  | nil => rfl
  | cons v0 rest =>
    rw [simplexDet] at h
    simp [baryN, h]

theorem detN_two (x1 x2 y1 y2 : K) : detN 2 [[x1, x2], [y1, y2]] = x1 * y2 - x2 * y1 := by
  simp [detN, laplace]; ring

/-- the determinant `bary2` divides by is `simplexDet` of the triangle -/
theorem simplexDet_triangle (a b c : K × K) :
    simplexDet [[a.1, a.2], [b.1, b.2], [c.1, c.2]] = (b.1 - a.1) * (c.2 - a.2) - (c.1 - a.1) * (b.2 - a.2) :=
  (detN_two ..).trans (by ring)

theorem sum_eraseIdx_zero (lam : List K) (i : Nat) (h : lam[i]? = some 0) : (lam.eraseIdx i).sum = lam.sum := by
  obtain ⟨hi, h0⟩ := List.getElem?_eq_some_iff.mp h
  rw [← List.add_sum_eraseIdx hi fun _ _ => .all _ _, h0, zero_add]

theorem wsum_eraseIdx_zero (n : Nat) : ∀ (lam : List K) (verts : List (List K)) (i : Nat), lam[i]? = some 0 →
    (∀ v ∈ verts, v.length = n) → lam.length = verts.length →
    wsum n (lam.eraseIdx i) (verts.eraseIdx i) = wsum n lam verts := by
  intro lam verts i h hv hl
  induction lam, verts, hl using length_eq_induction generalizing i with
  | nil => simp at h
  | cons l lam v verts hl ih =>
    rw [List.forall_mem_cons] at hv
    cases i with
    | zero =>
      obtain rfl : l = 0 := by simpa using h
      have hz : v.map (fun x => (0 : K) * x) = vzero n := by simp [vzero, hv.1]
      rw [List.eraseIdx_zero, List.eraseIdx_zero, List.tail_cons, List.tail_cons, wsum, hz,
        vadd_vzero_left n _ (wsum_length n lam verts hv.2)]
    | succ i => simp only [List.eraseIdx_cons_succ, wsum, ih i (by simpa using h) hv.2]

theorem argminFrom_eq_none {p : List K} {i0 : Nat} {pts : List (List K)} : argminFrom p i0 pts = none → pts = [] := by
  fun_cases argminFrom p i0 pts <;> simp

theorem argminFrom_spec (p : List K) (pts : List (List K)) (i0 j : Nat) (d : K)
    (h : argminFrom p i0 pts = some (j, d)) :
    (∃ k, j = i0 + k ∧ ∃ h : k < pts.length, dist2 pts[k] p = d) ∧ ∀ q ∈ pts, d ≤ dist2 q p := by
  -- the cases: no point; no further point; the head is at most as far as the best of the rest; it is farther
  fun_induction argminFrom p i0 pts generalizing j d with
  | case1 => nomatch h
  | case2 i0 q pts hr =>
    cases h
    obtain rfl := argminFrom_eq_none hr
    exact ⟨⟨0, rfl, by simp, rfl⟩, by simp⟩
  | case3 i0 q pts j' d' hr hle ih =>
    cases h
    exact ⟨⟨0, rfl, by simp, rfl⟩,
      List.forall_mem_cons.mpr ⟨le_refl _, fun q' hq' => le_trans hle ((ih _ _ hr).2 q' hq')⟩⟩
  | case4 i0 q pts j' d' hr hle ih =>
    cases h
    obtain ⟨⟨k, hk, hlt, hd⟩, hmin⟩ := ih _ _ hr
    exact ⟨⟨k + 1, by omega, by simpa using hlt, by simpa using hd⟩,
      List.forall_mem_cons.mpr ⟨le_of_lt (lt_of_not_ge hle), hmin⟩⟩

theorem sqDist_le_of_right {u y x : K} (h1 : u ≤ y) (h2 : x - u ≤ y - x) :
    (u - x) * (u - x) ≤ (y - x) * (y - x) :=
  mul_self_le_mul_self_of_le_of_neg_le (sub_le_sub_right h1 x) (by rwa [neg_sub])

theorem sqDist_le_of_left {u y x : K} (h1 : y ≤ u) (h2 : u - x ≤ x - y) :
    (u - x) * (u - x) ≤ (y - x) * (y - x) := by
  rw [← neg_mul_neg (y - x), neg_sub]
  exact mul_self_le_mul_self_of_le_of_neg_le h2 (by rw [neg_sub]; exact sub_le_sub_left h1 x)

/-- `x` lies in a cell of the ascending axis `knots` and `knots[i]` is the nearer end of it (either end at a tie).
`nearestAxis` picks such an index on an ascending axis and, up to negation, on a descending one: the two differ only in
the end they take at a tie. -/
inductive Near : List K → K → Nat → Prop
  | lo {a b x : K} (rest : List K) : a ≤ x → x - a ≤ b - x → Near (a :: b :: rest) x 0
  | hi {a b x : K} (rest : List K) : x ≤ b → b - x ≤ x - a → Near (a :: b :: rest) x 1
  | next {a b x : K} {j : Nat} (rest : List K) : b ≤ x → Near (b :: rest) x j → Near (a :: b :: rest) x (j + 1)

namespace Near

theorem head_le {a x : K} {l : List K} {i : Nat} (hs : StrictInc (a :: l)) (h : Near (a :: l) x i) : a ≤ x := by
  cases h with
  | lo rest h1 h2 => exact h1
  | hi rest h1 h2 => linarith
  | next rest h1 h2 => exact le_trans (le_of_lt hs.1) h1

theorem closest {knots : List K} {x : K} {i : Nat} (h : Near knots x i) (hs : StrictInc knots) :
    ∃ hi : i < knots.length, ∀ y ∈ knots, (knots[i] - x) * (knots[i] - x) ≤ (y - x) * (y - x) := by
  induction h with
  | @lo a b x rest h1 h2 =>
    refine ⟨by simp, List.forall_mem_cons.mpr ⟨le_refl _, fun y hy => ?_⟩⟩
    have := knot_ge hs.2 hy
    exact sqDist_le_of_right ((le_of_lt hs.1).trans this) (h2.trans (sub_le_sub_right this x))
  | @hi a b x rest h1 h2 =>
    refine ⟨by simp, List.forall_mem_cons.mpr ⟨sqDist_le_of_left (le_of_lt hs.1) h2, fun y hy => ?_⟩⟩
    have := knot_ge hs.2 hy
    exact sqDist_le_of_right this ((sub_nonpos.mpr h1).trans (sub_nonneg.mpr (h1.trans this)))
  | @next a b x j rest h1 _ ih =>
    obtain ⟨hj, hmin⟩ := ih hs.2
    refine ⟨by simpa using hj, List.forall_mem_cons.mpr ⟨?_, hmin⟩⟩
    exact le_trans (hmin b (by simp)) (sqDist_le_of_left (le_of_lt hs.1)
      ((sub_nonpos.mpr h1).trans (sub_nonneg.mpr ((le_of_lt hs.1).trans h1))))

end Near

/-! In the proofs by `fun_induction nearestAxis` the cases are the branches of `nearestAxis` in the order of its definition: `x` in the first
cell with `a ≤ b` (nearer to `a`; nearer to `b`), with `b < a` (nearer to `b`; nearer to `a`), `x` not in the first cell,
fewer than two knots. -/

theorem nearestAxis_near_inc (knots : List K) (x : K) (i : Nat) (hs : StrictInc knots)
    (h : nearestAxis knots x = some i) : Near knots x i := by
  fun_induction nearestAxis knots x generalizing i with
  | case1 a b rest x hc _ hm =>
    cases h
    rw [inLo_inc hs.1, inHi_inc hs.1, Bool.and_eq_true, decide_eq_true_eq, decide_eq_true_eq] at hc
    exact Near.lo rest hc.1 (by linarith)
  | case2 a b rest x hc _ hm =>
    cases h
    rw [inLo_inc hs.1, inHi_inc hs.1, Bool.and_eq_true, decide_eq_true_eq, decide_eq_true_eq] at hc
    exact Near.hi rest hc.2 (by linarith [not_le.mp hm])
  | case3 _ _ _ _ _ hab | case4 _ _ _ _ _ hab => exact absurd (le_of_lt hs.1) hab
  | case5 a b rest x _ ih =>
    obtain ⟨j, hj, rfl⟩ := Option.map_eq_some_iff.mp h
    have hn := ih j hs.2 hj
    exact Near.next rest (hn.head_le hs.2) hn
  | case6 => nomatch h

theorem nearestAxis_near_dec (knots : List K) (x : K) (i : Nat) (hs : StrictDec knots)
    (h : nearestAxis knots x = some i) : Near (knots.map fun t => -t) (-x) i := by
  fun_induction nearestAxis knots x generalizing i with
  | case1 _ _ _ _ _ hab | case2 _ _ _ _ _ hab => exact absurd hab (not_le.mpr hs.1)
  | case3 a b rest x hc _ hm =>
    cases h
    rw [inLo_dec hs.1, inHi_dec hs.1, Bool.and_eq_true, decide_eq_true_eq, decide_eq_true_eq] at hc
    exact Near.hi _ (neg_le_neg hc.2) (by linarith)
  | case4 a b rest x hc _ hm =>
    cases h
    rw [inLo_dec hs.1, inHi_dec hs.1, Bool.and_eq_true, decide_eq_true_eq, decide_eq_true_eq] at hc
    exact Near.lo _ (neg_le_neg hc.1) (by linarith [not_le.mp hm])
  | case5 a b rest x _ ih =>
    obtain ⟨j, hj, rfl⟩ := Option.map_eq_some_iff.mp h
    have hn := ih j hs.2 hj
    exact Near.next _ (hn.head_le (strictDec_neg _ hs.2)) hn
  | case6 => nomatch h

theorem dist2_cons (t x : K) (q p : List K) : dist2 (t :: q) (x :: p) = (t - x) * (t - x) + dist2 q p := by
  simp [dist2]

/-- the grid point with per-axis indices `idx` -/
def pointAt : List (List K) → List Nat → List K
  | ax :: axes, i :: idx => ax.getD i 0 :: pointAt axes idx
  | _, _ => []

theorem inLo_and_inHi (a b x : K) :
    (inLo a b x && inHi a b x) = true ↔ (a ≤ x ∧ x ≤ b) ∨ (b ≤ x ∧ x ≤ a) := by
  unfold inLo inHi
  by_cases h : a ≤ b
  · simp only [h, if_true, Bool.and_eq_true, decide_eq_true_eq]
    exact ⟨Or.inl, fun h' => h'.elim id fun h' => ⟨h.trans h'.1, h'.2.trans h⟩⟩
  · have hba := le_of_lt (not_le.mp h)
    simp only [h, if_false, Bool.and_eq_true, decide_eq_true_eq]
    exact ⟨fun h' => Or.inr h'.symm, fun h' => h'.elim (fun h' => ⟨h'.2.trans hba, hba.trans h'.1⟩) And.symm⟩

/-- no monotonicity is needed: the search stops at the first cell that contains `x` -/
theorem nearestAxis_defined (ax : List K) (x : K) (h2 : 2 ≤ ax.length)
    (hin : ∃ a b, ax.head? = some a ∧ ax.getLast? = some b ∧ ((a ≤ x ∧ x ≤ b) ∨ (b ≤ x ∧ x ≤ a))) :
    ∃ i, nearestAxis ax x = some i := by
  fun_induction nearestAxis ax x with
  | case5 a b rest x hc ih =>
    -- `x` is not between `a` and `b`, so there is a next cell and `x` is between `b` and the last knot
    obtain ⟨_, l, hf, hl, hd⟩ := hin
    cases hf
    rw [inLo_and_inHi, not_or, not_and, not_and] at hc
    match rest, hl, ih with
    | [], hl, _ =>
      cases hl
      exact absurd hd (not_or.mpr ⟨not_and.mpr hc.1, fun h' => hc.2 h'.1 h'.2⟩)
    | c :: rest, hl, ih =>
      obtain ⟨i, hi⟩ := ih (by simp) ⟨b, l, rfl, by rwa [List.getLast?_cons_cons] at hl, hd.imp
        (fun h => ⟨le_of_lt (not_le.mp (hc.1 h.1)), h.2⟩) fun h => ⟨h.1, le_of_lt (not_le.mp fun hb => hc.2 hb h.2)⟩⟩
      exact ⟨i + 1, by rw [hi]; rfl⟩
  | case6 ax _ hn =>
    match ax, h2 with
    | a :: b :: rest, _ => exact (hn a b rest rfl).elim
  | _ => exact ⟨_, rfl⟩
/-- per-axis indices that point into the axes -/
def IdxOk (axes : List (List K)) (idx : List Nat) : Prop := List.Forall₂ (fun ax i => i < ax.length) axes idx

theorem nearestAxis_lt (knots : List K) (x : K) (i : Nat) (h : nearestAxis knots x = some i) : i < knots.length := by
  fun_induction nearestAxis knots x generalizing i with
  | case5 a b rest x _ ih =>
    obtain ⟨j, hj, rfl⟩ := Option.map_eq_some_iff.mp h
    exact Nat.succ_lt_succ (ih j hj)
  | case6 => nomatch h
  | _ => cases h; simp

theorem nearestIdx_ok (axes : List (List K)) (p : List K) (idx : List Nat) (h : nearestIdx axes p = some idx) :
    IdxOk axes idx ∧ p.length = axes.length := by
  -- of the four branches of `nearestIdx` only `[], []` and "both searches succeed" return `some`
  fun_induction nearestIdx axes p generalizing idx <;> cases h
  · exact ⟨.nil, rfl⟩
  · next ax _ x _ i _ h2 h1 ih => exact ⟨.cons (nearestAxis_lt ax x i h1) (ih _ h2).1, congrArg (· + 1) (ih _ h2).2⟩

theorem tensorPts_len {α : Type} : ∀ (axes : List (List α)), (tensorPts axes).length = size (axes.map List.length) := by
  intro axes
  induction axes with
  | nil => simp [tensorPts, size]
  | cons ax rest ih =>
    simp only [tensorPts, List.length_flatMap, List.length_map, ih, List.map_cons, size_cons]
    simp

theorem ravel_lt_size {axes : List (List K)} {idx : List Nat} (h : IdxOk axes idx) :
    ravel (axes.map List.length) idx < size (axes.map List.length) := by
  induction h with
  | nil => simp [ravel, size]
  | cons h0 _ ih =>
    simp only [List.map_cons, ravel, size_cons]
    exact ListFacts.flat_lt h0 ih

theorem tensorPts_getElem?_ravel {axes : List (List K)} {idx : List Nat} (h : IdxOk axes idx) :
    (tensorPts axes)[ravel (axes.map List.length) idx]? = some (pointAt axes idx) := by
  induction h with
  | nil => rfl
  | @cons ax i rest idx h0 h1 ih =>
    simp only [tensorPts, List.map_cons, ravel, pointAt]
    rw [ListFacts.flatMap_getElem? ax _ (size (rest.map List.length)) (by intro t _; simp [tensorPts_len]) i _
      (ravel_lt_size h1)]
    simp [ih, List.getD_eq_getElem?_getD, h0]

theorem dist2_reverse_left (a b : List K) (h : a.length = b.length) : dist2 a.reverse b = dist2 a b.reverse := by
  unfold dist2
  rw [← List.sum_reverse, List.reverse_zipWith (by simpa using h), List.reverse_reverse]

theorem pointAt_mem {axes : List (List K)} {idx : List Nat} (h : IdxOk axes idx) : pointAt axes idx ∈ tensorPts axes :=
  List.mem_of_getElem? (tensorPts_getElem?_ravel h)

/-- the reversals are hcipy's re-ordering of axes and point -/
theorem nearestSeparated_of_idx (sep : List (List K)) (f : List K → K) (p : List K) (idx : List Nat)
    (hi : nearestIdx sep.reverse p.reverse = some idx) :
    nearestSeparated sep ((gridPts sep).map f) p = some (f (pointAt sep.reverse idx).reverse) := by
  have hget := tensorPts_getElem?_ravel (nearestIdx_ok _ _ idx hi).1
  simp only [nearestSeparated, hi, gridPts, List.map_map, List.getElem?_map, hget, Option.map_some, Function.comp]

theorem mem_tensorPts_pointAt : ∀ (axes : List (List K)) (t : List K), t ∈ tensorPts axes →
    ∃ idx, IdxOk axes idx ∧ t = pointAt axes idx := by
  intro axes
  induction axes with
  | nil => intro t ht; simp [tensorPts] at ht; exact ⟨[], .nil, by simp [ht, pointAt]⟩
  | cons ax rest ih =>
    intro t ht
    simp only [tensorPts, List.mem_flatMap, List.mem_map] at ht
    obtain ⟨a, ha, t', ht', rfl⟩ := ht
    obtain ⟨idx, hok, rfl⟩ := ih t' ht'
    obtain ⟨i, hi, rfl⟩ := List.getElem_of_mem ha
    exact ⟨i :: idx, .cons hi hok, by simp [pointAt, List.getD_eq_getElem?_getD, hi]⟩

theorem dot_reverse (c x : List K) (h : c.length = x.length) : dot c.reverse x.reverse = dot c x := by
  unfold dot
  rw [← List.reverse_zipWith h, List.sum_reverse]

theorem affine_reverse (c0 : K) (c x : List K) (h : c.length = x.length) :
    affine c0 c.reverse x.reverse = affine c0 c x := by
  unfold affine; rw [dot_reverse c x h]

/-- the dithers all have `D` coordinates and add up to the zero vector -/
def ZeroMean (D : Nat) (ds : List (List K)) : Prop :=
  (∀ d ∈ ds, d.length = D) ∧ vsum D ds = vzero D

theorem dot_zipWith_mul (c d δ : List K) :
    dot c (List.zipWith (· * ·) d δ) = dot (List.zipWith (· * ·) c δ) d := by
  induction c generalizing d δ with
  | nil => simp [dot]
  | cons a c ih =>
    cases d with
    | nil => simp [dot]
    | cons b d =>
      cases δ with
      | nil => simp [dot]
      | cons e δ => simp only [List.zipWith_cons_cons, dot_cons, ih]; ring

theorem sum_dot_vsum (e : List K) (D : Nat) (he : e.length = D) (ds : List (List K))
    (h : ∀ d ∈ ds, d.length = D) : (ds.map (dot e)).sum = dot e (vsum D ds) := by
  induction ds with
  | nil => simp [vsum, dot_vzero e D he]
  | cons d ds ih =>
    rw [List.forall_mem_cons] at h
    rw [List.map_cons, List.sum_cons, ih h.2, vsum_cons,
      dot_vadd _ _ _ (h.1.trans he.symm) ((vsum_length D ds h.2).trans he.symm)]

theorem tensorPts_length {α : Type} : ∀ (axes : List (List α)), ∀ q ∈ tensorPts axes, q.length = axes.length := by
  intro axes
  induction axes with
  | nil => intro q hq; simp [tensorPts] at hq; subst hq; rfl
  | cons ax rest ih =>
    intro q hq
    simp only [tensorPts, List.mem_flatMap, List.mem_map] at hq
    obtain ⟨t, _, q', hq', rfl⟩ := hq
    simp [ih q' hq']

theorem gridPts_length {α : Type} (axes : List (List α)) : ∀ q ∈ gridPts axes, q.length = axes.length := by
  intro q hq
  simp only [gridPts, List.mem_map] at hq
  obtain ⟨q', hq', rfl⟩ := hq
  simpa using tensorPts_length axes.reverse q' hq'

/-- coordinate `k` summed over the tensor grid: the other axes only repeat the sum over axis `k` -/
theorem sum_getD_tensorPts (axes : List (List K)) (h : ∀ ax ∈ axes, ax.sum = 0) (k : Nat) :
    ((tensorPts axes).map (·.getD k 0)).sum = 0 := by
  induction axes generalizing k with
  | nil => simp [tensorPts]
  | cons ax rest ih =>
    rw [List.forall_mem_cons] at h
    rw [tensorPts, List.map_flatMap, List.flatMap_def, List.sum_flatten, List.map_map]
    cases k with
    | zero =>
      simp only [Function.comp_def, List.map_map, List.getD_cons_zero, List.map_const', List.sum_replicate, nsmul_eq_mul]
      rw [List.sum_map_mul_left ax (fun x => x), List.map_id', h.1, mul_zero]
    | succ k =>
      simp only [Function.comp_def, List.map_map, List.getD_cons_succ, ih h.2 k, List.map_const', List.sum_replicate,
        nsmul_zero]

theorem vsum_tensorPts_zero (axes : List (List K)) (h : ∀ ax ∈ axes, ax.sum = 0) :
    vsum axes.length (tensorPts axes) = vzero axes.length := by
  refine List.ext_getElem (by rw [vsum_length _ _ (tensorPts_length axes), vzero_length]) fun k h1 h2 => ?_
  rw [← List.getD_eq_getElem _ 0, ← List.getD_eq_getElem _ 0, vsum_getD _ _ (tensorPts_length axes),
    sum_getD_tensorPts axes h]
  simp [vzero]

/-- the flat index of a fine pixel is `i·n + j` (coarse pixel `i`, sub-pixel `j`) -/
theorem range_mul_eq_flatMap (dim n : Nat) :
    List.range (dim * n) = (List.range dim).flatMap fun i => (List.range n).map fun j => i * n + j := by
  induction dim with
  | zero => simp
  | succ d ih =>
    rw [Nat.succ_mul, List.range_add, ih, List.range_succ, List.flatMap_append]
    simp

/-! ### supersampling: one width per point, the generator the driver runs -/

theorem deltasInner_length : ∀ (l : List K), 2 ≤ l.length → (deltasInner l).length + 1 = l.length
  | [a, b], _ => by simp [deltasInner]
  | a :: b :: c :: rest, _ => by
      have := deltasInner_length (b :: c :: rest) (by simp)
      simp only [deltasInner, List.length_cons] at this ⊢; omega
  | [], h => by simp at h
  | [_], h => by simp at h

/-- `evaluate_supersampled` computes one cell width per grid point -/
theorem deltas_length (ax : List K) (h : 2 ≤ ax.length) : (deltas ax).length = ax.length := by
  match ax, h with
  | a :: b :: rest, _ =>
    have := deltasInner_length (a :: b :: rest) (by simp)
    simp only [deltas, List.length_cons] at this ⊢; omega

theorem tensorPts_map {α β : Type} (φ : α → β) : ∀ (axes : List (List α)),
    tensorPts (axes.map (List.map φ)) = (tensorPts axes).map (List.map φ)
  | [] => rfl
  | ax :: rest => by
    simp only [List.map_cons, tensorPts, tensorPts_map φ rest, List.flatMap_map, List.map_flatMap,
      List.map_map]
    rfl

theorem gridPts_map {α β : Type} (φ : α → β) (sep : List (List α)) :
    gridPts (sep.map (List.map φ)) = (gridPts sep).map (List.map φ) := by
  unfold gridPts
  rw [← List.map_reverse, tensorPts_map, List.map_map, List.map_map]
  apply List.map_congr_left
  intro q _
  simp [List.map_reverse]

theorem gridPts_zip_deltas (sep : List (List K)) (h : ∀ ax ∈ sep, 2 ≤ ax.length) :
    (gridPts (sep.map fun ax => List.zip ax (deltas ax))).map (List.map Prod.fst) = gridPts sep := by
  rw [← gridPts_map, List.map_map]
  congr 1
  conv_rhs => rw [← List.map_id sep]
  apply List.map_congr_left
  intro ax hax
  simp only [Function.comp, id]
  exact List.map_fst_zip (le_of_eq (deltas_length ax (h ax hax)).symm)

theorem dot_zero_left (n : Nat) (y : List K) : dot (List.replicate n (0 : K)) y = 0 := by
  induction n generalizing y with
  | zero => simp [dot]
  | succ n ih =>
    cases y with
    | nil => simp [dot]
    | cons t y =>
      have := ih y
      simp only [dot] at this
      simp [dot, List.replicate_succ, this]

theorem poly_zero (c0 : K) (c : List K) (n : Nat) : poly c0 c (List.replicate n 0) = affine c0 c := by
  funext x
  simp [poly, affine, dot_zero_left]

end HcipyVerif.Interp
