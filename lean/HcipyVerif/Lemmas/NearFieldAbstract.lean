import HcipyVerif.Lemmas.NearField
import HcipyVerif.Lemmas.FourierLinkC04
import HcipyVerif.Lemmas.NearFieldExec
import HcipyVerif.Lemmas.NearFieldGRat
import HcipyVerif.Lemmas.NearFieldMatrixExec
import HcipyVerif.Lemmas.NearFieldTensor

/-!
# C04 — the abstract `FourierFilter` algebra (lemmas)

Theorems about `filter P e D` for an abstract `FourierPair P` (any pair of linear maps with the inverse / adjoint laws of
the DFT), an abstract cut-out `e` and the `ℂ`-valued transfer functions `fresnelD`, `angularD`, `sampledTF`, `modelD` — a
model *parallel* to the definitions the driver executes.  `Lemmas/NearFieldScalar.lean` instantiates them (through the
bridge `filterP_eq_filter`: `filterP … = filter (dftPair2 …) (cutoutEmb p h)`) at the executed scalar-polymorphic pipeline
`fourierFilter cScalar`, `fresnelForward cScalar`, … and `Properties/C04.lean` states every clause about those executed
definitions only, with no hypothesis on the transform.
-/

set_option linter.unusedVariables false

open Complex ComplexConjugate

namespace HcipyVerif.NearField

variable {ι μ τ : Type*} [Fintype ι] [Fintype μ] [Fintype τ] [DecidableEq μ]

theorem filter_linear (P : FourierPair μ) (e : ι → μ) (D : μ → ℂ) (a b : ℂ) (x y : ι → ℂ) :
    filter P e D (a • x + b • y) = a • filter P e D x + b • filter P e D y := by
  unfold filter
  rw [pad_add, pad_smul, pad_smul, map_add, map_smul, map_smul, mulD_add, mulD_smul, mulD_smul,
    map_add, map_smul, map_smul, crop_add, crop_smul, crop_smul]

/-- `backward` is the adjoint of `forward`, for every transfer function (either branch) and every padding. -/
theorem filter_adjoint (P : FourierPair μ) (e : ι → μ) (D : μ → ℂ) (x y : ι → ℂ) :
    ip y (filter P e D x) = ip (filterBackward P e D y) x := by
  unfold filterBackward filter
  refine mul_left_cancel₀ (Complex.ofReal_ne_zero.mpr P.c_pos.ne') ?_
  rw [← ip_F_pad_left, ip_mulD_right, ip_F_pad_right]

/-- The same with the grid weight `w` of a regular grid in the inner products. -/
theorem filter_adjoint_weighted (P : FourierPair μ) (e : ι → μ) (D : μ → ℂ) (w : ℝ) (x y : ι → ℂ) :
    (w : ℂ) * ip y (filter P e D x) = (w : ℂ) * ip (filterBackward P e D y) x := by
  rw [filter_adjoint]

theorem filterBackward_filterBackward (P : FourierPair μ) (e : ι → μ) (D : μ → ℂ) :
    filterBackward P e (fun m => conj (D m)) = filter P e D := by
  funext x
  unfold filterBackward
  simp only [Complex.conj_conj]

/-- Tensor (Jones-vector / Jones-matrix) fields are filtered component by component. -/
noncomputable def filterT (P : FourierPair μ) (e : ι → μ) (D : μ → ℂ) (x : τ → ι → ℂ) : τ → ι → ℂ :=
  fun t => filter P e D (x t)

theorem filterT_adjoint (P : FourierPair μ) (e : ι → μ) (D : μ → ℂ) (x y : τ → ι → ℂ) :
    ∑ t, ip (y t) (filterT P e D x t) = ∑ t, ip (filterT P e (fun m => conj (D m)) y t) (x t) := by
  apply Finset.sum_congr rfl
  intro t _
  exact filter_adjoint P e D (x t) (y t)

theorem power_nonincreasing (P : FourierPair μ) {e : ι → μ} (he : Function.Injective e) {D : μ → ℂ}
    (hD : ∀ m, ‖D m‖ ≤ 1) (x : ι → ℂ) : nsq (filter P e D x) ≤ nsq x := by
  unfold filter
  calc nsq (crop e (P.Finv (mulD D (P.F (pad e x)))))
      ≤ nsq (P.Finv (mulD D (P.F (pad e x)))) := nsq_crop_le he _
    _ = P.c⁻¹ * nsq (mulD D (P.F (pad e x))) := P.nsq_Finv _
    _ ≤ P.c⁻¹ * nsq (P.F (pad e x)) :=
        mul_le_mul_of_nonneg_left (nsq_mulD_le hD _) (inv_nonneg.mpr P.c_pos.le)
    _ = P.c⁻¹ * (P.c * nsq (pad e x)) := by rw [P.nsq_F]
    _ = nsq x := by rw [← mul_assoc, inv_mul_cancel₀ P.c_pos.ne', one_mul, nsq_pad he]

theorem power_nonincreasing_tensor (P : FourierPair μ) {e : ι → μ} (he : Function.Injective e) {D : μ → ℂ}
    (hD : ∀ m, ‖D m‖ ≤ 1) (x : τ → ι → ℂ) : ∑ t, nsq (filterT P e D x t) ≤ ∑ t, nsq (x t) :=
  Finset.sum_le_sum fun t _ => power_nonincreasing P he hD (x t)

theorem mean_unimodular_le_one {σ : Type*} (S : Finset σ) (f : σ → ℂ) (hf : ∀ s ∈ S, ‖f s‖ = 1) :
    ‖meanOver S f‖ ≤ 1 :=
  norm_meanOver_le_one S f fun s hs => (hf s hs).le

theorem fresnel_oversampled_norm_le_one {σ : Type*} (S : Finset σ) (k z : ℝ) (kx ky : σ → ℝ) :
    ‖meanOver S (fun s => fresnelD k z (kx s) (ky s))‖ ≤ 1 :=
  mean_unimodular_le_one S _ fun s _ => norm_fresnelD k z (kx s) (ky s)

theorem fresnel_power_nonincreasing (P : FourierPair μ) {e : ι → μ} (he : Function.Injective e)
    {σ : Type*} (S : μ → Finset σ) (k z : ℝ) (kx ky : μ → σ → ℝ) (x : ι → ℂ) :
    nsq (filter P e (fun m => meanOver (S m) (fun s => fresnelD k z (kx m s) (ky m s))) x) ≤ nsq x :=
  power_nonincreasing P he (fun m => fresnel_oversampled_norm_le_one (S m) k z (kx m) (ky m)) x

theorem angularD_norm_of_propagating {k z κ2 : ℝ} (h : κ2 ≤ k ^ 2) :
    ‖angularD k z κ2‖ = 1 ∧ ‖angularDOld k z κ2‖ = 1 := by
  rw [angularD_of_propagating h, angularDOld_of_propagating h, Complex.norm_exp_ofReal_mul_I]
  exact ⟨rfl, rfl⟩

theorem angular_power_nonincreasing (P : FourierPair μ) {e : ι → μ} (he : Function.Injective e)
    {σ : Type*} (S : μ → Finset σ) (k z : ℝ) (κ2 : μ → σ → ℝ) (x : ι → ℂ) :
    nsq (filter P e (fun m => meanOver (S m) (fun s => angularD k z (κ2 m s))) x) ≤ nsq x :=
  power_nonincreasing P he
    (fun m => norm_meanOver_le_one (S m) _ fun s _ => angularD_norm_le_one k z (κ2 m s)) x

/-- Unrepaired code (namespace `Old`: documents finding D30; it is not the code in /repo and not evidence for the
property): modulus `≤ 1` only as long as no evanescent wave is sampled or `z ≥ 0`. -/
theorem Old.angularDOld_norm_le_one {k z κ2 : ℝ} (h : κ2 ≤ k ^ 2 ∨ 0 ≤ z) : ‖angularDOld k z κ2‖ ≤ 1 := by
  by_cases hp : κ2 ≤ k ^ 2
  · rw [angularDOld_of_propagating hp, Complex.norm_exp_ofReal_mul_I]
  · have hz : 0 ≤ z := h.resolve_left hp
    rw [angularDOld_of_evanescent hp, Complex.norm_exp_ofReal, Real.exp_le_one_iff]
    exact neg_nonpos.mpr (mul_nonneg (Real.sqrt_nonneg _) hz)

/-- Counterexample for the unrepaired code (finding D30): an evanescent component propagated by a negative distance
is amplified. -/
theorem Old.angularDOld_evanescent_grows {k z κ2 : ℝ} (h : k ^ 2 < κ2) (hz : z < 0) :
    1 < ‖angularDOld k z κ2‖ := by
  rw [angularDOld_of_evanescent (not_le.mpr h), Complex.norm_exp_ofReal, Real.one_lt_exp_iff]
  exact neg_pos.mpr (mul_neg_of_pos_of_neg (Real.sqrt_pos.mpr (sub_pos.mpr h)) hz)

theorem fresnel_neg_z (k z kx ky : ℝ) : fresnelD k (-z) kx ky = conj (fresnelD k z kx ky) :=
  fresnelD_neg k z kx ky

theorem Old.angularOld_neg_z_of_propagating {k z κ2 : ℝ} (h : κ2 ≤ k ^ 2) :
    angularDOld k (-z) κ2 = conj (angularDOld k z κ2) := by
  rw [angularDOld_of_propagating h, angularDOld_of_propagating h, conj_exp_ofReal_mul_I, mul_neg]

/-- Finding D30: where `k_z` is imaginary the unrepaired code loses `D_{-z} = conj D_z`. -/
theorem Old.angularOld_neg_z_fails_of_evanescent {k z κ2 : ℝ} (h : k ^ 2 < κ2) (hz : z ≠ 0) :
    angularDOld k (-z) κ2 ≠ conj (angularDOld k z κ2) := by
  have hs : 0 < Real.sqrt (κ2 - k ^ 2) := Real.sqrt_pos.mpr (sub_pos.mpr h)
  rw [angularDOld_of_evanescent (not_le.mpr h), angularDOld_of_evanescent (not_le.mpr h),
    ← Complex.exp_conj, Complex.conj_ofReal, ← Complex.ofReal_exp, ← Complex.ofReal_exp]
  intro heq
  -- the two real exponents `-(s·(-z))` and `-(s·z)` agree only for `z = 0`
  have := mul_left_cancel₀ hs.ne' (neg_inj.mp (Real.exp_injective (Complex.ofReal_injective heq)))
  exact hz (neg_eq_self.mp this)

theorem neg_z_forward_eq_backward (P : FourierPair μ) (e : ι → μ) {σ : Type*} (S : μ → Finset σ)
    (d : ℝ → μ → σ → ℂ) (z : ℝ) (hd : ∀ m s, d (-z) m s = conj (d z m s)) (x : ι → ℂ) :
    filter P e (fun m => meanOver (S m) (d (-z) m)) x
      = filterBackward P e (fun m => meanOver (S m) (d z m)) x := by
  unfold filterBackward
  congr 1
  funext m
  rw [conj_meanOver]
  congr 1
  funext s
  exact hd m s

theorem fresnel_neg_z_forward_eq_backward (P : FourierPair μ) (e : ι → μ) {σ : Type*} (S : μ → Finset σ)
    (k z : ℝ) (kx ky : μ → σ → ℝ) (x : ι → ℂ) :
    filter P e (fun m => meanOver (S m) (fun s => fresnelD k (-z) (kx m s) (ky m s))) x
      = filterBackward P e (fun m => meanOver (S m) (fun s => fresnelD k z (kx m s) (ky m s))) x :=
  neg_z_forward_eq_backward P e S (fun z m s => fresnelD k z (kx m s) (ky m s)) z
    (fun _ _ => fresnelD_neg k z _ _) x

theorem angular_neg_z_forward_eq_backward (P : FourierPair μ) (e : ι → μ) {σ : Type*} (S : μ → Finset σ)
    (k z : ℝ) (κ2 : μ → σ → ℝ) (x : ι → ℂ) :
    filter P e (fun m => meanOver (S m) (fun s => angularD k (-z) (κ2 m s))) x
      = filterBackward P e (fun m => meanOver (S m) (fun s => angularD k z (κ2 m s))) x :=
  neg_z_forward_eq_backward P e S (fun z m s => angularD k z (κ2 m s)) z
    (fun _ _ => angular_neg_z k z _) x

theorem filter_unitary (P : FourierPair μ) {e : ι → μ} (he : Function.Bijective e) {D : μ → ℂ}
    (hD : ∀ m, ‖D m‖ = 1) (x : ι → ℂ) : nsq (filter P e D x) = nsq x := by
  unfold filter
  rw [nsq_crop_of_bij he, P.nsq_Finv, nsq_mulD_eq hD, P.nsq_F, ← mul_assoc,
    inv_mul_cancel₀ P.c_pos.ne', one_mul, nsq_pad he.1]

theorem filter_backward_inverse (P : FourierPair μ) {e : ι → μ} (he : Function.Bijective e) {D : μ → ℂ}
    (hD : ∀ m, ‖D m‖ = 1) (x : ι → ℂ) : filterBackward P e D (filter P e D x) = x := by
  unfold filterBackward
  rw [filter_comp P he]
  have : (fun m => conj (D m) * D m) = fun _ => (1 : ℂ) := by
    funext m
    rw [Complex.conj_mul', hD m]; norm_num
  rw [this, filter_one P he.1]

/-- Fresnel propagation with `zero_padding = 1`, `num_oversampling = 1` is unitary. -/
theorem fresnel_unitary (P : FourierPair μ) {e : ι → μ} (he : Function.Bijective e) (k z : ℝ)
    (kx ky : μ → ℝ) (x : ι → ℂ) :
    nsq (filter P e (fun m => fresnelD k z (kx m) (ky m)) x) = nsq x :=
  filter_unitary P he (fun m => norm_fresnelD k z (kx m) (ky m)) x

theorem fresnel_backward_inverse (P : FourierPair μ) {e : ι → μ} (he : Function.Bijective e) (k z : ℝ)
    (kx ky : μ → ℝ) (x : ι → ℂ) :
    filterBackward P e (fun m => fresnelD k z (kx m) (ky m))
      (filter P e (fun m => fresnelD k z (kx m) (ky m)) x) = x :=
  filter_backward_inverse P he (fun m => norm_fresnelD k z (kx m) (ky m)) x

theorem fresnel_additive (P : FourierPair μ) {e : ι → μ} (he : Function.Bijective e) (k z₁ z₂ : ℝ)
    (kx ky : μ → ℝ) (x : ι → ℂ) :
    filter P e (fun m => fresnelD k z₂ (kx m) (ky m)) (filter P e (fun m => fresnelD k z₁ (kx m) (ky m)) x)
      = filter P e (fun m => fresnelD k (z₁ + z₂) (kx m) (ky m)) x := by
  rw [filter_comp P he]
  congr 1
  funext m
  rw [mul_comm, fresnelD_add]

/-- The output depends on the history of the filter object only through `D`. -/
theorem filter_congr (P : FourierPair μ) (e : ι → μ) {D D' : μ → ℂ} (h : ∀ m, D m = D' m) (x : ι → ℂ) :
    filter P e D x = filter P e D' x := by
  have : D = D' := funext h
  rw [this]

/-- `transfer_function_native` of the Fresnel propagator at `ν` is `exp(2πi t)` for the rational phase `t = fresnelTurns`
(in turns) of the executable model, whatever `n` and `λ`. -/
theorem fresnelAt_eq_expT (p : Params) (ν : ℚ × ℚ) : fresnelAt p ν = Fft.expT ((fresnelTurns p ν.1 ν.2 : ℚ) : ℝ) := by
  unfold fresnelAt waveK
  rw [fresnelD_cycles, expT_eq_cexp]
  unfold fresnelTurns
  simp only [Rat.cast_sub, Rat.cast_div, Rat.cast_mul, Rat.cast_add, Rat.cast_ofNat]

/-- The rational phase (in turns) the model reports for a Fresnel sub-sample is the phase of `fresnelD`. -/
theorem fresnelD_eq_turns (p : Params) (νx νy : ℚ) (hn : p.n ≠ 0) (hl : p.lam ≠ 0) :
    fresnelD (2 * Real.pi * (p.n : ℝ) / (p.lam : ℝ)) (p.z : ℝ) (2 * Real.pi * (νx : ℝ)) (2 * Real.pi * (νy : ℝ))
      = cexp (((2 * Real.pi * ((fresnelTurns p νx νy : ℚ) : ℝ) : ℝ) : ℂ) * I) :=
  (fresnelAt_eq_expT p (νx, νy)).trans (expT_eq_cexp _)

/-- A `FourierPair` exists on every index type (the identity with `c = 1`), so none of the theorems
above is vacuous; the one the code uses is the DFT of C01/C02. -/
example : Nonempty (FourierPair μ) := ⟨FourierPair.idPair μ⟩

/-- A non-trivial `FourierPair`: the two-point DFT `F (a, b) = (a + b, a - b)`, `F⁻¹ = F/2`, `c = 2`. -/
example : ∃ P : FourierPair (Fin 2), P.c = 2 := ⟨dftPair 2 two_pos, Nat.cast_ofNat⟩

/-! From here on `P` is the DFT that C01/C02 assume of numpy (`dftPair2`, `dftPair` of `Lemmas/FourierLinkC04.lean`, where
inverse, adjoint relation and linearity are proved), so the theorems carry no hypothesis on the transform.  The internal
grid is `Fin My × Fin Mx` (index `(iy, ix)`), any `My, Mx > 0`. -/

section dft
variable (My Mx : ℕ) (hMy : 0 < My) (hMx : 0 < Mx)

theorem filter_linear_dft (e : ι → Fin My × Fin Mx) (D : Fin My × Fin Mx → ℂ) (a b : ℂ) (x y : ι → ℂ) :
    filter (dftPair2 My Mx hMy hMx) e D (a • x + b • y)
      = a • filter (dftPair2 My Mx hMy hMx) e D x + b • filter (dftPair2 My Mx hMy hMx) e D y :=
  filter_linear _ e D a b x y

theorem filter_adjoint_dft (e : ι → Fin My × Fin Mx) (D : Fin My × Fin Mx → ℂ) (x y : ι → ℂ) :
    ip y (filter (dftPair2 My Mx hMy hMx) e D x) = ip (filterBackward (dftPair2 My Mx hMy hMx) e D y) x :=
  filter_adjoint _ e D x y

theorem filter_adjoint_weighted_dft (e : ι → Fin My × Fin Mx) (D : Fin My × Fin Mx → ℂ) (w : ℝ)
    (x y : ι → ℂ) :
    (w : ℂ) * ip y (filter (dftPair2 My Mx hMy hMx) e D x)
      = (w : ℂ) * ip (filterBackward (dftPair2 My Mx hMy hMx) e D y) x :=
  filter_adjoint_weighted _ e D w x y

theorem filterT_adjoint_dft (e : ι → Fin My × Fin Mx) (D : Fin My × Fin Mx → ℂ) (x y : τ → ι → ℂ) :
    ∑ t, ip (y t) (filterT (dftPair2 My Mx hMy hMx) e D x t)
      = ∑ t, ip (filterT (dftPair2 My Mx hMy hMx) e (fun m => conj (D m)) y t) (x t) :=
  filterT_adjoint _ e D x y

theorem power_nonincreasing_dft {e : ι → Fin My × Fin Mx} (he : Function.Injective e)
    {D : Fin My × Fin Mx → ℂ} (hD : ∀ m, ‖D m‖ ≤ 1) (x : ι → ℂ) :
    nsq (filter (dftPair2 My Mx hMy hMx) e D x) ≤ nsq x :=
  power_nonincreasing _ he hD x

theorem power_nonincreasing_tensor_dft {e : ι → Fin My × Fin Mx} (he : Function.Injective e)
    {D : Fin My × Fin Mx → ℂ} (hD : ∀ m, ‖D m‖ ≤ 1) (x : τ → ι → ℂ) :
    ∑ t, nsq (filterT (dftPair2 My Mx hMy hMx) e D x t) ≤ ∑ t, nsq (x t) :=
  power_nonincreasing_tensor _ he hD x

theorem fresnel_power_nonincreasing_dft {e : ι → Fin My × Fin Mx} (he : Function.Injective e)
    {σ : Type*} (S : Fin My × Fin Mx → Finset σ) (k z : ℝ) (kx ky : Fin My × Fin Mx → σ → ℝ)
    (x : ι → ℂ) :
    nsq (filter (dftPair2 My Mx hMy hMx) e
      (fun m => meanOver (S m) (fun s => fresnelD k z (kx m s) (ky m s))) x) ≤ nsq x :=
  fresnel_power_nonincreasing _ he S k z kx ky x

theorem angular_power_nonincreasing_dft {e : ι → Fin My × Fin Mx} (he : Function.Injective e)
    {σ : Type*} (S : Fin My × Fin Mx → Finset σ) (k z : ℝ) (κ2 : Fin My × Fin Mx → σ → ℝ) (x : ι → ℂ) :
    nsq (filter (dftPair2 My Mx hMy hMx) e
      (fun m => meanOver (S m) (fun s => angularD k z (κ2 m s))) x) ≤ nsq x :=
  angular_power_nonincreasing _ he S k z κ2 x

theorem fresnel_neg_z_forward_eq_backward_dft (e : ι → Fin My × Fin Mx) {σ : Type*}
    (S : Fin My × Fin Mx → Finset σ) (k z : ℝ) (kx ky : Fin My × Fin Mx → σ → ℝ) (x : ι → ℂ) :
    filter (dftPair2 My Mx hMy hMx) e
        (fun m => meanOver (S m) (fun s => fresnelD k (-z) (kx m s) (ky m s))) x
      = filterBackward (dftPair2 My Mx hMy hMx) e
        (fun m => meanOver (S m) (fun s => fresnelD k z (kx m s) (ky m s))) x :=
  fresnel_neg_z_forward_eq_backward _ e S k z kx ky x

theorem angular_neg_z_forward_eq_backward_dft (e : ι → Fin My × Fin Mx) {σ : Type*}
    (S : Fin My × Fin Mx → Finset σ) (k z : ℝ) (κ2 : Fin My × Fin Mx → σ → ℝ) (x : ι → ℂ) :
    filter (dftPair2 My Mx hMy hMx) e (fun m => meanOver (S m) (fun s => angularD k (-z) (κ2 m s))) x
      = filterBackward (dftPair2 My Mx hMy hMx) e
        (fun m => meanOver (S m) (fun s => angularD k z (κ2 m s))) x :=
  angular_neg_z_forward_eq_backward _ e S k z κ2 x

theorem filter_unitary_dft {e : ι → Fin My × Fin Mx} (he : Function.Bijective e)
    {D : Fin My × Fin Mx → ℂ} (hD : ∀ m, ‖D m‖ = 1) (x : ι → ℂ) :
    nsq (filter (dftPair2 My Mx hMy hMx) e D x) = nsq x :=
  filter_unitary _ he hD x

theorem filter_backward_inverse_dft {e : ι → Fin My × Fin Mx} (he : Function.Bijective e)
    {D : Fin My × Fin Mx → ℂ} (hD : ∀ m, ‖D m‖ = 1) (x : ι → ℂ) :
    filterBackward (dftPair2 My Mx hMy hMx) e D (filter (dftPair2 My Mx hMy hMx) e D x) = x :=
  filter_backward_inverse _ he hD x

theorem fresnel_unitary_dft {e : ι → Fin My × Fin Mx} (he : Function.Bijective e) (k z : ℝ)
    (kx ky : Fin My × Fin Mx → ℝ) (x : ι → ℂ) :
    nsq (filter (dftPair2 My Mx hMy hMx) e (fun m => fresnelD k z (kx m) (ky m)) x) = nsq x :=
  fresnel_unitary _ he k z kx ky x

theorem fresnel_backward_inverse_dft {e : ι → Fin My × Fin Mx} (he : Function.Bijective e) (k z : ℝ)
    (kx ky : Fin My × Fin Mx → ℝ) (x : ι → ℂ) :
    filterBackward (dftPair2 My Mx hMy hMx) e (fun m => fresnelD k z (kx m) (ky m))
      (filter (dftPair2 My Mx hMy hMx) e (fun m => fresnelD k z (kx m) (ky m)) x) = x :=
  fresnel_backward_inverse _ he k z kx ky x

theorem fresnel_additive_dft {e : ι → Fin My × Fin Mx} (he : Function.Bijective e) (k z₁ z₂ : ℝ)
    (kx ky : Fin My × Fin Mx → ℝ) (x : ι → ℂ) :
    filter (dftPair2 My Mx hMy hMx) e (fun m => fresnelD k z₂ (kx m) (ky m))
        (filter (dftPair2 My Mx hMy hMx) e (fun m => fresnelD k z₁ (kx m) (ky m)) x)
      = filter (dftPair2 My Mx hMy hMx) e (fun m => fresnelD k (z₁ + z₂) (kx m) (ky m)) x :=
  fresnel_additive _ he k z₁ z₂ kx ky x

theorem fresnel_unitary_dft_id (k z : ℝ) (kx ky : Fin My × Fin Mx → ℝ) (x : Fin My × Fin Mx → ℂ) :
    nsq (filter (dftPair2 My Mx hMy hMx) id (fun m => fresnelD k z (kx m) (ky m)) x) = nsq x :=
  fresnel_unitary _ Function.bijective_id k z kx ky x

end dft

theorem impulseBranch_of_same_sign (p : Params) (z₁ z₂ : ℚ) (hs : 0 ≤ z₁ * z₂) (hlam : 0 ≤ p.lam)
    (hL : 0 < lmax p)
    (h : impulseBranch { p with z := z₁ + z₂ } = false) :
    impulseBranch { p with z := z₁ } = false ∧ impulseBranch { p with z := z₂ } = false := by
  have hadd : |z₁ + z₂| = |z₁| + |z₂| := (abs_add_eq_add_abs_iff z₁ z₂).mpr (mul_nonneg_iff.mp hs)
  have key : ∀ z' : ℚ, |z'| ≤ |z₁ + z₂| → impulseBranch { p with z := z' } = false := fun z' hz' =>
    impulseBranch_of_abs_le (p := { p with z := z₁ + z₂ }) hlam hL hz' h
  exact ⟨key z₁ (hadd ▸ le_add_of_nonneg_right (abs_nonneg _)), key z₂ (hadd ▸ le_add_of_nonneg_left (abs_nonneg _))⟩

section exec
variable (p : Params) (h : padOK p = true)

/-- `num_oversampling = 1`: the sub-pixel mean has one term. -/
theorem meanOver_one_subsample {σ : Type*} (s : σ) (f : σ → ℂ) : meanOver {s} f = f s := by
  simp [meanOver]

/-- In the regime the property names, the array the filter multiplies with is the sub-pixel mean of
the native transfer function over the executable sample points — and nothing else. -/
theorem regime_selects_sampled_transfer_function (hr : statedRegime p = true)
    (Dir : Fin (my p) × Fin (mx p) → ℂ) (m : Fin (my p) × Fin (mx p)) :
    modelD p Dir m = sampledTF p (ifftshiftIdx (my p) m.1) (ifftshiftIdx (mx p) m.2) :=
  modelD_of_tf (statedRegime_tf hr) Dir m

/-- For a Fresnel propagator without oversampling that is the un-averaged `fresnelD` at the pixel's own frequency
(the `D` of `fresnel_unitary` / `fresnel_additive`). -/
theorem regime_selects_fresnelD (hr : statedRegime p = true) (hk : p.kind = .fresnel) (hx : p.sx = 1)
    (hy : p.sy = 1) (Dir : Fin (my p) × Fin (mx p) → ℂ) (m : Fin (my p) × Fin (mx p)) :
    modelD p Dir m = fresnelD (waveK p) (p.z : ℝ)
      (2 * Real.pi * ((nu p.dx (mx p) (ifftshiftIdx (mx p) m.2) 0 : ℚ) : ℝ))
      (2 * Real.pi * ((nu p.dy (my p) (ifftshiftIdx (my p) m.1) 0 : ℚ) : ℝ)) :=
  modelD_fresnel_of_no_oversampling hk hx hy (statedRegime_tf hr) Dir m

/-- Under-sampled transfer function: the filter multiplies with the impulse-response transfer function. -/
theorem impulse_branch_selects_Dir (hb : impulseBranch p = true) (Dir : Fin (my p) × Fin (mx p) → ℂ) :
    modelD p Dir = Dir := by
  funext m
  unfold modelD
  rw [if_pos hb]

/-- Every regime (either branch, any `Dir`): linear. -/
theorem propagate_linear (Dir : Fin (my p) × Fin (mx p) → ℂ) (a b : ℂ) (x y : Fin p.ny × Fin p.nx → ℂ) :
    propagate p h Dir (a • x + b • y) = a • propagate p h Dir x + b • propagate p h Dir y :=
  filter_linear _ _ _ a b x y

/-- Every regime: `backward` is the exact adjoint of `forward`. -/
theorem propagate_adjoint (Dir : Fin (my p) × Fin (mx p) → ℂ) (x y : Fin p.ny × Fin p.nx → ℂ) :
    ip y (propagate p h Dir x) = ip (propagateBack p h Dir y) x :=
  filter_adjoint _ _ _ x y

/-- Transfer-function branch (in particular the regime the property names, `statedRegime_tf`): power never
increases — Fresnel or (repaired) angular spectrum, any padding, any oversampling, either sign of `z`. -/
theorem propagate_power_nonincreasing (hb : impulseBranch p = false) (Dir : Fin (my p) × Fin (mx p) → ℂ)
    (x : Fin p.ny × Fin p.nx → ℂ) : nsq (propagate p h Dir x) ≤ nsq x :=
  power_nonincreasing _ (cutoutEmb_injective p h) (norm_modelD_le_one hb Dir) x

theorem propagate_power_nonincreasing_of_statedRegime (hr : statedRegime p = true)
    (Dir : Fin (my p) × Fin (mx p) → ℂ) (x : Fin p.ny × Fin p.nx → ℂ) :
    nsq (propagate p h Dir x) ≤ nsq x :=
  propagate_power_nonincreasing p h (statedRegime_tf hr) Dir x

/-- Transfer-function branch: the propagator built for `-z`, forward, is the propagator built for `+z`,
backward (both are on the same branch by `impulseBranch_neg_z`). -/
theorem propagate_neg_z_eq_backward (hb : impulseBranch p = false)
    (Dir Dir' : Fin (my p) × Fin (mx p) → ℂ) (x : Fin p.ny × Fin p.nx → ℂ) :
    propagate (withParam p (.distance (-p.z))) h Dir' x = propagateBack p h Dir x := by
  refine propagate_withZ p h (-p.z) Dir' x (D := fun m => conj (modelD p Dir m)) fun m => ?_
  exact (modelD_of_tf (p := withParam p (.distance (-p.z))) ((impulseBranch_neg_z p).trans hb) Dir' m).trans
    ((sampledTF_neg_z p _ _).trans (congrArg conj (modelD_of_tf hb Dir m).symm))

/-- Fresnel, `zero_padding = 1` (`cutout p = none`), `num_oversampling = 1`, transfer-function branch: unitary. -/
theorem propagate_unitary (hk : p.kind = .fresnel) (hx : p.sx = 1) (hy : p.sy = 1) (hc : cutout p = none)
    (hb : impulseBranch p = false) (Dir : Fin (my p) × Fin (mx p) → ℂ) (x : Fin p.ny × Fin p.nx → ℂ) :
    nsq (propagate p h Dir x) = nsq x :=
  filter_unitary _ (cutoutEmb_bijective p h hc) (norm_modelD_fresnel_unpadded hk hx hy hb Dir) x

theorem propagate_backward_inverse (hk : p.kind = .fresnel) (hx : p.sx = 1) (hy : p.sy = 1)
    (hc : cutout p = none) (hb : impulseBranch p = false) (Dir : Fin (my p) × Fin (mx p) → ℂ)
    (x : Fin p.ny × Fin p.nx → ℂ) :
    propagateBack p h Dir (propagate p h Dir x) = x :=
  filter_backward_inverse _ (cutoutEmb_bijective p h hc) (norm_modelD_fresnel_unpadded hk hx hy hb Dir) x

/-- The propagator built for `z₁` followed by the one built for `z₂` (same sign) is the one built for `z₁ + z₂`,
provided the sum is adequately sampled: then all three are on the transfer-function branch (`impulseBranch_of_same_sign`). -/
theorem propagate_additive (hk : p.kind = .fresnel) (hx : p.sx = 1) (hy : p.sy = 1) (hc : cutout p = none)
    (z₁ z₂ : ℚ) (hs : 0 ≤ z₁ * z₂) (hlam : 0 ≤ p.lam) (hL : 0 < lmax p)
    (hb : impulseBranch (withParam p (.distance (z₁ + z₂))) = false)
    (Dir₁ Dir₂ Dir₁₂ : Fin (my p) × Fin (mx p) → ℂ) (x : Fin p.ny × Fin p.nx → ℂ) :
    propagate (withParam p (.distance z₂)) h Dir₂ (propagate (withParam p (.distance z₁)) h Dir₁ x)
      = propagate (withParam p (.distance (z₁ + z₂))) h Dir₁₂ x := by
  obtain ⟨hb1, hb2⟩ := impulseBranch_of_same_sign p z₁ z₂ hs hlam hL hb
  have e : ∀ {z : ℚ}, impulseBranch (withParam p (.distance z)) = false →
      ∀ (Dir : Fin (my p) × Fin (mx p) → ℂ) (m : Fin (my p) × Fin (mx p)), modelD (withParam p (.distance z)) Dir m
      = fresnelAt (withParam p (.distance z))
          (nu p.dx (mx p) (ifftshiftIdx (mx p) m.2) 0, nu p.dy (my p) (ifftshiftIdx (my p) m.1) 0) :=
    fun {z} hbz => modelD_fresnel_of_no_oversampling (p := withParam p (.distance z)) hk hx hy hbz
  rw [propagate_withZ p h z₁ Dir₁ x (e hb1 Dir₁), propagate_withZ p h z₂ Dir₂ _ (e hb2 Dir₂),
    propagate_withZ p h (z₁ + z₂) Dir₁₂ x (e hb Dir₁₂), filter_comp _ (cutoutEmb_bijective p h hc)]
  exact congrArg (fun D => filter _ _ D x) (funext fun m => fresnelAt_mul p z₁ z₂ _)

/-- Fresnel: `sampledTF` is the mean of `exp(2πi t)` over the phases `fresnelSubTurns` the driver prints. -/
theorem sampledTF_fresnel_eq_turns (p : Params) (hk : p.kind = .fresnel) (hn : p.n ≠ 0) (hl : p.lam ≠ 0)
    (iy ix : ℕ) :
    sampledTF p iy ix
      = listMean ((fresnelSubTurns p ix iy).map fun t => cexp (((2 * Real.pi * ((t : ℚ) : ℝ) : ℝ) : ℂ) * I)) := by
  unfold sampledTF fresnelSubTurns
  rw [List.map_map, nativeAt_fresnel hk]
  refine congrArg listMean (List.map_congr_left ?_)
  rintro ⟨a, b⟩ _
  -- the driver prints the phase mod 1
  exact (fresnelAt_eq_expT p (a, b)).trans ((expT_frac _).symm.trans (expT_eq_cexp _))

end exec

/-- Passivity in the Stokes-`I` form: a Jones-matrix wavefront with a physical input Stokes vector
(`0 ≤ S0`, `S1² + S2² + S3² ≤ S0²`, i.e. degree of polarisation `≤ 1`) does not gain total power when every
component is filtered with `|D| ≤ 1` — although `I` mixes the components (`M13`, `M14` terms). -/
theorem stokes_power_nonincreasing (P : FourierPair μ) {e : ι → μ} (he : Function.Injective e) {D : μ → ℂ}
    (hD : ∀ m, ‖D m‖ ≤ 1) (w : ℝ) (hw : 0 ≤ w) (S : Fin 4 → ℝ) (hS0 : 0 ≤ S 0)
    (hphys : S 1 ^ 2 + S 2 ^ 2 + S 3 ^ 2 ≤ S 0 ^ 2) (E : Fin 2 × Fin 2 → ι → ℂ) :
    stokesPower w S (filterT P e D E) ≤ stokesPower w S E :=
  stokesPower_contraction w hw S hS0 hphys (filter P e D) (filter_linear P e D)
    (power_nonincreasing P he hD) E

theorem stokes_power_nonincreasing_sqrt (P : FourierPair μ) {e : ι → μ} (he : Function.Injective e) {D : μ → ℂ}
    (hD : ∀ m, ‖D m‖ ≤ 1) (w : ℝ) (hw : 0 ≤ w) (S : Fin 4 → ℝ)
    (hS : Real.sqrt (S 1 ^ 2 + S 2 ^ 2 + S 3 ^ 2) ≤ S 0) (E : Fin 2 × Fin 2 → ι → ℂ) :
    stokesPower w S (filterT P e D E) ≤ stokesPower w S E := by
  have h0 : 0 ≤ S 0 := le_trans (Real.sqrt_nonneg _) hS
  have h1 : S 1 ^ 2 + S 2 ^ 2 + S 3 ^ 2 ≤ S 0 ^ 2 := by
    exact (Real.sqrt_le_left h0).mp hS
  exact stokes_power_nonincreasing P he hD w hw S h0 h1 E

/-- On the propagator the code builds (transfer-function branch; Fresnel or repaired angular spectrum). -/
theorem propagate_stokes_power_nonincreasing (p : Params) (h : padOK p = true) (hb : impulseBranch p = false)
    (Dir : Fin (my p) × Fin (mx p) → ℂ) (w : ℝ) (hw : 0 ≤ w) (S : Fin 4 → ℝ) (hS0 : 0 ≤ S 0)
    (hphys : S 1 ^ 2 + S 2 ^ 2 + S 3 ^ 2 ≤ S 0 ^ 2) (E : Fin 2 × Fin 2 → Fin p.ny × Fin p.nx → ℂ) :
    stokesPower w S (fun t => propagate p h Dir (E t)) ≤ stokesPower w S E :=
  stokes_power_nonincreasing _ (cutoutEmb_injective p h) (norm_modelD_le_one hb Dir) w hw S hS0 hphys E

/-- Matrix-valued transfer function: `backward` (conjugate transpose at every sample) is the exact adjoint
of `forward`, for every family of matrices, every padding — vector fields of any length `n`. -/
theorem filterM_adjoint {n : ℕ} (P : FourierPair μ) (e : ι → μ) (D : μ → Fin n → Fin n → ℂ)
    (x y : Fin n → ι → ℂ) :
    ∑ t, ip (y t) (filterM P e D x t) = ∑ t, ip (filterMBackward P e D y t) (x t) := by
  unfold filterMBackward filterM
  refine mul_left_cancel₀ (Complex.ofReal_ne_zero.mpr P.c_pos.ne') ?_
  simp only [Finset.mul_sum, ← ip_F_pad_left, ← ip_F_pad_right]
  exact sum_ip_mulDM_right D _ _

/-- Jones-matrix fields (`field_dot(D, E)` is a matrix product at every sample): column by column. -/
theorem filterM_adjoint_matrix_field {n k : ℕ} (P : FourierPair μ) (e : ι → μ) (D : μ → Fin n → Fin n → ℂ)
    (x y : Fin n → Fin k → ι → ℂ) :
    ∑ l, ∑ t, ip (y t l) (filterM P e D (fun j => x j l) t)
      = ∑ l, ∑ t, ip (filterMBackward P e D (fun j => y j l) t) (x t l) :=
  Finset.sum_congr rfl fun l _ => filterM_adjoint P e D (fun j => x j l) (fun j => y j l)

theorem filterM_of_scalar {n : ℕ} (P : FourierPair μ) (e : ι → μ) (d : μ → ℂ) (x : Fin n → ι → ℂ) (t : Fin n) :
    filterM P e (fun m i j => if i = j then d m else 0) x t = filter P e d (x t) := by
  unfold filterM filter
  congr 2
  funext m
  unfold mulDM mulD
  rw [matVec_apply]
  simp

/-- Hypothesis-free, with the executable cut-out: the real `FourierFilter(grid, tensor tf, q)` on the internal
grid `my p × mx p` of the model. -/
theorem filterM_adjoint_exec {n : ℕ} (p : Params) (h : padOK p = true)
    (D : Fin (my p) × Fin (mx p) → Fin n → Fin n → ℂ) (x y : Fin n → Fin p.ny × Fin p.nx → ℂ) :
    ∑ t, ip (y t) (filterM (dftPair2 (my p) (mx p) (my_pos h) (mx_pos h)) (cutoutEmb p h) D x t)
      = ∑ t, ip (filterMBackward (dftPair2 (my p) (mx p) (my_pos h) (mx_pos h)) (cutoutEmb p h) D y t) (x t) :=
  filterM_adjoint _ _ D x y

section pipeline
variable (p : Params) (h : padOK p = true)
include h

/-- The executed pipeline of `p` at `ℂ`: DFT kernels `exp(∓2πi n/M)`, scale `1/(My·Mx)`. -/
local macro "runF" : term =>
  `(filterP p (kF (my p)) (kF (mx p)) (kB (my p)) (kB (mx p)) (((my p * mx p : ℕ) : ℂ)⁻¹))
local macro "runB" : term =>
  `(filterPBackward (starRingEnd ℂ) p (kF (my p)) (kF (mx p)) (kB (my p)) (kB (mx p)) (((my p * mx p : ℕ) : ℂ)⁻¹))

/-- The abstract `FourierFilter` operator with the DFT of C01/C02 and the executable cut-out is the executable
pipeline. -/
theorem filter_dft2_eq_filterP (D : Fin (my p) × Fin (mx p) → ℂ) (x : Fin p.ny × Fin p.nx → ℂ) :
    filter (dftPair2 (my p) (mx p) (my_pos h) (mx_pos h)) (cutoutEmb p h) D x
      = fun j => runF (ext2 D) (ext2 x) (j.1 : ℕ) (j.2 : ℕ) :=
  funext fun j => ((filterP_eq_filter p h (ext2 D) x j).trans
    (congrArg (fun D' => filter _ _ D' x j) (ext2_restrict D))).symm

theorem filterBackward_dft2_eq_filterPBackward (D : Fin (my p) × Fin (mx p) → ℂ) (x : Fin p.ny × Fin p.nx → ℂ) :
    filterBackward (dftPair2 (my p) (mx p) (my_pos h) (mx_pos h)) (cutoutEmb p h) D x
      = fun j => runB (ext2 D) (ext2 x) (j.1 : ℕ) (j.2 : ℕ) :=
  funext fun j => ((filterP_eq_filter p h (fun a b => conj (ext2 D a b)) x j).trans
    (congrArg (fun D' => filter _ _ D' x j) (funext fun m => congrArg conj (ext2_fin D m.1 m.2)))).symm

/-- The propagators are the executed pipeline with the transfer function `make_instance` selects. -/
theorem propagate_eq_filterP (Dir : Fin (my p) × Fin (mx p) → ℂ) (x : Fin p.ny × Fin p.nx → ℂ) :
    propagate p h Dir x = fun j => runF (ext2 (modelD p Dir)) (ext2 x) (j.1 : ℕ) (j.2 : ℕ) :=
  filter_dft2_eq_filterP p h _ x

theorem propagateBack_eq_filterPBackward (Dir : Fin (my p) × Fin (mx p) → ℂ) (x : Fin p.ny × Fin p.nx → ℂ) :
    propagateBack p h Dir x = fun j => runB (ext2 (modelD p Dir)) (ext2 x) (j.1 : ℕ) (j.2 : ℕ) :=
  filterBackward_dft2_eq_filterPBackward p h _ x

end pipeline

/-- On the transfer-function branch the array the filter multiplies with is the executable `shiftD` (= `np.fft.ifftshift`,
what the driver applies to the centred transfer function it is given) of the sampled transfer function. -/
theorem transfer_function_is_ifftshifted {p : Params} (hb : impulseBranch p = false)
    (Dir : Fin (my p) × Fin (mx p) → ℂ) (m : Fin (my p) × Fin (mx p)) :
    modelD p Dir m = shiftD (my p) (mx p) (sampledTF p) (m.1 : ℕ) (m.2 : ℕ) := modelD_of_tf hb Dir m

section pipelineM
variable (p : Params) (h : padOK p = true) {n : ℕ}
include h

/-- The same for the matrix-valued `filterM` and the executable `filterMP`. -/
theorem filterM_dft2_eq_filterMP (D : Fin (my p) × Fin (mx p) → Fin n → Fin n → ℂ)
    (x : Fin n → Fin p.ny × Fin p.nx → ℂ) :
    filterM (dftPair2 (my p) (mx p) (my_pos h) (mx_pos h)) (cutoutEmb p h) D x
      = fun t j => filterMP p (kF (my p)) (kF (mx p)) (kB (my p)) (kB (mx p)) (((my p * mx p : ℕ) : ℂ)⁻¹)
          (fun py px i k => ext2 (fun m => D m i k) py px) (fun k => ext2 (x k)) t (j.1 : ℕ) (j.2 : ℕ) :=
  funext fun t => funext fun j => ((filterMP_eq_filterM p h _ x t j).trans
    (congrArg (fun D' => filterM _ _ D' x t j)
      (funext fun m => funext fun i => funext fun k => ext2_fin (fun m => D m i k) m.1 m.2))).symm

theorem filterMBackward_dft2_eq_filterMPBackward (D : Fin (my p) × Fin (mx p) → Fin n → Fin n → ℂ)
    (x : Fin n → Fin p.ny × Fin p.nx → ℂ) :
    filterMBackward (dftPair2 (my p) (mx p) (my_pos h) (mx_pos h)) (cutoutEmb p h) D x
      = fun t j => filterMPBackward (starRingEnd ℂ) p (kF (my p)) (kF (mx p)) (kB (my p)) (kB (mx p))
          (((my p * mx p : ℕ) : ℂ)⁻¹)
          (fun py px i k => ext2 (fun m => D m i k) py px) (fun k => ext2 (x k)) t (j.1 : ℕ) (j.2 : ℕ) :=
  funext fun t => funext fun j => ((filterMP_eq_filterM p h _ x t j).trans
    (congrArg (fun D' => filterM _ _ D' x t j)
      (funext fun m => funext fun i => funext fun k => congrArg conj (ext2_fin (fun m => D m k i) m.1 m.2)))).symm

end pipelineM

section dft1
variable (M : ℕ) (hM : 0 < M)

theorem filter_linear_dft1 (e : ι → Fin M) (D : Fin M → ℂ) (a b : ℂ) (x y : ι → ℂ) :
    filter (dftPair M hM) e D (a • x + b • y)
      = a • filter (dftPair M hM) e D x + b • filter (dftPair M hM) e D y :=
  filter_linear _ e D a b x y

theorem filter_adjoint_dft1 (e : ι → Fin M) (D : Fin M → ℂ) (x y : ι → ℂ) :
    ip y (filter (dftPair M hM) e D x) = ip (filterBackward (dftPair M hM) e D y) x :=
  filter_adjoint _ e D x y

theorem power_nonincreasing_dft1 {e : ι → Fin M} (he : Function.Injective e) {D : Fin M → ℂ}
    (hD : ∀ m, ‖D m‖ ≤ 1) (x : ι → ℂ) : nsq (filter (dftPair M hM) e D x) ≤ nsq x :=
  power_nonincreasing _ he hD x

theorem filter_unitary_dft1 {e : ι → Fin M} (he : Function.Bijective e) {D : Fin M → ℂ}
    (hD : ∀ m, ‖D m‖ = 1) (x : ι → ℂ) : nsq (filter (dftPair M hM) e D x) = nsq x :=
  filter_unitary _ he hD x

theorem filter_backward_inverse_dft1 {e : ι → Fin M} (he : Function.Bijective e) {D : Fin M → ℂ}
    (hD : ∀ m, ‖D m‖ = 1) (x : ι → ℂ) :
    filterBackward (dftPair M hM) e D (filter (dftPair M hM) e D x) = x :=
  filter_backward_inverse _ he hD x

end dft1

end HcipyVerif.NearField
