import HcipyVerif.Lemmas.ZernikeRadialGen
import HcipyVerif.Lemmas.ZernikeReal
import Mathlib.Algebra.Polynomial.Roots
import Mathlib.Order.Interval.Set.Infinite

/-! `radialPoly` and `radialDef` are the same list for every order: both have length `n + 1`, they agree at every rational
point (`radialEval_eq_sum`), a polynomial over an infinite field is determined by its values (`Polynomial.funext`), and a
coefficient list of known length by its polynomial.  Hence the recursion polynomial as a real function (`radialR`). -/

namespace HcipyVerif.Zernike

section PolyId
open Polynomial

/-- a coefficient list as a Mathlib polynomial -/
noncomputable def toPoly : Poly → ℚ[X]
  | [] => 0
  | a :: p => C a + X * toPoly p

theorem eval_toPoly (p : Poly) (x : ℚ) : (toPoly p).eval x = peval p x := by
  induction p with
  | nil => simp [toPoly]
  | cons a p ih => simp [toPoly, ih]

theorem coeff_toPoly : ∀ (p : Poly) (i : ℕ), (toPoly p).coeff i = p.getD i 0
  | [], _ => by simp [toPoly]
  | a :: p, 0 => by simp [toPoly]
  | a :: p, i + 1 => by simp [toPoly, coeff_toPoly p i]

theorem toPoly_inj (p q : Poly) (hl : p.length = q.length) (h : toPoly p = toPoly q) : p = q :=
  List.ext_getElem hl fun i h1 h2 => by
    have := congrArg (coeff · i) h
    simpa [coeff_toPoly, h1, h2] using this

theorem poly_ext (p q : Poly) (hl : p.length = q.length) (h : ∀ x, peval p x = peval q x) : p = q :=
  toPoly_inj p q hl (Polynomial.funext fun x => by rw [eval_toPoly, eval_toPoly, h])

theorem length_padd : ∀ p q : Poly, (padd p q).length = max p.length q.length
  | [], q => by simp [padd]
  | a :: p, [] => by simp [padd]
  | a :: p, b :: q => by simp [padd, length_padd p q]

theorem length_pscale (c : Rat) (p : Poly) : (pscale c p).length = p.length := by simp [pscale]
theorem length_pshift (k : Nat) (p : Poly) : (pshift k p).length = k + p.length := by simp [pshift]

theorem length_pspread : ∀ p : Poly, (pspread p).length = 2 * p.length - 1
  | [] => rfl
  | [a] => rfl
  | a :: b :: p => by
    have := length_pspread (b :: p)
    simp only [pspread, List.length_cons] at this ⊢
    omega

theorem length_reducedPoly (n k : Nat) : (reducedPoly n k).length = k + 1 := by
  fun_induction reducedPoly n k with
  | case1 => rfl
  | case2 => rfl
  | case3 k q p a b => simp only [length_padd, length_pscale, length_pshift, a, b]; omega

theorem length_radialPoly (n m : Nat) (hm : m ≤ n) (hpar : (n - m) % 2 = 0) : (radialPoly n m).length = n + 1 := by
  unfold radialPoly
  rw [length_pshift, length_pspread, length_reducedPoly]
  omega

theorem length_monomial (n : Nat) : (monomial n).length = n + 1 := by simp [monomial, pshift]

theorem length_radialDef (n m : Nat) : (radialDef n m).length = n + 1 := by
  unfold radialDef
  have key : ∀ l : List Nat, (l.foldr (fun k acc => padd (pscale (defCoeff n m k) (monomial (n - 2 * k))) acc) []).length ≤ n + 1 := by
    intro l
    induction l with
    | nil => simp
    | cons a l ih =>
      simp only [List.foldr_cons, length_padd, length_pscale, length_monomial]
      omega
  rw [List.range_succ_eq_map, List.foldr_cons, length_padd, length_pscale, length_monomial]
  have := key ((List.range ((n - m) / 2)).map Nat.succ)
  simp only [Nat.mul_zero, Nat.sub_zero] at this ⊢
  omega

theorem radialPoly_eq_radialDef (n m : Nat) (hm : m ≤ n) (hpar : (n - m) % 2 = 0) : radialPoly n m = radialDef n m := by
  apply poly_ext
  · rw [length_radialPoly n m hm hpar, length_radialDef]
  · intro x
    rw [peval_radialPoly, radialEval_eq_sum n m hm hpar, peval_radialDef]
    simp only [defCoeff, fact_eq_factorial]
    push_cast
    rfl

end PolyId

theorem pevalR_radialPoly_eq_radialR (n m : Nat) (hm : m ≤ n) (hpar : (n - m) % 2 = 0) (x : ℝ) :
    pevalR (radialPoly n m) x = radialR n m x := by
  rw [radialPoly_eq_radialDef n m hm hpar, pevalR_radialDef]

end HcipyVerif.Zernike
