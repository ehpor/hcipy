import HcipyVerif.Lemmas.Jones
import HcipyVerif.Lemmas.JonesLaurent
import HcipyVerif.Gen.Stokes
import HcipyVerif.Gen.Mueller
import HcipyVerif.Gen.Retarder
import Mathlib.Tactic.Ring
import Mathlib.Tactic.FieldSimp
import Mathlib.Tactic.LinearCombination
import Mathlib.Tactic.Linarith
import Mathlib.Tactic.IntervalCases
import Mathlib.Analysis.Real.Sqrt

/-!
# C08 — Jones, Mueller and Stokes descriptions of polarisation agree

The definitions under `HcipyVerif.Gen` are **regenerated from the running hcipy on every check**
(tie T2): `stokesI … sV`, `vec*`, `sca*` are the polynomials computed by `Wavefront.I/Q/U/V`,
`sv*`/`vsv*`/`ssv*` the rows of `Wavefront.stokes_vector`, `m11 … m44` the sixteen quadratic forms of
`jones_to_mueller`, `ret*`/`retB*` the Laurent polynomials (in `t = e^{iθ}`, `p = e^{iφ/2}`,
`x = e^{iχ}`) of the matrix `PhaseRetarder.forward/backward` applies, `pol*`, `pbs1*`, `pbs2*` those of
the polariser and of the beam-splitter ports, `cbs1I/cbs2I` the circular beam-splitter port
intensities.  The theorems below compare them with the coherency-matrix specification of
`Model/Jones.lean` (`J · C(S) · Jᴴ`), so a changed coefficient in the code breaks this file's build.
-/
set_option linter.unusedVariables false

namespace HcipyVerif.C08
open HcipyVerif.Jones HcipyVerif.Gen.Stokes HcipyVerif.Gen.Mueller HcipyVerif.Gen.Retarder

/-- The Jones matrix `[[x, y], [z, w]]` from its eight real components. -/
def mkJ (xr xi yr yi zr zi wr wi : ℝ) : J2 ℝ := ⟨⟨xr, xi⟩, ⟨yr, yi⟩, ⟨zr, zi⟩, ⟨wr, wi⟩⟩

/-- The Jones vector `(p, q)` from its four real components. -/
def mkV (pr pi qr qi : ℝ) : V2 ℝ := ⟨⟨pr, pi⟩, ⟨qr, qi⟩⟩

/-- The generated Mueller matrix as a function of (0-based) indices. -/
noncomputable def genMueller (xr xi yr yi zr zi wr wi : ℝ) : Nat → Nat → ℝ
  | 0, 0 => m11 xr xi yr yi zr zi wr wi | 0, 1 => m12 xr xi yr yi zr zi wr wi
  | 0, 2 => m13 xr xi yr yi zr zi wr wi | 0, 3 => m14 xr xi yr yi zr zi wr wi
  | 1, 0 => m21 xr xi yr yi zr zi wr wi | 1, 1 => m22 xr xi yr yi zr zi wr wi
  | 1, 2 => m23 xr xi yr yi zr zi wr wi | 1, 3 => m24 xr xi yr yi zr zi wr wi
  | 2, 0 => m31 xr xi yr yi zr zi wr wi | 2, 1 => m32 xr xi yr yi zr zi wr wi
  | 2, 2 => m33 xr xi yr yi zr zi wr wi | 2, 3 => m34 xr xi yr yi zr zi wr wi
  | 3, 0 => m41 xr xi yr yi zr zi wr wi | 3, 1 => m42 xr xi yr yi zr zi wr wi
  | 3, 2 => m43 xr xi yr yi zr zi wr wi | 3, 3 => m44 xr xi yr yi zr zi wr wi
  | _, _ => 0

/-! ## 1. The hand-expanded I, Q, U, V formulas are the Stokes parameters of `J · C(S) · Jᴴ` -/
section stokes
variable (xr xi yr yi zr zi wr wi a b c d : ℝ)

theorem stokesI_eq : stokesI xr xi yr yi zr zi wr wi a b c d
    = (jonesStokes (mkJ xr xi yr yi zr zi wr wi) ⟨a, b, c, d⟩).i :=
  stokesI_eq_jonesStokes (mkJ xr xi yr yi zr zi wr wi) a b c d

theorem stokesQ_eq : stokesQ xr xi yr yi zr zi wr wi a b c d
    = (jonesStokes (mkJ xr xi yr yi zr zi wr wi) ⟨a, b, c, d⟩).q := by
  unfold stokesQ mkJ; simp only [jones_expand]; ring

theorem stokesU_eq : stokesU xr xi yr yi zr zi wr wi a b c d
    = (jonesStokes (mkJ xr xi yr yi zr zi wr wi) ⟨a, b, c, d⟩).u := by
  unfold stokesU mkJ; simp only [jones_expand]; ring

theorem stokesV_eq : stokesV xr xi yr yi zr zi wr wi a b c d
    = (jonesStokes (mkJ xr xi yr yi zr zi wr wi) ⟨a, b, c, d⟩).v := by
  unfold stokesV mkJ; simp only [jones_expand]; ring

/-- The explicit formulas and the Mueller route give the same Stokes vector: row by row, the monomials of `Wavefront.I … V` are
those of `jones_to_mueller` times the input Stokes parameter. -/
theorem stokes_formulas_eq_mueller_route :
    (⟨stokesI xr xi yr yi zr zi wr wi a b c d, stokesQ xr xi yr yi zr zi wr wi a b c d,
      stokesU xr xi yr yi zr zi wr wi a b c d, stokesV xr xi yr yi zr zi wr wi a b c d⟩ : S4 ℝ)
      = mulVec (genMueller xr xi yr yi zr zi wr wi) ⟨a, b, c, d⟩ := by
  -- the rows of the table by definitional unfolding (`simp only [genMueller]` is slow on the sixteen literal matches)
  show _ = S4.mk
    (m11 xr xi yr yi zr zi wr wi * a + m12 xr xi yr yi zr zi wr wi * b + m13 xr xi yr yi zr zi wr wi * c + m14 xr xi yr yi zr zi wr wi * d)
    (m21 xr xi yr yi zr zi wr wi * a + m22 xr xi yr yi zr zi wr wi * b + m23 xr xi yr yi zr zi wr wi * c + m24 xr xi yr yi zr zi wr wi * d)
    (m31 xr xi yr yi zr zi wr wi * a + m32 xr xi yr yi zr zi wr wi * b + m33 xr xi yr yi zr zi wr wi * c + m34 xr xi yr yi zr zi wr wi * d)
    (m41 xr xi yr yi zr zi wr wi * a + m42 xr xi yr yi zr zi wr wi * b + m43 xr xi yr yi zr zi wr wi * c + m44 xr xi yr yi zr zi wr wi * d)
  unfold stokesI stokesQ stokesU stokesV m11 m12 m13 m14 m21 m22 m23 m24 m31 m32 m33 m34 m41 m42 m43 m44
  congr 1 <;> ring

/-- The sixteen identified quadratic forms of `jones_to_mueller` realise `S ↦ Stokes(J C(S) Jᴴ)`. -/
theorem gen_mueller_eq_coherency :
    mulVec (genMueller xr xi yr yi zr zi wr wi) ⟨a, b, c, d⟩
      = jonesStokes (mkJ xr xi yr yi zr zi wr wi) ⟨a, b, c, d⟩ := by
  rw [← stokes_formulas_eq_mueller_route, stokesI_eq, stokesQ_eq, stokesU_eq, stokesV_eq]

/-- `Wavefront.stokes_vector` (which goes through `jones_to_mueller` and `field_dot`) reports the same
four numbers as the properties `I, Q, U, V` — Jones-matrix wavefronts. -/
theorem stokes_vector_eq_tensor :
    svI xr xi yr yi zr zi wr wi a b c d = stokesI xr xi yr yi zr zi wr wi a b c d ∧
    svQ xr xi yr yi zr zi wr wi a b c d = stokesQ xr xi yr yi zr zi wr wi a b c d ∧
    svU xr xi yr yi zr zi wr wi a b c d = stokesU xr xi yr yi zr zi wr wi a b c d ∧
    svV xr xi yr yi zr zi wr wi a b c d = stokesV xr xi yr yi zr zi wr wi a b c d :=
  ⟨rfl, rfl, rfl, rfl⟩

/-- The hand model of `jones_to_mueller`, `Re (U (J ⊗ J̄) Uᴴ)` with hcipy's `_U_matrix`, equals the
identified quadratic forms entry by entry. -/
theorem mueller_def_eq (r k : Nat) (hr : r < 4) (hk : k < 4) :
    muellerDef (mkJ xr xi yr yi zr zi wr wi) r k = genMueller xr xi yr yi zr zi wr wi r k :=
  mulVec_ext (fun s => (mulVec_muellerDef _ s).trans (gen_mueller_eq_coherency xr xi yr yi zr zi wr wi s.i s.q s.u s.v).symm) hr hk

end stokes

section vector
variable (pr pi qr qi er ei : ℝ)

/-- Jones-vector wavefronts: `I, Q, U, V` are the Stokes parameters of the pure state `E Eᴴ`. -/
theorem vec_stokes_eq :
    (⟨vecI pr pi qr qi, vecQ pr pi qr qi, vecU pr pi qr qi, vecV pr pi qr qi⟩ : S4 ℝ)
      = vecStokes (mkV pr pi qr qi) := by
  unfold vecI vecQ vecU vecV mkV; simp only [jones_expand]; congr 1 <;> ring

theorem stokes_vector_eq_vector :
    vsvI pr pi qr qi = vecI pr pi qr qi ∧ vsvQ pr pi qr qi = vecQ pr pi qr qi ∧
    vsvU pr pi qr qi = vecU pr pi qr qi ∧ vsvV pr pi qr qi = vecV pr pi qr qi :=
  ⟨rfl, rfl, rfl, rfl⟩

/-- Scalar wavefronts: the unpolarised convention `(|e|², 0, 0, 0)`. -/
theorem sca_stokes_eq :
    (⟨scaI er ei, scaQ er ei, scaU er ei, scaV er ei⟩ : S4 ℝ) = scalarStokes ⟨er, ei⟩ := by
  unfold scaI scaQ scaU scaV; simp only [jones_expand]; congr 1; ring

theorem stokes_vector_eq_scalar :
    ssvI er ei = scaI er ei ∧ ssvQ er ei = scaQ er ei ∧ ssvU er ei = scaU er ei ∧ ssvV er ei = scaV er ei :=
  ⟨rfl, rfl, rfl, rfl⟩

end vector

/-! ## 2. Stokes vector after a Jones element = Mueller matrix · Stokes vector before it

`jonesStokes_mul`: an element acts on a wavefront through the wavefront's Stokes vector, which
`gen_mueller_eq_coherency` turns into the product with the generated Mueller matrix. -/
section after
variable (xr xi yr yi zr zi wr wi : ℝ)

/-- Jones-vector wavefront `E ↦ J E`. -/
theorem mueller_after_element_vector (e : V2 ℝ) :
    vecStokes ((mkJ xr xi yr yi zr zi wr wi).apply e)
      = mulVec (genMueller xr xi yr yi zr zi wr wi) (vecStokes e) := by
  rw [vecStokes_apply]
  exact (gen_mueller_eq_coherency xr xi yr yi zr zi wr wi _ _ _ _).symm

/-- Scalar wavefront `e`: hcipy returns the Jones-matrix wavefront `J·e` with input Stokes vector
`(1, 0, 0, 0)`; its Stokes vector is the Mueller matrix applied to `(|e|², 0, 0, 0)`. -/
theorem mueller_after_element_scalar (e : Cx ℝ) :
    jonesStokes ((mkJ xr xi yr yi zr zi wr wi).scale e) ⟨1, 0, 0, 0⟩
      = mulVec (genMueller xr xi yr yi zr zi wr wi) (scalarStokes e) := by
  rw [(J2.scale_eq_mul _ e).1, jonesStokes_mul, jonesStokes_scalar]
  simp only [mul_one, mul_zero]
  exact (gen_mueller_eq_coherency xr xi yr yi zr zi wr wi _ _ _ _).symm

/-- Jones-matrix (partially polarised) wavefront `E ↦ J E` with any input Stokes vector. -/
theorem mueller_after_element_tensor (e : J2 ℝ) (s : S4 ℝ) :
    jonesStokes (mkJ xr xi yr yi zr zi wr wi * e) s
      = mulVec (genMueller xr xi yr yi zr zi wr wi) (jonesStokes e s) := by
  rw [jonesStokes_mul]
  exact (gen_mueller_eq_coherency xr xi yr yi zr zi wr wi _ _ _ _).symm

end after

/-! ## 3. Degree and angle of polarisation -/
section dop
variable (xr xi yr yi zr zi wr wi a b c d pr pi qr qi : ℝ)

/-- `I² − Q² − U² − V² = |det J|² (a² − b² − c² − d²)` for the generated formulas. -/
theorem stokes_minkowski :
    stokesI xr xi yr yi zr zi wr wi a b c d ^ 2 - stokesQ xr xi yr yi zr zi wr wi a b c d ^ 2
      - stokesU xr xi yr yi zr zi wr wi a b c d ^ 2 - stokesV xr xi yr yi zr zi wr wi a b c d ^ 2
      = (mkJ xr xi yr yi zr zi wr wi).det.normSq * (a ^ 2 - b ^ 2 - c ^ 2 - d ^ 2) := by
  rw [stokesI_eq, stokesQ_eq, stokesU_eq, stokesV_eq]
  exact jonesStokes_minkowski _ _

/-- The reported intensity of a partially polarised wavefront is non-negative for a physical input
Stokes vector (`a ≥ 0`, `b² + c² + d² ≤ a²`). -/
theorem stokesI_nonneg (ha : 0 ≤ a) (hphys : b ^ 2 + c ^ 2 + d ^ 2 ≤ a ^ 2) :
    0 ≤ stokesI xr xi yr yi zr zi wr wi a b c d :=
  stokesI_eq xr xi yr yi zr zi wr wi a b c d ▸ jonesStokes_i_nonneg _ ⟨a, b, c, d⟩ ha hphys

/-- The degree of polarisation `sqrt(Q²+U²+V²)/I` computed from a Stokes vector. -/
noncomputable def dop (s : S4 ℝ) : ℝ := Real.sqrt (s.q ^ 2 + s.u ^ 2 + s.v ^ 2) / s.i

/-- `degree_of_polarization` is consistent with `stokes_vector` (both are functions of the same four
numbers — `stokes_vector_eq_*`; the first conjunct is only that rewrite), and for a physical input
Stokes vector it is at most one.  `dop` is a specification function; what the *code* computes is tied in section 8
(`S4.dopSq` run by op `degrees`, `model_degrees_sqrt : √dopSq = dop`, `model_dopSq_tensor_le_one`). -/
theorem dop_consistent_tensor (ha : 0 ≤ a) (hphys : b ^ 2 + c ^ 2 + d ^ 2 ≤ a ^ 2)
    (hI : 0 < stokesI xr xi yr yi zr zi wr wi a b c d) :
    dop ⟨svI xr xi yr yi zr zi wr wi a b c d, svQ xr xi yr yi zr zi wr wi a b c d,
         svU xr xi yr yi zr zi wr wi a b c d, svV xr xi yr yi zr zi wr wi a b c d⟩
      = dop ⟨stokesI xr xi yr yi zr zi wr wi a b c d, stokesQ xr xi yr yi zr zi wr wi a b c d,
             stokesU xr xi yr yi zr zi wr wi a b c d, stokesV xr xi yr yi zr zi wr wi a b c d⟩ ∧
    dop ⟨stokesI xr xi yr yi zr zi wr wi a b c d, stokesQ xr xi yr yi zr zi wr wi a b c d,
         stokesU xr xi yr yi zr zi wr wi a b c d, stokesV xr xi yr yi zr zi wr wi a b c d⟩ ≤ 1 := by
  obtain ⟨h1, h2, h3, h4⟩ := stokes_vector_eq_tensor xr xi yr yi zr zi wr wi a b c d
  refine ⟨by rw [h1, h2, h3, h4], ?_⟩
  unfold dop
  rw [div_le_one hI, Real.sqrt_le_left hI.le, stokesI_eq, stokesQ_eq, stokesU_eq, stokesV_eq]
  exact jonesStokes_cone _ ⟨a, b, c, d⟩ hphys

/-- A Jones-vector wavefront is fully polarised: `Q² + U² + V² = I²`, so its degree of polarisation is 1. -/
theorem dop_vector_eq_one (hI : 0 < vecI pr pi qr qi) :
    dop ⟨vecI pr pi qr qi, vecQ pr pi qr qi, vecU pr pi qr qi, vecV pr pi qr qi⟩ = 1 := by
  have h := vecStokes_pure (mkV pr pi qr qi)
  rw [← vec_stokes_eq] at h
  unfold dop
  simp only at h ⊢
  rw [h, Real.sqrt_sq hI.le, div_self hI.ne']

/-- A scalar wavefront is reported unpolarised: degree of polarisation 0. -/
theorem dop_scalar_eq_zero (er ei : ℝ) : dop ⟨scaI er ei, scaQ er ei, scaU er ei, scaV er ei⟩ = 0 := by
  rw [sca_stokes_eq]
  simp [dop, scalarStokes]

/-- Angle of linear polarisation: for light linearly polarised at angle ψ (Jones vector
`A·(cos ψ, sin ψ)`, `A` complex) the reported `(Q, U, V)` is `|A|²·(cos 2ψ, sin 2ψ, 0)`, so
`½ atan2(U, Q)` is ψ (mod π). -/
theorem aolp_linear (ar ai cs sn : ℝ) :
    vecQ (ar * cs) (ai * cs) (ar * sn) (ai * sn) = (ar * ar + ai * ai) * (cs ^ 2 - sn ^ 2) ∧
    vecU (ar * cs) (ai * cs) (ar * sn) (ai * sn) = (ar * ar + ai * ai) * (2 * cs * sn) ∧
    vecV (ar * cs) (ai * cs) (ar * sn) (ai * sn) = 0 :=
  ⟨by unfold vecQ; ring, by unfold vecU; ring, by unfold vecV; ring⟩

end dop

/-! ## 4. Retarders: unitary, backward inverts forward

Atoms: `t = e^{iθ}`, `p = e^{iφ/2}`, `x = e^{iχ}`; unimodularity is `conj a = a⁻¹`. -/
section retarder
variable (t p x : ℂ)

/-- The matrix applied by `backward` times the matrix applied by `forward` is the identity
(only `t, p, x ≠ 0` is needed: a Laurent-polynomial identity). -/
theorem retarder_backward_inverse (ht : t ≠ 0) (hp : p ≠ 0) (hx : x ≠ 0) :
    retB11 t t⁻¹ p p⁻¹ x x⁻¹ * ret11 t t⁻¹ p p⁻¹ x x⁻¹ + retB12 t t⁻¹ p p⁻¹ x x⁻¹ * ret21 t t⁻¹ p p⁻¹ x x⁻¹ = 1 ∧
    retB11 t t⁻¹ p p⁻¹ x x⁻¹ * ret12 t t⁻¹ p p⁻¹ x x⁻¹ + retB12 t t⁻¹ p p⁻¹ x x⁻¹ * ret22 t t⁻¹ p p⁻¹ x x⁻¹ = 0 ∧
    retB21 t t⁻¹ p p⁻¹ x x⁻¹ * ret11 t t⁻¹ p p⁻¹ x x⁻¹ + retB22 t t⁻¹ p p⁻¹ x x⁻¹ * ret21 t t⁻¹ p p⁻¹ x x⁻¹ = 0 ∧
    retB21 t t⁻¹ p p⁻¹ x x⁻¹ * ret12 t t⁻¹ p p⁻¹ x x⁻¹ + retB22 t t⁻¹ p p⁻¹ x x⁻¹ * ret22 t t⁻¹ p p⁻¹ x x⁻¹ = 1 := by
  obtain ⟨f11, f12, f21, f22⟩ := ret_eq (mul_inv_cancel₀ ht) p p⁻¹ x x⁻¹
  obtain ⟨b11, b12, b21, b22⟩ := ret_eq (mul_inv_cancel₀ ht) p⁻¹ p x x⁻¹
  obtain ⟨s11, s12, s21, s22⟩ := retB_eq t t⁻¹ p p⁻¹ x x⁻¹
  have hcs := cosP_sq_add_sinP_sq (mul_inv_cancel₀ ht)
  have hp' := mul_inv_cancel₀ hp
  have hx' := mul_inv_cancel₀ hx
  rw [s11, s12, s21, s22, f11, f12, f21, f22, b11, b12, b21, b22]
  generalize cosP t t⁻¹ = C at hcs ⊢
  generalize sinP t t⁻¹ = S at hcs ⊢
  -- off the diagonal the two products cancel; on it they add up to `(C² + S²)²` once `p p⁻¹ = x x⁻¹ = 1`
  refine ⟨?_, by ring, by ring, ?_⟩ <;>
    linear_combination (C ^ 2 + S ^ 2) ^ 2 * hp' - C ^ 2 * S ^ 2 * (p - p⁻¹) ^ 2 * hx' + (C ^ 2 + S ^ 2 + 1) * hcs

theorem polarizer_hermitian (ht : (starRingEnd ℂ) t = t⁻¹) :
    (starRingEnd ℂ) (pol11 t t⁻¹) = pol11 t t⁻¹ ∧ (starRingEnd ℂ) (pol12 t t⁻¹) = pol21 t t⁻¹ ∧
    (starRingEnd ℂ) (pol21 t t⁻¹) = pol12 t t⁻¹ ∧ (starRingEnd ℂ) (pol22 t t⁻¹) = pol22 t t⁻¹ := by
  refine ⟨?_, ?_, ?_, ?_⟩ <;>
    (simp only [pol11, pol12, pol21, pol22, map_add, map_mul, map_pow, map_div₀, map_neg, map_one, map_ofNat, map_inv₀,
      Complex.conj_I, inv_inv, ht]
     ring)

/-- `backward` applies the conjugate transpose of what `forward` applies. -/
theorem retarder_backward_is_adjoint (ht : (starRingEnd ℂ) t = t⁻¹) (hp : (starRingEnd ℂ) p = p⁻¹)
    (hx : (starRingEnd ℂ) x = x⁻¹) :
    retB11 t t⁻¹ p p⁻¹ x x⁻¹ = (starRingEnd ℂ) (ret11 t t⁻¹ p p⁻¹ x x⁻¹) ∧
    retB12 t t⁻¹ p p⁻¹ x x⁻¹ = (starRingEnd ℂ) (ret21 t t⁻¹ p p⁻¹ x x⁻¹) ∧
    retB21 t t⁻¹ p p⁻¹ x x⁻¹ = (starRingEnd ℂ) (ret12 t t⁻¹ p p⁻¹ x x⁻¹) ∧
    retB22 t t⁻¹ p p⁻¹ x x⁻¹ = (starRingEnd ℂ) (ret22 t t⁻¹ p p⁻¹ x x⁻¹) := by
  -- `forward` is `p P + p⁻¹ (1 − P)`, `backward` the same with `p ↔ p⁻¹`, and the polariser `P` is Hermitian (also at `t = 0`)
  obtain ⟨f11, f12, f21, f22⟩ := ret_pol t t⁻¹ p p⁻¹ x x⁻¹
  obtain ⟨b11, b12, b21, b22⟩ := ret_pol t t⁻¹ p⁻¹ p x x⁻¹
  obtain ⟨s11, s12, s21, s22⟩ := retB_eq t t⁻¹ p p⁻¹ x x⁻¹
  obtain ⟨h11, h12, h21, h22⟩ := polarizer_hermitian t ht
  rw [s11, s12, s21, s22, f11, f12, f21, f22, b11, b12, b21, b22]
  simp only [map_add, map_sub, map_mul, map_inv₀, inv_inv, hp, hx, h11, h12, h21, h22, and_self]

/-- The retarder Jones matrix is unitary: `Jᴴ J = 1`. -/
theorem retarder_unitary (ht0 : t ≠ 0) (hp0 : p ≠ 0) (hx0 : x ≠ 0)
    (ht : (starRingEnd ℂ) t = t⁻¹) (hp : (starRingEnd ℂ) p = p⁻¹) (hx : (starRingEnd ℂ) x = x⁻¹) :
    (starRingEnd ℂ) (ret11 t t⁻¹ p p⁻¹ x x⁻¹) * ret11 t t⁻¹ p p⁻¹ x x⁻¹
      + (starRingEnd ℂ) (ret21 t t⁻¹ p p⁻¹ x x⁻¹) * ret21 t t⁻¹ p p⁻¹ x x⁻¹ = 1 ∧
    (starRingEnd ℂ) (ret11 t t⁻¹ p p⁻¹ x x⁻¹) * ret12 t t⁻¹ p p⁻¹ x x⁻¹
      + (starRingEnd ℂ) (ret21 t t⁻¹ p p⁻¹ x x⁻¹) * ret22 t t⁻¹ p p⁻¹ x x⁻¹ = 0 ∧
    (starRingEnd ℂ) (ret12 t t⁻¹ p p⁻¹ x x⁻¹) * ret11 t t⁻¹ p p⁻¹ x x⁻¹
      + (starRingEnd ℂ) (ret22 t t⁻¹ p p⁻¹ x x⁻¹) * ret21 t t⁻¹ p p⁻¹ x x⁻¹ = 0 ∧
    (starRingEnd ℂ) (ret12 t t⁻¹ p p⁻¹ x x⁻¹) * ret12 t t⁻¹ p p⁻¹ x x⁻¹
      + (starRingEnd ℂ) (ret22 t t⁻¹ p p⁻¹ x x⁻¹) * ret22 t t⁻¹ p p⁻¹ x x⁻¹ = 1 := by
  obtain ⟨a11, a12, a21, a22⟩ := retarder_backward_is_adjoint t p x ht hp hx
  obtain ⟨i11, i12, i21, i22⟩ := retarder_backward_inverse t p x ht0 hp0 hx0
  rw [← a11, ← a12, ← a21, ← a22]
  exact ⟨i11, i12, i21, i22⟩

/-- Retarders conserve `I` for every Jones vector. -/
theorem retarder_conserves_intensity (e1 e2 : ℂ) (ht0 : t ≠ 0) (hp0 : p ≠ 0) (hx0 : x ≠ 0)
    (ht : (starRingEnd ℂ) t = t⁻¹) (hp : (starRingEnd ℂ) p = p⁻¹) (hx : (starRingEnd ℂ) x = x⁻¹) :
    (starRingEnd ℂ) (ret11 t t⁻¹ p p⁻¹ x x⁻¹ * e1 + ret12 t t⁻¹ p p⁻¹ x x⁻¹ * e2)
        * (ret11 t t⁻¹ p p⁻¹ x x⁻¹ * e1 + ret12 t t⁻¹ p p⁻¹ x x⁻¹ * e2)
      + (starRingEnd ℂ) (ret21 t t⁻¹ p p⁻¹ x x⁻¹ * e1 + ret22 t t⁻¹ p p⁻¹ x x⁻¹ * e2)
        * (ret21 t t⁻¹ p p⁻¹ x x⁻¹ * e1 + ret22 t t⁻¹ p p⁻¹ x x⁻¹ * e2)
      = (starRingEnd ℂ) e1 * e1 + (starRingEnd ℂ) e2 * e2 := by
  obtain ⟨h11, h12, h21, h22⟩ := retarder_unitary t p x ht0 hp0 hx0 ht hp hx
  exact unitary_conserves_intensity _ _ _ _ e1 e2 h11 h12 h21 h22

/-- The hypotheses are satisfiable: `t = p = x = 1` (θ = φ = χ = 0), more generally any point of
the unit circle. -/
example : (1 : ℂ) ≠ 0 ∧ (starRingEnd ℂ) (1 : ℂ) = (1 : ℂ)⁻¹ := by simp

example : (Complex.I) ≠ 0 ∧ (starRingEnd ℂ) Complex.I = Complex.I⁻¹ := by
  refine ⟨Complex.I_ne_zero, ?_⟩
  rw [Complex.conj_I, Complex.inv_I]

end retarder

/-! ## 5. Linear polariser: idempotent (Hermitian: `polarizer_hermitian` in section 4, where the retarder needs it), Malus' law;
beam splitters -/
section polarizer
variable (t u : ℂ)

theorem polarizer_idempotent (ht : t ≠ 0) :
    pol11 t t⁻¹ * pol11 t t⁻¹ + pol12 t t⁻¹ * pol21 t t⁻¹ = pol11 t t⁻¹ ∧
    pol11 t t⁻¹ * pol12 t t⁻¹ + pol12 t t⁻¹ * pol22 t t⁻¹ = pol12 t t⁻¹ ∧
    pol21 t t⁻¹ * pol11 t t⁻¹ + pol22 t t⁻¹ * pol21 t t⁻¹ = pol21 t t⁻¹ ∧
    pol21 t t⁻¹ * pol12 t t⁻¹ + pol22 t t⁻¹ * pol22 t t⁻¹ = pol22 t t⁻¹ := by
  obtain ⟨e11, e12, e21, e22⟩ := pol_eq (mul_inv_cancel₀ ht)
  have hcs := cosP_sq_add_sinP_sq (mul_inv_cancel₀ ht)
  rw [e11, e12, e21, e22]
  generalize cosP t t⁻¹ = C at hcs ⊢
  generalize sinP t t⁻¹ = S at hcs ⊢
  exact ⟨by linear_combination C ^ 2 * hcs, by linear_combination C * S * hcs, by linear_combination C * S * hcs,
    by linear_combination S ^ 2 * hcs⟩

/-- `backward` through a polariser applies the same (Hermitian) matrix as `forward`. -/
theorem polarizer_backward_eq_forward (ti : ℂ) :
    polB11 t ti = pol11 t ti ∧ polB12 t ti = pol12 t ti ∧ polB21 t ti = pol21 t ti ∧ polB22 t ti = pol22 t ti :=
  ⟨rfl, rfl, rfl, rfl⟩

/-- **Malus' law.**  Light of complex amplitude `A`, linearly polarised at angle α (`u = e^{iα}`,
Jones vector `A·(cos α, sin α) = A·((u+u⁻¹)/2, (u−u⁻¹)/(2i))`), leaves a polariser at angle θ
(`t = e^{iθ}`) with intensity `|A|² cos²(θ−α)`, `cos(θ−α) = (t u⁻¹ + t⁻¹ u)/2`. -/
theorem malus (A : ℂ) (ht0 : t ≠ 0) (hu0 : u ≠ 0)
    (ht : (starRingEnd ℂ) t = t⁻¹) (hu : (starRingEnd ℂ) u = u⁻¹) :
    let e1 := A * ((u + u⁻¹) / 2)
    let e2 := A * ((u - u⁻¹) / (2 * Complex.I))
    (starRingEnd ℂ) (pol11 t t⁻¹ * e1 + pol12 t t⁻¹ * e2) * (pol11 t t⁻¹ * e1 + pol12 t t⁻¹ * e2)
      + (starRingEnd ℂ) (pol21 t t⁻¹ * e1 + pol22 t t⁻¹ * e2) * (pol21 t t⁻¹ * e1 + pol22 t t⁻¹ * e2)
      = (starRingEnd ℂ) A * A * ((t * u⁻¹ + t⁻¹ * u) / 2) ^ 2 := by
  intro e1 e2
  obtain ⟨e11, e12, e21, e22⟩ := pol_eq (mul_inv_cancel₀ ht0)
  have hcs := cosP_sq_add_sinP_sq (mul_inv_cancel₀ ht0)
  have he1 : e1 = A * cosP u u⁻¹ := rfl
  have he2 : e2 = A * sinP u u⁻¹ := by rw [← sinP_eq_div_I]
  -- the amplitude behind the polariser is `A cos(θ−α)·(cos θ, sin θ)`
  rw [e11, e12, e21, e22, he1, he2, cosP_sub]
  simp only [map_add, map_mul, map_pow, conj_cosP ht, conj_sinP ht, conj_cosP hu, conj_sinP hu]
  linear_combination ((starRingEnd ℂ) A * A * (cosP t t⁻¹ * cosP u u⁻¹ + sinP t t⁻¹ * sinP u u⁻¹) ^ 2) * hcs

/-- The two ports of the linear polarising beam splitter are the polariser at θ and a complementary
projector: their Jones matrices add up to the identity … -/
theorem pbs_ports_sum (ti : ℂ) :
    pbs111 t ti = pol11 t ti ∧ pbs112 t ti = pol12 t ti ∧ pbs121 t ti = pol21 t ti ∧ pbs122 t ti = pol22 t ti ∧
    pbs111 t ti + pbs211 t ti = 1 ∧ pbs112 t ti + pbs212 t ti = 0 ∧
    pbs121 t ti + pbs221 t ti = 0 ∧ pbs122 t ti + pbs222 t ti = 1 :=
  ⟨rfl, rfl, rfl, rfl, by unfold pbs111 pbs211; ring, by unfold pbs112 pbs212; ring, by unfold pbs121 pbs221; ring,
    by unfold pbs122 pbs222; ring⟩

/-- … and the port intensities add up to the input intensity for every Jones vector. -/
theorem pbs_intensities_add (e1 e2 : ℂ) (ht0 : t ≠ 0) (ht : (starRingEnd ℂ) t = t⁻¹) :
    ((starRingEnd ℂ) (pbs111 t t⁻¹ * e1 + pbs112 t t⁻¹ * e2) * (pbs111 t t⁻¹ * e1 + pbs112 t t⁻¹ * e2)
      + (starRingEnd ℂ) (pbs121 t t⁻¹ * e1 + pbs122 t t⁻¹ * e2) * (pbs121 t t⁻¹ * e1 + pbs122 t t⁻¹ * e2))
    + ((starRingEnd ℂ) (pbs211 t t⁻¹ * e1 + pbs212 t t⁻¹ * e2) * (pbs211 t t⁻¹ * e1 + pbs212 t t⁻¹ * e2)
      + (starRingEnd ℂ) (pbs221 t t⁻¹ * e1 + pbs222 t t⁻¹ * e2) * (pbs221 t t⁻¹ * e1 + pbs222 t t⁻¹ * e2))
      = (starRingEnd ℂ) e1 * e1 + (starRingEnd ℂ) e2 * e2 := by
  obtain ⟨q11, q12, q21, q22, -⟩ := pbs_ports_sum t t⁻¹
  obtain ⟨a11, a12, a21, a22⟩ := pol_eq (mul_inv_cancel₀ ht0)
  obtain ⟨b11, b12, b21, b22⟩ := pbs2_eq (mul_inv_cancel₀ ht0)
  have hcs := cosP_sq_add_sinP_sq (mul_inv_cancel₀ ht0)
  rw [q11, q12, q21, q22, a11, a12, a21, a22, b11, b12, b21, b22]
  simp only [map_add, map_mul, map_pow, map_neg, conj_cosP ht, conj_sinP ht]
  linear_combination ((cosP t t⁻¹ ^ 2 + sinP t t⁻¹ ^ 2 + 1) * ((starRingEnd ℂ) e1 * e1 + (starRingEnd ℂ) e2 * e2)) * hcs

/-- Partially polarised light through the two ports `P(θ)`, `P(θ+π/2)` (model matrices with
`c = cos θ`, `s = sin θ`): the two reported intensities add up to the input intensity. -/
theorem pbs_ports_sum_tensor (c s : ℝ) (h : c ^ 2 + s ^ 2 = 1) (e : J2 ℝ) (sv : S4 ℝ) :
    (jonesStokes (polarizer c s * e) sv).i + (jonesStokes (polarizer (-s) c * e) sv).i
      = (jonesStokes e sv).i :=
  polarizer_ports_split c s h e sv

variable (pr pi qr qi : ℝ)

/-- Circular beam splitter: the two port intensities add up to the input intensity and their
difference is Stokes `V` (port 1 carries `(I − V)/2`, port 2 `(I + V)/2`). -/
theorem cbs_ports_sum :
    cbs1I pr pi qr qi + cbs2I pr pi qr qi = vecI pr pi qr qi ∧
    cbs2I pr pi qr qi - cbs1I pr pi qr qi = vecV pr pi qr qi := by
  exact ⟨by unfold cbs1I cbs2I vecI; ring, by unfold cbs1I cbs2I vecV; ring⟩

end polarizer

/-! ## 6. The hand model of the retarder / polariser is what the code applies -/
section model
variable (c s pc ps xc xs : ℝ)

/-- With `t = c + i s`, `p = pc + i ps`, `x = xc + i xs` on the unit circle, the Laurent polynomials
identified from `PhaseRetarder.forward` are the entries of `Model.retarder`. -/
theorem gen_retarder_eq_model (h : c ^ 2 + s ^ 2 = 1) :
    let t : ℂ := ⟨c, s⟩; let ti : ℂ := ⟨c, -s⟩
    let p : ℂ := ⟨pc, ps⟩; let pi : ℂ := ⟨pc, -ps⟩
    let x : ℂ := ⟨xc, xs⟩; let xi : ℂ := ⟨xc, -xs⟩
    ret11 t ti p pi x xi = (retarder c s ⟨pc, ps⟩ ⟨xc, xs⟩).a11.toComplex ∧
    ret12 t ti p pi x xi = (retarder c s ⟨pc, ps⟩ ⟨xc, xs⟩).a12.toComplex ∧
    ret21 t ti p pi x xi = (retarder c s ⟨pc, ps⟩ ⟨xc, xs⟩).a21.toComplex ∧
    ret22 t ti p pi x xi = (retarder c s ⟨pc, ps⟩ ⟨xc, xs⟩).a22.toComplex := by
  intro t ti p pi x xi
  obtain ⟨e11, e12, e21, e22⟩ := ret_eq (mk_mul_mk_conj h) ⟨pc, ps⟩ ⟨pc, -ps⟩ ⟨xc, xs⟩ ⟨xc, -xs⟩
  rw [e11, e12, e21, e22, cosP_mk, sinP_mk]
  -- the model's entries in `ℂ`, its pairs read as the same literals `⟨pc, ps⟩`, `⟨pc, -ps⟩`, … that stand on the left
  simp only [retarder, Cx.toComplex_add, Cx.toComplex_sub, Cx.toComplex_mul, Cx.toComplex_smul]
  simp only [Cx.toComplex, Cx.conj]
  push_cast
  exact ⟨by ring, by ring, by ring, by ring⟩

theorem gen_polarizer_eq_model (h : c ^ 2 + s ^ 2 = 1) :
    let t : ℂ := ⟨c, s⟩; let ti : ℂ := ⟨c, -s⟩
    pol11 t ti = (polarizer c s).a11.toComplex ∧ pol12 t ti = (polarizer c s).a12.toComplex ∧
    pol21 t ti = (polarizer c s).a21.toComplex ∧ pol22 t ti = (polarizer c s).a22.toComplex := by
  intro t ti
  obtain ⟨e11, e12, e21, e22⟩ := pol_eq (mk_mul_mk_conj h)
  rw [e11, e12, e21, e22, cosP_mk, sinP_mk]
  simp only [polarizer, Cx.toComplex_ofReal, Complex.ofReal_mul, sq, and_self]

/-- Port 2 of the linear polarising beam splitter applies `polarizer (-s) c` (the polariser at θ+π/2). -/
theorem pbs2_eq_model (h : c ^ 2 + s ^ 2 = 1) :
    let t : ℂ := ⟨c, s⟩; let ti : ℂ := ⟨c, -s⟩
    pbs211 t ti = (polarizer (-s) c).a11.toComplex ∧ pbs212 t ti = (polarizer (-s) c).a12.toComplex ∧
    pbs221 t ti = (polarizer (-s) c).a21.toComplex ∧ pbs222 t ti = (polarizer (-s) c).a22.toComplex := by
  intro t ti
  obtain ⟨e11, e12, e21, e22⟩ := pbs2_eq (mk_mul_mk_conj h)
  rw [e11, e12, e21, e22, cosP_mk, sinP_mk]
  simp only [polarizer, Cx.toComplex_ofReal]
  push_cast
  exact ⟨by ring, by ring, by ring, by ring⟩

example : (3 / 5 : ℝ) ^ 2 + (4 / 5) ^ 2 = 1 := by norm_num

end model

/-! ## 7. Unitary elements and partially polarised light -/

section unitaryTensor
variable (xr xi yr yi zr zi wr wi : ℝ)

theorem unitary_mueller_first_row (h : IsUnitary8 xr xi yr yi zr zi wr wi) :
    genMueller xr xi yr yi zr zi wr wi 0 0 = 1 ∧ genMueller xr xi yr yi zr zi wr wi 0 1 = 0 ∧
    genMueller xr xi yr yi zr zi wr wi 0 2 = 0 ∧ genMueller xr xi yr yi zr zi wr wi 0 3 = 0 :=
  -- the first row is the intensity functional, which a unitary matrix leaves alone
  mulVec_first_row fun s => (congrArg S4.i (gen_mueller_eq_coherency xr xi yr yi zr zi wr wi s.i s.q s.u s.v)).trans
    (IsUnitary8.jonesStokes_i (j := mkJ _ _ _ _ _ _ _ _) h _)

/-- A unitary Jones element conserves the reported intensity of *every* Jones-matrix (partially polarised) wavefront,
whatever its input Stokes vector. -/
theorem unitary_conserves_I_tensor (h : IsUnitary8 xr xi yr yi zr zi wr wi) (e : J2 ℝ) (s : S4 ℝ) :
    (jonesStokes (mkJ xr xi yr yi zr zi wr wi * e) s).i = (jonesStokes e s).i := by
  rw [jonesStokes_mul]
  exact IsUnitary8.jonesStokes_i h _

/-- `IsUnitary8` is satisfiable by a non-trivial matrix (`[[i, 0], [0, (3+4i)/5]]`). -/
example : IsUnitary8 0 1 0 0 0 0 (3/5) (4/5) := by
  unfold IsUnitary8; norm_num
end unitaryTensor

section retarderTensor
variable (t p x : ℂ)

/-- The Mueller matrix (generated `jones_to_mueller`) of the matrix `PhaseRetarder.forward` applies
(generated `ret*`) has first row `(1, 0, 0, 0)`: `I` is conserved for every Stokes vector. -/
theorem retarder_mueller_first_row (ht0 : t ≠ 0) (hp0 : p ≠ 0) (hx0 : x ≠ 0)
    (ht : (starRingEnd ℂ) t = t⁻¹) (hp : (starRingEnd ℂ) p = p⁻¹) (hx : (starRingEnd ℂ) x = x⁻¹) (k : Nat) (hk : k < 4) :
    genMueller (ret11 t t⁻¹ p p⁻¹ x x⁻¹).re (ret11 t t⁻¹ p p⁻¹ x x⁻¹).im (ret12 t t⁻¹ p p⁻¹ x x⁻¹).re (ret12 t t⁻¹ p p⁻¹ x x⁻¹).im
      (ret21 t t⁻¹ p p⁻¹ x x⁻¹).re (ret21 t t⁻¹ p p⁻¹ x x⁻¹).im (ret22 t t⁻¹ p p⁻¹ x x⁻¹).re (ret22 t t⁻¹ p p⁻¹ x x⁻¹).im 0 k
      = if k = 0 then 1 else 0 := by
  obtain ⟨h11, h12, h21, h22⟩ := retarder_unitary t p x ht0 hp0 hx0 ht hp hx
  obtain ⟨r0, r1, r2, r3⟩ := unitary_mueller_first_row _ _ _ _ _ _ _ _ (unitary8_of_complex _ _ _ _ h11 h12 h22)
  interval_cases k <;> simp [r0, r1, r2, r3]

/-- Ideal retarders conserve `I` for Jones-matrix wavefronts (C07's tensor clause for retarders). -/
theorem retarder_conserves_I_tensor (ht0 : t ≠ 0) (hp0 : p ≠ 0) (hx0 : x ≠ 0)
    (ht : (starRingEnd ℂ) t = t⁻¹) (hp : (starRingEnd ℂ) p = p⁻¹) (hx : (starRingEnd ℂ) x = x⁻¹) (e : J2 ℝ) (s : S4 ℝ) :
    (jonesStokes (mkJ (ret11 t t⁻¹ p p⁻¹ x x⁻¹).re (ret11 t t⁻¹ p p⁻¹ x x⁻¹).im (ret12 t t⁻¹ p p⁻¹ x x⁻¹).re (ret12 t t⁻¹ p p⁻¹ x x⁻¹).im
      (ret21 t t⁻¹ p p⁻¹ x x⁻¹).re (ret21 t t⁻¹ p p⁻¹ x x⁻¹).im (ret22 t t⁻¹ p p⁻¹ x x⁻¹).re (ret22 t t⁻¹ p p⁻¹ x x⁻¹).im * e) s).i
      = (jonesStokes e s).i := by
  obtain ⟨h11, h12, h21, h22⟩ := retarder_unitary t p x ht0 hp0 hx0 ht hp hx
  exact unitary_conserves_I_tensor _ _ _ _ _ _ _ _ (unitary8_of_complex _ _ _ _ h11 h12 h22) e s

/-- `backward ∘ forward = id` on Jones-matrix wavefronts (matrix product with any 2×2 complex field). -/
theorem retarder_backward_forward_tensor (ht : t ≠ 0) (hp : p ≠ 0) (hx : x ≠ 0) (e11 e12 e21 e22 : ℂ) :
    let f11 := ret11 t t⁻¹ p p⁻¹ x x⁻¹ * e11 + ret12 t t⁻¹ p p⁻¹ x x⁻¹ * e21
    let f12 := ret11 t t⁻¹ p p⁻¹ x x⁻¹ * e12 + ret12 t t⁻¹ p p⁻¹ x x⁻¹ * e22
    let f21 := ret21 t t⁻¹ p p⁻¹ x x⁻¹ * e11 + ret22 t t⁻¹ p p⁻¹ x x⁻¹ * e21
    let f22 := ret21 t t⁻¹ p p⁻¹ x x⁻¹ * e12 + ret22 t t⁻¹ p p⁻¹ x x⁻¹ * e22
    retB11 t t⁻¹ p p⁻¹ x x⁻¹ * f11 + retB12 t t⁻¹ p p⁻¹ x x⁻¹ * f21 = e11 ∧
    retB11 t t⁻¹ p p⁻¹ x x⁻¹ * f12 + retB12 t t⁻¹ p p⁻¹ x x⁻¹ * f22 = e12 ∧
    retB21 t t⁻¹ p p⁻¹ x x⁻¹ * f11 + retB22 t t⁻¹ p p⁻¹ x x⁻¹ * f21 = e21 ∧
    retB21 t t⁻¹ p p⁻¹ x x⁻¹ * f12 + retB22 t t⁻¹ p p⁻¹ x x⁻¹ * f22 = e22 := by
  intro f11 f12 f21 f22
  obtain ⟨i11, i12, i21, i22⟩ := retarder_backward_inverse t p x ht hp hx
  simp only [f11, f12, f21, f22]
  refine ⟨?_, ?_, ?_, ?_⟩
  · linear_combination e11 * i11 + e21 * i12
  · linear_combination e12 * i11 + e22 * i12
  · linear_combination e11 * i21 + e21 * i22
  · linear_combination e12 * i21 + e22 * i22
end retarderTensor

/-! ## 8. The reported degrees and angle of polarisation, on the executable model

`S4.dopSq`, `S4.dolpSq`, `S4.qn`, `S4.un`, `S4.vn` of `Model/Jones.lean` are run by driver op `degrees` on the Stokes vector
of the model (`jonesStokes` / `vecStokes` / `scalarStokes`) and compared by the harness with the code's
`degree_of_polarization²`, `degree_of_linear_polarization²`, `degree_of_circular_polarization`,
`ellipticity·(1 + dolp)` and `(cos, sin)(2·angle_of_linear_polarization)·dolp`; `model_degrees_sqrt`,
`model_ellipticity` and `model_aolp` are the bridges from the code's square-root / atan2 formulas to these. -/
section degrees

/-- `dop² = dolp² + docp²`. -/
theorem model_dopSq_split (s : S4 ℝ) : s.dopSq = s.dolpSq + s.vn ^ 2 := by
  unfold S4.dopSq S4.dolpSq S4.vn
  ring

/-- `dolp² = (Q/I)² + (U/I)²`. -/
theorem model_dolpSq_split (s : S4 ℝ) : s.dolpSq = s.qn ^ 2 + s.un ^ 2 := by
  unfold S4.dolpSq S4.qn S4.un
  ring

/-- Bridge to the specification function `dop` and to the code's square-root formulas (`0 < I`). -/
theorem model_degrees_sqrt (s : S4 ℝ) (hI : 0 < s.i) :
    Real.sqrt s.dopSq = dop s ∧ Real.sqrt s.dolpSq = Real.sqrt (s.q ^ 2 + s.u ^ 2) / s.i := by
  constructor
  · unfold S4.dopSq dop
    rw [Real.sqrt_div' _ (mul_self_nonneg _), Real.sqrt_mul_self hI.le]; congr 2; ring
  · unfold S4.dolpSq
    rw [Real.sqrt_div' _ (mul_self_nonneg _), Real.sqrt_mul_self hI.le]; congr 2; ring

/-- `ellipticity = V/(I+√(Q²+U²))` in terms of the model outputs: `ε · (1 + dolp) = V/I`. -/
theorem model_ellipticity (s : S4 ℝ) (hI : 0 < s.i) :
    s.v / (s.i + Real.sqrt (s.q ^ 2 + s.u ^ 2)) * (1 + Real.sqrt s.dolpSq) = s.vn := by
  rw [(model_degrees_sqrt s hI).2]
  unfold S4.vn
  have : s.i + Real.sqrt (s.q ^ 2 + s.u ^ 2) ≠ 0 := by positivity
  field_simp

/-- `angle_of_linear_polarization = ½ atan2(U, Q)`: any angle `α` with `(cos 2α, sin 2α)·√(Q²+U²) = (Q, U)` satisfies
`cos 2α · dolp = Q/I`, `sin 2α · dolp = U/I` (what the harness compares). -/
theorem model_aolp (s : S4 ℝ) (hI : 0 < s.i) (c2 s2 : ℝ) (hc : c2 * Real.sqrt (s.q ^ 2 + s.u ^ 2) = s.q)
    (hs : s2 * Real.sqrt (s.q ^ 2 + s.u ^ 2) = s.u) :
    c2 * Real.sqrt s.dolpSq = s.qn ∧ s2 * Real.sqrt s.dolpSq = s.un := by
  rw [(model_degrees_sqrt s hI).2]
  unfold S4.qn S4.un
  constructor
  · rw [← mul_div_assoc, hc]
  · rw [← mul_div_assoc, hs]

theorem model_minkowski (e : J2 ℝ) (s : S4 ℝ) :
    (jonesStokes e s).i ^ 2 - (jonesStokes e s).q ^ 2 - (jonesStokes e s).u ^ 2 - (jonesStokes e s).v ^ 2
      = e.det.normSq * (s.i ^ 2 - s.q ^ 2 - s.u ^ 2 - s.v ^ 2) :=
  jonesStokes_minkowski e s

/-- Partially polarised light: the reported degree of polarisation is at most one for a physical input Stokes vector. -/
theorem model_dopSq_tensor_le_one (e : J2 ℝ) (s : S4 ℝ) (hphys : s.q ^ 2 + s.u ^ 2 + s.v ^ 2 ≤ s.i ^ 2)
    (hI : 0 < (jonesStokes e s).i) : (jonesStokes e s).dopSq ≤ 1 := by
  unfold S4.dopSq
  rw [div_le_one (by positivity)]
  linarith [jonesStokes_cone e s hphys]

/-- Jones-vector wavefronts are fully polarised. -/
theorem model_dopSq_vector_eq_one (e : V2 ℝ) (hI : 0 < (vecStokes e).i) : (vecStokes e).dopSq = 1 := by
  unfold S4.dopSq
  rw [div_eq_one_iff_eq (by positivity)]
  linear_combination vecStokes_pure e

/-- Scalar wavefronts are reported unpolarised. -/
theorem model_dopSq_scalar_eq_zero (e : Cx ℝ) : (scalarStokes e).dopSq = 0 ∧ (scalarStokes e).dolpSq = 0 ∧ (scalarStokes e).vn = 0 := by
  simp [S4.dopSq, S4.dolpSq, S4.vn, scalarStokes]

/-- Light linearly polarised at angle ψ (`A·(cos ψ, sin ψ)`, `A ≠ 0` complex): `(Q/I, U/I, V/I) = (cos 2ψ, sin 2ψ, 0)`, `dolp = 1`. -/
theorem model_aolp_linear (A : Cx ℝ) (cs sn : ℝ) (h : cs ^ 2 + sn ^ 2 = 1) (hA : 0 < A.normSq) :
    (vecStokes ⟨Cx.smul cs A, Cx.smul sn A⟩).qn = cs ^ 2 - sn ^ 2 ∧
    (vecStokes ⟨Cx.smul cs A, Cx.smul sn A⟩).un = 2 * cs * sn ∧
    (vecStokes ⟨Cx.smul cs A, Cx.smul sn A⟩).vn = 0 ∧
    (vecStokes ⟨Cx.smul cs A, Cx.smul sn A⟩).dolpSq = 1 := by
  have hS : vecStokes ⟨Cx.smul cs A, Cx.smul sn A⟩
      = ⟨A.normSq, A.normSq * (cs ^ 2 - sn ^ 2), A.normSq * (2 * cs * sn), 0⟩ := by
    apply S4.ext <;> simp only [jones_expand]
    · linear_combination (A.re * A.re + A.im * A.im) * h
    · ring
    · ring
    · ring
  rw [hS]
  refine ⟨mul_div_cancel_left₀ _ hA.ne', mul_div_cancel_left₀ _ hA.ne', zero_div _, ?_⟩
  unfold S4.dolpSq
  rw [div_eq_one_iff_eq (mul_self_ne_zero.mpr hA.ne')]
  linear_combination (A.normSq ^ 2 * (cs ^ 2 + sn ^ 2 + 1)) * h

example : (3 / 5 : ℝ) ^ 2 + (4 / 5) ^ 2 = 1 ∧ 0 < (⟨1, 2⟩ : Cx ℝ).normSq := by
  constructor <;> norm_num [Cx.normSq]

end degrees

/-! ## 9. Every retarder class, through the executable model

The subclasses map their parameters in Python; the harness sends the atoms each class implies to driver op `retarder` and compares
with the class's `jones_matrix`, so the theorems below (about `Model.retarder`) speak about all six classes. -/
section modelRetarder
variable (c s pc ps xc xs : ℝ)

/-- `Jᴴ J = 1` for the executable retarder with atoms on the unit circle. -/
theorem model_retarder_unitary (h : c ^ 2 + s ^ 2 = 1) (hp : pc ^ 2 + ps ^ 2 = 1) (hx : xc ^ 2 + xs ^ 2 = 1) :
    IsUnitary8 (retarder c s ⟨pc, ps⟩ ⟨xc, xs⟩).a11.re (retarder c s ⟨pc, ps⟩ ⟨xc, xs⟩).a11.im
      (retarder c s ⟨pc, ps⟩ ⟨xc, xs⟩).a12.re (retarder c s ⟨pc, ps⟩ ⟨xc, xs⟩).a12.im
      (retarder c s ⟨pc, ps⟩ ⟨xc, xs⟩).a21.re (retarder c s ⟨pc, ps⟩ ⟨xc, xs⟩).a21.im
      (retarder c s ⟨pc, ps⟩ ⟨xc, xs⟩).a22.re (retarder c s ⟨pc, ps⟩ ⟨xc, xs⟩).a22.im := by
  obtain ⟨t0, ti, tc⟩ := unit_circle c s h
  obtain ⟨p0, pi, pcj⟩ := unit_circle pc ps hp
  obtain ⟨x0, xi, xcj⟩ := unit_circle xc xs hx
  obtain ⟨g11, g12, g21, g22⟩ := gen_retarder_eq_model c s pc ps xc xs h
  obtain ⟨h11, h12, h21, h22⟩ := retarder_unitary (⟨c, s⟩ : ℂ) ⟨pc, ps⟩ ⟨xc, xs⟩ t0 p0 x0 tc pcj xcj
  have key := unitary8_of_complex _ _ _ _ h11 h12 h22
  rw [ti, pi, xi, g11, g12, g21, g22] at key
  exact key

/-- **The executable retarder** (`Model.retarder`, driver op `retarder`, compared with `jones_matrix` of *every* retarder class
— `PhaseRetarder`, `LinearRetarder` (χ = 0), `CircularRetarder` (θ = π/4, χ = π/2), `QuarterWavePlate` (φ/2 = π/4),
`HalfWavePlate` and `GeometricPhaseElement` (φ/2 = π/2) — at the atoms the class implies) conserves the intensity of every
Jones-matrix (partially polarised) wavefront, for atoms on the unit circle. -/
theorem model_retarder_conserves_I_tensor (h : c ^ 2 + s ^ 2 = 1) (hp : pc ^ 2 + ps ^ 2 = 1) (hx : xc ^ 2 + xs ^ 2 = 1)
    (e : J2 ℝ) (sv : S4 ℝ) :
    (jonesStokes (retarder c s ⟨pc, ps⟩ ⟨xc, xs⟩ * e) sv).i = (jonesStokes e sv).i := by
  exact unitary_conserves_I_tensor _ _ _ _ _ _ _ _ (model_retarder_unitary c s pc ps xc xs h hp hx) e sv

/-- The atoms implied by the subclasses lie on the unit circle (`√½` for quarter-wave retardance and for the circular retarder). -/
example : (0 : ℝ) ^ 2 + 1 ^ 2 = 1 ∧ (1 : ℝ) ^ 2 + 0 ^ 2 = 1 ∧ Real.sqrt (1 / 2) ^ 2 + Real.sqrt (1 / 2) ^ 2 = 1 := by
  refine ⟨by norm_num, by norm_num, ?_⟩
  rw [Real.sq_sqrt (by norm_num)]; norm_num

end modelRetarder

/-- In the executable model `backward` (`Jᴴ·`, op `applyadj`) undoes `forward` (`J·`, op `apply`) for every unitary `J`. -/
theorem model_unitary_backward_forward (j : J2 ℝ)
    (h : IsUnitary8 j.a11.re j.a11.im j.a12.re j.a12.im j.a21.re j.a21.im j.a22.re j.a22.im) (e : V2 ℝ) :
    j.adj.apply (j.apply e) = e := by
  rw [J2.apply_apply, h.adj_mul_self, J2.one_apply]

/-! ## 10. Both beam splitters on the executable model, partially polarised light included -/
section splitter
variable (c s cq sq pc ps xc xs : ℝ)

/-- **Both beam splitters, partially polarised light**: the executable ports
`P(θ)·R·E`, `P(θ+π/2)·R·E` (`Model.splitterPorts`, driver op `ports`; `R` the identity for the linear splitter, the
quarter-wave plate at 45° for the circular one) carry together exactly the input intensity, for every Jones-matrix
field and every input Stokes vector. -/
theorem model_splitter_ports_sum_tensor (h : c ^ 2 + s ^ 2 = 1) (hq : cq ^ 2 + sq ^ 2 = 1) (hp : pc ^ 2 + ps ^ 2 = 1)
    (hx : xc ^ 2 + xs ^ 2 = 1) (e : J2 ℝ) (sv : S4 ℝ) :
    (jonesStokes (splitterPorts c s (retarder cq sq ⟨pc, ps⟩ ⟨xc, xs⟩) e).1 sv).i
      + (jonesStokes (splitterPorts c s (retarder cq sq ⟨pc, ps⟩ ⟨xc, xs⟩) e).2 sv).i = (jonesStokes e sv).i := by
  unfold splitterPorts
  simp only
  rw [polarizer_ports_split c s h, model_retarder_conserves_I_tensor cq sq pc ps xc xs hq hp hx]

theorem model_unitary_conserves_I_vector (j : J2 ℝ)
    (h : IsUnitary8 j.a11.re j.a11.im j.a12.re j.a12.im j.a21.re j.a21.im j.a22.re j.a22.im) (e : V2 ℝ) :
    (vecStokes (j.apply e)).i = (vecStokes e).i := by
  rw [vecStokes_apply]
  exact h.jonesStokes_i _

theorem model_polarizer_ports_split_vector (h : c ^ 2 + s ^ 2 = 1) (e : V2 ℝ) :
    (vecStokes ((polarizer c s).apply e)).i + (vecStokes ((polarizer (-s) c).apply e)).i = (vecStokes e).i := by
  rw [vecStokes_apply, vecStokes_apply, polarizer_split c s h]

/-- The two ports of either beam splitter add up to the input intensity for Jones-vector wavefronts, too. -/
theorem model_splitter_ports_sum_vector (h : c ^ 2 + s ^ 2 = 1) (hq : cq ^ 2 + sq ^ 2 = 1) (hp : pc ^ 2 + ps ^ 2 = 1)
    (hx : xc ^ 2 + xs ^ 2 = 1) (e : V2 ℝ) :
    (vecStokes (splitterPortsV c s (retarder cq sq ⟨pc, ps⟩ ⟨xc, xs⟩) e).1).i
      + (vecStokes (splitterPortsV c s (retarder cq sq ⟨pc, ps⟩ ⟨xc, xs⟩) e).2).i = (vecStokes e).i := by
  unfold splitterPortsV
  simp only
  rw [model_polarizer_ports_split_vector c s h,
    model_unitary_conserves_I_vector _ (model_retarder_unitary cq sq pc ps xc xs hq hp hx)]

/-- The atoms of the two splitters satisfy the hypotheses: linear (`R = 1`: `p = x = 1`, any θ) and circular
(`θ = 0`, quarter-wave plate at 45°: `cq = sq = √½`, `p = (√½, √½)`, `x = 1`). -/
example : (3 / 5 : ℝ) ^ 2 + (4 / 5) ^ 2 = 1 ∧ (1 : ℝ) ^ 2 + 0 ^ 2 = 1 ∧ Real.sqrt (1 / 2) ^ 2 + Real.sqrt (1 / 2) ^ 2 = 1 := by
  refine ⟨by norm_num, by norm_num, ?_⟩
  rw [Real.sq_sqrt (by norm_num)]; norm_num

end splitter

/-! ## 11. The clauses about retarders, polarisers and beam splitters on the executed matrices

`retarder`, `polarizer`, `splitterPorts`, `muellerDef`, `J2.adj`, `J2.apply` are the definitions the driver runs (ops `retarder`,
`polarizer`, `ports`, `mueller`, `applyadj`, `apply`) and the harness compares with `jones_matrix`, `mueller_matrix`, `forward` and
`backward` of the real elements at Gaussian-rational atoms. -/
section executed
variable (c s pc ps xc xs : ℝ)

/-- **Mueller route = Jones route on the executed definitions**, for every Jones matrix: the Stokes vector after `J` is the executed
`muellerDef J` applied to the Stokes vector before it (partially polarised light, any input Stokes vector). -/
theorem model_mueller_route_tensor (j e : J2 ℝ) (sv : S4 ℝ) :
    jonesStokes (j * e) sv = mulVec (muellerDef j) (jonesStokes e sv) := by
  rw [jonesStokes_mul, mulVec_muellerDef]

/-- … in particular for the executed retarder (all six retarder classes), the executed polariser and both ports of either
beam splitter: `mueller_matrix · stokes(before) = stokes(after)`. -/
theorem model_elements_mueller_route (e : J2 ℝ) (sv : S4 ℝ) :
    jonesStokes (retarder c s ⟨pc, ps⟩ ⟨xc, xs⟩ * e) sv = mulVec (muellerDef (retarder c s ⟨pc, ps⟩ ⟨xc, xs⟩)) (jonesStokes e sv) ∧
    jonesStokes (polarizer c s * e) sv = mulVec (muellerDef (polarizer c s)) (jonesStokes e sv) ∧
    jonesStokes (splitterPorts c s (retarder pc ps ⟨xc, xs⟩ ⟨1, 0⟩) e).1 sv
      = mulVec (muellerDef (polarizer c s)) (mulVec (muellerDef (retarder pc ps ⟨xc, xs⟩ ⟨1, 0⟩)) (jonesStokes e sv)) ∧
    jonesStokes (splitterPorts c s (retarder pc ps ⟨xc, xs⟩ ⟨1, 0⟩) e).2 sv
      = mulVec (muellerDef (polarizer (-s) c)) (mulVec (muellerDef (retarder pc ps ⟨xc, xs⟩ ⟨1, 0⟩)) (jonesStokes e sv)) := by
  refine ⟨model_mueller_route_tensor _ e sv, model_mueller_route_tensor _ e sv, ?_, ?_⟩ <;>
  · unfold splitterPorts
    simp only
    rw [model_mueller_route_tensor, model_mueller_route_tensor]

/-- **The executed linear polariser is an idempotent Hermitian projector**: `P·P = P` and `Pᴴ = P` (so `backward`, which applies
`Pᴴ`, is `forward`). -/
theorem model_polarizer_projector (h : c ^ 2 + s ^ 2 = 1) :
    polarizer c s * polarizer c s = polarizer c s ∧ (polarizer c s).adj = polarizer c s := by
  constructor
  · apply J2.ext <;> apply Cx.ext <;>
      simp only [polarizer, J2.mul_a11, J2.mul_a12, J2.mul_a21, J2.mul_a22, Cx.add_re, Cx.add_im, Cx.mul_re, Cx.mul_im,
        mul_zero, zero_mul, sub_zero, add_zero]
    · linear_combination (c * c) * h
    · linear_combination (c * s) * h
    · linear_combination (c * s) * h
    · linear_combination (s * s) * h
  · simp only [J2.adj, polarizer, Cx.conj, neg_zero]

/-- **Malus' law on the executed polariser**: linearly polarised light `A·(cos α, sin α)` behind a polariser at angle θ carries
`|A|² cos²(θ − α)` (`cos(θ − α) = c·ca + s·sa`). -/
theorem model_malus (ca sa : ℝ) (h : c ^ 2 + s ^ 2 = 1) (A : Cx ℝ) :
    (vecStokes ((polarizer c s).apply ⟨Cx.smul ca A, Cx.smul sa A⟩)).i = A.normSq * (c * ca + s * sa) ^ 2 := by
  -- the left side is `c² + s²` times the right side
  simp only [polarizer, jones_expand]
  linear_combination ((A.re * A.re + A.im * A.im) * (c * ca + s * sa) ^ 2) * h

/-- **Retarders on the executed definitions**: `backward` (`Jᴴ·`) undoes `forward` (`J·`) on Jones vectors, and the first row of the
executed Mueller matrix is `(1, 0, 0, 0)` (the intensity is conserved whatever the Stokes vector). -/
theorem model_retarder_backward_forward (h : c ^ 2 + s ^ 2 = 1) (hp : pc ^ 2 + ps ^ 2 = 1) (hx : xc ^ 2 + xs ^ 2 = 1) (e : V2 ℝ) :
    (retarder c s ⟨pc, ps⟩ ⟨xc, xs⟩).adj.apply ((retarder c s ⟨pc, ps⟩ ⟨xc, xs⟩).apply e) = e ∧
    muellerDef (retarder c s ⟨pc, ps⟩ ⟨xc, xs⟩) 0 0 = 1 ∧ muellerDef (retarder c s ⟨pc, ps⟩ ⟨xc, xs⟩) 0 1 = 0 ∧
    muellerDef (retarder c s ⟨pc, ps⟩ ⟨xc, xs⟩) 0 2 = 0 ∧ muellerDef (retarder c s ⟨pc, ps⟩ ⟨xc, xs⟩) 0 3 = 0 := by
  have hu := model_retarder_unitary c s pc ps xc xs h hp hx
  exact ⟨model_unitary_backward_forward _ hu e,
    mulVec_first_row fun s => (congrArg S4.i (mulVec_muellerDef _ s)).trans (hu.jonesStokes_i s)⟩

/-- The hypotheses are satisfiable (Pythagorean angle, quarter-wave retardance, circularity 0). -/
example : (3 / 5 : ℝ) ^ 2 + (4 / 5) ^ 2 = 1 ∧ Real.sqrt (1 / 2) ^ 2 + Real.sqrt (1 / 2) ^ 2 = 1 ∧ (1 : ℝ) ^ 2 + 0 ^ 2 = 1 := by
  refine ⟨by norm_num, ?_, by norm_num⟩
  rw [Real.sq_sqrt (by norm_num)]; norm_num

/-- **Circular polarising beam splitter on the executed definitions** (`splitterPorts 1 0 R`, `R` the executed retarder at the atoms of a
quarter-wave plate at 45°: `cos θ = sin θ = h`, `exp(iφ/2) = h + h i`, `exp(iχ) = 1`, `h = √½`, i.e. `2h² = 1`): `R = h·[[1, i], [i, 1]]`
and the difference of the two port intensities is the circular Stokes parameter `V` of the input, for partially polarised light and
every input Stokes vector (their sum is `I`: `model_splitter_ports_sum_tensor`). -/
theorem model_cbs_ports_difference (h : ℝ) (hh : 2 * (h * h) = 1) (e : J2 ℝ) (sv : S4 ℝ) :
    retarder h h ⟨h, h⟩ ⟨1, 0⟩ = ⟨⟨h, 0⟩, ⟨0, h⟩, ⟨0, h⟩, ⟨h, 0⟩⟩ ∧
    (jonesStokes (splitterPorts 1 0 (retarder h h ⟨h, h⟩ ⟨1, 0⟩) e).2 sv).i
      - (jonesStokes (splitterPorts 1 0 (retarder h h ⟨h, h⟩ ⟨1, 0⟩) e).1 sv).i = (jonesStokes e sv).v := by
  have hr : retarder h h ⟨h, h⟩ ⟨1, 0⟩ = (⟨⟨h, 0⟩, ⟨0, h⟩, ⟨0, h⟩, ⟨h, 0⟩⟩ : J2 ℝ) := by
    rw [retarder_mk, hh, show h ^ 2 + h ^ 2 = 1 by linear_combination hh]
    simp only [sub_self, zero_mul, one_mul, mul_one, mul_zero, neg_zero]
  refine ⟨hr, ?_⟩
  -- by `jonesStokes_mul` only Stokes vectors matter: the ports differ by `−Q`, and the plate turns `V` into `−Q`
  have ports : ∀ t : S4 ℝ, (jonesStokes (polarizer (-0) 1) t).i - (jonesStokes (polarizer 1 0) t).i = -t.q :=
    fun t => by rw [polarizer_stokes_i, polarizer_stokes_i]; ring
  have plate : ∀ t : S4 ℝ, (jonesStokes ⟨⟨h, 0⟩, ⟨0, h⟩, ⟨0, h⟩, ⟨h, 0⟩⟩ t).q = -(2 * (h * h) * t.v) :=
    fun t => by simp only [jones_expand]; ring
  unfold splitterPorts
  simp only
  rw [hr, jonesStokes_mul, jonesStokes_mul, jonesStokes_mul, jonesStokes_mul, ports, plate, hh, one_mul, neg_neg]

/-- `2h² = 1` is satisfiable (`h = √½`). -/
example : 2 * (Real.sqrt (1 / 2) * Real.sqrt (1 / 2)) = (1 : ℝ) := by
  rw [Real.mul_self_sqrt (by norm_num)]; norm_num

/-- **`backward ∘ forward = id` on Jones-matrix wavefronts, executed definitions** (`J2.adj`, `J2.mul`: ops `adj`, `mul`): for every
unitary `J`, in particular the executed retarder of every retarder class. -/
theorem model_unitary_backward_forward_tensor (j : J2 ℝ)
    (h : IsUnitary8 j.a11.re j.a11.im j.a12.re j.a12.im j.a21.re j.a21.im j.a22.re j.a22.im) (e : J2 ℝ) :
    j.adj * (j * e) = e := by
  rw [← J2.mul_assoc, h.adj_mul_self, J2.one_mul]

theorem model_retarder_backward_forward_tensor (h : c ^ 2 + s ^ 2 = 1) (hp : pc ^ 2 + ps ^ 2 = 1) (hx : xc ^ 2 + xs ^ 2 = 1) (e : J2 ℝ) :
    (retarder c s ⟨pc, ps⟩ ⟨xc, xs⟩).adj * (retarder c s ⟨pc, ps⟩ ⟨xc, xs⟩ * e) = e :=
  model_unitary_backward_forward_tensor _ (model_retarder_unitary c s pc ps xc xs h hp hx) e

/-- The intensity of a Jones-matrix pixel with a physical input Stokes vector is non-negative (executed `jonesStokes`). -/
theorem model_stokesI_nonneg (e : J2 ℝ) (sv : S4 ℝ) (ha : 0 ≤ sv.i) (hphys : sv.q ^ 2 + sv.u ^ 2 + sv.v ^ 2 ≤ sv.i ^ 2) :
    0 ≤ (jonesStokes e sv).i := jonesStokes_i_nonneg e sv ha hphys

example : (0 : ℝ) ≤ (⟨1, 0, 0, 0⟩ : S4 ℝ).i ∧ (⟨1, 0, 0, 0⟩ : S4 ℝ).q ^ 2 + (⟨1, 0, 0, 0⟩ : S4 ℝ).u ^ 2 + (⟨1, 0, 0, 0⟩ : S4 ℝ).v ^ 2 ≤ (⟨1, 0, 0, 0⟩ : S4 ℝ).i ^ 2 := by
  norm_num

/-- **Half-wave plate** (`Model.halfWavePlate`, driver op `hwp`, compared with `HalfWavePlate` / `GeometricPhaseElement.jones_matrix`):
it is `i` times the reflection `[[cos 2θ, sin 2θ], [sin 2θ, −cos 2θ]]`, and two of them in a row are `−1` (the identity up to a global phase). -/
theorem model_hwp (h1 : c ^ 2 + s ^ 2 = 1) :
    halfWavePlate c s = ⟨⟨0, c * c - s * s⟩, ⟨0, 2 * (c * s)⟩, ⟨0, 2 * (c * s)⟩, ⟨0, s * s - c * c⟩⟩ ∧
    halfWavePlate c s * halfWavePlate c s = ⟨⟨-1, 0⟩, ⟨0, 0⟩, ⟨0, 0⟩, ⟨-1, 0⟩⟩ := by
  refine ⟨?_, ?_⟩
  · rw [halfWavePlate, retarder_mk]
    simp only [mul_zero, mul_one, neg_zero]
  · have i2 : (⟨0, 1⟩ : Cx ℝ) * ⟨0, 1⟩ = ⟨-1, 0⟩ := Cx.ext (by simp only [Cx.mul_re]; ring) (by simp only [Cx.mul_im]; ring)
    rw [halfWavePlate, retarder_mul h1 (by norm_num [Cx.normSq]), i2, retarder_real h1]

/-- **Quarter-wave plate** (`Model.quarterWavePlate`, driver op `qwp`, compared with `QuarterWavePlate.jones_matrix`; `h = √½`): two
quarter-wave plates at the same angle are the half-wave plate at that angle. -/
theorem model_qwp_twice (h : ℝ) (h1 : c ^ 2 + s ^ 2 = 1) (hh : 2 * (h * h) = 1) :
    quarterWavePlate c s h * quarterWavePlate c s h = halfWavePlate c s := by
  rw [quarterWavePlate, retarder_mul h1 (by norm_num [Cx.normSq])]
  -- `(h + h i)² = 2h² i`
  exact congrArg (retarder c s · _) (Cx.ext (sub_self _) (by show h * h + h * h = 1; linear_combination hh))

/-- Both wave plates are instances of the executed retarder, so they are unitary, conserve `I` for every wavefront kind and are undone by
`backward` (`model_retarder_unitary`, `model_retarder_conserves_I_tensor`, `model_retarder_backward_forward(_tensor)` at these atoms). -/
theorem model_waveplates_unitary (h : ℝ) (h1 : c ^ 2 + s ^ 2 = 1) (hh : 2 * (h * h) = 1) (e : J2 ℝ) (sv : S4 ℝ) :
    (jonesStokes (halfWavePlate c s * e) sv).i = (jonesStokes e sv).i ∧ (jonesStokes (quarterWavePlate c s h * e) sv).i = (jonesStokes e sv).i ∧
    (halfWavePlate c s).adj * (halfWavePlate c s * e) = e ∧ (quarterWavePlate c s h).adj * (quarterWavePlate c s h * e) = e := by
  have u1 : (0 : ℝ) ^ 2 + 1 ^ 2 = 1 := by norm_num
  have u2 : (1 : ℝ) ^ 2 + 0 ^ 2 = 1 := by norm_num
  have u3 : h ^ 2 + h ^ 2 = 1 := by linear_combination hh
  exact ⟨model_retarder_conserves_I_tensor c s 0 1 1 0 h1 u1 u2 e sv, model_retarder_conserves_I_tensor c s h h 1 0 h1 u3 u2 e sv,
    model_retarder_backward_forward_tensor c s 0 1 1 0 h1 u1 u2 e, model_retarder_backward_forward_tensor c s h h 1 0 h1 u3 u2 e⟩

end executed

end HcipyVerif.C08
