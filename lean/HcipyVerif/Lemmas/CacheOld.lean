import HcipyVerif.Model.Cache
import HcipyVerif.Lemmas.Dict

/-!
# Documentation only — the *unrepaired* instance cache (defect D3), not the code in /repo

`get_instance_data` / `_add_to_cache` as they were before the repair
`fix: agnostic elements no longer hand out an instance made for other grids` (two-stage lookup over all
keys, partial ones included; eviction by count), the history on which that lookup hands out the wrong
instance (`old_lens_counterexample`), and the partial transparency statement that did hold
(`old_forward_transparent_partial`).  It documents why the lookup was repaired.  **Nothing here is counted
as evidence for C05**: no driver op runs it and no harness comparison ties it to anything.
-/

namespace HcipyVerif.Cache
namespace Old

structure Inst where
  i : Option GridId
  o : Option GridId
  w : Option WlKey
  ver : Nat
deriving DecidableEq, Repr

structure Elem where
  gridDep : Bool
  wlDep : Bool
  maxN : Nat
  getIn : GridId → Option GridId    -- get_input_grid(output_grid)
  getOut : GridId → Option GridId   -- get_output_grid(input_grid)

/-- `_get_cache_keys`; `none` models the ValueError branches. -/
def getKeys (e : Elem) (i o : Option GridId) (w : Option WlKey) : Option (List Key) :=
  let gridParts : Option (List (Option GridId × Option GridId)) :=
    if e.gridDep then
      match i, o with
      | none, none => none
      | none, some b => some [(none, some b)]
      | some a, none => some [(some a, none)]
      | some a, some b => some [(some a, some b), (some a, none), (none, some b)]
    else some [(none, none)]
  let wlPart : Option (Option WlKey) :=
    if e.wlDep then (match w with | none => none | some k => some (some k)) else some none
  match gridParts, wlPart with
  | some gs, some wk => some (gs.map fun g => ⟨g.1, g.2, wk⟩)
  | _, _ => none

structure St where
  cache : List (Key × Inst)   -- OrderedDict, oldest first
  num : Nat
  ver : Nat
deriving Repr

def St.clear (s : St) : St := { s with cache := [], num := 0 }
def St.setParam (s : St) : St := { cache := [], num := 0, ver := s.ver + 1 }

def lookup (cache : List (Key × Inst)) (k : Key) : Option Inst :=
  (cache.find? (fun p => p.1 = k)).map (·.2)

def lookupFirst (cache : List (Key × Inst)) : List Key → Option Inst
  | [] => none
  | k :: ks => match lookup cache k with
    | some v => some v
    | none => lookupFirst cache ks

def assign (cache : List (Key × Inst)) (k : Key) (v : Inst) : List (Key × Inst) :=
  if cache.any (fun p => p.1 = k) then cache.map (fun p => if p.1 = k then (k, v) else p)
  else cache ++ [(k, v)]

/-- `_add_to_cache` (unrepaired): pops `len(keys)` entries; `none` models KeyError. -/
def addToCache (e : Elem) (s : St) (inst : Inst) (keys : List Key) : Option St :=
  let evicted : Option St :=
    if s.num = e.maxN then
      match s.cache with
      | [] => none
      | (_, v) :: rest =>
        match getKeys e v.i v.o v.w with
        | none => none
        | some old =>
          if rest.length < old.length - 1 then none
          else some { s with cache := rest.drop (old.length - 1), num := s.num - 1 }
    else some s
  evicted.map fun s' =>
    { s' with cache := keys.foldl (fun c k => assign c k inst) s'.cache, num := s'.num + 1 }

/-- `get_instance_data` (unrepaired): two-stage lookup over *all* keys including partial ones. -/
def getInstanceData (e : Elem) (s : St) (i o : Option GridId) (w : Option WlKey) :
    Option (St × Inst) :=
  match getKeys e i o w with
  | none => none
  | some keys =>
    match lookupFirst s.cache keys with
    | some v => some (s, v)
    | none =>
      let i' := match i with | some a => some a | none => o.bind e.getIn
      let o' := match o with | some b => some b | none => i'.bind e.getOut
      match getKeys e i' o' w with
      | none => none
      | some keys2 =>
        match lookupFirst s.cache keys2 with
        | some v => some (s, v)
        | none =>
          let inst : Inst := ⟨i', o', w, s.ver⟩
          (addToCache e s inst keys2).map fun s' => (s', inst)

/-- what a freshly constructed element would build for this request -/
def fresh (e : Elem) (ver : Nat) (i o : Option GridId) (w : Option WlKey) : Inst :=
  let i' := match i with | some a => some a | none => o.bind e.getIn
  let o' := match o with | some b => some b | none => i'.bind e.getOut
  ⟨i', o', w, ver⟩

/-- The lens propagator: fixed input grid 1 and fixed output grid 9, whatever is asked. -/
def lens : Elem :=
  { gridDep := true, wlDep := true, maxN := 11, getIn := fun _ => some 1, getOut := fun _ => some 9 }

def s0 : St := { cache := [], num := 0, ver := 0 }

/-- Counterexample history: forward on pupil grid 1, then forward on pupil grid 2. -/
def hist2 : Option (Inst × Inst) := do
  let (s1, _) ← getInstanceData lens s0 (some 1) none (some 5)
  let (_, v2) ← getInstanceData lens s1 (some 2) none (some 5)
  pure (v2, fresh lens 0 (some 2) none (some 5))

def Consistent (e : Elem) : Prop :=
  e.gridDep = true ∧ e.wlDep = true ∧
  (∀ a b, e.getOut a = some b → e.getIn b = some a) ∧
  (∀ a b, e.getIn b = some a → e.getOut a = some b) ∧
  (∀ a, ∃ b, e.getOut a = some b) ∧ (∀ b, ∃ a, e.getIn b = some a)

def WF (e : Elem) (v : Inst) : Prop :=
  ∃ a b k, v.i = some a ∧ v.o = some b ∧ v.w = some k ∧ e.getOut a = some b ∧ e.getIn b = some a

def KeyOf (k : Key) (v : Inst) : Prop :=
  k.w = v.w ∧ (k.i = v.i ∨ k.i = none) ∧ (k.o = v.o ∨ k.o = none) ∧ ¬(k.i = none ∧ k.o = none)

def Sound (e : Elem) (s : St) : Prop :=
  ∀ p ∈ s.cache, WF e p.2 ∧ KeyOf p.1 p.2 ∧ p.2.ver = s.ver

theorem lookupFirst_mem {cache : List (Key × Inst)} {ks : List Key} {v : Inst}
    (h : lookupFirst cache ks = some v) : ∃ k ∈ ks, (k, v) ∈ cache := by
  induction ks with
  | nil => cases h
  | cons k ks ih =>
    unfold lookupFirst at h
    split at h
    · rename_i v' hl
      cases h
      exact ⟨k, List.mem_cons_self, Dict.lookup_mem hl⟩
    · obtain ⟨k', hk', hm⟩ := ih h
      exact ⟨k', List.mem_cons_of_mem _ hk', hm⟩

theorem foldl_assign_mem {keys : List Key} {cache : List (Key × Inst)} {v : Inst} {p : Key × Inst}
    (h : p ∈ keys.foldl (fun c k => assign c k v) cache) : p ∈ cache ∨ (p.2 = v ∧ p.1 ∈ keys) := by
  induction keys generalizing cache with
  | nil => exact .inl h
  | cons k ks ih =>
    rcases ih h with h1 | ⟨h2, h3⟩
    · rcases Dict.mem_assign h1 with h1 | rfl
      · exact .inl h1
      · exact .inr ⟨rfl, List.mem_cons_self⟩
    · exact .inr ⟨h2, List.mem_cons_of_mem _ h3⟩

/-- An entry is what a fresh element builds for the request its key spells. -/
theorem eq_fresh_of_keyOf {e : Elem} {k : Key} {v : Inst} (hv : WF e v) (hk : KeyOf k v) :
    v = fresh e v.ver k.i k.o k.w := by
  obtain ⟨a, b, w, hi, ho, hw, hout, hin⟩ := hv
  obtain ⟨hkw, hki, hko, hne⟩ := hk
  obtain ⟨vi, vo, vw, vv⟩ := v
  cases hi; cases ho; cases hw
  rw [hkw]
  rcases hki with h | h <;> rcases hko with h' | h'
  · rw [h, h']; rfl
  · rw [h, h']; simp [fresh, hout]
  · rw [h, h']; simp [fresh, hin]
  · exact absurd ⟨h, h'⟩ hne

theorem hit_is_fresh {e : Elem} {s : St} (hs : Sound e s) {ks : List Key} {f : Inst}
    (hks : ∀ k0 ∈ ks, fresh e s.ver k0.i k0.o k0.w = f) {v : Inst}
    (h : lookupFirst s.cache ks = some v) : v = f := by
  obtain ⟨k0, hk0, hm⟩ := lookupFirst_mem h
  obtain ⟨hwf, hkey, hver⟩ := hs _ hm
  exact (eq_fresh_of_keyOf hwf hkey).trans (hver ▸ hks k0 hk0)

theorem addToCache_sound {e : Elem} {s s1 : St} {inst : Inst} {keys : List Key} (hs : Sound e s)
    (hwf : WF e inst) (hver : inst.ver = s.ver) (hkeys : ∀ k ∈ keys, KeyOf k inst)
    (h : addToCache e s inst keys = some s1) : Sound e s1 := by
  unfold addToCache at h
  obtain ⟨se, hev, rfl⟩ := Option.map_eq_some_iff.1 h
  have hse : (∀ p ∈ se.cache, p ∈ s.cache) ∧ se.ver = s.ver := by
    split at hev
    · split at hev
      · cases hev
      · rename_i k0 v0 rest hcache
        split at hev
        · cases hev
        · split at hev
          · cases hev
          · cases hev
            exact ⟨fun p hp => hcache ▸ List.mem_cons_of_mem _ (List.mem_of_mem_drop hp), rfl⟩
    · cases hev
      exact ⟨fun _ hp => hp, rfl⟩
  intro p hp
  rcases foldl_assign_mem hp with h | ⟨h1, h2⟩
  · exact hse.2 ▸ hs p (hse.1 p h)
  · rw [h1]
    exact ⟨hwf, hkeys _ h2, hver.trans hse.2.symm⟩

theorem forward_transparent (e : Elem) (hc : Consistent e) (s s' : St) (hs : Sound e s)
    (a : GridId) (k : WlKey) (v : Inst)
    (h : getInstanceData e s (some a) none (some k) = some (s', v)) :
    v = fresh e s.ver (some a) none (some k) ∧ Sound e s' := by
  obtain ⟨hg, hw, hoi, _, htot, _⟩ := hc
  obtain ⟨b, hout⟩ := htot a
  unfold getInstanceData at h
  simp only [getKeys, hg, hw, if_true] at h
  -- first stage: the request's own key
  split at h
  · rename_i v1 h1
    cases h
    exact ⟨hit_is_fresh hs (by simp) h1, hs⟩
  · -- second stage: the keys of the request with the output grid resolved
    simp only [hout, Option.bind] at h
    split at h
    · rename_i v2 h2
      cases h
      -- the key `(none, b)` spells the backward request; on a consistent element that one builds the same instance
      exact ⟨hit_is_fresh hs (by simp [fresh, hout, hoi a b hout]) h2, hs⟩
    · -- creation, registered under the full key and both partial keys
      obtain ⟨s1, hadd, hpair⟩ := Option.map_eq_some_iff.1 h
      cases hpair
      refine ⟨by simp [fresh, hout], addToCache_sound hs ⟨a, b, k, rfl, rfl, rfl, hout, hoi a b hout⟩ rfl ?_ hadd⟩
      simp [KeyOf]

/-- On the unrepaired lookup the lens propagator (fixed pupil grid 1, focal grid 9) used forward on
pupil grid 1 and then on pupil grid 2 hands out, for the second call, the instance made for
grid 1 (through the partial key `(None, hash(focal), wl)`), whereas a fresh element builds the one
for grid 2. -/
theorem old_lens_counterexample :
    hist2 = some (⟨some 1, some 9, some 5, 0⟩, ⟨some 2, some 9, some 5, 0⟩) := by decide

/-- The unrepaired two-stage lookup was transparent only in part: for *forward* requests on
elements that are grid- and wavelength-dependent and *consistent*.  Gap: backward and both-grid
requests, and inconsistent elements (for which `old_lens_counterexample` shows it false). -/
theorem old_forward_transparent_partial (e : Elem) (hc : Consistent e) (s s' : St)
    (hs : Sound e s) (a : GridId) (k : WlKey) (v : Inst)
    (h : getInstanceData e s (some a) none (some k) = some (s', v)) :
    v = fresh e s.ver (some a) none (some k) ∧ Sound e s' :=
  forward_transparent e hc s s' hs a k v h

example : Consistent ⟨true, true, 11, fun g => some g, fun g => some g⟩ :=
  ⟨rfl, rfl, fun a b h => by simp at h; simp [h], fun a b h => by simp at h; simp [h],
    fun a => ⟨a, rfl⟩, fun b => ⟨b, rfl⟩⟩

end Old
end HcipyVerif.Cache
