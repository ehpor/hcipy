import HcipyVerif.Lemmas.CoronagraphToFn
import Mathlib.Tactic.Abel

/-!
The invariant of the per-wavelength instance cache (`chromStep_inv`), linearity of the multi-scale construction in the
raw masks (`msMasksAux_comb`, `toFn_msSum_comb`).
-/
namespace HcipyVerif.Coronagraph

section Chrom
variable {K P : Type}

theorem chromStep_inv [BEq K] [LawfulBEq K] (param : K → P) (cache : List (K × P)) (wl : K)
    (hinv : ∀ e ∈ cache, e.2 = param e.1) :
    (chromStep param cache wl).1 = param wl ∧ ∀ e ∈ (chromStep param cache wl).2, e.2 = param e.1 := by
  unfold chromStep chromLookup
  cases hf : cache.find? (fun e => e.1 == wl) with
  | none =>
    -- a new instance is made with the parameter of `wl`
    exact ⟨rfl, fun e he => (List.mem_append.1 he).elim (hinv e) fun h => by rw [List.mem_singleton.1 h]⟩
  | some e0 =>
    -- the instance found has the key `wl` and, by the invariant, the parameter of its key
    have hk := List.find?_some hf
    exact ⟨(hinv e0 (List.mem_of_find?_eq_some hf)).trans (congrArg param (eq_of_beq hk)), hinv⟩

theorem chromRunFrom_step [BEq K] [LawfulBEq K] (param : K → P) (wls : List K) (cache : List (K × P))
    (hinv : ∀ e ∈ cache, e.2 = param e.1) : chromRunFrom (chromStep param) cache wls = wls.map param := by
  fun_induction chromRunFrom (chromStep param) cache wls with
  | case1 cache => rfl
  | case2 cache wl wls ih =>
    have hstep := chromStep_inv param cache wl hinv
    exact congrArg₂ List.cons hstep.1 (ih hstep.2)

theorem setRunFrom_step [BEq K] [LawfulBEq K] (evs : List (Ev K P)) :
    ∀ st : ObjSt K P, (∀ e ∈ st.cache, e.2 = st.param.eval e.1) →
      setRunFrom setStep st evs = setSpec st.param evs := by
  induction evs with
  | nil => intro _ _; rfl
  | cons ev evs ih =>
    intro st hinv
    cases ev with
    | use wl =>
      have h := chromStep_inv st.param.eval st.cache wl hinv
      exact congrArg₂ List.cons h.1 (ih ⟨st.param, (chromStep st.param.eval st.cache wl).2, st.builtConst⟩ h.2)
    | set p => exact ih ⟨p, [], st.builtConst⟩ fun _ he => nomatch he

end Chrom

section Lin
open Matrix
variable {K : Type} [CommRing K] {d n : ℕ}

/-- By definition the `Vector.ofFn fun p => a * x[p] + b * y[p]` that `multiscale_linear_in_mask` is stated with. -/
def comb (a b : K) (x y : Vector K d) : Vector K d := Vector.ofFn (a • toFn x + b • toFn y)

theorem toFn_comb (a b : K) (x y : Vector K d) : toFn (comb a b x y) = a • toFn x + b • toFn y :=
  toFn_ofFn _

theorem subCorrections_comb (a b : K) : ∀ (Rs : List (Vector (Vector K d) d)) (ps : List (Vector K d × Vector K d))
    (acc1 acc2 : Vector K d),
    subCorrections (comb a b acc1 acc2) Rs (ps.map fun q => comb a b q.1 q.2) =
      comb a b (subCorrections acc1 Rs (ps.map (·.1))) (subCorrections acc2 Rs (ps.map (·.2))) := by
  intro Rs
  induction Rs with
  | nil => intro ps acc1 acc2; rfl
  | cons R Rs ih =>
    intro ps acc1 acc2
    cases ps with
    | nil => rfl
    | cons q ps =>
      simp only [List.map_cons, subCorrections_cons]
      rw [← ih]
      congr 1
      apply toFn_injective
      rw [toFn_ofFn, toFn_comb, toFn_comb, toFn_comb, toFn_ofFn, toFn_ofFn, mulVec_add, mulVec_smul, mulVec_smul,
        smul_sub, smul_sub]
      abel

/-- A level together with two raw masks for it. -/
abbrev Trip (K : Type) (d n : ℕ) := MSLevel K d n × Vector K d × Vector K d

def mk1 (t : Trip K d n) : MSLevel K d n := { t.1 with raw := t.2.1 }
def mk2 (t : Trip K d n) : MSLevel K d n := { t.1 with raw := t.2.2 }
def mkc (a b : K) (t : Trip K d n) : MSLevel K d n := { t.1 with raw := comb a b t.2.1 t.2.2 }

theorem msMask_comb (a b : K) (t : Trip K d n) (last : Bool) (ps : List (Vector K d × Vector K d)) :
    msMask (mkc a b t) last (ps.map fun q => comb a b q.1 q.2) =
      comb a b (msMask (mk1 t) last (ps.map (·.1))) (msMask (mk2 t) last (ps.map (·.2))) := by
  cases last
  · show subCorrections (Vector.ofFn (toFn (comb a b t.2.1 t.2.2) * (1 - toFn t.1.win))) t.1.R _ =
      comb a b (subCorrections (Vector.ofFn (toFn t.2.1 * (1 - toFn t.1.win))) t.1.R _)
        (subCorrections (Vector.ofFn (toFn t.2.2 * (1 - toFn t.1.win))) t.1.R _)
    rw [← subCorrections_comb]
    congr 1
    apply toFn_injective
    rw [toFn_ofFn, toFn_comb, toFn_comb, toFn_ofFn, toFn_ofFn, add_mul, smul_mul_assoc, smul_mul_assoc]
  · exact subCorrections_comb a b t.1.R ps t.2.1 t.2.2

theorem msMasksAux_comb (a b : K) : ∀ (ts : List (Trip K d n)) (ps : List (Vector K d × Vector K d)),
    ∃ qs : List (Vector K d × Vector K d),
      msMasksAux (ps.map (·.1)) (ts.map mk1) = qs.map (·.1) ∧
      msMasksAux (ps.map (·.2)) (ts.map mk2) = qs.map (·.2) ∧
      msMasksAux (ps.map fun q => comb a b q.1 q.2) (ts.map (mkc a b)) = qs.map fun q => comb a b q.1 q.2 := by
  intro ts
  induction ts with
  | nil => intro ps; exact ⟨ps, rfl, rfl, rfl⟩
  | cons t ts ih =>
    intro ps
    obtain ⟨qs, h1, h2, h3⟩ :=
      ih (ps ++ [(msMask (mk1 t) ts.isEmpty (ps.map (·.1)), msMask (mk2 t) ts.isEmpty (ps.map (·.2)))])
    simp only [List.map_append, List.map_singleton] at h1 h2 h3
    rw [← msMask_comb] at h3
    simp only [List.map_cons, msMasksAux, List.isEmpty_map]
    exact ⟨qs, h1, h2, h3⟩

theorem toFn_msSum_comb (a b : K) (E : Vector K n) : ∀ (ts : List (Trip K d n)) (qs : List (Vector K d × Vector K d)),
    toFn (msSum (ts.map (mkc a b)) (qs.map fun q => comb a b q.1 q.2) E) =
      a • toFn (msSum (ts.map mk1) (qs.map (·.1)) E) + b • toFn (msSum (ts.map mk2) (qs.map (·.2)) E) := by
  -- when the levels or the masks run out, all three sums are empty
  have hz : toFn (zeroVec K n) = a • toFn (zeroVec K n) + b • toFn (zeroVec K n) := by
    rw [toFn_zeroVec, smul_zero, smul_zero, add_zero]
  intro ts
  induction ts with
  | nil => intro qs; exact hz
  | cons t ts ih =>
    intro qs
    cases qs with
    | nil => exact hz
    | cons q qs =>
      have ht : toFn (msTerm (mkc a b t) (comb a b q.1 q.2) E) =
          a • toFn (msTerm (mk1 t) q.1 E) + b • toFn (msTerm (mk2 t) q.2 E) := by
        rw [toFn_msTerm, toFn_msTerm, toFn_msTerm, toFn_comb, mul_add, mul_smul_comm, mul_smul_comm, mulVec_add,
          mulVec_smul, mulVec_smul]
        rfl
      simp only [List.map_cons]
      rw [toFn_msSum_cons, toFn_msSum_cons, toFn_msSum_cons, ht, ih, smul_add, smul_add]
      abel

end Lin

end HcipyVerif.Coronagraph
