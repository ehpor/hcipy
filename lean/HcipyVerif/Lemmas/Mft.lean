import Mathlib.Algebra.BigOperators.Intervals
import Mathlib.Algebra.BigOperators.Ring.Finset
import Mathlib.Algebra.Field.Basic
import Mathlib.Tactic.Ring
import HcipyVerif.Model.Mft
import HcipyVerif.Lemmas.FftIndex
import HcipyVerif.Lemmas.ListFacts

/-!
# MatrixFourierTransform = the defining double sum (C02)

`mft_forward_eq_sum_2d_get`, `mft_backward_eq_sum_2d_get`, `mft_forward_eq_sum_1d`,
`mft_backward_eq_sum_1d`: the two-gemm pipeline of `Model/Mft.lean` (with the BLAS transposes,
both weight branches) equals `Σ_iy Σ_ix f·w·E(∓(u·x + v·y))`, for every character `E`.
Conjugation is a parameter `cj` with `cj (E a) = E (-a)` (over `ℂ`: `starRingEnd ℂ`).
-/
set_option linter.unusedVariables false

namespace HcipyVerif.Fft
open Finset HcipyVerif.ListFacts

theorem flat_inj {N i j i' j' : ℕ} (hj : j < N) (hj' : j' < N)
    (h : i * N + j = i' * N + j') : i = i' ∧ j = j' := by
  constructor
  · have := congrArg (· / N) h
    simpa [flat_div hj, flat_div hj'] using this
  · have := congrArg (· % N) h
    simpa [Nat.mul_add_mod_of_lt hj, Nat.mul_add_mod_of_lt hj'] using this

theorem flat_lt {M N i j : ℕ} (hi : i < M) (hj : j < N) : i * N + j < M * N :=
  ListFacts.flat_lt hi hj

theorem sum_flat {A : Type*} [AddCommMonoid A] (M N : ℕ) (G : ℕ → A) :
    ∑ k ∈ range (M * N), G k = ∑ i ∈ range M, ∑ j ∈ range N, G (i * N + j) := by
  induction M with
  | zero => simp
  | succ M ih => rw [Nat.succ_mul, Finset.sum_range_add, ih, Finset.sum_range_succ]

section
variable {K C : Type} [Field K] [Field C] {E : K → C}

/-- Both branches of `if np.isscalar(weights)` hand the products the same thing: `alpha` times
the reshaped operand is `field * weights`. -/
theorem mftOperand_mul (ncols : ℕ) (w : Weights C) (f : ℕ → C) (i j : ℕ) :
    (mftOperand ncols w f).2 * (mftOperand ncols w f).1 i j
      = f (i * ncols + j) * w.get (i * ncols + j) := by
  cases w with
  | scalar w0 => exact mul_comm _ _
  | array wa => exact one_mul _

/-- **MFT forward, ndim = 2, at every flat output index and for both weight branches**
(`w.get` is the broadcast weights array): the two gemm products are the double sum; both sides
read `k % Nu`, `k / Nu`. -/
theorem mftForward_eq_mftSumForward (hE : IsChar E) (Nx Ny Nu Nv : ℕ) (x y u v : ℕ → K)
    (w : Weights C) (f : ℕ → C) {k : ℕ} :
    mftForward E Nx Ny Nu Nv x y u v w f k = mftSumForward E Nx Ny Nu x y u v w f k := by
  have hop := mftOperand_mul Nx w f
  unfold mftForward mftSumForward
  generalize mftOperand Nx w f = p at hop ⊢
  obtain ⟨F, α⟩ := p
  simp only [flatten2, gemm, Mat.tr, mftM1, mftM2, sumRange_eq, one_mul] at hop ⊢
  rw [Finset.mul_sum]
  refine Finset.sum_congr rfl fun iy _ => ?_
  rw [Finset.sum_mul, Finset.mul_sum]
  refine Finset.sum_congr rfl fun ix _ => ?_
  rw [← hop, neg_add, hE.add, mul_comm (u _) (x ix)]; ring

theorem mftBackward_eq_mftSumBackward (hE : IsChar E) (cj : C → C)
    (hcj : ∀ a, cj (E a) = E (-a)) (Nx Ny Nu Nv : ℕ) (x y u v : ℕ → K)
    (wOut : Weights C) (F : ℕ → C) {k : ℕ} :
    mftBackward E cj Nx Ny Nu Nv x y u v wOut F k = mftSumBackward E Nx Nu Nv x y u v wOut F k := by
  have hop := mftOperand_mul Nu wOut F
  unfold mftBackward mftSumBackward
  generalize mftOperand Nu wOut F = p at hop ⊢
  obtain ⟨G, α⟩ := p
  simp only [flatten2, gemm, Mat.tr, Mat.ctr, mftM1, mftM2, sumRange_eq, one_mul, hcj, neg_neg]
    at hop ⊢
  rw [Finset.mul_sum, Finset.sum_comm]
  refine Finset.sum_congr rfl fun iu _ => ?_
  rw [Finset.mul_sum, Finset.mul_sum]
  refine Finset.sum_congr rfl fun iv _ => ?_
  rw [← hop, hE.add, mul_comm (u iu) (x _)]; ring

theorem mftSumForward_eq (Nx Ny Nu : ℕ) (x y u v : ℕ → K) (w : Weights C) (f : ℕ → C)
    {iu iv : ℕ} (hiu : iu < Nu) :
    mftSumForward E Nx Ny Nu x y u v w f (iv * Nu + iu) =
      ∑ iy ∈ range Ny, ∑ ix ∈ range Nx,
        f (iy * Nx + ix) * w.get (iy * Nx + ix) * E (-(u iu * x ix + v iv * y iy)) := by
  simp only [mftSumForward, sumRange_eq, flat_div hiu, Nat.mul_add_mod_of_lt hiu]

theorem mftSumBackward_eq (Nx Nu Nv : ℕ) (x y u v : ℕ → K) (wOut : Weights C) (F : ℕ → C)
    {ix iy : ℕ} (hix : ix < Nx) :
    mftSumBackward E Nx Nu Nv x y u v wOut F (iy * Nx + ix) =
      ∑ iv ∈ range Nv, ∑ iu ∈ range Nu,
        F (iv * Nu + iu) * wOut.get (iv * Nu + iu) * E (u iu * x ix + v iv * y iy) := by
  simp only [mftSumBackward, sumRange_eq, flat_div hix, Nat.mul_add_mod_of_lt hix]

theorem mft_forward_eq_sum_2d_get (hE : IsChar E) (Nx Ny Nu Nv : ℕ) (x y u v : ℕ → K)
    (w : Weights C) (f : ℕ → C) {iu iv : ℕ} (hiu : iu < Nu) :
    mftForward E Nx Ny Nu Nv x y u v w f (iv * Nu + iu) =
      ∑ iy ∈ range Ny, ∑ ix ∈ range Nx,
        f (iy * Nx + ix) * w.get (iy * Nx + ix) * E (-(u iu * x ix + v iv * y iy)) := by
  rw [mftForward_eq_mftSumForward hE, mftSumForward_eq _ _ _ _ _ _ _ _ _ hiu]

theorem mft_backward_eq_sum_2d_get (hE : IsChar E) (cj : C → C) (hcj : ∀ a, cj (E a) = E (-a))
    (Nx Ny Nu Nv : ℕ) (x y u v : ℕ → K) (wOut : Weights C) (F : ℕ → C) {ix iy : ℕ}
    (hix : ix < Nx) :
    mftBackward E cj Nx Ny Nu Nv x y u v wOut F (iy * Nx + ix) =
      ∑ iv ∈ range Nv, ∑ iu ∈ range Nu,
        F (iv * Nu + iu) * wOut.get (iv * Nu + iu) * E (u iu * x ix + v iv * y iy) := by
  rw [mftBackward_eq_mftSumBackward hE cj hcj, mftSumBackward_eq _ _ _ _ _ _ _ _ _ hix]

/-- **MFT backward, ndim = 2, scalar-weights branch.** -/
theorem mft_backward_eq_sum_2d_scalar (hE : IsChar E) (cj : C → C)
    (hcj : ∀ a, cj (E a) = E (-a)) (Nx Ny Nu Nv : ℕ) (x y u v : ℕ → K) (wOut : ℕ → C) (w0 : C)
    (hw : ∀ i, wOut i = w0) (F : ℕ → C) {ix iy : ℕ} (hix : ix < Nx) (hiy : iy < Ny) :
    mftBackward E cj Nx Ny Nu Nv x y u v (.scalar w0) F (iy * Nx + ix) =
      ∑ iv ∈ range Nv, ∑ iu ∈ range Nu,
        F (iv * Nu + iu) * wOut (iv * Nu + iu) * E (u iu * x ix + v iv * y iy) := by
  rw [mft_backward_eq_sum_2d_get hE cj hcj Nx Ny Nu Nv x y u v (.scalar w0) F hix]
  simp only [Weights.get, hw]

/-- **MFT forward, ndim = 1**: `np.dot(M, field*weights)`. -/
theorem mft_forward_eq_sum_1d (Nx : ℕ) (x u : ℕ → K) (w : Weights C) (f : ℕ → C) (iu : ℕ) :
    mftForward1 E Nx x u w f iu = ∑ ix ∈ range Nx, f ix * w.get ix * E (-(u iu * x ix)) := by
  simp only [mftForward1, mftM, sumRange_eq]
  exact Finset.sum_congr rfl fun ix _ => by ring

/-- **MFT backward, ndim = 1**: `np.dot(M.conj().T, field*weights_output)`. -/
theorem mft_backward_eq_sum_1d (cj : C → C) (hcj : ∀ a, cj (E a) = E (-a)) (Nu : ℕ)
    (x u : ℕ → K) (wOut : Weights C) (F : ℕ → C) (ix : ℕ) :
    mftBackward1 E cj Nu x u wOut F ix = ∑ iu ∈ range Nu, F iu * wOut.get iu * E (u iu * x ix) := by
  simp only [mftBackward1, mftM, Mat.ctr, sumRange_eq, hcj, neg_neg]
  exact Finset.sum_congr rfl fun iu _ => by ring

end

end HcipyVerif.Fft
