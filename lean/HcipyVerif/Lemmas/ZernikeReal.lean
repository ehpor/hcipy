import HcipyVerif.Lemmas.Zernike
import Mathlib.Data.Real.Basic
import Mathlib.Data.Rat.Cast.Lemmas

/-! Coefficient lists evaluated at a real point (`pevalR`, a ring homomorphism in the list), and the factorial definition of
`R_n^m` as a real function (`radialR`): the value of `radialDef` there. -/

namespace HcipyVerif.Zernike

/-- evaluation of a rational-coefficient polynomial at a real point -/
noncomputable def pevalR (p : Poly) (x : ℝ) : ℝ := p.foldr (fun a acc => (a : ℝ) + x * acc) 0

@[simp] theorem pevalR_nil (x : ℝ) : pevalR [] x = 0 := rfl
@[simp] theorem pevalR_cons (a : Rat) (p : Poly) (x : ℝ) : pevalR (a :: p) x = (a : ℝ) + x * pevalR p x := rfl

theorem pevalR_padd (p q : Poly) (x : ℝ) : pevalR (padd p q) x = pevalR p x + pevalR q x := by
  fun_induction padd p q with
  | case1 q => simp
  | case2 p _ => simp
  | case3 a p b q ih => simp only [pevalR_cons, ih]; push_cast; ring

theorem pevalR_pscale (c : Rat) (p : Poly) (x : ℝ) : pevalR (pscale c p) x = (c : ℝ) * pevalR p x := by
  induction p with
  | nil => simp [pscale]
  | cons a p ih =>
    have : pscale c (a :: p) = (c * a) :: pscale c p := rfl
    rw [this, pevalR_cons, pevalR_cons, ih]; push_cast; ring

theorem pevalR_pshift (k : Nat) (p : Poly) (x : ℝ) : pevalR (pshift k p) x = x ^ k * pevalR p x := by
  induction k with
  | zero => simp [pshift]
  | succ k ih =>
    have : pshift (k + 1) p = 0 :: pshift k p := by simp [pshift, List.replicate_succ]
    rw [this, pevalR_cons, ih]; push_cast; ring

theorem pevalR_pspread (p : Poly) (x : ℝ) : pevalR (pspread p) x = pevalR p (x * x) := by
  fun_induction pspread p with
  | case1 => rfl
  | case2 a => simp
  | case3 a p _ ih => simp only [pevalR_cons, ih]; push_cast; ring

theorem pevalR_pmul (p q : Poly) (x : ℝ) : pevalR (pmul p q) x = pevalR p x * pevalR q x := by
  induction p with
  | nil => simp [pmul]
  | cons a p ih => simp only [pmul, pevalR_padd, pevalR_pscale, pevalR_pshift, ih, pevalR_cons]; ring

theorem pevalR_monomial (n : Nat) (x : ℝ) : pevalR (monomial n) x = x ^ n := by
  unfold monomial; rw [pevalR_pshift]; simp

/-- the factorial definition of `R_n^m` as a real function -/
noncomputable def radialR (n m : Nat) (x : ℝ) : ℝ :=
  ∑ k ∈ Finset.range ((n - m) / 2 + 1),
    ((-1) ^ k * ((n - k).factorial : ℝ) /
      ((k.factorial : ℝ) * (((n + m) / 2 - k).factorial : ℝ) * (((n - m) / 2 - k).factorial : ℝ))) * x ^ (n - 2 * k)

theorem defCoeff_cast (n m k : Nat) : ((defCoeff n m k : Rat) : ℝ) =
    (-1) ^ k * ((n - k).factorial : ℝ) /
      ((k.factorial : ℝ) * (((n + m) / 2 - k).factorial : ℝ) * (((n - m) / 2 - k).factorial : ℝ)) := by
  unfold defCoeff
  simp only [fact_eq_factorial]
  push_cast
  ring

theorem pevalR_radialDef (n m : Nat) (x : ℝ) : pevalR (radialDef n m) x = radialR n m x := by
  unfold radialDef radialR
  rw [eval_foldr_padd (pevalR · x) rfl fun p q => pevalR_padd p q x]
  simp only [pevalR_pscale, pevalR_monomial, defCoeff_cast]

end HcipyVerif.Zernike
