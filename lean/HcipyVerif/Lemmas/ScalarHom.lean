import HcipyVerif.Model.FftIndex

/-! Maps of scalars that preserve `0`, `+` and `·`, between types that carry only the notation classes. -/

namespace HcipyVerif

variable {K L : Type} [Zero K] [Add K] [Zero L] [Add L]

structure AddPres (φ : K → L) : Prop where
  zero : φ 0 = 0
  add : ∀ a b, φ (a + b) = φ a + φ b

/-- What "the executed run denotes the complex one" rests on: the drivers run the pipelines at exact scalars (`PSum`,
`GRat`, `Cx`, `CDy`), none of which is a ring, so no `RingHom` can be stated for `PSum.ev`, `GRat.toC`, `Cx.toComplex`,
`CDy.toComplex`; a pipeline built from `·`, sums, `if` and `0` commutes with every such map. -/
structure ScalarHom [Mul K] [Mul L] (φ : K → L) : Prop extends AddPres φ where
  mul : ∀ a b, φ (a * b) = φ a * φ b

namespace AddPres
variable {φ : K → L} (h : AddPres φ)
include h

theorem sumRange (n : Nat) (g : Nat → K) : φ (Fft.sumRange n g) = Fft.sumRange n fun i => φ (g i) := by
  induction n with
  | zero => exact h.zero
  | succ n ih => rw [Fft.sumRange, Fft.sumRange, h.add, ih]

theorem list_sum (l : List K) : φ l.sum = (l.map φ).sum := by
  induction l with
  | nil => exact h.zero
  | cons a l ih => rw [List.sum_cons, h.add, ih, List.map_cons, List.sum_cons]

end AddPres

end HcipyVerif
