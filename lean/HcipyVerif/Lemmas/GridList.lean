
/-! `List.zipWith k a p` read as "entry `i` of `a` rewritten with the parameter `p[i]`": what it keeps, where it is the
identity. The reversal of `(List.range n).map f`. The entries of `l ++ [x]`. -/

namespace HcipyVerif.Grid

theorem map_zipWith_of_inv {α β γ} {g : α → γ} {k : α → β → α} (hk : ∀ x y, g (k x y) = g x) :
    ∀ (a : List α) (p : List β), p.length = a.length → (List.zipWith k a p).map g = a.map g
  | [], _, _ => rfl
  | _ :: _, [], h => nomatch h
  | x :: a, y :: p, h => by
    rw [List.zipWith_cons_cons, List.map_cons, List.map_cons, hk, map_zipWith_of_inv hk a p (Nat.succ.inj h)]

theorem zipWith_eq_self_get? {α β} {k : α → β → α} {a : List α} {b : List β} (h : List.zipWith k a b = a)
    {i : Nat} {x : α} {y : β} (hx : a[i]? = some x) (hy : b[i]? = some y) : k x y = x := by
  have := congrArg (·[i]?) h
  simp only [List.getElem?_zipWith, hx, hy] at this
  exact Option.some.inj this

theorem zipWith_eq_self_iff {α β} (k : α → β → α) (a : List α) (b : List β) (h : b.length = a.length) :
    (List.zipWith k a b = a ↔ ∀ i (h1 : i < a.length) (h2 : i < b.length), k a[i] b[i] = a[i]) := by
  constructor
  · intro e i h1 h2
    exact zipWith_eq_self_get? e (List.getElem?_eq_getElem h1) (List.getElem?_eq_getElem h2)
  · intro hall
    refine List.ext_getElem (by rw [List.length_zipWith, h, Nat.min_self]) fun i _ h2 => ?_
    rw [List.getElem_zipWith]
    exact hall i h2 (h ▸ h2)

theorem zipWith_right_id {α β} {k : α → β → α} : ∀ (a : List α) (v : List β), a.length ≤ v.length →
    (∀ y ∈ v, ∀ x, k x y = x) → List.zipWith k a v = a
  | [], _, _, _ => List.zipWith_nil_left
  | _ :: _, [], h, _ => absurd h (Nat.not_succ_le_zero _)
  | x :: a, y :: v, h, hk => by
    rw [List.zipWith_cons_cons, hk y List.mem_cons_self,
      zipWith_right_id a v (Nat.le_of_succ_le_succ h) fun z hz => hk z (List.mem_cons_of_mem _ hz)]

theorem zipWith_replicate_self {α β} (k : α → β → α) (v : β) (hk : ∀ x, k x v = x) (a : List α) :
    List.zipWith k a (List.replicate a.length v) = a :=
  zipWith_right_id a _ (Nat.le_of_eq List.length_replicate.symm) fun _ hy x => List.eq_of_mem_replicate hy ▸ hk x

theorem map_eq_self_iff {α} (g : α → α) (l : List α) : l.map g = l ↔ ∀ x ∈ l, g x = x := by
  induction l with
  | nil => simp only [List.map_nil, List.not_mem_nil, false_imp_iff, implies_true]
  | cons y ys ih => simp only [List.map_cons, List.cons.injEq, ih, List.mem_cons, forall_eq_or_imp]

theorem reverse_map_range {α} (f : Nat → α) (n : Nat) :
    ((List.range n).map f).reverse = (List.range n).map fun i => f (n - 1 - i) := by
  have h := @List.reverse_range' 0 n
  rw [← List.range_eq_range', Nat.zero_add] at h
  rw [← List.map_reverse, h, List.map_map]
  rfl

theorem getElem?_concat_eq_some {α} {l : List α} {x y : α} {j : Nat} (h : (l ++ [x])[j]? = some y) :
    l[j]? = some y ∨ (j = l.length ∧ y = x) := by
  rcases Nat.lt_trichotomy j l.length with hj | rfl | hj
  · rw [List.getElem?_append_left hj] at h; exact Or.inl h
  · rw [List.getElem?_concat_length] at h; exact Or.inr ⟨rfl, (Option.some.inj h).symm⟩
  · rw [List.getElem?_eq_none (by rw [List.length_append, List.length_singleton]; exact hj)] at h; cases h

end HcipyVerif.Grid
