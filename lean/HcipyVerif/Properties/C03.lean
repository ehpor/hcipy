import HcipyVerif.Lemmas.FraunhoferAbstract
import HcipyVerif.Lemmas.FraunhoferObj

/-!
# C03 — lens (Fraunhofer) propagation equals the scaled Fourier integral

Property theorems about the definitions the native driver executes (`Model/Fraunhofer.lean`, `Model/FraunhoferPipe.lean`,
`Model/FraunhoferObj.lean`), at `ℝ`/`ℂ`:

* the executed **pipeline** `lensForward`/`lensBackward` (selection → FFT or MFT pipeline of C01 → norm factor),
  `lensNaiveForward`/`lensNaiveBackward` (C01's naive transform for unstructured / polar focal grids),
  `lensMftForward` (separated grids);
* the executed **propagator object** `LensProp.forward/backward` on a whole wavefront record `Wf` (every tensor
  component, wavelength, Stokes vector; `focal_length` setter histories);
* the executable ℚ bookkeeping (`classify`, `lensMethod`, `planOf`, `lensObj`, the two focal-grid constructors,
  `Session`), and the allocation model `runCalls` (object identity of results).

The abstract, hypothesis-carrying layer (a propagator over an abstract Fourier transform; the `_fft/_mft/_sel` propagator
wrappers; Stokes algebra) is in `Lemmas/FraunhoferAbstract.lean` and is used here as lemmas only.
-/

open Finset Complex ComplexConjugate

namespace HcipyVerif.Fraunhofer

/-- Executable model (driver ops `session`/`setf`/`at`, compared with the instance the running object uses after the
same assignments): after any history of `focal_length` assignments the instance of a call is the one of the last
assigned value (unbounded histories).  The model keeps no cache, so this is a fold over overwrites; the content
is in the comparison with the real object, whose cache must be cleared by the setter. -/
theorem session_instance_after_sets (s : Session) (fs : List FocalSpec) (f : FocalSpec) (lam : ℚ) :
    ((fs ++ [f]).foldl Session.setFocalLength s).instanceAt lam
      = { lam := lam, f := f.eval lam, pupil := s.pupil } := by
  rw [FourierLink.foldl_overwrite (step := Session.setFocalLength) fs f s fun _ _ _ => rfl]
  rfl

/-- The model's `normFactor` pair `(0, -1/(λf))` is `1/(i f λ)`. -/
theorem model_normFactor (s : Setup) :
    normFactorC (s.lam : ℝ) (s.f : ℝ) = (((normFactor s).1 : ℝ) : ℂ) + (((normFactor s).2 : ℝ) : ℂ) * I := by
  rw [normFactorC_eq]
  unfold normFactor lamf
  push_cast
  ring

/-- The model's `uvScaleTurns` is the uv scale factor in units of 2π. -/
theorem model_uvScale (s : Setup) :
    uvScaleR (s.lam : ℝ) (s.f : ℝ) = 2 * Real.pi * ((uvScaleTurns s : ℚ) : ℝ) := by
  rw [uvScaleR_eq, ← lamf_cast, uvScaleTurns, Rat.cast_div, Rat.cast_one, mul_one_div]

/-! ## the executed pipeline

The theorems of this section speak about the **very functions the native driver runs** on every check
(`Model/FraunhoferPipe.lean`: `lensForward`/`lensBackward` = selection result → `lensCfg` → `fastForward2` /
`lensMftForward` → norm factor; `Fft.choose detectFix`; `classify`; `lensMethod`), here at `K = ℝ`, `C = ℂ`, `T = expT`,
`E = expE`, `unit = 2π`; the driver runs them at `Rat`/`PSum`/`PSum.turns`/`unit = 1` on unit impulses and the harness
compares the outcome with `FraunhoferPropagator.forward/backward` of the running code (op `lens`).
`numFft`, `My Mx` are the inputs the executable selection takes from `classify` and `cheaper` is the planner's
outcome (any value). -/
section pipeline
open HcipyVerif.Fft HcipyVerif.FourierLink

/-- **The executed forward pipeline equals the scaled Fourier integral**, whatever method the modelled
`make_fourier_transform` returns from sound inputs (`hn`: `numFft` only if the uv grid is FFT-native with padded sizes
`My Mx`), every wavelength and focal length (also `λ f < 0`), both shift settings, every focal point. -/
theorem lens_forward_eq_integral (py px Fy Fx : RegAxis) (lam f : ℝ) (My Mx : ℕ) (emu numFft cheaper : Bool) (m : Method)
    (hm : (Fft.choose detectFix regDesc (some ⟨regDesc, numFft⟩) cheaper).map (·.method) = some m)
    (hn : numFft = true → lam * f ≠ 0 ∧ NativeAxis py Fy (lam * f) My ∧ NativeAxis px Fx (lam * f) Mx)
    (E : Fin py.n × Fin px.n → ℂ) (k : Fin Fy.n × Fin Fx.n) :
    lensForward expT expE (2 * Real.pi) Complex.ofReal (normFactorC lam f) m emu (axOf py) (axOf px) (axOf Fy) (axOf Fx)
        (lam * f) My Mx (ext2 E) k.1 k.2
      = 1 / (I * (lam : ℂ) * (f : ℂ))
        * ∑ j : Fin py.n × Fin px.n, E j * ((py.δ * px.δ : ℝ) : ℂ)
            * cexp (-(2 * (Real.pi : ℂ) * I * ((dot ![Fx.x k.2, Fy.x k.1] ![px.x j.2, py.x j.1] : ℝ) : ℂ))
                / ((lam : ℂ) * (f : ℂ))) := by
  obtain ⟨T, hT, hF, -⟩ := lens_transform py px Fy Fx lam f emu ⟨m, My, Mx, false⟩ ⟨numFft, cheaper, hm, hn⟩
  rw [congrFun (hF _ E) k]
  exact forward_eq_integral hT.evaluates E k

/-- **The executed backward pipeline is the adjoint Fourier integral** (`λ f > 0`, positive focal spacings). -/
theorem lens_backward_eq_adjoint_integral (py px Fy Fx : RegAxis) (lam f : ℝ) (My Mx : ℕ) (emu numFft cheaper : Bool)
    (m : Method)
    (hm : (Fft.choose detectFix regDesc (some ⟨regDesc, numFft⟩) cheaper).map (·.method) = some m)
    (hn : numFft = true → lam * f ≠ 0 ∧ NativeAxis py Fy (lam * f) My ∧ NativeAxis px Fx (lam * f) Mx)
    (hpos : 0 < lam * f) (hy : 0 < Fy.δ) (hx : 0 < Fx.δ)
    (G : Fin Fy.n × Fin Fx.n → ℂ) (j : Fin py.n × Fin px.n) :
    lensBackward expT expE (starRingEnd ℂ) (2 * Real.pi) Complex.ofReal (fun r => |r|) (normFactorC lam f) m emu
        (axOf py) (axOf px) (axOf Fy) (axOf Fx) (lam * f) My Mx (ext2 G) j.1 j.2
      = I / ((lam : ℂ) * (f : ℂ))
        * ∑ k : Fin Fy.n × Fin Fx.n, G k * ((Fy.δ * Fx.δ : ℝ) : ℂ)
            * cexp (2 * (Real.pi : ℂ) * I * ((dot ![Fx.x k.2, Fy.x k.1] ![px.x j.2, py.x j.1] : ℝ) : ℂ)
                / ((lam : ℂ) * (f : ℂ))) := by
  obtain ⟨T, hT, -, hB⟩ := lens_transform py px Fy Fx lam f emu ⟨m, My, Mx, false⟩ ⟨numFft, cheaper, hm, hn⟩
  rw [hB hy hx]
  exact backward_eq_adjoint_integral hpos.ne' hT.adjoint G j

set_option linter.unusedVariables false in
/-- **The executed forward pipeline preserves inner products on a full conjugate grid** (`FullAt`), whichever method was
selected — of a field with itself (power, below) or of two components of a Jones vector / Jones matrix, which
`multiplex_for_tensor_fields` sends through the same pipeline: `Σ conj(E') G' w_focal = Σ conj(E) G w_pupil`.
`hpos` is not used (`forward_inner` holds for every `λ f`; `FullAt` already contains `λ f ≠ 0`). -/
theorem lens_inner (py px Fy Fx : RegAxis) (lam f : ℝ) (My Mx : ℕ) (emu numFft cheaper : Bool) (m : Method)
    (hm : (Fft.choose detectFix regDesc (some ⟨regDesc, numFft⟩) cheaper).map (·.method) = some m)
    (hn : numFft = true → lam * f ≠ 0 ∧ NativeAxis py Fy (lam * f) My ∧ NativeAxis px Fx (lam * f) Mx)
    (hpos : 0 < lam * f) (hfull : FullAt py px Fy Fx (lam * f)) (E G : Fin py.n × Fin px.n → ℂ) :
    wip (regGrid2 Fy Fx).weights
        (fun k : Fin Fy.n × Fin Fx.n =>
          lensForward expT expE (2 * Real.pi) Complex.ofReal (normFactorC lam f) m emu (axOf py) (axOf px) (axOf Fy)
            (axOf Fx) (lam * f) My Mx (ext2 E) k.1 k.2)
        (fun k : Fin Fy.n × Fin Fx.n =>
          lensForward expT expE (2 * Real.pi) Complex.ofReal (normFactorC lam f) m emu (axOf py) (axOf px) (axOf Fy)
            (axOf Fx) (lam * f) My Mx (ext2 G) k.1 k.2)
      = wip (regGrid2 py px).weights E G := by
  obtain ⟨T, hT, hF, -⟩ := lens_transform py px Fy Fx lam f emu ⟨m, My, Mx, false⟩ ⟨numFft, cheaper, hm, hn⟩
  rw [hF, hF]
  exact forward_inner (hT.full hfull).2 E G

/-- **… hence the executed forward pipeline conserves power on a full conjugate grid** (`FullAt`), whichever method was
selected. -/
theorem lens_power (py px Fy Fx : RegAxis) (lam f : ℝ) (My Mx : ℕ) (emu numFft cheaper : Bool) (m : Method)
    (hm : (Fft.choose detectFix regDesc (some ⟨regDesc, numFft⟩) cheaper).map (·.method) = some m)
    (hn : numFft = true → lam * f ≠ 0 ∧ NativeAxis py Fy (lam * f) My ∧ NativeAxis px Fx (lam * f) Mx)
    (hpos : 0 < lam * f) (hfull : FullAt py px Fy Fx (lam * f)) (E : Fin py.n × Fin px.n → ℂ) :
    power (regGrid2 Fy Fx).weights (fun k : Fin Fy.n × Fin Fx.n =>
        lensForward expT expE (2 * Real.pi) Complex.ofReal (normFactorC lam f) m emu (axOf py) (axOf px) (axOf Fy)
          (axOf Fx) (lam * f) My Mx (ext2 E) k.1 k.2)
      = power (regGrid2 py px).weights E :=
  power_eq_of_wip (lens_inner py px Fy Fx lam f My Mx emu numFft cheaper m hm hn hpos hfull E E)

/-- **Stokes-`I` power of a Jones-matrix wavefront through the executed pipeline** is conserved on a full conjugate
grid (each of the four components goes through `lensForward`). -/
theorem lens_stokes_power (py px Fy Fx : RegAxis) (lam f : ℝ) (My Mx : ℕ) (emu numFft cheaper : Bool) (m : Method)
    (hm : (Fft.choose detectFix regDesc (some ⟨regDesc, numFft⟩) cheaper).map (·.method) = some m)
    (hn : numFft = true → lam * f ≠ 0 ∧ NativeAxis py Fy (lam * f) My ∧ NativeAxis px Fx (lam * f) Mx)
    (hpos : 0 < lam * f) (hfull : FullAt py px Fy Fx (lam * f)) (S : Fin 4 → ℝ)
    (E : Fin 2 × Fin 2 → Fin py.n × Fin px.n → ℂ) :
    stokesPower (regGrid2 Fy Fx).weights S (fun c (k : Fin Fy.n × Fin Fx.n) =>
        lensForward expT expE (2 * Real.pi) Complex.ofReal (normFactorC lam f) m emu (axOf py) (axOf px) (axOf Fy)
          (axOf Fx) (lam * f) My Mx (ext2 (E c)) k.1 k.2)
      = stokesPower (regGrid2 py px).weights S E := by
  rw [stokesPower_eq_re, stokesPower_eq_re]
  simp only [lens_inner py px Fy Fx lam f My Mx emu numFft cheaper m hm hn hpos hfull]

/-- **Backward after forward of the executed pipeline restores the field** on a full conjugate grid. -/
theorem lens_inverse (py px Fy Fx : RegAxis) (lam f : ℝ) (My Mx : ℕ) (emu numFft cheaper : Bool) (m : Method)
    (hm : (Fft.choose detectFix regDesc (some ⟨regDesc, numFft⟩) cheaper).map (·.method) = some m)
    (hn : numFft = true → lam * f ≠ 0 ∧ NativeAxis py Fy (lam * f) My ∧ NativeAxis px Fx (lam * f) Mx)
    (hy : 0 < Fy.δ) (hx : 0 < Fx.δ) (hfull : FullAt py px Fy Fx (lam * f)) (E : Fin py.n × Fin px.n → ℂ)
    (j : Fin py.n × Fin px.n) :
    lensBackward expT expE (starRingEnd ℂ) (2 * Real.pi) Complex.ofReal (fun r => |r|) (normFactorC lam f) m emu
        (axOf py) (axOf px) (axOf Fy) (axOf Fx) (lam * f) My Mx
        (ext2 fun k : Fin Fy.n × Fin Fx.n =>
          lensForward expT expE (2 * Real.pi) Complex.ofReal (normFactorC lam f) m emu (axOf py) (axOf px) (axOf Fy)
            (axOf Fx) (lam * f) My Mx (ext2 E) k.1 k.2) j.1 j.2
      = E j := by
  obtain ⟨T, hT, hF, hB⟩ := lens_transform py px Fy Fx lam f emu ⟨m, My, Mx, false⟩ ⟨numFft, cheaper, hm, hn⟩
  rw [hF, hB hy hx, map_smul, (hT.full hfull).1 E, Pi.smul_apply, smul_eq_mul, ← mul_assoc,
    inv_mul_cancel₀ (normFactorC_ne_zero hfull.1), one_mul]

/-- the hypotheses `hm`, `hn` are satisfiable with the FFT selected: pupil `2×2`, `δ = 1/2`; focal `4×4`, `Δ = 1/2`;
`λ f = 1·1`, padded sizes `4` -/
example : (Fft.choose detectFix regDesc (some ⟨regDesc, true⟩) true).map (·.method) = some Method.fft ∧
    (true = true → (1 : ℝ) * 1 ≠ 0 ∧ NativeAxis ⟨2, 1 / 2, 0⟩ ⟨4, 1 / 2, -1⟩ (1 * 1) 4 ∧
      NativeAxis ⟨2, 1 / 2, 0⟩ ⟨4, 1 / 2, -1⟩ (1 * 1) 4) := by
  refine ⟨by decide, fun _ => ⟨by norm_num, ⟨?_, ?_, ?_⟩, ⟨?_, ?_, ?_⟩⟩⟩ <;> norm_num

/-- **End to end**: for a rational setup `s` (`λ`, `f`, 2-D pupil grid) and a rational regular focal grid, the method
`lensMethod` returns and the padded sizes `classify` returns — exactly what the driver's `lensImpulse` feeds into
`lensForward` — give the scaled Fourier integral.  No hypothesis about the transform, the selection or the grids
besides `λ f ≠ 0`. -/
theorem lens_forward_eq_integral_of_model (s : Setup) (focal : RegGrid) {δx δy Δx Δy zx zy Zx Zy : ℚ}
    {Nx Ny Mox Moy : ℕ} (hp : s.pupil = ⟨[δx, δy], [Nx, Ny], [zx, zy]⟩)
    (hf : focal = ⟨[Δx, Δy], [Mox, Moy], [Zx, Zy]⟩) (hlf : lamf s ≠ 0) (cheaper emu : Bool) (m : Method)
    (hm : lensMethod s focal cheaper = some m) (Mx My : ℕ)
    (hM : (classify s focal).1 ≠ .other → (classify s focal).2 = [Mx, My])
    (E : Fin Ny × Fin Nx → ℂ) (k : Fin Moy × Fin Mox) :
    lensForward expT expE (2 * Real.pi) Complex.ofReal (normFactorC (s.lam : ℝ) (s.f : ℝ)) m emu
        (axOf (axisR Ny δy zy)) (axOf (axisR Nx δx zx)) (axOf (axisR Moy Δy Zy)) (axOf (axisR Mox Δx Zx))
        ((s.lam : ℝ) * (s.f : ℝ)) My Mx (ext2 E) k.1 k.2
      = 1 / (I * ((s.lam : ℝ) : ℂ) * ((s.f : ℝ) : ℂ))
        * ∑ j : Fin Ny × Fin Nx, E j * (((δy : ℝ) * (δx : ℝ) : ℝ) : ℂ)
            * cexp (-(2 * (Real.pi : ℂ) * I * ((dot ![(axisR Mox Δx Zx).x k.2, (axisR Moy Δy Zy).x k.1]
                  ![(axisR Nx δx zx).x j.2, (axisR Ny δy zy).x j.1] : ℝ) : ℂ))
                / (((s.lam : ℝ) : ℂ) * ((s.f : ℝ) : ℂ))) := by
  obtain ⟨numFft, c, hm', hn⟩ := planSound_of_model hp hf hlf ⟨m, My, Mx, false⟩ hm hM
  exact lens_forward_eq_integral _ _ _ _ _ _ My Mx emu numFft c m hm' hn E k

/-- **One propagator object after any history of `focal_length` assignments** (executable `Session`, unbounded
history `fs`, last assignment `g`, constant or wavelength-dependent): the pipeline run on the instance the object
uses at wavelength `lam` is the scaled integral for the **last** assigned focal length `g(λ)`. -/
theorem lens_forward_eq_integral_after_sets (ss : Session) (fs : List FocalSpec) (g : FocalSpec) (lam : ℚ)
    (focal : RegGrid) {δx δy Δx Δy zx zy Zx Zy : ℚ} {Nx Ny Mox Moy : ℕ}
    (hp : ss.pupil = ⟨[δx, δy], [Nx, Ny], [zx, zy]⟩) (hf : focal = ⟨[Δx, Δy], [Mox, Moy], [Zx, Zy]⟩)
    (hlf : lam * g.eval lam ≠ 0) (cheaper emu : Bool) (m : Method)
    (hm : lensMethod (((fs ++ [g]).foldl Session.setFocalLength ss).instanceAt lam) focal cheaper = some m)
    (Mx My : ℕ)
    (hM : (classify (((fs ++ [g]).foldl Session.setFocalLength ss).instanceAt lam) focal).1 ≠ .other →
      (classify (((fs ++ [g]).foldl Session.setFocalLength ss).instanceAt lam) focal).2 = [Mx, My])
    (E : Fin Ny × Fin Nx → ℂ) (k : Fin Moy × Fin Mox) :
    lensForward expT expE (2 * Real.pi) Complex.ofReal (normFactorC (lam : ℝ) ((g.eval lam : ℚ) : ℝ)) m emu
        (axOf (axisR Ny δy zy)) (axOf (axisR Nx δx zx)) (axOf (axisR Moy Δy Zy)) (axOf (axisR Mox Δx Zx))
        ((lam : ℝ) * ((g.eval lam : ℚ) : ℝ)) My Mx (ext2 E) k.1 k.2
      = 1 / (I * ((lam : ℝ) : ℂ) * (((g.eval lam : ℚ) : ℝ) : ℂ))
        * ∑ j : Fin Ny × Fin Nx, E j * (((δy : ℝ) * (δx : ℝ) : ℝ) : ℂ)
            * cexp (-(2 * (Real.pi : ℂ) * I * ((dot ![(axisR Mox Δx Zx).x k.2, (axisR Moy Δy Zy).x k.1]
                  ![(axisR Nx δx zx).x j.2, (axisR Ny δy zy).x j.1] : ℝ) : ℂ))
                / (((lam : ℝ) : ℂ) * (((g.eval lam : ℚ) : ℝ) : ℂ))) := by
  rw [session_instance_after_sets ss fs g lam] at hm hM
  exact lens_forward_eq_integral_of_model ⟨lam, g.eval lam, ss.pupil⟩ focal hp hf hlf cheaper emu m hm Mx My hM E k

/-- **… and conserves power when `classify` says `full`** (`λ f > 0`): the executable classification the harness
compares with the class `make_fourier_transform` returned implies the hypothesis of `lens_power`. -/
theorem lens_power_of_model (s : Setup) (focal : RegGrid) {δx δy Δx Δy zx zy Zx Zy : ℚ}
    {Nx Ny Mox Moy : ℕ} {Ms : List ℕ} (hp : s.pupil = ⟨[δx, δy], [Nx, Ny], [zx, zy]⟩)
    (hf : focal = ⟨[Δx, Δy], [Mox, Moy], [Zx, Zy]⟩) (hlf : 0 < lamf s) (hfull : classify s focal = (.full, Ms))
    (cheaper emu : Bool) (m : Method) (hm : lensMethod s focal cheaper = some m) (E : Fin Ny × Fin Nx → ℂ) :
    power (regGrid2 (axisR Moy Δy Zy) (axisR Mox Δx Zx)).weights (fun k : Fin Moy × Fin Mox =>
        lensForward expT expE (2 * Real.pi) Complex.ofReal (normFactorC (s.lam : ℝ) (s.f : ℝ)) m emu
          (axOf (axisR Ny δy zy)) (axOf (axisR Nx δx zx)) (axOf (axisR Moy Δy Zy)) (axOf (axisR Mox Δx Zx))
          ((s.lam : ℝ) * (s.f : ℝ)) Moy Mox (ext2 E) k.1 k.2)
      = power (regGrid2 (axisR Ny δy zy) (axisR Nx δx zx)).weights E := by
  have hF := fullAt_of_classify hp hf hfull hlf.ne'
  exact lens_power _ _ _ _ _ _ Moy Mox emu _ cheaper m ((lensMethod_eq_choose hp hf cheaper).symm.trans hm)
    (fun _ => hF) (lamf_cast_pos hlf) hF E

/-- **The executable selection is total on 2-D regular grids and never returns `naive`**: the hypothesis `hm` of the
`_of_model` theorems can always be met, and the FFT is returned only when `classify ≠ other` and the planner
prefers it. -/
theorem lensMethod_some (s : Setup) (focal : RegGrid) {δx δy Δx Δy zx zy Zx Zy : ℚ} {Nx Ny Mox Moy : ℕ}
    (hp : s.pupil = ⟨[δx, δy], [Nx, Ny], [zx, zy]⟩) (hf : focal = ⟨[Δx, Δy], [Mox, Moy], [Zx, Zy]⟩) (cheaper : Bool) :
    lensMethod s focal cheaper
      = some (if (classify s focal).1 ≠ .other ∧ cheaper = true then Method.fft else Method.mft) := by
  rw [lensMethod_eq_choose hp hf cheaper, choose_regDesc]
  cases (classify s focal).1 <;> cases cheaper <;> rfl

/-- **Orientation**: when the uv grid `focal.scaled(2π/(λ f))` is mirrored on an axis — for a positive pupil spacing:
focal spacing and `λ f` of opposite sign there (`focal.scaled([1,-1])`, `.scaled(-1)`, `.reversed()`, or a negative focal
length) — the executable classification says `other` and the executable selection returns the MFT whatever the planner
says: an FFT cannot produce a mirrored output grid.  (With both signs negative the quotient is positive and the grid may
be native again.)
The harness compares exactly this with the class `make_fourier_transform` builds. -/
theorem lensMethod_mirrored (s : Setup) (focal : RegGrid) {δx δy Δx Δy zx zy Zx Zy : ℚ} {Nx Ny Mox Moy : ℕ}
    (hp : s.pupil = ⟨[δx, δy], [Nx, Ny], [zx, zy]⟩) (hf : focal = ⟨[Δx, Δy], [Mox, Moy], [Zx, Zy]⟩)
    (h : lamf s / (δx * Δx) < 0 ∨ lamf s / (δy * Δy) < 0) (cheaper : Bool) :
    (classify s focal).1 = .other ∧ lensMethod s focal cheaper = some Method.mft := by
  have hc : (classify s focal).1 = .other := by
    rw [classify_2d_none hp hf (h.imp (paddedSize_none_of_neg Nx) (paddedSize_none_of_neg Ny))]
  exact ⟨hc, by rw [lensMethod_some s focal hp hf, hc]; rfl⟩

/-- non-vacuity: the full pair of the examples above with the y axis mirrored -/
example : lamf ⟨4, 1, ⟨[1, 1], [2, 2], [0, 0]⟩⟩ / (1 * 1) < 0 ∨ lamf ⟨4, 1, ⟨[1, 1], [2, 2], [0, 0]⟩⟩ / (1 * (-1)) < 0 := by
  right; unfold lamf; norm_num

/-- **The classification is exact**: the executable `classify` says "native FFT grid" (`≠ other`) **iff** the
commensurability equations hold exactly — on both axes there is a natural padded size `M ≥ N`, `M ≥` the focal size, with
`M·δ_pupil·Δ_focal = λf`.  No tolerance: a grid at any non-zero distance from commensurate sampling is `other`. -/
theorem classify_native_iff (s : Setup) (focal : RegGrid) {δx δy Δx Δy zx zy Zx Zy : ℚ} {Nx Ny Mox Moy : ℕ}
    (hp : s.pupil = ⟨[δx, δy], [Nx, Ny], [zx, zy]⟩) (hf : focal = ⟨[Δx, Δy], [Mox, Moy], [Zx, Zy]⟩) (hlf : lamf s ≠ 0) :
    (classify s focal).1 ≠ .other ↔
      ∃ Mx My : ℕ, (Nx ≤ Mx ∧ Mox ≤ Mx ∧ (Mx : ℚ) * (δx * Δx) = lamf s) ∧
        (Ny ≤ My ∧ Moy ≤ My ∧ (My : ℚ) * (δy * Δy) = lamf s) := by
  constructor
  · intro h
    obtain ⟨Mx, My, _, hx, hy⟩ := classify_native_2d hp hf h
    exact ⟨Mx, My, hx, hy⟩
  · rintro ⟨Mx, My, ⟨hNx, hox, hx⟩, ⟨hNy, hoy, hy⟩⟩
    rw [classify_2d hp hf, paddedSize_of_eq hlf hNx hx, paddedSize_of_eq hlf hNy hy]
    dsimp only
    rw [if_pos ⟨hox, hoy⟩]
    split_ifs <;> exact fun e => FocalClass.noConfusion e

example : lamf ⟨4, 1, ⟨[1, 1], [2, 2], [0, 0]⟩⟩ ≠ 0 := by unfold lamf; norm_num

/-- **Near-miss grids**: if the exact slack `|q·N − round(q·N)|` reported by the executed `commSlack` is non-zero on an
axis — the sampling `λf/(δΔ)` is not an integer there, however close (`2^-50` relative) — the executable classification is
`other` and the executable selection returns the MFT (which evaluates the integral on the *supplied* grid) whatever the
planner says.  The harness compares this with the class `make_fourier_transform` builds for every generated
perturbation above the code's own `1e-10` float test. -/
theorem lensMethod_nearmiss (s : Setup) (focal : RegGrid) {δx δy Δx Δy zx zy Zx Zy : ℚ} {Nx Ny Mox Moy : ℕ}
    (hp : s.pupil = ⟨[δx, δy], [Nx, Ny], [zx, zy]⟩) (hf : focal = ⟨[Δx, Δy], [Mox, Moy], [Zx, Zy]⟩)
    (h : ∃ r ∈ commSlack s focal, r ≠ 0) (cheaper : Bool) :
    (classify s focal).1 = .other ∧ lensMethod s focal cheaper = some Method.mft := by
  have hc : (classify s focal).1 = .other := by
    obtain ⟨r, hr, hr0⟩ := h
    rw [commSlack_2d hp hf, List.mem_pair] at hr
    rcases hr with rfl | rfl
    · rw [classify_2d_none hp hf (.inl (paddedSize_none_of_slack Nx hr0))]
    · rw [classify_2d_none hp hf (.inr (paddedSize_none_of_slack Ny hr0))]
  exact ⟨hc, by rw [lensMethod_some s focal hp hf, hc]; rfl⟩

/-- non-vacuity: the full pair of the examples above used at `λ = 4·(1 + 2^-20)` -/
example : ∃ r ∈ commSlack ⟨4 + 1 / 2 ^ 18, 1, ⟨[1, 1], [2, 2], [0, 0]⟩⟩ ⟨[1, 1], [4, 4], [-2, -2]⟩, r ≠ 0 := by
  decide +kernel

/-- the slack is zero exactly at the integers: `commSlack` entries vanish iff `λf/(δΔ)` is an integer -/
theorem commSlack_zero_iff (q : ℚ) : truncSlack q = 0 ↔ q.den = 1 := by
  constructor
  · intro h
    unfold truncSlack frac at h
    dsimp only at h
    -- `frac` is Mathlib's `Int.fract`
    have hf1 : q - (q.floor : ℚ) < 1 := Int.fract_lt_one q
    have hq : q = (q.floor : ℚ) := by split_ifs at h <;> linarith
    rw [hq]; exact Rat.den_intCast _
  · exact truncSlack_eq_zero_of_den

/-- **The tolerant classification specialises to the exact one**: with `atol = rtol = 0` the executed `classifyLoose`
(whose instances `1e-10, 0` and `1e-8, 1e-5` the driver reports as `tolclass` / `allclose`) *is* `classify`, for all setups
and grids of any dimension. -/
theorem classifyLoose_zero (s : Setup) (focal : RegGrid) : classifyLoose 0 0 s focal = classify s focal := by
  unfold classifyLoose classify paddedSizes
  simp only [paddedSizeLoose_zero]

/-- **Counterexample for a tolerant test** (`np.allclose(q·N, round(q·N))`, `atol = 1e-8`, `rtol = 1e-5`, in place of the
exact/`1e-10` one): the full conjugate grid of a 2×2 pupil for `λf = 4`, used at `λ = 4·(1 + 2^-20)`, is `other` for the exact
classification but `full` with padded sizes `[4, 4]` for `classifyLoose`; the FFT built for those sizes evaluates on
`snappedGrid`, whose sample `[3, 3]` lies at `x·(1 + 2^-20)` instead of `x = (1, 1)`, and the response of the Fourier integral to
the pupil sample at `u = (1, 1)` differs between the two points: the result is labelled with a grid it was not computed on. -/
theorem Bad.classifyLoose_mislabels :
    let s : Setup := ⟨4 + 1 / 2 ^ 18, 1, ⟨[1, 1], [2, 2], [0, 0]⟩⟩
    let focal : RegGrid := ⟨[1, 1], [4, 4], [-2, -2]⟩
    (classify s focal).1 = .other ∧
    classifyLoose (1 / 10 ^ 8) (1 / 10 ^ 5) s focal = (.full, [4, 4]) ∧
    focal.point [3, 3] = [1, 1] ∧
    (snappedGrid s focal [4, 4]).point [3, 3] = [1 + 1 / 2 ^ 20, 1 + 1 / 2 ^ 20] ∧
    impulseResponse s 1 (focal.point [3, 3]) [1, 1] ≠ impulseResponse s 1 ((snappedGrid s focal [4, 4]).point [3, 3]) [1, 1] := by
  decide +kernel

/-- **Backward through the executed pipeline from the executable classification** (`λ f > 0`, positive focal
spacings): the adjoint Fourier integral. -/
theorem lens_backward_eq_adjoint_integral_of_model (s : Setup) (focal : RegGrid) {δx δy Δx Δy zx zy Zx Zy : ℚ}
    {Nx Ny Mox Moy : ℕ} (hp : s.pupil = ⟨[δx, δy], [Nx, Ny], [zx, zy]⟩)
    (hf : focal = ⟨[Δx, Δy], [Mox, Moy], [Zx, Zy]⟩) (hlf : 0 < lamf s) (hΔy : 0 < Δy) (hΔx : 0 < Δx)
    (cheaper emu : Bool) (m : Method) (hm : lensMethod s focal cheaper = some m) (Mx My : ℕ)
    (hM : (classify s focal).1 ≠ .other → (classify s focal).2 = [Mx, My])
    (G : Fin Moy × Fin Mox → ℂ) (j : Fin Ny × Fin Nx) :
    lensBackward expT expE (starRingEnd ℂ) (2 * Real.pi) Complex.ofReal (fun r => |r|)
        (normFactorC (s.lam : ℝ) (s.f : ℝ)) m emu
        (axOf (axisR Ny δy zy)) (axOf (axisR Nx δx zx)) (axOf (axisR Moy Δy Zy)) (axOf (axisR Mox Δx Zx))
        ((s.lam : ℝ) * (s.f : ℝ)) My Mx (ext2 G) j.1 j.2
      = I / (((s.lam : ℝ) : ℂ) * ((s.f : ℝ) : ℂ))
        * ∑ k : Fin Moy × Fin Mox, G k * (((Δy : ℝ) * (Δx : ℝ) : ℝ) : ℂ)
            * cexp (2 * (Real.pi : ℂ) * I * ((dot ![(axisR Mox Δx Zx).x k.2, (axisR Moy Δy Zy).x k.1]
                  ![(axisR Nx δx zx).x j.2, (axisR Ny δy zy).x j.1] : ℝ) : ℂ)
                / (((s.lam : ℝ) : ℂ) * ((s.f : ℝ) : ℂ))) := by
  obtain ⟨numFft, c, hm', hn⟩ := planSound_of_model hp hf hlf.ne' ⟨m, My, Mx, false⟩ hm hM
  exact lens_backward_eq_adjoint_integral _ _ _ _ _ _ My Mx emu numFft c m hm' hn (lamf_cast_pos hlf)
    (Rat.cast_pos.mpr hΔy) (Rat.cast_pos.mpr hΔx) G j

/-- **Backward after forward restores the field when `classify` says `full`** (positive focal spacings). -/
theorem lens_inverse_of_model (s : Setup) (focal : RegGrid) {δx δy Δx Δy zx zy Zx Zy : ℚ}
    {Nx Ny Mox Moy : ℕ} {Ms : List ℕ} (hp : s.pupil = ⟨[δx, δy], [Nx, Ny], [zx, zy]⟩)
    (hf : focal = ⟨[Δx, Δy], [Mox, Moy], [Zx, Zy]⟩) (hlf : lamf s ≠ 0) (hΔy : 0 < Δy) (hΔx : 0 < Δx)
    (hfull : classify s focal = (.full, Ms))
    (cheaper emu : Bool) (m : Method) (hm : lensMethod s focal cheaper = some m) (E : Fin Ny × Fin Nx → ℂ)
    (j : Fin Ny × Fin Nx) :
    lensBackward expT expE (starRingEnd ℂ) (2 * Real.pi) Complex.ofReal (fun r => |r|)
        (normFactorC (s.lam : ℝ) (s.f : ℝ)) m emu
        (axOf (axisR Ny δy zy)) (axOf (axisR Nx δx zx)) (axOf (axisR Moy Δy Zy)) (axOf (axisR Mox Δx Zx))
        ((s.lam : ℝ) * (s.f : ℝ)) Moy Mox
        (ext2 fun k : Fin Moy × Fin Mox =>
          lensForward expT expE (2 * Real.pi) Complex.ofReal (normFactorC (s.lam : ℝ) (s.f : ℝ)) m emu
            (axOf (axisR Ny δy zy)) (axOf (axisR Nx δx zx)) (axOf (axisR Moy Δy Zy)) (axOf (axisR Mox Δx Zx))
            ((s.lam : ℝ) * (s.f : ℝ)) Moy Mox (ext2 E) k.1 k.2) j.1 j.2
      = E j := by
  have hF := fullAt_of_classify hp hf hfull hlf
  exact lens_inverse _ _ _ _ _ _ Moy Mox emu _ cheaper m ((lensMethod_eq_choose hp hf cheaper).symm.trans hm)
    (fun _ => hF) (Rat.cast_pos.mpr hΔy) (Rat.cast_pos.mpr hΔx) hF E j

/-- **The two executable ties agree, proved**: the executed pipeline on the unit impulse at pupil sample `j` is the
executable `impulseResponse` (the exact amplitude / turns pair the driver returns for `impulse-idx` and the harness
compares with the running code). -/
theorem lens_forward_impulse_eq_impulseResponse (s : Setup) (focal : RegGrid) {δx δy Δx Δy zx zy Zx Zy : ℚ}
    {Nx Ny Mox Moy : ℕ} (hp : s.pupil = ⟨[δx, δy], [Nx, Ny], [zx, zy]⟩)
    (hf : focal = ⟨[Δx, Δy], [Mox, Moy], [Zx, Zy]⟩) (hlf : lamf s ≠ 0) (hδx : 0 < δx) (hδy : 0 < δy)
    (cheaper emu : Bool) (m : Method) (hm : lensMethod s focal cheaper = some m) (Mx My : ℕ)
    (hM : (classify s focal).1 ≠ .other → (classify s focal).2 = [Mx, My])
    (j : Fin Ny × Fin Nx) (k : Fin Moy × Fin Mox) :
    lensForward expT expE (2 * Real.pi) Complex.ofReal (normFactorC (s.lam : ℝ) (s.f : ℝ)) m emu
        (axOf (axisR Ny δy zy)) (axOf (axisR Nx δx zx)) (axOf (axisR Moy Δy Zy)) (axOf (axisR Mox Δx Zx))
        ((s.lam : ℝ) * (s.f : ℝ)) My Mx (ext2 (Pi.single j 1)) k.1 k.2
      = ((((impulseResponse s s.pupil.weight (focal.point [k.2, k.1]) (s.pupil.point [j.2, j.1])).1 : ℚ) : ℝ) : ℂ)
        * expT (((impulseResponse s s.pupil.weight (focal.point [k.2, k.1]) (s.pupil.point [j.2, j.1])).2 : ℚ) : ℝ) := by
  rw [lens_forward_eq_integral_of_model s focal hp hf hlf cheaper emu m hm Mx My hM,
    Fintype.sum_eq_single j (fun b hb => by rw [Pi.single_eq_of_ne hb, zero_mul, zero_mul]),
    Pi.single_eq_same, one_mul, integral_term_eq_turns, dot_pair, axisR_x, axisR_x, axisR_x, axisR_x, ← lamf_cast]
  show _ = (((s.pupil.weight / lamf s : ℚ) : ℝ) : ℂ) * expT ((frac (-(1 / 4) + kernelTurns s _ _) : ℚ) : ℝ)
  rw [expT_frac, hp, hf, weight_pair, abs_of_pos hδx, abs_of_pos hδy]
  -- both sides are the same expression in the model's rational quantities, cast as a whole or term by term
  show _ = (((δx * δy / lamf s : ℚ) : ℝ) : ℂ) * expT ((-(1 / 4) + -(_ * _ + (_ * _ + 0)) / lamf s : ℚ) : ℝ)
  rw [add_zero, mul_comm δx δy]
  simp only [Rat.cast_add, Rat.cast_mul, Rat.cast_neg, Rat.cast_div, Rat.cast_one, Rat.cast_ofNat]

/-- **The executable `powerGain` (the number the harness compares with the measured power ratio of the running code)
is exactly `1` on every focal grid `classify` calls `full`** — any signs of the spacings, `λ f ≠ 0`:
`|1/λf|²·|δxδy|·MxMy·|ΔxΔy| = 1` because `M·δ·Δ = λf` on both axes. -/
theorem model_powerGain_of_full {s : Setup} {focal : RegGrid} {δx δy Δx Δy zx zy Zx Zy : ℚ} {Nx Ny Mox Moy : ℕ}
    {Ms : List ℕ} (hp : s.pupil = ⟨[δx, δy], [Nx, Ny], [zx, zy]⟩) (hf : focal = ⟨[Δx, Δy], [Mox, Moy], [Zx, Zy]⟩)
    (h : classify s focal = (.full, Ms)) (hlf : lamf s ≠ 0) : powerGain s focal Ms = 1 := by
  obtain ⟨hMs, ⟨_, hx, _⟩, ⟨_, hy, _⟩, _, _⟩ := classify_full_2d hp hf h
  subst hf hMs
  unfold powerGain normFactorSq prodNat
  rw [hp, weight_pair, weight_pair]
  simp only [List.foldl_cons, List.foldl_nil, one_mul]
  have axis : ∀ {δ Δ : ℚ} {M : ℕ}, (M : ℚ) * (δ * Δ) = lamf s → |δ| * |Δ| * (M : ℚ) = |lamf s| := by
    intro δ Δ M h
    rw [← h, abs_mul, abs_mul, Nat.abs_cast]; ring
  push_cast
  calc 1 / lamf s * (1 / lamf s) * (|δx| * |δy|) * ((Mox : ℚ) * (Moy : ℚ)) * (|Δx| * |Δy|)
      = (1 / lamf s * (1 / lamf s)) * ((|δx| * |Δx| * (Mox : ℚ)) * (|δy| * |Δy| * (Moy : ℚ))) := by ring
    _ = 1 := by rw [axis hx, axis hy, abs_mul_abs_self]; field_simp

/-- **What `classify = full` means**: padded sizes = focal sizes, `N ≤ Mo`, `Mo·δ·Δ = λ f` on both axes, centred. -/
theorem model_classify_full {s : Setup} {focal : RegGrid} {δx δy Δx Δy zx zy Zx Zy : ℚ} {Nx Ny Mox Moy : ℕ}
    {Ms : List ℕ} (hp : s.pupil = ⟨[δx, δy], [Nx, Ny], [zx, zy]⟩) (hf : focal = ⟨[Δx, Δy], [Mox, Moy], [Zx, Zy]⟩)
    (h : classify s focal = (.full, Ms)) :
    Ms = [Mox, Moy] ∧ (Nx ≤ Mox ∧ (Mox : ℚ) * (δx * Δx) = lamf s ∧ 0 < Mox) ∧
      (Ny ≤ Moy ∧ (Moy : ℚ) * (δy * Δy) = lamf s ∧ 0 < Moy) ∧ Zx = nativeZero Δx Mox ∧ Zy = nativeZero Δy Moy :=
  classify_full_2d hp hf h

/-- non-vacuity: a setup and focal grid that `classify` calls `full` (pupil `2×2`, `δ = 1`; focal `4×4`, `Δ = 1`,
centred; `λ f = 4`) … -/
example : classify ⟨4, 1, ⟨[1, 1], [2, 2], [0, 0]⟩⟩ ⟨[1, 1], [4, 4], [-2, -2]⟩ = (.full, [4, 4]) := classify_example_full

/-- … for which the executable selection returns the FFT when the planner prefers it and the MFT otherwise
(hypothesis `hm` of the `_of_model` theorems) -/
example : lensMethod ⟨4, 1, ⟨[1, 1], [2, 2], [0, 0]⟩⟩ ⟨[1, 1], [4, 4], [-2, -2]⟩ true = some .fft ∧
    lensMethod ⟨4, 1, ⟨[1, 1], [2, 2], [0, 0]⟩⟩ ⟨[1, 1], [4, 4], [-2, -2]⟩ false = some .mft := by
  unfold lensMethod
  rw [classify_example_full]
  exact ⟨by decide, by decide⟩

/-- **`make_focal_grid` contains the origin**: sample `⌊M/2⌋` of every axis is `0` (any number of axes, any `q`,
`num_airy`, `spatial_resolution`). -/
theorem makeFocalGrid_contains_origin (q a sr : List ℚ) :
    (makeFocalGrid q a sr).1.point ((makeFocalGrid q a sr).1.dims.map (· / 2))
      = (makeFocalGrid q a sr).1.dims.map fun _ => 0 :=
  -- the grid of either constructor is `gridOfRows` of its rows by unfolding
  rows_origin _

/-- **`make_focal_grid_from_pupil_grid` contains the origin.** -/
theorem focalFromPupil_contains_origin (pupil : RegGrid) (q : ℚ) (na : Option ℚ) (lf : ℚ) :
    (focalFromPupil pupil q na lf).1.point ((focalFromPupil pupil q na lf).1.dims.map (· / 2))
      = (focalFromPupil pupil q na lf).1.dims.map fun _ => 0 :=
  rows_origin _

/-- **`make_focal_grid_from_pupil_grid(pupil, q)` with the full field of view and `q ≥ 1` is a full conjugate of the
pupil grid** at the `λ f` it was built for (the executable constructor and the executable classification, both
compared with the running code): hence `lens_power_of_model` and `model_powerGain_of_full` apply to it. -/
theorem focalFromPupil_full_conjugate {s : Setup} {δx δy zx zy : ℚ} {Nx Ny : ℕ} {q : ℚ}
    (hp : s.pupil = ⟨[δx, δy], [Nx, Ny], [zx, zy]⟩) (hlf : lamf s ≠ 0) (hδx : δx ≠ 0) (hδy : δy ≠ 0)
    (hNx : 0 < Nx) (hNy : 0 < Ny) (hq : 1 ≤ q) :
    classify s (focalFromPupil s.pupil q none (lamf s)).1
      = (.full, [(roundHalfEven (q * (Nx : ℚ))).toNat, (roundHalfEven (q * (Ny : ℚ))).toNat]) := by
  have hx : Nx ≤ (roundHalfEven (q * (Nx : ℚ))).toNat := le_round_of_one_le hq
  have hy : Ny ≤ (roundHalfEven (q * (Ny : ℚ))).toNat := le_round_of_one_le hq
  rw [hp, focalFromPupil_2d, classify_2d hp rfl, paddedSize_of_conj hlf hδx (lt_of_lt_of_le hNx hx) hx,
    paddedSize_of_conj hlf hδy (lt_of_lt_of_le hNy hy) hy]
  dsimp only
  rw [if_pos ⟨le_rfl, le_rfl⟩, if_pos ⟨⟨rfl, rfl⟩, rfl, rfl⟩]

set_option linter.unusedVariables false in
/-- **Sampling of `make_focal_grid_from_pupil_grid`**: with the effective oversampling `q_eff = M/N`
(`M = round(q·N)`), the focal spacing times `q_eff` is `λ f / D`, `D = δ·N` the pupil extent — "`q` samples per
`λ f/D`" on both axes.  `hδx`, `hδy` are not used (at `δ = 0` both sides are `0`). -/
theorem focalFromPupil_sampling (δx δy zx zy : ℚ) (Nx Ny : ℕ) (q lf : ℚ) (hδx : δx ≠ 0) (hδy : δy ≠ 0)
    (hNx : 0 < Nx) (hNy : 0 < Ny) (hq : 1 ≤ q) :
    ∃ Δx Δy : ℚ, (focalFromPupil ⟨[δx, δy], [Nx, Ny], [zx, zy]⟩ q none lf).1.delta = [Δx, Δy] ∧
      Δx * (((roundHalfEven (q * (Nx : ℚ))).toNat : ℚ) / (Nx : ℚ)) = lf / (δx * (Nx : ℚ)) ∧
      Δy * (((roundHalfEven (q * (Ny : ℚ))).toNat : ℚ) / (Ny : ℚ)) = lf / (δy * (Ny : ℚ)) := by
  have key : ∀ (δ : ℚ) {N : ℕ}, 0 < N →
      lf / (δ * ((roundHalfEven (q * (N : ℚ))).toNat : ℚ)) * (((roundHalfEven (q * (N : ℚ))).toNat : ℚ) / (N : ℚ))
        = lf / (δ * (N : ℚ)) := by
    intro δ N hN
    have hM : ((roundHalfEven (q * (N : ℚ))).toNat : ℚ) ≠ 0 := by
      exact_mod_cast (lt_of_lt_of_le hN (le_round_of_one_le hq)).ne'
    rw [div_mul_div_comm, mul_comm δ, mul_assoc, mul_comm lf, mul_div_mul_left _ _ hM]
  rw [focalFromPupil_2d]
  exact ⟨_, _, rfl, key δx hNx, key δy hNy⟩

/-- … so the executed pipeline conserves power on the grid the constructor returns (`λ f > 0`, `q ≥ 1`). -/
theorem lens_power_on_focalFromPupil (s : Setup) {δx δy zx zy : ℚ} {Nx Ny : ℕ} {q : ℚ}
    (hp : s.pupil = ⟨[δx, δy], [Nx, Ny], [zx, zy]⟩) (hlf : 0 < lamf s) (hδx : δx ≠ 0) (hδy : δy ≠ 0)
    (hNx : 0 < Nx) (hNy : 0 < Ny) (hq : 1 ≤ q) (cheaper emu : Bool) (m : Method)
    (hm : lensMethod s (focalFromPupil s.pupil q none (lamf s)).1 cheaper = some m) (E : Fin Ny × Fin Nx → ℂ) :
    let Mx := (roundHalfEven (q * (Nx : ℚ))).toNat
    let My := (roundHalfEven (q * (Ny : ℚ))).toNat
    let Δx := lamf s / (δx * (Mx : ℚ))
    let Δy := lamf s / (δy * (My : ℚ))
    power (regGrid2 (axisR My Δy (centredZero Δy My)) (axisR Mx Δx (centredZero Δx Mx))).weights
        (fun k : Fin My × Fin Mx =>
          lensForward expT expE (2 * Real.pi) Complex.ofReal (normFactorC (s.lam : ℝ) (s.f : ℝ)) m emu
            (axOf (axisR Ny δy zy)) (axOf (axisR Nx δx zx)) (axOf (axisR My Δy (centredZero Δy My)))
            (axOf (axisR Mx Δx (centredZero Δx Mx))) ((s.lam : ℝ) * (s.f : ℝ)) My Mx (ext2 E) k.1 k.2)
      = power (regGrid2 (axisR Ny δy zy) (axisR Nx δx zx)).weights E := by
  intro Mx My Δx Δy
  have hfull := focalFromPupil_full_conjugate hp hlf.ne' hδx hδy hNx hNy hq
  have hf : (focalFromPupil s.pupil q none (lamf s)).1
      = ⟨[Δx, Δy], [Mx, My], [centredZero Δx Mx, centredZero Δy My]⟩ := by
    rw [hp]; exact focalFromPupil_2d δx δy zx zy Nx Ny q (lamf s)
  exact lens_power_of_model s _ hp hf hlf hfull cheaper emu m hm E

/-- **The executed MFT pipeline on any separated Cartesian focal grid** (regular or not — driver op `lens-sep`),
any pupil weights (`hw`), every wavelength and focal length: `lensMftForward · norm` is the scaled integral. -/
theorem lens_mft_forward_eq_integral {Ny Nx Nv Nu : ℕ} (x y X Y : ℕ → ℝ) (wp : Fin Ny × Fin Nx → ℝ) (w : Weights ℂ)
    (hw : ∀ p : Fin Ny × Fin Nx, w.get (p.1 * Nx + p.2) = ((wp p : ℝ) : ℂ)) (lam f : ℝ)
    (E : Fin Ny × Fin Nx → ℂ) (k : Fin Nv × Fin Nu) :
    lensMftForward expT Nx Ny Nu Nv x y X Y (lam * f) w (flat2 E) (k.1 * Nu + k.2) * normFactorC lam f
      = 1 / (I * (lam : ℂ) * (f : ℂ))
        * ∑ j : Fin Ny × Fin Nx, E j * (wp j : ℂ)
            * cexp (-(2 * (Real.pi : ℂ) * I * ((dot ![X k.2, Y k.1] ![x j.2, y j.1] : ℝ) : ℂ))
                / ((lam : ℂ) * (f : ℂ))) := by
  rw [mul_comm _ (normFactorC lam f)]
  exact fraunhofer_eq_integral_mft (τ := Unit) x y X Y wp (fun _ : Fin Nv × Fin Nu => 0) (fun _ => f) w
    (fun _ => w) hw ⟨fun _ => E, lam, none⟩ () k

end pipeline

/-! ## the propagator object and the wavefront record (executed: driver op `obj`)

`LensProp.forward/backward` (`Model/FraunhoferObj.lean`) are `FraunhoferPropagator.forward/backward` on a whole
`Wavefront` record: instance for the wavefront's wavelength (focal length evaluated there, the transform
`make_fourier_transform` returned = `plan λ`), every tensor component through the selected pipeline, wavelength and
Stokes vector handed on.  The native driver runs these very functions with `scalarsQ` on every check and the harness
compares all components, the wavelength and the Stokes vector of the result with the running code; the theorems below are
about the same functions with `scalarsR`.  `regObj`/`ptsObj`/`wfOf` only name the record literals. -/
section object
open HcipyVerif.Fft HcipyVerif.FourierLink
variable {σ : Type}

/-- **Wavelength and Stokes vector are carried, forward and backward** — by the executed record functions, at every
scalar type (in particular the instance the driver runs and the harness compares with `out.wavelength`,
`out.input_stokes_vector` of the running code on every `obj` request), for every kind of focal grid, plan and
wavefront. -/
theorem obj_meta_carried {K C : Type} [Zero K] [Add K] [Sub K] [Mul K] [Neg K] [Div K] [One K] [NatCast K] [IntCast K]
    [Zero C] [One C] [Add C] [Mul C] [Inv C] [NatCast C] (S : Scalars K C) (P : LensProp K) (wf : Wf σ K C) :
    (P.forward S wf).wavelength = wf.wavelength ∧ (P.forward S wf).stokes = wf.stokes ∧
    (P.backward S wf).wavelength = wf.wavelength ∧ (P.backward S wf).stokes = wf.stokes :=
  ⟨rfl, rfl, rfl, rfl⟩

/-- **Tensor components are transformed independently** (`multiplex_for_tensor_fields`): component `t` of the result of the
executed `forward`/`backward` depends only on component `t` of the input and on the wavelength — at every scalar type, for
every kind of focal grid and plan. -/
theorem obj_componentwise {K C : Type} [Zero K] [Add K] [Sub K] [Mul K] [Neg K] [Div K] [One K] [NatCast K] [IntCast K]
    [Zero C] [One C] [Add C] [Mul C] [Inv C] [NatCast C] (S : Scalars K C) (P : LensProp K) (wf wf' : Wf σ K C) (t : σ)
    (h : wf.field t = wf'.field t) (hl : wf.wavelength = wf'.wavelength) :
    (P.forward S wf).field t = (P.forward S wf').field t ∧ (P.backward S wf).field t = (P.backward S wf').field t := by
  unfold LensProp.forward LensProp.backward
  simp only [h, hl, and_self]

/-- **`forward` of the object is the scaled Fourier integral for every tensor component** (scalar, Jones vector, Jones
matrix: `σ` arbitrary), every wavelength, wavelength-dependent focal length, whatever sound plan the instance holds. -/
theorem obj_forward_eq_integral (py px Fy Fx : RegAxis) (f : ℝ → ℝ) (plan : ℝ → Plan) (emu : Bool)
    (E : σ → Fin py.n × Fin px.n → ℂ) (lam : ℝ) (S : Option (ℝ × ℝ × ℝ × ℝ))
    (hs : PlanSound py px Fy Fx (lam * f lam) (plan lam)) (t : σ) (k : Fin Fy.n × Fin Fx.n) :
    ((regObj py px Fy Fx f plan emu).forward scalarsR (wfOf E lam S)).field t k.1 k.2
      = 1 / (I * (lam : ℂ) * (f lam : ℂ))
        * ∑ j : Fin py.n × Fin px.n, E t j * ((py.δ * px.δ : ℝ) : ℂ)
            * cexp (-(2 * (Real.pi : ℂ) * I * ((dot ![Fx.x k.2, Fy.x k.1] ![px.x j.2, py.x j.1] : ℝ) : ℂ))
                / ((lam : ℂ) * (f lam : ℂ))) := by
  obtain ⟨numFft, cheaper, hm, hn⟩ := hs
  rw [regObj_forward_field, clip2_apply]
  exact lens_forward_eq_integral py px Fy Fx lam (f lam) _ _ emu numFft cheaper _ hm hn (E t) k

/-- **`backward` of the object is the adjoint Fourier integral for every tensor component** (`λ f > 0`, positive focal
spacings). -/
theorem obj_backward_eq_adjoint_integral (py px Fy Fx : RegAxis) (f : ℝ → ℝ) (plan : ℝ → Plan) (emu : Bool)
    (G : σ → Fin Fy.n × Fin Fx.n → ℂ) (lam : ℝ) (S : Option (ℝ × ℝ × ℝ × ℝ))
    (hs : PlanSound py px Fy Fx (lam * f lam) (plan lam)) (hpos : 0 < lam * f lam) (hy : 0 < Fy.δ) (hx : 0 < Fx.δ)
    (t : σ) (j : Fin py.n × Fin px.n) :
    ((regObj py px Fy Fx f plan emu).backward scalarsR (wfOf G lam S)).field t j.1 j.2
      = I / ((lam : ℂ) * (f lam : ℂ))
        * ∑ k : Fin Fy.n × Fin Fx.n, G t k * ((Fy.δ * Fx.δ : ℝ) : ℂ)
            * cexp (2 * (Real.pi : ℂ) * I * ((dot ![Fx.x k.2, Fy.x k.1] ![px.x j.2, py.x j.1] : ℝ) : ℂ)
                / ((lam : ℂ) * (f lam : ℂ))) := by
  obtain ⟨numFft, cheaper, hm, hn⟩ := hs
  rw [regObj_backward_field, clip2_apply]
  exact lens_backward_eq_adjoint_integral py px Fy Fx lam (f lam) _ _ emu numFft cheaper _ hm hn hpos hy hx (G t) j

/-- **Total power of the wavefront record is conserved on a full conjugate grid** (sum over all tensor components:
scalar and Jones-vector wavefronts). -/
theorem obj_power [Fintype σ] (py px Fy Fx : RegAxis) (f : ℝ → ℝ) (plan : ℝ → Plan) (emu : Bool)
    (E : σ → Fin py.n × Fin px.n → ℂ) (lam : ℝ) (S : Option (ℝ × ℝ × ℝ × ℝ))
    (hs : PlanSound py px Fy Fx (lam * f lam) (plan lam)) (hpos : 0 < lam * f lam)
    (hfull : FullAt py px Fy Fx (lam * f lam)) :
    ∑ t, power (regGrid2 Fy Fx).weights (fun k : Fin Fy.n × Fin Fx.n =>
        ((regObj py px Fy Fx f plan emu).forward scalarsR (wfOf E lam S)).field t k.1 k.2)
      = ∑ t, power (regGrid2 py px).weights (E t) := by
  obtain ⟨numFft, cheaper, hm, hn⟩ := hs
  apply Finset.sum_congr rfl
  intro t _
  rw [regObj_forward_field]
  simp only [clip2_apply]
  exact lens_power py px Fy Fx lam (f lam) _ _ emu numFft cheaper _ hm hn hpos hfull (E t)

/-- **Stokes-`I` power of a Jones-matrix wavefront record** (any Stokes vector) is conserved on a full conjugate grid. -/
theorem obj_stokes_power (py px Fy Fx : RegAxis) (f : ℝ → ℝ) (plan : ℝ → Plan) (emu : Bool)
    (E : Fin 2 × Fin 2 → Fin py.n × Fin px.n → ℂ) (lam : ℝ) (S : Option (ℝ × ℝ × ℝ × ℝ)) (Sv : Fin 4 → ℝ)
    (hs : PlanSound py px Fy Fx (lam * f lam) (plan lam)) (hpos : 0 < lam * f lam)
    (hfull : FullAt py px Fy Fx (lam * f lam)) :
    stokesPower (regGrid2 Fy Fx).weights Sv (fun c (k : Fin Fy.n × Fin Fx.n) =>
        ((regObj py px Fy Fx f plan emu).forward scalarsR (wfOf E lam S)).field c k.1 k.2)
      = stokesPower (regGrid2 py px).weights Sv E := by
  obtain ⟨numFft, cheaper, hm, hn⟩ := hs
  simp only [regObj_forward_field, clip2_apply]
  exact lens_stokes_power py px Fy Fx lam (f lam) _ _ emu numFft cheaper _ hm hn hpos hfull Sv E

/-- **`backward(forward(wf)) = wf` as records** on a full conjugate grid: every tensor component, the wavelength and the
Stokes vector. -/
theorem obj_inverse (py px Fy Fx : RegAxis) (f : ℝ → ℝ) (plan : ℝ → Plan) (emu : Bool)
    (E : σ → Fin py.n × Fin px.n → ℂ) (lam : ℝ) (S : Option (ℝ × ℝ × ℝ × ℝ))
    (hs : PlanSound py px Fy Fx (lam * f lam) (plan lam)) (hy : 0 < Fy.δ) (hx : 0 < Fx.δ)
    (hfull : FullAt py px Fy Fx (lam * f lam)) :
    (regObj py px Fy Fx f plan emu).backward scalarsR ((regObj py px Fy Fx f plan emu).forward scalarsR (wfOf E lam S))
      = wfOf E lam S := by
  obtain ⟨numFft, cheaper, hm, hn⟩ := hs
  -- wavelength and Stokes vector are handed on by both calls; the field, component by component
  show Wf.mk _ _ _ = Wf.mk _ _ _
  congr 1
  funext t
  show ((regObj py px Fy Fx f plan emu).backward scalarsR
    ((regObj py px Fy Fx f plan emu).forward scalarsR (wfOf E lam S))).field t = ext2 (E t)
  rw [regObj_backward_field, regObj_forward_field, clip2_eq_ext2, clip2_eq_ext2]
  congr 1
  funext j
  exact lens_inverse py px Fy Fx lam (f lam) _ _ emu numFft cheaper _ hm hn hy hx hfull (E t) j

/-- **One object after any history of `focal_length` assignments** (unbounded; each assignment clears the cache, so the
plans are those of the new focal length): `forward` is the integral for the **last** assigned focal length. -/
theorem obj_forward_eq_integral_after_sets (py px Fy Fx : RegAxis) (emu : Bool)
    (sets : List ((ℝ → ℝ) × (ℝ → Plan))) (f0 : ℝ → ℝ) (plan0 : ℝ → Plan) (g : ℝ → ℝ) (pl : ℝ → Plan)
    (E : σ → Fin py.n × Fin px.n → ℂ) (lam : ℝ) (S : Option (ℝ × ℝ × ℝ × ℝ))
    (hs : PlanSound py px Fy Fx (lam * g lam) (pl lam)) (t : σ) (k : Fin Fy.n × Fin Fx.n) :
    (((sets ++ [(g, pl)]).foldl (fun P s => P.setFocalLength s.1 s.2) (regObj py px Fy Fx f0 plan0 emu)).forward
        scalarsR (wfOf E lam S)).field t k.1 k.2
      = 1 / (I * (lam : ℂ) * (g lam : ℂ))
        * ∑ j : Fin py.n × Fin px.n, E t j * ((py.δ * px.δ : ℝ) : ℂ)
            * cexp (-(2 * (Real.pi : ℂ) * I * ((dot ![Fx.x k.2, Fy.x k.1] ![px.x j.2, py.x j.1] : ℝ) : ℂ))
                / ((lam : ℂ) * (g lam : ℂ))) := by
  rw [regObj_sets]
  exact obj_forward_eq_integral py px Fy Fx g pl emu E lam S hs t k

/-- `PlanSound` is satisfiable for every pair of grids and every `λ f` (the MFT plan) … -/
example (py px Fy Fx : RegAxis) (lf : ℝ) : ∃ pl, PlanSound py px Fy Fx lf pl := ⟨_, planSound_mft py px Fy Fx lf 0 0 false⟩

/-- … and with the FFT selected: pupil `2×2`, `δ = 1/2`; focal `4×4`, `Δ = 1/2`; `λ f = 1`, padded sizes `4`. -/
example : PlanSound ⟨2, 1 / 2, 0⟩ ⟨2, 1 / 2, 0⟩ ⟨4, 1 / 2, -1⟩ ⟨4, 1 / 2, -1⟩ 1 ⟨.fft, 4, 4, false⟩ := by
  refine ⟨true, true, by decide, fun _ => ⟨by norm_num, ⟨?_, ?_, ?_⟩, ⟨?_, ?_, ?_⟩⟩⟩ <;> norm_num

/-- `prop.focal_length = …` twice: the last assignment wins (the executed setter overwrites focal length and plans). -/
theorem obj_setFocalLength_setFocalLength {K : Type} (P : LensProp K) (g h : K → K) (p q : K → Plan) :
    (P.setFocalLength g p).setFocalLength h q = P.setFocalLength h q := rfl

/-- **The clause "the Stokes vector is carried" is not empty**: a `forward` of the object that forgets the optional third
constructor argument (`Bad.objForwardDropStokes`) returns a different record, and for the Stokes vector `(1, 1, 0, 0)` and
the Jones matrix `(0 1; 0 0)` a different intensity (`0` vs `1/2`) — whatever the grids, plan and field. -/
theorem Bad.obj_forward_dropStokes_changes_power (P : LensProp ℝ) (wf : Wf σ ℝ ℂ) (hS : wf.stokes = some (1, 1, 0, 0)) :
    (Bad.objForwardDropStokes scalarsR P wf).stokes ≠ (P.forward scalarsR wf).stokes ∧
      recordI (Bad.objForwardDropStokes scalarsR P wf).stokes 0 1 0 0 ≠ recordI (P.forward scalarsR wf).stokes 0 1 0 0 := by
  have h1 : (P.forward scalarsR wf).stokes = some (1, 1, 0, 0) := hS
  have h2 : (Bad.objForwardDropStokes scalarsR P wf).stokes = none := rfl
  rw [h1, h2]
  exact ⟨nofun, stokesI_unpolarised_ne⟩

/-- the hypothesis is satisfiable -/
example : ∃ wf : Wf Unit ℝ ℂ, wf.stokes = some (1, 1, 0, 0) := ⟨⟨fun _ _ _ => 0, 1, some (1, 1, 0, 0)⟩, rfl⟩

/-- **The executable plan is sound**: what `planOf` (the executable `lensMethod` and `classify`) puts into the object
the driver runs satisfies `PlanSound` for the casts of the rational grids, whatever the planner's outcome. -/
theorem planOf_sound (s : Setup) (focal : RegGrid) {δx δy Δx Δy zx zy Zx Zy : ℚ} {Nx Ny Mox Moy : ℕ}
    (hp : s.pupil = ⟨[δx, δy], [Nx, Ny], [zx, zy]⟩) (hf : focal = ⟨[Δx, Δy], [Mox, Moy], [Zx, Zy]⟩)
    (hlf : lamf s ≠ 0) (cheaper mat : Bool) :
    PlanSound (axisR Ny δy zy) (axisR Nx δx zx) (axisR Moy Δy Zy) (axisR Mox Δx Zx) ((lamf s : ℚ) : ℝ)
      (planOf s (.regular focal) cheaper mat) := by
  rw [lamf_cast]
  refine planSound_of_model (cheaper := cheaper) hp hf hlf _ ?_ fun hne => ?_
  · simp only [planOf, lensMethod_some s focal hp hf cheaper, Option.getD_some]
  · obtain ⟨Mx, My, hMs, -⟩ := classify_native_2d hp hf hne
    simp only [planOf, hMs]

/-- **What the driver's object is** for a 2-D regular pupil and focal grid: the axes of the two grids, the session's
current focal length, and per wavelength the executable plan of the instance. -/
theorem lensObj_regular (ss : Session) (focal : RegGrid) {δx δy Δx Δy zx zy Zx Zy : ℚ} {Nx Ny Mox Moy : ℕ}
    (hp : ss.pupil = ⟨[δx, δy], [Nx, Ny], [zx, zy]⟩) (hf : focal = ⟨[Δx, Δy], [Mox, Moy], [Zx, Zy]⟩)
    (cheaper mat emu : Bool) :
    lensObj ss (.regular focal) cheaper mat emu
      = some ⟨⟨Ny, δy, zy⟩, ⟨Nx, δx, zx⟩, .regular ⟨Moy, Δy, Zy⟩ ⟨Mox, Δx, Zx⟩, ss.focalLength.eval,
          fun lam => planOf (ss.instanceAt lam) (.regular focal) cheaper mat, emu⟩ := by
  unfold lensObj axesOf
  rw [hp, hf]
  rfl

/-- **The executed setter on the executed object, unbounded histories**: the object the driver runs after any history of
`prop.focal_length = …` assignments (`lensObjAfter`: `LensProp.setFocalLength` folded over the history, each step installing
the plans of the new focal length) *is* the object constructed with the last assigned value — for every kind of focal grid.
Nothing of earlier focal lengths survives; the harness compares this object's results with the one real propagator object
that went through the same assignments. -/
theorem lensObjAfter_last (ss0 : Session) (fs : List FocalSpec) (g : FocalSpec) (focal : FocalSpecGrid)
    (cheaper mat emu : Bool) :
    lensObjAfter ss0 (fs ++ [g]) focal cheaper mat emu = lensObj (ss0.setFocalLength g) focal cheaper mat emu := by
  have key : ∀ P0 : LensProp Rat, (fs ++ [g]).foldl (fun P g => P.setFocalLength g.eval
      (fun lam => planOf ((ss0.setFocalLength g).instanceAt lam) focal cheaper mat)) P0 = _ :=
    fun P0 => foldl_overwrite fs g P0 fun _ _ _ => rfl
  unfold lensObjAfter
  simp only [key]
  unfold lensObj
  show (match axesOf ss0.pupil with | none => none | some (py, px) => _).map _
    = (match axesOf ss0.pupil with | none => none | some (py, px) => _)
  cases axesOf ss0.pupil with
  | none => rfl
  | some a =>
    obtain ⟨py, px⟩ := a
    simp only [Option.map_map]
    rfl

/-- **End to end from the executable object**: an object over `ℝ` whose focal length and plan at the (rational)
wavelength are those of the object the driver builds (`lensObj_regular`) — after any history of `focal_length`
assignments on the session — computes the scaled integral for the session's current focal length. -/
theorem obj_forward_eq_integral_of_model (ss : Session) (fs : List FocalSpec) (g : FocalSpec) (focal : RegGrid)
    {δx δy Δx Δy zx zy Zx Zy : ℚ} {Nx Ny Mox Moy : ℕ}
    (hp : ss.pupil = ⟨[δx, δy], [Nx, Ny], [zx, zy]⟩) (hf : focal = ⟨[Δx, Δy], [Mox, Moy], [Zx, Zy]⟩)
    (cheaper mat emu : Bool) (lam : ℚ) (hlf : lam * g.eval lam ≠ 0) (f : ℝ → ℝ) (plan : ℝ → Plan)
    (hfl : f (lam : ℝ) = ((g.eval lam : ℚ) : ℝ))
    (hpl : plan (lam : ℝ) = planOf (((fs ++ [g]).foldl Session.setFocalLength ss).instanceAt lam) (.regular focal) cheaper mat)
    (E : σ → Fin Ny × Fin Nx → ℂ) (S : Option (ℝ × ℝ × ℝ × ℝ)) (t : σ) (k : Fin Moy × Fin Mox) :
    ((regObj (axisR Ny δy zy) (axisR Nx δx zx) (axisR Moy Δy Zy) (axisR Mox Δx Zx) f plan emu).forward scalarsR
        (wfOf E (lam : ℝ) S)).field t k.1 k.2
      = 1 / (I * ((lam : ℝ) : ℂ) * (((g.eval lam : ℚ) : ℝ) : ℂ))
        * ∑ j : Fin Ny × Fin Nx, E t j * (((δy : ℝ) * (δx : ℝ) : ℝ) : ℂ)
            * cexp (-(2 * (Real.pi : ℂ) * I * ((dot ![(axisR Mox Δx Zx).x k.2, (axisR Moy Δy Zy).x k.1]
                  ![(axisR Nx δx zx).x j.2, (axisR Ny δy zy).x j.1] : ℝ) : ℂ))
                / (((lam : ℝ) : ℂ) * (((g.eval lam : ℚ) : ℝ) : ℂ))) := by
  rw [session_instance_after_sets ss fs g lam] at hpl
  rw [← hfl]
  refine obj_forward_eq_integral (axisR Ny δy zy) (axisR Nx δx zx) (axisR Moy Δy Zy) (axisR Mox Δx Zx) f plan emu E lam S
    ?_ t k
  rw [hpl, hfl, ← lamf_cast ⟨lam, g.eval lam, ss.pupil⟩]
  exact planOf_sound ⟨lam, g.eval lam, ss.pupil⟩ focal hp hf hlf cheaper mat

/-- **The executable selection returns the naive transform for a focal grid that is not separated** (unstructured,
polar), whatever the planner says. -/
theorem planOf_points_naive (s : Setup) (X Y w : List ℚ) (cheaper mat : Bool) (h2 : s.pupil.ndim = 2) :
    (planOf s (.points X Y w) cheaper mat).m = .naive := by
  simp [planOf, h2, Fft.choose, detectFix, detectLit, GridDesc.isRegular, GridDesc.isSeparated]

/-- **The executed naive pipeline equals the scaled Fourier integral** on any list of focal points (unstructured grids,
polar grids through their Cartesian coordinates), both code paths of `NaiveFourierTransform` (`mat`), every wavelength
and focal length: C01's `nftForwardFly`/`nftForwardMat` composed into the lens. -/
theorem lens_naive_forward_eq_integral (mat : Bool) (py px : RegAxis) (X Y : ℕ → ℝ) (lam f : ℝ)
    (E : Fin py.n × Fin px.n → ℂ) (k : ℕ) :
    lensNaiveForward expT mat Complex.ofReal (axOf py) (axOf px) X Y (lam * f) (ext2 E) k * normFactorC lam f
      = 1 / (I * (lam : ℂ) * (f : ℂ))
        * ∑ j : Fin py.n × Fin px.n, E j * ((py.δ * px.δ : ℝ) : ℂ)
            * cexp (-(2 * (Real.pi : ℂ) * I * ((dot ![X k, Y k] ![px.x j.2, py.x j.1] : ℝ) : ℂ))
                / ((lam : ℂ) * (f : ℂ))) := by
  rw [lensNaiveForward_eq_sum, mul_comm]
  unfold normFactorC
  congr 1
  · rw [mul_right_comm]
  · refine Finset.sum_congr rfl fun j _ => ?_
    rw [expT_eq_cexp, dot_pair]
    congr 2
    push_cast
    ring

/-- **… and backward is the adjoint Fourier integral** over the focal points with their weights `w_k` (`λ f ≠ 0`). -/
theorem lens_naive_backward_eq_adjoint_integral (mat : Bool) (py px : RegAxis) (n : ℕ) (X Y w : ℕ → ℝ) (lam f : ℝ)
    (hne : lam * f ≠ 0) (G : ℕ → ℂ) (j : Fin py.n × Fin px.n) :
    lensNaiveBackward expT mat Complex.ofReal (axOf py) (axOf px) n X Y w (lam * f) G (j.1 * px.n + j.2)
        * (normFactorC lam f)⁻¹
      = I / ((lam : ℂ) * (f : ℂ))
        * ∑ k ∈ Finset.range n, G k * (w k : ℂ)
            * cexp (2 * (Real.pi : ℂ) * I * ((dot ![X k, Y k] ![px.x j.2, py.x j.1] : ℝ) : ℂ)
                / ((lam : ℂ) * (f : ℂ))) := by
  have hs : (((1 / (lam * f) * (1 / (lam * f)) : ℝ)) : ℂ) * (normFactorC lam f)⁻¹ = I / ((lam : ℂ) * (f : ℂ)) := by
    have hl : (lam : ℂ) ≠ 0 := Complex.ofReal_ne_zero.mpr (left_ne_zero_of_mul hne)
    have hf : (f : ℂ) ≠ 0 := Complex.ofReal_ne_zero.mpr (right_ne_zero_of_mul hne)
    unfold normFactorC
    rw [inv_div, div_one]
    push_cast
    field_simp
  rw [lensNaiveBackward_eq_sum, Finset.sum_mul, Finset.mul_sum]
  refine Finset.sum_congr rfl fun k _ => ?_
  rw [expT_eq_cexp, dot_pair, ← hs,
    show I * ((2 * Real.pi * (X k / (lam * f) * px.x j.2 + Y k / (lam * f) * py.x j.1) : ℝ) : ℂ)
      = 2 * (Real.pi : ℂ) * I * ((X k * px.x j.2 + Y k * py.x j.1 : ℝ) : ℂ) / ((lam : ℂ) * (f : ℂ)) by push_cast; ring]
  push_cast
  ring

/-- **`forward` of the object onto a point-list focal grid** (unstructured, polar) is the scaled Fourier integral for
every tensor component — the record function the driver runs (op `obj … pts`). -/
theorem obj_forward_points_eq_integral (py px : RegAxis) (n : ℕ) (X Y w : ℕ → ℝ) (f : ℝ → ℝ) (plan : ℝ → Plan)
    (emu : Bool) (E : σ → Fin py.n × Fin px.n → ℂ) (lam : ℝ) (S : Option (ℝ × ℝ × ℝ × ℝ)) (t : σ) (k : Fin n) :
    ((ptsObj py px n X Y w f plan emu).forward scalarsR (wfOf E lam S)).field t 0 k
      = 1 / (I * (lam : ℂ) * (f lam : ℂ))
        * ∑ j : Fin py.n × Fin px.n, E t j * ((py.δ * px.δ : ℝ) : ℂ)
            * cexp (-(2 * (Real.pi : ℂ) * I * ((dot ![X k, Y k] ![px.x j.2, py.x j.1] : ℝ) : ℂ))
                / ((lam : ℂ) * (f lam : ℂ))) := by
  rw [ptsObj_forward_field]
  exact (clip2_apply 1 n _ ((0 : Fin 1), k)).trans (lens_naive_forward_eq_integral _ py px X Y lam (f lam) (E t) k)

/-- **`backward` of the object from a point-list focal grid** is the adjoint Fourier integral over the focal points with
their weights, for every tensor component (`λ f ≠ 0`). -/
theorem obj_backward_points_eq_adjoint_integral (py px : RegAxis) (n : ℕ) (X Y w : ℕ → ℝ) (f : ℝ → ℝ) (plan : ℝ → Plan)
    (emu : Bool) (G : σ → ℕ → ℕ → ℂ) (lam : ℝ) (S : Option (ℝ × ℝ × ℝ × ℝ)) (hne : lam * f lam ≠ 0) (t : σ)
    (j : Fin py.n × Fin px.n) :
    ((ptsObj py px n X Y w f plan emu).backward scalarsR ⟨G, lam, S⟩).field t j.1 j.2
      = I / ((lam : ℂ) * (f lam : ℂ))
        * ∑ k ∈ Finset.range n, G t 0 k * (w k : ℂ)
            * cexp (2 * (Real.pi : ℂ) * I * ((dot ![X k, Y k] ![px.x j.2, py.x j.1] : ℝ) : ℂ)
                / ((lam : ℂ) * (f lam : ℂ))) := by
  rw [ptsObj_backward_field, clip2_apply]
  exact lens_naive_backward_eq_adjoint_integral _ py px n X Y w lam (f lam) hne (G t 0) j

/-- **Results are new objects, for every call history** (unbounded; fresh wavefronts with or without Stokes vector,
results fed back in): in the executed allocation model (`runCalls`, driver op `alias`, compared with `np.shares_memory`
on the real objects after the same history) all field arrays and Stokes-vector arrays of all wavefronts — inputs and
results — are pairwise distinct objects: `forward`/`backward` never return or keep an array of their input or of an
earlier result, and the Stokes vector of a result is a copy. -/
theorem calls_create_distinct_arrays (cs : List Call) :
    ((runCalls ⟨0⟩ [] cs).2.flatMap WfRef.ids).Nodup := by
  rw [heapOk_runCalls cs ⟨0⟩ [] rfl]
  exact List.nodup_range

/-- … and a result carries a Stokes vector exactly when its input does. -/
theorem propagate_stokes_iff (h : Heap) (w : WfRef) : (h.propagate w).2.stokes.isSome = w.stokes.isSome := by
  unfold Heap.propagate
  cases w.stokes <;> rfl

end object

end HcipyVerif.Fraunhofer
