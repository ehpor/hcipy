import HcipyVerif.Model.FieldDispatch

/-! What the wrapping policies predict for a dispatch entry, whatever its operands: the two routes differ only on
0-d results and on `func`, no prediction is an exception, `__setitem__` writes.  Hence a table that passes `entryOk`
(the check the driver runs: observed = predicted, both routes) has every property of the predictions, and one pass
over the regenerated table carries all statements about it. -/
namespace HcipyVerif.FieldDispatch
open HcipyVerif.FieldProg

theorem entryOk_iff (e : Entry) :
    entryOk e = true ↔ e.old = predict oldPolicy e ∧ e.new = predict newPolicy e := by
  simp only [entryOk, Bool.and_eq_true, beq_iff_eq]

theorem fnTag_old_eq_new {c : TagClass} (hc : c ≠ .func) (ts : List Tag) {a : Arr} (hnd : a.shape.isEmpty = false) :
    fnTag oldPolicy c ts a = fnTag newPolicy c ts a := by
  cases c with
  | func => exact absurd rfl hc
  | keep | lib | scalarIf0d => rfl
  | ufunc | reduce => simp only [fnTag, oldPolicy, newPolicy, hnd, Bool.false_eq_true, if_false]

theorem predict_old_eq_new (e : Entry) :
    predict oldPolicy e = predict newPolicy e ∨ e.zeroD = true ∨ e.kind = .fn .func := by
  obtain ⟨name, kind, args, zeroD, o, n⟩ := e
  cases zeroD with
  | true => exact .inr (.inl rfl)
  | false =>
    cases kind with
    | getitem | setitem => exact .inl rfl
    | fnMulti =>
      exact .inl (congrArg (fun t => tupleOf (obsOfTag t)) (fnTag_old_eq_new (c := .ufunc) nofun args rfl))
    | fn c =>
      by_cases hc : c = .func
      · exact .inr (.inr (congrArg DKind.fn hc))
      · exact .inl (congrArg obsOfTag (fnTag_old_eq_new hc args rfl))

theorem obsOfTag_ne_raised (t : Tag) : obsOfTag t ≠ .raised := by
  unfold obsOfTag
  split <;> exact Obs.noConfusion

theorem predict_ne_raised (P : Policy) (e : Entry) : predict P e ≠ .raised := by
  unfold predict
  split
  · exact obsOfTag_ne_raised _
  · unfold tupleOf
    split <;> exact Obs.noConfusion
  · exact obsOfTag_ne_raised _
  · exact Obs.noConfusion

theorem predict_setitem (P : Policy) {e : Entry} (h : e.kind = .setitem) : predict P e = .wrote := by
  rw [predict, h]

end HcipyVerif.FieldDispatch
