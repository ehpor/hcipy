import HcipyVerif.Lemmas.FourierC02N
import HcipyVerif.Lemmas.FourierC02Exp
import HcipyVerif.Lemmas.Fraunhofer
import HcipyVerif.Lemmas.FftPlan
import Mathlib.Algebra.BigOperators.Fin

/-!
# Link C01/C02 → C03: the FFT model satisfies the Fourier hypotheses of the Fraunhofer theorems

`Lemmas/Fraunhofer.lean` states what it needs about the Fourier transform as hypotheses
(`EvaluatesFourierSum`, `EvaluatesAdjointSum`, `ParsevalOn`, `InverseOn`).  Here they are discharged for the model of
`FastFourierTransform` (`fastForward2` / `fastBackward2`, literal 2-D pipeline, both `emulate_fftshifts` settings,
`Complex.exp` characters):

* `fft2_isFT` — both sums, on **any** consistent FFT grid (padded, cropped, shifted);
* `fft2_inverse` — on the full conjugate pair `Mo = M` on both axes (`ParsevalOn` then by `parsevalOn_of_inverseOn`).

Per-axis hypotheses are collected in `AxisOK`: `N ≤ M`, `Mo ≤ M`, `dT·M·δ = 1` (`Δ·M·δ = 2π`) and
the weight of a regular grid `w = δ`.
-/

namespace HcipyVerif.FourierLink
open HcipyVerif.Fft HcipyVerif.Fraunhofer Finset Complex

/-- what one axis of a `FastFourierTransform` on a regular grid satisfies -/
structure AxisOK (g : Cfg ℝ ℂ) : Prop where
  hN : g.N ≤ g.M
  hMo : g.Mo ≤ g.M
  hcons : g.dT * (g.M : ℝ) * g.δ = 1
  hw : g.w = ((g.δ : ℝ) : ℂ)

theorem AxisOK.hwo {g : Cfg ℝ ℂ} (ok : AxisOK g) : ((g.dT : ℝ) : ℂ) * (g.M : ℂ) * g.w = 1 :=
  ok.hw ▸ map_consistent Complex.ofRealHom ok.hcons

theorem fwd2_sum (gy gx : Cfg ℝ ℂ) (oky : AxisOK gy) (okx : AxisOK gx) (hemu : gy.emu = gx.emu)
    (e : ℕ → ℕ → ℂ) (ky kx : ℕ) (hky : ky < gy.Mo) (hkx : kx < gx.Mo) :
    fastForward2 expT expE gy gx e ky kx
      = ∑ iy ∈ range gy.N, ∑ ix ∈ range gx.N, e iy ix * (gy.w * gx.w) *
          (expT (-(gx.a kx * gx.x ix + gy.a ky * gy.x iy)) * expE (-(gx.s * gx.x ix + gy.s * gy.x iy))) :=
  fastForward2_eq_sum expT_isChar expE_isChar expT_period gy gx hemu oky.hN oky.hMo oky.hcons
    okx.hN okx.hMo okx.hcons e ky kx hky hkx

theorem bwd2_sum (gy gx : Cfg ℝ ℂ) (oky : AxisOK gy) (okx : AxisOK gx) (hemu : gy.emu = gx.emu)
    (F : ℕ → ℕ → ℂ) (jy jx : ℕ) (hjy : jy < gy.N) (hjx : jx < gx.N) :
    fastBackward2 expT expE gy gx F jy jx
      = ∑ ky ∈ range gy.Mo, ∑ kx ∈ range gx.Mo, F ky kx * (((gy.dT : ℝ) : ℂ) * ((gx.dT : ℝ) : ℂ)) *
          (expT (gx.a kx * gx.x jx + gy.a ky * gy.x jy) * expE (gx.s * gx.x jx + gy.s * gy.x jy)) :=
  fastBackward2_eq_sum expT_isChar expE_isChar expT_period gy gx hemu oky.hN oky.hMo oky.hcons
    okx.hN okx.hMo okx.hcons _ _ oky.hwo okx.hwo F jy jx hjy hjx

/-- a field on the `(Ny, Nx)` grid as an ℕ-indexed array (zero outside) -/
noncomputable def ext2 {n m : ℕ} (E : Fin n × Fin m → ℂ) (i j : ℕ) : ℂ :=
  if h : i < n ∧ j < m then E (⟨i, h.1⟩, ⟨j, h.2⟩) else 0

theorem ext2_apply {n m : ℕ} (E : Fin n × Fin m → ℂ) (p : Fin n × Fin m) : ext2 E p.1 p.2 = E p := by
  simp [ext2, p.1.2, p.2.2]

theorem ext2_of_fun {n m : ℕ} (Φ : ℕ → ℕ → ℂ) {i j : ℕ} (hi : i < n) (hj : j < m) :
    ext2 (fun k : Fin n × Fin m => Φ k.1 k.2) i j = Φ i j := by
  simp [ext2, hi, hj]

theorem ext2_add {n m : ℕ} (E G : Fin n × Fin m → ℂ) :
    ext2 (E + G) = fun i j => ext2 E i j + ext2 G i j := by
  funext i j
  by_cases h : i < n ∧ j < m <;> simp [ext2, h]

theorem ext2_smul {n m : ℕ} (a : ℂ) (E : Fin n × Fin m → ℂ) :
    ext2 (a • E) = fun i j => a * ext2 E i j := by
  funext i j
  by_cases h : i < n ∧ j < m <;> simp [ext2, h]

theorem sum_range2 (n m : ℕ) (f : ℕ → ℕ → ℂ) :
    ∑ i ∈ range n, ∑ j ∈ range m, f i j = ∑ p : Fin n × Fin m, f p.1 p.2 := by
  rw [Fintype.sum_prod_type, ← Fin.sum_univ_eq_sum_range]
  refine Finset.sum_congr rfl fun i _ => ?_
  rw [← Fin.sum_univ_eq_sum_range]

/-- the pupil grid of the two axis configurations: points `(x_ix, y_iy)`, weight `δy·δx` -/
noncomputable def pupilGrid2 (gy gx : Cfg ℝ ℂ) : Grid (Fin gy.N × Fin gx.N) 2 :=
  { pts := fun p => ![gx.x p.2, gy.x p.1], weights := fun _ => gy.δ * gx.δ }

/-- the FFT output grid: points `u = 2π·a + s` per axis, weight `Δy·Δx` -/
noncomputable def uvGrid2 (gy gx : Cfg ℝ ℂ) : Grid (Fin gy.Mo × Fin gx.Mo) 2 :=
  { pts := fun k => ![2 * Real.pi * gx.a k.2 + gx.s, 2 * Real.pi * gy.a k.1 + gy.s],
    weights := fun _ => (2 * Real.pi * gy.dT) * (2 * Real.pi * gx.dT) }

/-- **The model of `FastFourierTransform` as a C03 `FourierTransform`** (literal 2-D pipelines). -/
noncomputable def fftTransform2 (gy gx : Cfg ℝ ℂ) (oky : AxisOK gy) (okx : AxisOK gx)
    (hemu : gy.emu = gx.emu) : FourierTransform (Fin gy.N × Fin gx.N) (Fin gy.Mo × Fin gx.Mo) where
  fwd :=
    { toFun := fun E k => fastForward2 expT expE gy gx (ext2 E) k.1 k.2
      map_add' := by
        intro E G; funext k
        show fastForward2 expT expE gy gx (ext2 (E + G)) k.1 k.2
          = fastForward2 expT expE gy gx (ext2 E) k.1 k.2 + fastForward2 expT expE gy gx (ext2 G) k.1 k.2
        rw [fwd2_sum gy gx oky okx hemu _ _ _ k.1.2 k.2.2, fwd2_sum gy gx oky okx hemu _ _ _ k.1.2 k.2.2,
          fwd2_sum gy gx oky okx hemu _ _ _ k.1.2 k.2.2, ext2_add]
        simp only [add_mul, Finset.sum_add_distrib]
      map_smul' := by
        intro a E; funext k
        show fastForward2 expT expE gy gx (ext2 (a • E)) k.1 k.2
          = a * fastForward2 expT expE gy gx (ext2 E) k.1 k.2
        rw [fwd2_sum gy gx oky okx hemu _ _ _ k.1.2 k.2.2, fwd2_sum gy gx oky okx hemu _ _ _ k.1.2 k.2.2,
          ext2_smul]
        simp only [Finset.mul_sum]
        apply Finset.sum_congr rfl; intro iy _
        apply Finset.sum_congr rfl; intro ix _
        ring }
  bwd :=
    { toFun := fun F j => fastBackward2 expT expE gy gx (ext2 F) j.1 j.2
      map_add' := by
        intro E G; funext j
        show fastBackward2 expT expE gy gx (ext2 (E + G)) j.1 j.2
          = fastBackward2 expT expE gy gx (ext2 E) j.1 j.2 + fastBackward2 expT expE gy gx (ext2 G) j.1 j.2
        rw [bwd2_sum gy gx oky okx hemu _ _ _ j.1.2 j.2.2, bwd2_sum gy gx oky okx hemu _ _ _ j.1.2 j.2.2,
          bwd2_sum gy gx oky okx hemu _ _ _ j.1.2 j.2.2, ext2_add]
        simp only [add_mul, Finset.sum_add_distrib]
      map_smul' := by
        intro a E; funext j
        show fastBackward2 expT expE gy gx (ext2 (a • E)) j.1 j.2
          = a * fastBackward2 expT expE gy gx (ext2 E) j.1 j.2
        rw [bwd2_sum gy gx oky okx hemu _ _ _ j.1.2 j.2.2, bwd2_sum gy gx oky okx hemu _ _ _ j.1.2 j.2.2,
          ext2_smul]
        simp only [Finset.mul_sum]
        apply Finset.sum_congr rfl; intro ky _
        apply Finset.sum_congr rfl; intro kx _
        ring }

theorem expT_mul_expE (a b : ℝ) : expT a * expE b = cexp (I * ((2 * Real.pi * a + b : ℝ) : ℂ)) := by
  unfold expT expE
  rw [← Complex.exp_add]
  congr 1
  push_cast
  ring

theorem expT_eq_cexp (a : ℝ) : expT a = cexp (I * ((2 * Real.pi * a : ℝ) : ℂ)) := by
  unfold expT
  congr 1
  push_cast
  ring

/-- **C01 ⇒ `IsFT`**: on any consistent FFT grid (padded, cropped, shifted, either shift setting) the model's `forward`
evaluates the weighted Fourier sum of C03 (`fast_forward_eq_sum_2d`), and its `backward` (zero fill outside the crop,
`ifftn`, cut-out, multipliers divided out: `fast_backward_eq_sum_2d`) the adjoint sum with the output-grid weights `Δy·Δx`
and the factor `(2π)^{-2}`. -/
theorem fft2_isFT (gy gx : Cfg ℝ ℂ) (oky : AxisOK gy) (okx : AxisOK gx) (hemu : gy.emu = gx.emu) :
    IsFT (fftTransform2 gy gx oky okx hemu) (pupilGrid2 gy gx) (uvGrid2 gy gx) where
  evaluates := by
    intro E k
    show fastForward2 expT expE gy gx (ext2 E) k.1 k.2 = _
    rw [fwd2_sum gy gx oky okx hemu _ _ _ k.1.2 k.2.2, sum_range2]
    refine Finset.sum_congr rfl fun p _ => ?_
    rw [ext2_apply, expT_mul_expE, oky.hw, okx.hw, ← Complex.ofReal_mul, ← mul_neg, ← Complex.ofReal_neg]
    simp only [pupilGrid2, uvGrid2, dot_pair]
    congr 4
    ring
  adjoint := by
    intro G j
    show _ * fastBackward2 expT expE gy gx (ext2 G) j.1 j.2 = _
    rw [bwd2_sum gy gx oky okx hemu _ _ _ j.1.2 j.2.2, sum_range2, Finset.mul_sum]
    refine Finset.sum_congr rfl fun k _ => ?_
    rw [ext2_apply, expT_mul_expE]
    simp only [pupilGrid2, uvGrid2, dot_pair]
    rw [show 2 * Real.pi * (gx.a k.2 * gx.x j.2 + gy.a k.1 * gy.x j.1) + (gx.s * gx.x j.2 + gy.s * gy.x j.1)
      = (2 * Real.pi * gx.a k.2 + gx.s) * gx.x j.2 + (2 * Real.pi * gy.a k.1 + gy.s) * gy.x j.1 by ring]
    push_cast
    ring

/-- **C02 ⇒ `InverseOn`** on the full conjugate pair. -/
theorem fft2_inverse (gy gx : Cfg ℝ ℂ) (oky : AxisOK gy) (okx : AxisOK gx) (hemu : gy.emu = gx.emu)
    (hfy : gy.Mo = gy.M) (hfx : gx.Mo = gx.M) :
    InverseOn (fftTransform2 gy gx oky okx hemu) := by
  intro E
  funext j
  show fastBackward2 expT expE gy gx
      (ext2 (fun k : Fin gy.Mo × Fin gx.Mo => fastForward2 expT expE gy gx (ext2 E) k.1 k.2)) j.1 j.2 = E j
  rw [← ext2_apply E j, ← fastBackward2_fastForward2 gy gx _ _ hemu hfy oky.hN oky.hcons oky.hwo hfx okx.hN okx.hcons okx.hwo
      (ext2 E) _ _ j.1.2 j.2.2,
    bwd2_sum gy gx oky okx hemu _ _ _ j.1.2 j.2.2, bwd2_sum gy gx oky okx hemu _ _ _ j.1.2 j.2.2]
  refine Finset.sum_congr rfl fun ky hky => Finset.sum_congr rfl fun kx hkx => ?_
  rw [ext2_of_fun _ (mem_range.mp hky) (mem_range.mp hkx)]

end HcipyVerif.FourierLink
