import Mathlib.Analysis.Complex.Trigonometric
import Mathlib.Analysis.Complex.Basic
import Mathlib.Analysis.SpecialFunctions.Trigonometric.Basic
import Mathlib.Algebra.Module.LinearMap.Defs
import Mathlib.Algebra.Module.Pi
import Mathlib.Tactic.Ring
import Mathlib.Tactic.FieldSimp

/-!
# C03 — `FraunhoferPropagator` over an abstract Fourier transform

`make_instance` builds, per wavelength `λ`, `uv = focal.scaled(2π/(fλ))`, a Fourier transform object
`ft = make_fourier_transform(pupil, uv)` and `norm = 1/(i f λ)`; `forward E = ft.forward(E)·norm`,
`backward E = ft.backward(E)/norm`, wavelength and Stokes vector copied.

The Fourier transform is abstract: a pair of linear maps `fwd`, `bwd`.  What C01/C02 prove about the real
implementations enters as named hypotheses: `EvaluatesFourierSum` (C01 `fast_forward_eq_sum`, `mft_eq_sum_2d`, naive) and
`EvaluatesAdjointSum` on whatever output grid the transform was built for, `InverseOn` (C02 `full_grid_inverse`) and
`ParsevalOn` on a full FFT conjugate grid.  The first two together are `IsFT` (they determine the transform: `IsFT.unique`); `ParsevalOn` follows from `IsFT` and `InverseOn` (`parsevalOn_of_inverseOn`), whatever
the implementation.  The last section states what `norm · fwd` and `bwd / norm` then compute.
-/

set_option linter.unusedSectionVars false

open Finset Complex ComplexConjugate

namespace HcipyVerif.Fraunhofer

variable {ι κ : Type*} [Fintype ι] [Fintype κ] {d : ℕ}

def dot (x u : Fin d → ℝ) : ℝ := ∑ i, x i * u i

/-- A grid as far as Fourier optics needs it: coordinates and quadrature weights. -/
structure Grid (κ : Type*) (d : ℕ) where
  pts : κ → Fin d → ℝ
  weights : κ → ℝ

/-- `Grid.scaled(s)` for a scalar `s`: coordinates `· s`, weights `· |s|^ndim`
(hcipy/field/cartesian_grid.py `scale`). -/
def Grid.scaled (g : Grid κ d) (s : ℝ) : Grid κ d :=
  { pts := fun k i => s * g.pts k i, weights := fun k => |s| ^ d * g.weights k }

theorem Grid.scaled_inv_scaled (g : Grid κ d) {s : ℝ} (hs : s ≠ 0) : (g.scaled s⁻¹).scaled s = g := by
  cases g
  simp only [Grid.scaled, Grid.mk.injEq]
  refine ⟨funext fun k => funext fun i => ?_, funext fun k => ?_⟩
  · rw [← mul_assoc, mul_inv_cancel₀ hs, one_mul]
  · rw [← mul_assoc, ← mul_pow, abs_inv, mul_inv_cancel₀ (abs_pos.mpr hs).ne', one_pow, one_mul]

/-- The weighted Fourier sum at angular frequency `ξ`: `Σ_j E_j w_j exp(-i ξ·u_j)`. -/
noncomputable def fourierSum (g : Grid ι d) (ξ : Fin d → ℝ) (E : ι → ℂ) : ℂ :=
  ∑ j, E j * (g.weights j : ℂ) * cexp (-(I * ((dot ξ (g.pts j) : ℝ) : ℂ)))

/-- A Fourier transform object (`FastFourierTransform`, `MatrixFourierTransform`, `NaiveFourierTransform`,
… — whichever `make_fourier_transform` selects): two linear maps. -/
structure FourierTransform (ι κ : Type*) where
  fwd : (ι → ℂ) →ₗ[ℂ] (κ → ℂ)
  bwd : (κ → ℂ) →ₗ[ℂ] (ι → ℂ)

/-- **Hypothesis (C01).** `fwd` evaluates the weighted Fourier sum of the input grid at every point of the
output grid. -/
def EvaluatesFourierSum (T : FourierTransform ι κ) (pupil : Grid ι d) (uv : Grid κ d) : Prop :=
  ∀ E k, T.fwd E k = fourierSum pupil (uv.pts k) E

noncomputable def wip {α : Type*} [Fintype α] (w : α → ℝ) (x y : α → ℂ) : ℂ :=
  ∑ i, conj (x i) * y i * (w i : ℂ)

/-- Power of one scalar component: `Σ |x|² w` (`Wavefront.power`). -/
noncomputable def power {α : Type*} [Fintype α] (w : α → ℝ) (x : α → ℂ) : ℝ := ∑ i, ‖x i‖ ^ 2 * w i

/-- **Hypothesis (C02, Parseval on the full conjugate grid)**, inner-product form, `d` dimensions. -/
def ParsevalOn (T : FourierTransform ι κ) (pupil : Grid ι d) (uv : Grid κ d) : Prop :=
  ∀ E G, wip uv.weights (T.fwd E) (T.fwd G) = ((2 * Real.pi) ^ d : ℝ) * wip pupil.weights E G

/-- **Hypothesis (C02 `adjoint_sum`).** `bwd` evaluates the adjoint sum with the output-grid weights:
`(B G)_j = (2π)^{-d} Σ_k G_k w_uv,k exp(+i ξ_k·u_j)` (FFT with zero fill outside the crop, MFT, naive); stated with the
factor `(2π)^d` on the left. -/
def EvaluatesAdjointSum (T : FourierTransform ι κ) (pupil : Grid ι d) (uv : Grid κ d) : Prop :=
  ∀ G j, (((2 * Real.pi) ^ d : ℝ) : ℂ) * T.bwd G j
    = ∑ k, G k * (uv.weights k : ℂ) * cexp (I * ((dot (uv.pts k) (pupil.pts j) : ℝ) : ℂ))

/-- **Hypothesis (C02, inverse on the full conjugate grid).** -/
def InverseOn (T : FourierTransform ι κ) : Prop := ∀ E, T.bwd (T.fwd E) = E

theorem wip_self {α : Type*} [Fintype α] (w : α → ℝ) (x : α → ℂ) : wip w x x = ((power w x : ℝ) : ℂ) := by
  unfold wip power
  rw [Complex.ofReal_sum]
  apply Finset.sum_congr rfl
  intro i _
  rw [Complex.conj_mul']; push_cast; ring

theorem wip_smul_smul {α : Type*} [Fintype α] (w : α → ℝ) (c : ℂ) (x y : α → ℂ) :
    wip w (c • x) (c • y) = ((‖c‖ ^ 2 : ℝ) : ℂ) * wip w x y := by
  unfold wip
  rw [Finset.mul_sum]
  apply Finset.sum_congr rfl
  intro i _
  rw [Pi.smul_apply, Pi.smul_apply, smul_eq_mul, smul_eq_mul, map_mul, Complex.ofReal_pow, ← Complex.conj_mul' c]
  ring

theorem wip_scale_weights {α : Type*} [Fintype α] (w : α → ℝ) (a : ℝ) (x y : α → ℂ) :
    wip (fun i => a * w i) x y = (a : ℂ) * wip w x y := by
  unfold wip
  rw [Finset.mul_sum]
  apply Finset.sum_congr rfl
  intro i _
  push_cast; ring

theorem dot_smul_left (s : ℝ) (x u : Fin d → ℝ) : dot (fun i => s * x i) u = s * dot x u := by
  unfold dot
  rw [Finset.mul_sum]
  apply Finset.sum_congr rfl
  intro i _
  ring

theorem dot_pair (a b c e : ℝ) : dot ![a, b] ![c, e] = a * c + b * e := by
  simp only [dot, Fin.sum_univ_two, Matrix.cons_val_zero, Matrix.cons_val_one]

theorem two_pi_pow_ne_zero (d : ℕ) : (((2 * Real.pi) ^ d : ℝ) : ℂ) ≠ 0 :=
  Complex.ofReal_ne_zero.mpr (pow_ne_zero d (mul_ne_zero two_ne_zero Real.pi_ne_zero))

theorem wip_fwd_eq_wip_bwd {T : FourierTransform ι κ} {pupil : Grid ι d} {uv : Grid κ d}
    (hT : EvaluatesFourierSum T pupil uv) (hA : EvaluatesAdjointSum T pupil uv) (E : ι → ℂ) (G : κ → ℂ) :
    wip uv.weights (T.fwd E) G = ((2 * Real.pi) ^ d : ℝ) * wip pupil.weights E (T.bwd G) := by
  unfold wip
  rw [Finset.mul_sum]
  calc ∑ k, conj (T.fwd E k) * G k * (uv.weights k : ℂ)
      = ∑ k, ∑ j, conj (E j) * (pupil.weights j : ℂ) * cexp (I * ((dot (uv.pts k) (pupil.pts j) : ℝ) : ℂ))
          * G k * (uv.weights k : ℂ) := by
        refine Finset.sum_congr rfl fun k _ => ?_
        rw [hT E k, fourierSum, map_sum, Finset.sum_mul, Finset.sum_mul]
        refine Finset.sum_congr rfl fun j _ => ?_
        rw [map_mul, map_mul, Complex.conj_ofReal, ← Complex.exp_conj, map_neg, map_mul, Complex.conj_I,
          Complex.conj_ofReal, neg_mul, neg_neg]
    _ = _ := by
        rw [Finset.sum_comm]
        refine Finset.sum_congr rfl fun j _ => ?_
        rw [mul_left_comm, mul_right_comm, mul_assoc, mul_right_comm _ (pupil.weights j : ℂ), hA G j, Finset.sum_mul,
          Finset.mul_sum]
        refine Finset.sum_congr rfl fun k _ => ?_
        ring

/-- `T` is the Fourier transform pair between `pupil` and `uv`: `fwd` evaluates the weighted Fourier sum at the points of
`uv`, `bwd` the adjoint sum with the weights of `uv`.  The two sums determine both maps (`IsFT.unique`), so whatever is
proved of one implementation on a pair of grids holds of every other. -/
structure IsFT (T : FourierTransform ι κ) (pupil : Grid ι d) (uv : Grid κ d) : Prop where
  evaluates : EvaluatesFourierSum T pupil uv
  adjoint : EvaluatesAdjointSum T pupil uv

theorem IsFT.unique {T T' : FourierTransform ι κ} {pupil : Grid ι d} {uv : Grid κ d}
    (h : IsFT T pupil uv) (h' : IsFT T' pupil uv) : T = T' := by
  cases T; cases T'
  congr 1
  · exact LinearMap.ext fun E => funext fun k => (h.evaluates E k).trans (h'.evaluates E k).symm
  · exact LinearMap.ext fun G => funext fun j =>
      mul_left_cancel₀ (two_pi_pow_ne_zero d) ((h.adjoint G j).trans (h'.adjoint G j).symm)

theorem parsevalOn_of_inverseOn {T : FourierTransform ι κ} {pupil : Grid ι d} {uv : Grid κ d}
    (h : IsFT T pupil uv) (hI : InverseOn T) : ParsevalOn T pupil uv :=
  fun E G => by rw [wip_fwd_eq_wip_bwd h.evaluates h.adjoint, hI]

theorem power_eq_of_wip {α β : Type*} [Fintype α] [Fintype β] {w : α → ℝ} {w' : β → ℝ} {x : α → ℂ} {y : β → ℂ}
    (h : wip w x x = wip w' y y) : power w x = power w' y := by
  rw [wip_self, wip_self] at h
  exact_mod_cast h

/-- `norm_factor = 1/(1j · focal_length · wavelength)`. -/
noncomputable def normFactorC (lam f : ℝ) : ℂ := 1 / (I * (f : ℂ) * (lam : ℂ))

/-- The factor of `output_grid.scaled(2π/(focal_length · wavelength))`. -/
noncomputable def uvScaleR (lam f : ℝ) : ℝ := 2 * Real.pi / (f * lam)

theorem normFactorC_ne_zero {lam f : ℝ} (h : lam * f ≠ 0) : normFactorC lam f ≠ 0 :=
  one_div_ne_zero (mul_ne_zero (mul_ne_zero Complex.I_ne_zero (Complex.ofReal_ne_zero.mpr (right_ne_zero_of_mul h)))
    (Complex.ofReal_ne_zero.mpr (left_ne_zero_of_mul h)))

theorem norm_normFactorC_sq (lam f : ℝ) : ‖normFactorC lam f‖ ^ 2 = 1 / (lam * f) ^ 2 := by
  unfold normFactorC
  rw [norm_div, norm_one, norm_mul, norm_mul, Complex.norm_I, Complex.norm_real, Complex.norm_real, one_mul,
    div_pow, one_pow, mul_pow, Real.norm_eq_abs, Real.norm_eq_abs, sq_abs, sq_abs, mul_pow, mul_comm]

theorem uvScaleR_pos {lam f : ℝ} (h : 0 < lam * f) : 0 < uvScaleR lam f :=
  div_pos Real.two_pi_pos (mul_comm lam f ▸ h)

/-- `norm_factor` and the uv scale are one quantity: `|2π · norm| = |2π/(λ f)|`, also at `λ f = 0`. -/
theorem two_pi_sq_mul_norm_normFactorC_sq (lam f : ℝ) :
    (2 * Real.pi) ^ 2 * ‖normFactorC lam f‖ ^ 2 = |uvScaleR lam f| ^ 2 := by
  rw [norm_normFactorC_sq, sq_abs, uvScaleR, div_pow, mul_one_div, mul_comm lam]

/-- The factors of `backward` in two dimensions: norm factor, adjoint sum, `w_uv/w_focal`. -/
theorem inv_normFactorC_mul {lam f : ℝ} (h : lam * f ≠ 0) :
    (normFactorC lam f)⁻¹ * ((((2 * Real.pi) ^ 2 : ℝ) : ℂ))⁻¹ * ((|uvScaleR lam f| ^ 2 : ℝ) : ℂ)
      = I / ((lam : ℂ) * (f : ℂ)) := by
  have hl : (lam : ℂ) ≠ 0 := Complex.ofReal_ne_zero.mpr (left_ne_zero_of_mul h)
  have hf : (f : ℂ) ≠ 0 := Complex.ofReal_ne_zero.mpr (right_ne_zero_of_mul h)
  rw [sq_abs, uvScaleR, div_pow, Complex.ofReal_div, mul_assoc, ← mul_div_assoc, inv_mul_cancel₀ (two_pi_pow_ne_zero 2),
    normFactorC, inv_div, div_one]
  push_cast
  field_simp

/-- The form in which the executable model holds the norm factor (`Model/Fraunhofer.lean`, `normFactor`). -/
theorem normFactorC_eq (lam f : ℝ) : normFactorC lam f = ((-(1 / (lam * f)) : ℝ) : ℂ) * I := by
  unfold normFactorC
  rw [one_div, mul_assoc, mul_inv, Complex.inv_I]
  push_cast
  ring

/-! ## what `norm_factor · ft.forward` and `ft.backward / norm_factor` compute

`T` is the transform built for `uv = focal.scaled (2π/(f λ))`.  The forward law holds in any dimension; the backward and
inner-product laws are two-dimensional (in `d` dimensions a factor `(λ f)^(d-2)` remains); the backward law needs `λ f ≠ 0`. -/

theorem scaled_dot (focal : Grid κ d) (lam f : ℝ) (k : κ) (u : Fin d → ℝ) :
    I * ((dot ((focal.scaled (uvScaleR lam f)).pts k) u : ℝ) : ℂ)
      = 2 * (Real.pi : ℂ) * I * ((dot (focal.pts k) u : ℝ) : ℂ) / ((lam : ℂ) * (f : ℂ)) := by
  unfold Grid.scaled uvScaleR
  simp only
  rw [dot_smul_left]
  push_cast
  ring

theorem forward_eq_integral {T : FourierTransform ι κ} {pupil : Grid ι d} {focal : Grid κ d} {lam f : ℝ}
    (hT : EvaluatesFourierSum T pupil (focal.scaled (uvScaleR lam f))) (E : ι → ℂ) (k : κ) :
    normFactorC lam f * T.fwd E k
      = 1 / (I * (lam : ℂ) * (f : ℂ))
        * ∑ j, E j * (pupil.weights j : ℂ)
            * cexp (-(2 * (Real.pi : ℂ) * I * ((dot (focal.pts k) (pupil.pts j) : ℝ) : ℂ)) / ((lam : ℂ) * (f : ℂ))) := by
  rw [hT E k]
  unfold fourierSum normFactorC
  simp only [scaled_dot, neg_div, mul_right_comm I]

theorem backward_eq_adjoint_integral {T : FourierTransform ι κ} {pupil : Grid ι 2} {focal : Grid κ 2} {lam f : ℝ}
    (hne : lam * f ≠ 0) (hA : EvaluatesAdjointSum T pupil (focal.scaled (uvScaleR lam f))) (G : κ → ℂ) (j : ι) :
    (normFactorC lam f)⁻¹ * T.bwd G j
      = I / ((lam : ℂ) * (f : ℂ))
        * ∑ k, G k * (focal.weights k : ℂ)
            * cexp (2 * (Real.pi : ℂ) * I * ((dot (focal.pts k) (pupil.pts j) : ℝ) : ℂ) / ((lam : ℂ) * (f : ℂ))) := by
  rw [(eq_inv_mul_iff_mul_eq₀ (two_pi_pow_ne_zero 2)).mpr (hA G j), ← inv_normFactorC_mul hne, Finset.mul_sum,
    Finset.mul_sum, Finset.mul_sum]
  refine Finset.sum_congr rfl fun k _ => ?_
  rw [scaled_dot]
  show _ * (_ * (_ * ((|uvScaleR lam f| ^ 2 * focal.weights k : ℝ) : ℂ) * _)) = _
  push_cast
  ring

/-- Parseval's `(2π)²` against `|norm|²` is the weight ratio `w_uv / w_focal = |2π/(λ f)|²`; at `λ f = 0` the hypothesis
itself says `wip pupil.weights E G = 0`. -/
theorem forward_inner {T : FourierTransform ι κ} {pupil : Grid ι 2} {focal : Grid κ 2} {lam f : ℝ}
    (hP : ParsevalOn T pupil (focal.scaled (uvScaleR lam f))) (E G : ι → ℂ) :
    wip focal.weights (normFactorC lam f • T.fwd E) (normFactorC lam f • T.fwd G) = wip pupil.weights E G := by
  apply mul_left_cancel₀ (two_pi_pow_ne_zero 2)
  rw [wip_smul_smul, ← hP, ← mul_assoc, ← Complex.ofReal_mul, two_pi_sq_mul_norm_normFactorC_sq]
  exact (wip_scale_weights _ _ _ _).symm

end HcipyVerif.Fraunhofer
