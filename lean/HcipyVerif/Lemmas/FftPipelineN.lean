import HcipyVerif.Lemmas.FftPipeline2
import HcipyVerif.Lemmas.FftBackward2
import HcipyVerif.Model.FftIndexN

/-!
# `n` axes by induction over the axes; three axes literally

* `Axiswise`, `Axiswise.congr`: operators that act axis by axis agree when their 1-D steps do.
* `fastForwardN_eq_sumForwardN`, `fastBackwardN_eq_sumBackwardN`: the **iterated** `n`-axis
  pipeline evaluates the `n`-D defining sum (`sumOverN_eq_sum`: a `Finset` sum over index lists).
* `Pipe.run3_eq_peel`: a literal 3-D pipeline (one 3-D pad / ifftshift / `fftn` / fftshift /
  crop, 3-D multiplier arrays) is the 1-D pipeline along `z` of the literal 2-D pipeline of each
  `(y, x)` plane, hence the iterated one (`fastForward3_eq_iter`, `fastBackward3_eq_iter`).
-/

namespace HcipyVerif.Fft
open Finset

section sumOver
variable {C : Type} [CommRing C]

/-- the index lists of shape `ns`: `[j₁, …, jₙ]` with `jᵢ < nᵢ` -/
def boxN : List ℕ → Finset (List ℕ)
  | [] => {[]}
  | n :: ns => (range n ×ˢ boxN ns).map
      ⟨fun p => p.1 :: p.2, fun _ _ h => Prod.ext (List.cons.inj h).1 (List.cons.inj h).2⟩

theorem mem_boxN {α : Type} {n : α → ℕ} {as : List α} {idx : List ℕ} :
    idx ∈ boxN (as.map n) ↔ List.Forall₂ (fun i a => i < n a) idx as := by
  induction as generalizing idx with
  | nil => simp [boxN]
  | cons a as ih =>
    simp only [List.map_cons, boxN, Finset.mem_map, Finset.mem_product, mem_range, Prod.exists]
    constructor
    · rintro ⟨j, js, ⟨hj, hjs⟩, rfl⟩
      exact List.Forall₂.cons hj (ih.mp hjs)
    · rintro (_ | ⟨hj, hjs⟩)
      exact ⟨_, _, ⟨hj, ih.mpr hjs⟩, rfl⟩

theorem sumOverN_eq_sum (ns : List ℕ) (F : List ℕ → C) :
    sumOverN ns F = ∑ idx ∈ boxN ns, F idx := by
  induction ns generalizing F with
  | nil => simp [sumOverN, boxN]
  | cons n ns ih =>
    simp only [sumOverN, sumRange_eq, ih, boxN, Finset.sum_map, Finset.sum_product]
    rfl

theorem sumOverN_mul_right (ns : List ℕ) (F : List ℕ → C) (c : C) :
    sumOverN ns (fun idx => F idx * c) = sumOverN ns F * c := by
  rw [sumOverN_eq_sum, sumOverN_eq_sum, Finset.sum_mul]

end sumOver

/-- `LN` applies the 1-D operator `L a` along every axis `a` of a list of axes: arrays are
functions of an index list, the head of the list is the outermost axis (applied last).  This is
the shape of the axis loops of hcipy (`for … in zip(self.czts, self.shifts)`, `fftn` as iterated
1-D transforms) and of the `n`-D defining sums (nested sums, separable kernel). -/
structure Axiswise {α C : Type} (L : α → (ℕ → C) → ℕ → C)
    (LN : List α → (List ℕ → C) → List ℕ → C) : Prop where
  nil : ∀ f, LN [] f [] = f []
  cons : ∀ a as f k ks,
    LN (a :: as) f (k :: ks) = L a (fun i => LN as (fun idx => f (i :: idx)) ks) k

/-- Two axis-wise operators agree on in-range index lists as soon as their 1-D steps agree on
in-range indices (`m a`: the number of output samples of axis `a`). -/
theorem Axiswise.congr {α C : Type} {L L' : α → (ℕ → C) → ℕ → C}
    {LN LN' : List α → (List ℕ → C) → List ℕ → C} (h : Axiswise L LN) (h' : Axiswise L' LN')
    (m : α → ℕ) {as : List α} (hstep : ∀ a ∈ as, ∀ f k, k < m a → L a f k = L' a f k)
    (f : List ℕ → C) {ks : List ℕ} (hks : List.Forall₂ (fun k a => k < m a) ks as) :
    LN as f ks = LN' as f ks := by
  induction hks generalizing f with
  | nil => rw [h.nil, h'.nil]
  | cons hk _ ih =>
    rw [h.cons, h'.cons, hstep _ (List.mem_cons_self ..) _ _ hk]
    congr 1
    funext i
    exact ih (fun a ha => hstep a (List.mem_cons_of_mem _ ha)) _

/-- an axis-wise operator read along a map of the list of axes -/
theorem Axiswise.comap {α β C : Type} {L : α → (ℕ → C) → ℕ → C}
    {LN : List α → (List ℕ → C) → List ℕ → C} (h : Axiswise L LN) (φ : β → α) :
    Axiswise (fun b => L (φ b)) (fun bs => LN (bs.map φ)) :=
  ⟨h.nil, fun b bs => h.cons (φ b) (bs.map φ)⟩

section pipelineN
variable {K C : Type} [Field K] [Field C] {T E : K → C}

theorem fastForwardN_axiswise : Axiswise (fastForward T E) (fastForwardN T E) :=
  ⟨fun _ => rfl, fun _ _ _ _ _ => rfl⟩

theorem fastBackwardN_axiswise : Axiswise (fastBackward T E) (fastBackwardN T E) :=
  ⟨fun _ => rfl, fun _ _ _ _ _ => rfl⟩

/-- the `n`-D defining sum is the 1-D defining sum along every axis -/
theorem sumForwardN_axiswise (hT : IsChar T) (hE : IsChar E) :
    Axiswise (sumForward T E) (sumForwardN T E) where
  nil f := by simp [sumForwardN, sumOverN, weightN, dotA, dotS, hT.zero, hE.zero]
  cons g gs f k ks := by
    unfold sumForward
    simp only [sumForwardN, List.map_cons, sumOverN]
    congr 1
    funext j
    rw [← sumOverN_mul_right, ← sumOverN_mul_right]
    congr 1
    funext idx
    simp only [weightN, dotA, dotS]
    rw [hT.map_neg_add, hE.map_neg_add]; ring

theorem sumBackwardN_axiswise (hT : IsChar T) (hE : IsChar E) (wOut : Cfg K C → C) :
    Axiswise (fun g => sumBackward T E g (wOut g)) (sumBackwardN T E wOut) where
  nil F := by simp [sumBackwardN, sumOverN, weightOutN, dotA, dotS, hT.zero, hE.zero]
  cons g gs F j js := by
    unfold sumBackward
    simp only [sumBackwardN, List.map_cons, sumOverN]
    congr 1
    funext k
    rw [← sumOverN_mul_right, ← sumOverN_mul_right]
    congr 1
    funext idx
    simp only [weightOutN, dotA, dotS]
    rw [hT.add, hE.add]; ring

/-- **The iterated `n`-axis `forward` evaluates the `n`-dimensional defining sum**, for every
number of axes, every per-axis configuration (`emulate_fftshifts` on or off independently per
axis), all sizes and grid parameters with the per-axis consistency `dT·M·δ = 1`.

`fastForwardN` is the *iterated* pipeline (the 1-D `FastFourierTransform.forward` of
`Model/FftIndex.lean` applied along one axis after the other).  That the literal array program
(one `n`-D multiplier array, one `n`-D zero-padded internal array, `ifftshift`, `fftn`, `fftshift`,
one `n`-D crop, one `n`-D multiplier array) coincides with it is *proved* for two axes
(`fastForward2_eq_iter`) and three axes (`fastForward3_eq_iter`); beyond three axes it is the
assumed NumPy specification "`fftn` = iterated 1-D DFT; `ifftshift` / padding / cropping act per
axis; broadcasting multiplies per axis". -/
theorem fastForwardN_eq_sumForwardN (hT : IsChar T) (hE : IsChar E) (hper : ∀ n : ℤ, T (n : K) = 1)
    (gs : List (Cfg K C))
    (hgs : ∀ g ∈ gs, g.N ≤ g.M ∧ g.Mo ≤ g.M ∧ g.dT * (g.M : K) * g.δ = 1)
    (f : List ℕ → C) (ks : List ℕ) (hks : List.Forall₂ (fun k g => k < g.Mo) ks gs) :
    fastForwardN T E gs f ks = sumForwardN T E gs f ks :=
  fastForwardN_axiswise.congr (sumForwardN_axiswise hT hE) (·.Mo)
    (fun g hg f k hk => fastForward_eq_sumForward hT hE hper g (hgs g hg).1 (hgs g hg).2.1
      (hgs g hg).2.2 f k hk) f hks

/-- **The iterated `n`-axis `backward` evaluates the `n`-dimensional backward defining sum**
with the output weight `Π wOut g`, `wOut g·M·w = 1` on every axis (`wOut = Δ/(2π)`).  Same
reading of "iterated" as in `fastForwardN_eq_sumForwardN`. -/
theorem fastBackwardN_eq_sumBackwardN (hT : IsChar T) (hE : IsChar E) (hper : ∀ n : ℤ, T (n : K) = 1)
    (wOut : Cfg K C → C) (gs : List (Cfg K C))
    (hgs : ∀ g ∈ gs, g.N ≤ g.M ∧ g.Mo ≤ g.M ∧ g.dT * (g.M : K) * g.δ = 1 ∧
      wOut g * (g.M : C) * g.w = 1)
    (F : List ℕ → C) (js : List ℕ) (hjs : List.Forall₂ (fun j g => j < g.N) js gs) :
    fastBackwardN T E gs F js = sumBackwardN T E wOut gs F js :=
  fastBackwardN_axiswise.congr (sumBackwardN_axiswise hT hE wOut) (·.N)
    (fun g hg F j hj => fastBackward_eq_sumBackward hT hE hper g (hgs g hg).1 (hgs g hg).2.1
      (hgs g hg).2.2.1 (wOut g) (hgs g hg).2.2.2 F j hj) F hjs

end pipelineN

section core3
variable {C : Type} [CommRing C]

theorem pad3_eq (Nz Mz Ny My Nx Mx : ℕ) (f : ℕ → ℕ → ℕ → C) (a b c : ℕ) :
    pad3 Nz Mz Ny My Nx Mx f a b c = pad Nz Mz (fun iz => pad2 Ny My Nx Mx (f iz) b c) a := by
  unfold pad3 pad2 pad
  by_cases hA : padStart Nz Mz ≤ a ∧ a < padStart Nz Mz + Nz
  · simp only [hA, true_and, if_true]
  · simp only [hA, false_and, if_false]

theorem core3_eq_dft (b : Bool) (Nz Mz Moz Ny My Moy Nx Mx Mox : ℕ) (kerZ kerY kerX : ℤ → C)
    (f : ℕ → ℕ → ℕ → C) (kz ky kx : ℕ) :
    core3 b Nz Mz Moz Ny My Moy Nx Mx Mox kerZ kerY kerX f kz ky kx
      = ∑ pz ∈ range Mz, ∑ py ∈ range My, ∑ px ∈ range Mx,
          pad3 Nz Mz Ny My Nx Mx f (shiftIn b Mz pz) (shiftIn b My py) (shiftIn b Mx px) *
            (kerZ ((pz : ℤ) * (shiftOut b Mz Moz kz : ℕ)) *
              (kerY ((py : ℤ) * (shiftOut b My Moy ky : ℕ)) *
                kerX ((px : ℤ) * (shiftOut b Mx Mox kx : ℕ)))) := by
  cases b
  · simp only [core3, crop3, dft3, sumRange_eq, Bool.false_eq_true, if_false]; rfl
  · simp only [core3, crop3, fftshift3, dft3, ifftshift3, sumRange_eq, if_true]; rfl

theorem core3_eq_core_core2 (b : Bool) (Nz Mz Moz Ny My Moy Nx Mx Mox : ℕ) (kerZ kerY kerX : ℤ → C)
    (f : ℕ → ℕ → ℕ → C) (kz ky kx : ℕ) :
    core3 b Nz Mz Moz Ny My Moy Nx Mx Mox kerZ kerY kerX f kz ky kx
      = core b Nz Mz Moz kerZ (fun iz => core2 b Ny My Moy Nx Mx Mox kerY kerX (f iz) ky kx) kz := by
  simp only [core3_eq_dft, core2_eq_dft, core_eq_dft]
  refine Finset.sum_congr rfl fun pz _ => ?_
  rw [pad_sum, Finset.sum_mul]
  refine Finset.sum_congr rfl fun py _ => ?_
  rw [pad_sum, Finset.sum_mul]
  refine Finset.sum_congr rfl fun px _ => ?_
  rw [pad_mul_right, pad3_eq]
  ring

theorem core2_mul_left (b : Bool) (Ny My Moy Nx Mx Mox : ℕ) (kerY kerX : ℤ → C) (c : C)
    (g : ℕ → ℕ → C) (ky kx : ℕ) :
    core2 b Ny My Moy Nx Mx Mox kerY kerX (fun iy ix => c * g iy ix) ky kx
      = c * core2 b Ny My Moy Nx Mx Mox kerY kerX g ky kx := by
  simp only [core2_eq_iter, core_mul_left]

theorem core3_eq_iter (b : Bool) (Nz Mz Moz Ny My Moy Nx Mx Mox : ℕ) (kerZ kerY kerX : ℤ → C)
    (f : ℕ → ℕ → ℕ → C) (kz ky kx : ℕ) :
    core3 b Nz Mz Moz Ny My Moy Nx Mx Mox kerZ kerY kerX f kz ky kx
      = core b Nz Mz Moz kerZ (fun iz => core b Ny My Moy kerY
          (fun iy => core b Nx Mx Mox kerX (f iz iy) kx) ky) kz := by
  rw [core3_eq_core_core2]
  congr 1
  funext iz
  rw [core2_eq_iter]

/-- the literal 3-D program of three pipelines -/
def Pipe.run3 (b : Bool) (pz py px : Pipe C) (f : ℕ → ℕ → ℕ → C) (kz ky kx : ℕ) : C :=
  pz.c * (py.c * px.c) * core3 b pz.N pz.M pz.Mo py.N py.M py.Mo px.N px.M px.Mo pz.ker py.ker px.ker
    (fun iz iy ix => f iz iy ix * (pz.mIn iz * (py.mIn iy * px.mIn ix))) kz ky kx
    * (pz.mOut kz * (py.mOut ky * px.mOut kx))

/-- The literal 3-D program is the 1-D pipeline along `z` of the literal 2-D program of every
`(y, x)` plane. -/
theorem Pipe.run3_eq_peel (b : Bool) (pz py px : Pipe C) (f : ℕ → ℕ → ℕ → C) (kz ky kx : ℕ) :
    pz.run3 b py px f kz ky kx = pz.run b (fun iz => py.run2 b px (f iz) ky kx) kz := by
  have inner : ∀ iz, core2 b py.N py.M py.Mo px.N px.M px.Mo py.ker px.ker
        (fun iy ix => f iz iy ix * (pz.mIn iz * (py.mIn iy * px.mIn ix))) ky kx
      = pz.mIn iz * core2 b py.N py.M py.Mo px.N px.M px.Mo py.ker px.ker
        (fun iy ix => f iz iy ix * (py.mIn iy * px.mIn ix)) ky kx := fun iz => by
    rw [← core2_mul_left]; congr 1; funext iy ix; ring
  unfold Pipe.run3
  rw [core3_eq_core_core2, funext inner]
  exact pz.run_peel b (py.c * px.c) (py.mOut ky * px.mOut kx) _ kz

end core3

section pipeline3
variable {K C : Type} [Field K] [Field C] {T E : K → C}

theorem inMult3_eq (hT : IsChar T) (hE : IsChar E) (gz gy gx : Cfg K C)
    (hey : gy.emu = gx.emu) (hez : gz.emu = gx.emu) (iz iy ix : ℕ) :
    inMult3 T E gz gy gx iz iy ix = gz.inMult T E iz * (gy.inMult T E iy * gx.inMult T E ix) := by
  unfold inMult3 Cfg.inMult emuIn3 Cfg.emuIn
  rw [hey, hez, hE.map_neg_add, hE.map_neg_add]
  split
  · rw [hT.add, hT.add, hT.map_neg_add, hT.map_neg_add]; ring
  · ring

theorem outMult3_eq (hT : IsChar T) (hE : IsChar E) (gz gy gx : Cfg K C)
    (hey : gy.emu = gx.emu) (hez : gz.emu = gx.emu) (kz ky kx : ℕ) :
    outMult3 T E gz gy gx kz ky kx
      = gz.outMult T E kz * (gy.outMult T E ky * gx.outMult T E kx) := by
  have hc : ∀ kz ky kx, centrePhase3 T E gz gy gx kz ky kx
      = gz.centrePhase T E kz * (gy.centrePhase T E ky * gx.centrePhase T E kx) :=
    fun kz ky kx => by
      unfold centrePhase3 Cfg.centrePhase
      rw [hT.map_neg_add, hT.map_neg_add, hE.map_neg_add, hE.map_neg_add]; ring
  unfold outMult3 Cfg.outMult emuOut3 Cfg.emuOut
  rw [hc, hc, hey, hez, mul_inv, mul_inv]
  split
  · rw [hT.add, hT.add]; ring
  · ring

/-- **Separability of the whole 3-D pipeline**: the literal 3-D `forward` is the 1-D `forward`
along `x`, then along `y`, then along `z`. -/
theorem fastForward3_eq_iter (hT : IsChar T) (hE : IsChar E) (gz gy gx : Cfg K C)
    (hey : gy.emu = gx.emu) (hez : gz.emu = gx.emu) (f : ℕ → ℕ → ℕ → C) (kz ky kx : ℕ) :
    fastForward3 T E gz gy gx f kz ky kx = fastForward3Iter T E gz gy gx f kz ky kx := by
  unfold fastForward3Iter
  rw [fastForward_eq_run, fastForward_eq_run, fastForward_eq_run, hey, hez]
  simp only [← Pipe.run2_eq_iter, ← Pipe.run3_eq_peel]
  simp only [fastForward3, Pipe.run3, Cfg.fwd, inMult3_eq hT hE gz gy gx hey hez,
    outMult3_eq hT hE gz gy gx hey hez, mul_one, one_mul]

theorem fastForward3_eq_sumForwardN (hT : IsChar T) (hE : IsChar E) (hper : ∀ n : ℤ, T (n : K) = 1)
    (gz gy gx : Cfg K C) (hey : gy.emu = gx.emu) (hez : gz.emu = gx.emu)
    (hgs : ∀ g ∈ [gz, gy, gx], g.N ≤ g.M ∧ g.Mo ≤ g.M ∧ g.dT * (g.M : K) * g.δ = 1)
    (f : List ℕ → C) (kz ky kx : ℕ) (hkz : kz < gz.Mo) (hky : ky < gy.Mo) (hkx : kx < gx.Mo) :
    fastForward3 T E gz gy gx (fun iz iy ix => f [iz, iy, ix]) kz ky kx
      = sumForwardN T E [gz, gy, gx] f [kz, ky, kx] := by
  rw [fastForward3_eq_iter hT hE gz gy gx hey hez]
  exact fastForwardN_eq_sumForwardN hT hE hper _ hgs f _
    (List.Forall₂.cons hkz (List.Forall₂.cons hky (List.Forall₂.cons hkx List.Forall₂.nil)))

/-- **The literal 3-D `FastFourierTransform.forward` evaluates the 3-D defining sum**
(both configurations of `emulate_fftshifts`, the flag being one per transform). -/
theorem fastForward3_eq_sumForward3 (hT : IsChar T) (hE : IsChar E) (hper : ∀ n : ℤ, T (n : K) = 1)
    (gz gy gx : Cfg K C) (hey : gy.emu = gx.emu) (hez : gz.emu = gx.emu)
    (hNz : gz.N ≤ gz.M) (hMoz : gz.Mo ≤ gz.M) (hcz : gz.dT * (gz.M : K) * gz.δ = 1)
    (hNy : gy.N ≤ gy.M) (hMoy : gy.Mo ≤ gy.M) (hcy : gy.dT * (gy.M : K) * gy.δ = 1)
    (hNx : gx.N ≤ gx.M) (hMox : gx.Mo ≤ gx.M) (hcx : gx.dT * (gx.M : K) * gx.δ = 1)
    (f : ℕ → ℕ → ℕ → C) (kz ky kx : ℕ) (hkz : kz < gz.Mo) (hky : ky < gy.Mo) (hkx : kx < gx.Mo) :
    fastForward3 T E gz gy gx f kz ky kx = sumForward3 T E gz gy gx f kz ky kx := by
  rw [fastForward3_eq_iter hT hE gz gy gx hey hez, fastForward3Iter]
  simp only [fastForward_eq_sumForward hT hE hper gz hNz hMoz hcz _ kz hkz,
    fastForward_eq_sumForward hT hE hper gy hNy hMoy hcy _ ky hky,
    fastForward_eq_sumForward hT hE hper gx hNx hMox hcx _ kx hkx, sumForward, sumForward3,
    sumRange_eq, Finset.sum_mul]
  refine Finset.sum_congr rfl fun iz _ => Finset.sum_congr rfl fun iy _ =>
    Finset.sum_congr rfl fun ix _ => ?_
  rw [neg_add, neg_add, hT.add, hT.add, neg_add, neg_add, hE.add, hE.add]; ring

theorem fastForward2_eq_sumForwardN (hT : IsChar T) (hE : IsChar E) (hper : ∀ n : ℤ, T (n : K) = 1)
    (gy gx : Cfg K C) (hemu : gy.emu = gx.emu)
    (hgs : ∀ g ∈ [gy, gx], g.N ≤ g.M ∧ g.Mo ≤ g.M ∧ g.dT * (g.M : K) * g.δ = 1)
    (f : List ℕ → C) (ky kx : ℕ) (hky : ky < gy.Mo) (hkx : kx < gx.Mo) :
    fastForward2 T E gy gx (fun iy ix => f [iy, ix]) ky kx
      = sumForwardN T E [gy, gx] f [ky, kx] := by
  rw [fastForward2_eq_iter hT hE gy gx hemu]
  exact fastForwardN_eq_sumForwardN hT hE hper _ hgs f _
    (List.Forall₂.cons hky (List.Forall₂.cons hkx List.Forall₂.nil))

theorem fastBackward3_eq_iter (hT : IsChar T) (hE : IsChar E) (gz gy gx : Cfg K C)
    (hey : gy.emu = gx.emu) (hez : gz.emu = gx.emu) (F : ℕ → ℕ → ℕ → C) (jz jy jx : ℕ) :
    fastBackward3 T E gz gy gx F jz jy jx = fastBackward3Iter T E gz gy gx F jz jy jx := by
  unfold fastBackward3Iter
  rw [fastBackward_eq_run, fastBackward_eq_run, fastBackward_eq_run, hey, hez]
  simp only [← Pipe.run2_eq_iter, ← Pipe.run3_eq_peel]
  simp only [fastBackward3, Pipe.run3, Cfg.bwd, inMult3_eq hT hE gz gy gx hey hez,
    outMult3_eq hT hE gz gy gx hey hez, mul_inv, Nat.cast_mul, mul_assoc]

theorem fastBackward3_eq_sumBackwardN (hT : IsChar T) (hE : IsChar E) (hper : ∀ n : ℤ, T (n : K) = 1)
    (wOut : Cfg K C → C) (gz gy gx : Cfg K C) (hey : gy.emu = gx.emu) (hez : gz.emu = gx.emu)
    (hgs : ∀ g ∈ [gz, gy, gx], g.N ≤ g.M ∧ g.Mo ≤ g.M ∧ g.dT * (g.M : K) * g.δ = 1 ∧
      wOut g * (g.M : C) * g.w = 1)
    (F : List ℕ → C) (jz jy jx : ℕ) (hjz : jz < gz.N) (hjy : jy < gy.N) (hjx : jx < gx.N) :
    fastBackward3 T E gz gy gx (fun kz ky kx => F [kz, ky, kx]) jz jy jx
      = sumBackwardN T E wOut [gz, gy, gx] F [jz, jy, jx] := by
  rw [fastBackward3_eq_iter hT hE gz gy gx hey hez]
  exact fastBackwardN_eq_sumBackwardN hT hE hper wOut _ hgs F _
    (List.Forall₂.cons hjz (List.Forall₂.cons hjy (List.Forall₂.cons hjx List.Forall₂.nil)))

/-- **The literal 3-D `FastFourierTransform.backward` evaluates the 3-D backward defining sum**
with output weights `wz·wy·wx`, `w_i·M_i·g_i.w = 1` (i.e. `w_i = Δ_i/(2π)`). -/
theorem fastBackward3_eq_sumBackward3 (hT : IsChar T) (hE : IsChar E) (hper : ∀ n : ℤ, T (n : K) = 1)
    (gz gy gx : Cfg K C) (hey : gy.emu = gx.emu) (hez : gz.emu = gx.emu)
    (hNz : gz.N ≤ gz.M) (hMoz : gz.Mo ≤ gz.M) (hcz : gz.dT * (gz.M : K) * gz.δ = 1)
    (hNy : gy.N ≤ gy.M) (hMoy : gy.Mo ≤ gy.M) (hcy : gy.dT * (gy.M : K) * gy.δ = 1)
    (hNx : gx.N ≤ gx.M) (hMox : gx.Mo ≤ gx.M) (hcx : gx.dT * (gx.M : K) * gx.δ = 1)
    (wz wy wx : C) (hwz : wz * (gz.M : C) * gz.w = 1) (hwy : wy * (gy.M : C) * gy.w = 1)
    (hwx : wx * (gx.M : C) * gx.w = 1)
    (F : ℕ → ℕ → ℕ → C) (jz jy jx : ℕ) (hjz : jz < gz.N) (hjy : jy < gy.N) (hjx : jx < gx.N) :
    fastBackward3 T E gz gy gx F jz jy jx = sumBackward3 T E gz gy gx wz wy wx F jz jy jx := by
  rw [fastBackward3_eq_iter hT hE gz gy gx hey hez, fastBackward3Iter]
  simp only [fastBackward_eq_sumBackward hT hE hper gz hNz hMoz hcz wz hwz _ jz hjz,
    fastBackward_eq_sumBackward hT hE hper gy hNy hMoy hcy wy hwy _ jy hjy,
    fastBackward_eq_sumBackward hT hE hper gx hNx hMox hcx wx hwx _ jx hjx, sumBackward,
    sumBackward3, sumRange_eq, Finset.sum_mul]
  refine Finset.sum_congr rfl fun kz _ => Finset.sum_congr rfl fun ky _ =>
    Finset.sum_congr rfl fun kx _ => ?_
  rw [hT.add, hT.add, hE.add, hE.add]; ring

theorem fastBackward2_eq_sumBackwardN (hT : IsChar T) (hE : IsChar E) (hper : ∀ n : ℤ, T (n : K) = 1)
    (wOut : Cfg K C → C) (gy gx : Cfg K C) (hemu : gy.emu = gx.emu)
    (hgs : ∀ g ∈ [gy, gx], g.N ≤ g.M ∧ g.Mo ≤ g.M ∧ g.dT * (g.M : K) * g.δ = 1 ∧
      wOut g * (g.M : C) * g.w = 1)
    (F : List ℕ → C) (jy jx : ℕ) (hjy : jy < gy.N) (hjx : jx < gx.N) :
    fastBackward2 T E gy gx (fun ky kx => F [ky, kx]) jy jx
      = sumBackwardN T E wOut [gy, gx] F [jy, jx] := by
  rw [fastBackward2_eq_iter hT hE gy gx hemu]
  exact fastBackwardN_eq_sumBackwardN hT hE hper wOut _ hgs F _
    (List.Forall₂.cons hjy (List.Forall₂.cons hjx List.Forall₂.nil))

end pipeline3
end HcipyVerif.Fft
