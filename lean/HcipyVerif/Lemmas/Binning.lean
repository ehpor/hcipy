import HcipyVerif.Model.Binning
import HcipyVerif.Lemmas.ListFacts
import Mathlib.Algebra.BigOperators.Group.List.Basic
import Mathlib.Algebra.BigOperators.Ring.List
import Mathlib.Data.List.Zip
import Mathlib.Tactic.Ring

/-! Lemmas about `chunks`, `vadd`, `vsum`, `binND` / `binNDs` and the index map `boxSums` (C17, C18). -/

namespace HcipyVerif.Binning

theorem length_eq_induction {α β : Type} {motive : (as : List α) → (bs : List β) → as.length = bs.length → Prop}
    (nil : motive [] [] rfl)
    (cons : ∀ a as b bs (h : as.length = bs.length), motive as bs h → motive (a :: as) (b :: bs) (congrArg (· + 1) h)) :
    ∀ as bs h, motive as bs h
  | [], [], _ => nil
  | a :: as, b :: bs, h => cons a as b bs (Nat.succ.inj h) (length_eq_induction nil cons as bs _)

section chunks
variable {α : Type}

/-- the blocks by their positions; length, entries, and how `chunks` meets `map`, `take`, `drop` are read off this -/
theorem chunks_eq (m k : Nat) (v : List α) :
    chunks m k v = (List.range k).map fun i => (v.drop (i * m)).take m := by
  induction k generalizing v with
  | zero => rfl
  | succ k ih =>
    rw [chunks, ih, List.range_succ_eq_map, List.map_cons, List.map_map, Nat.zero_mul, List.drop_zero]
    congr 1
    apply List.map_congr_left
    intro i _
    rw [Function.comp, List.drop_drop, Nat.succ_mul, Nat.add_comm]

theorem block_le {i k : Nat} (m : Nat) (hi : i < k) : m ≤ k * m - i * m := by
  rw [← Nat.sub_mul]; exact Nat.le_mul_of_pos_left m (Nat.sub_pos_of_lt hi)

theorem chunks_length (m k : Nat) (v : List α) : (chunks m k v).length = k := by
  rw [chunks_eq, List.length_map, List.length_range]

theorem chunks_flatten (m k : Nat) (v : List α) (h : v.length = k * m) :
    (chunks m k v).flatten = v := by
  induction k generalizing v with
  | zero => simp at h; simp [chunks, h]
  | succ k ih =>
    have : (v.drop m).length = k * m := by rw [List.length_drop, h, Nat.succ_mul, Nat.add_sub_cancel]
    simp [chunks, ih _ this]

theorem chunks_mem_length (m k : Nat) (v : List α) (h : v.length = k * m) :
    ∀ c ∈ chunks m k v, c.length = m := by
  intro c hc
  rw [chunks_eq] at hc
  obtain ⟨i, hi, rfl⟩ := List.mem_map.1 hc
  rw [List.length_take, List.length_drop, h, Nat.min_eq_left (block_le m (List.mem_range.1 hi))]

theorem chunks_flatten_eq (m : Nat) (l : List (List α)) (h : ∀ c ∈ l, c.length = m) :
    chunks m l.length l.flatten = l := by
  induction l with
  | nil => simp [chunks]
  | cons c l ih =>
    rw [List.forall_mem_cons] at h
    rw [List.length_cons, chunks, List.flatten_cons, List.take_left' h.1, List.drop_left' h.1, ih h.2]

theorem groups_rows_flatten (s n m : Nat) (v : List α) :
    (chunks s n (chunks m (n * s) v)).flatten = chunks m (n * s) v :=
  chunks_flatten s n _ (by rw [chunks_length])

theorem groups_mem_length (s n m : Nat) (v : List α) (h : v.length = n * s * m) :
    ∀ g ∈ chunks s n (chunks m (n * s) v), ∀ c ∈ g, c.length = m := by
  intro g hg c hc
  apply chunks_mem_length m (n * s) v h
  rw [← groups_rows_flatten s n m v]
  exact List.mem_flatten.mpr ⟨g, hg, hc⟩

end chunks

section sums
variable {K : Type} [Field K]

theorem vzero_length (n : Nat) : (vzero n : List K).length = n := by simp [vzero]

theorem vzero_sum (n : Nat) : (vzero n : List K).sum = 0 := by simp [vzero]

theorem vadd_length (a b : List K) : (vadd a b).length = min a.length b.length := by
  simp [vadd]

theorem vadd_sum (a b : List K) (h : a.length = b.length) : (vadd a b).sum = a.sum + b.sum :=
  (List.sum_add_sum_eq_sum_zipWith_of_length_eq a b h).symm

theorem vadd_assoc (a b c : List K) : vadd (vadd a b) c = vadd a (vadd b c) := by
  simp only [vadd, List.zipWith_zipWith_left, List.zipWith_zipWith_right, add_assoc]

theorem vadd_vzero_left (n : Nat) (a : List K) (h : a.length = n) : vadd (vzero n) a = a := by
  rw [vadd, vzero, ListFacts.zipWith_replicate_left _ _ h]
  simp only [zero_add, List.map_id']

theorem vadd_vzero_right (n : Nat) (a : List K) (h : a.length = n) : vadd a (vzero n) = a := by
  rw [vadd, vzero, ListFacts.zipWith_replicate_right _ _ h]
  simp only [add_zero, List.map_id']

theorem vsum_cons (m : Nat) (c : List K) (l : List (List K)) : vsum m (c :: l) = vadd c (vsum m l) := rfl

theorem vsum_length (m : Nat) (l : List (List K)) (h : ∀ c ∈ l, c.length = m) :
    (vsum m l).length = m := by
  induction l with
  | nil => simp [vsum, vzero]
  | cons c l ih =>
    rw [List.forall_mem_cons] at h
    rw [vsum_cons, vadd_length, h.1, ih h.2, Nat.min_self]

theorem vsum_sum (m : Nat) (l : List (List K)) (h : ∀ c ∈ l, c.length = m) :
    (vsum m l).sum = (l.map List.sum).sum := by
  induction l with
  | nil => simp [vsum, vzero]
  | cons c l ih =>
    rw [List.forall_mem_cons] at h
    rw [vsum_cons, vadd_sum _ _ (h.1.trans (vsum_length m l h.2).symm), ih h.2, List.map_cons, List.sum_cons]

theorem vsum_append (m : Nat) (l1 l2 : List (List K)) (h2 : ∀ c ∈ l2, c.length = m) :
    vsum m (l1 ++ l2) = vadd (vsum m l1) (vsum m l2) := by
  induction l1 with
  | nil =>
    have := vadd_vzero_left m (vsum m l2) (vsum_length m l2 h2)
    simpa [vsum] using this.symm
  | cons c l1 ih => rw [List.cons_append, vsum_cons, ih, vsum_cons, vadd_assoc]

theorem fineSize_cons (s n : Nat) (rest : List Nat) :
    fineSize s (n :: rest) = n * s * fineSize s rest := by
  simp [fineSize]

theorem size_cons (n : Nat) (rest : List Nat) : size (n :: rest) = n * size rest := by
  simp [size]

theorem fineSize_eq (s : Nat) (dims : List Nat) : fineSize s dims = size dims * s ^ dims.length := by
  induction dims with
  | nil => simp [fineSize, size]
  | cons n rest ih => rw [fineSize_cons, size_cons, ih, List.length_cons, pow_succ]; ring

/-! ### per-axis factors (one common factor `s` is the list `dims.map fun _ => s`) -/

theorem fineSizes_cons (s n : Nat) (ss rest : List Nat) :
    fineSizes (s :: ss) (n :: rest) = n * s * fineSizes ss rest := by
  simp [fineSizes]

theorem fineSizes_replicate (s : Nat) (dims : List Nat) :
    fineSizes (dims.map fun _ => s) dims = fineSize s dims := by
  induction dims with
  | nil => rfl
  | cons n rest ih => simp only [List.map_cons, fineSizes_cons, fineSize_cons, ih]

theorem fineSizes_eq (ss dims : List Nat) (hl : ss.length = dims.length) :
    fineSizes ss dims = size dims * ss.foldr (· * ·) 1 := by
  induction ss, dims, hl using length_eq_induction with
  | nil => simp [fineSizes, size]
  | cons s ss n rest hl ih => rw [fineSizes_cons, size_cons, ih, List.foldr_cons]; ring

theorem binNDs_replicate (s : Nat) (dims : List Nat) (v : List K) :
    binNDs (dims.map fun _ => s) dims v = binND s dims v := by
  induction dims generalizing v with
  | nil => rfl
  | cons n rest ih =>
    simp only [List.map_cons, binNDs, binND, fineSizes_replicate]
    congr 1
    funext g
    exact ih _

theorem binNDs_length (ss dims : List Nat) (hl : ss.length = dims.length) (v : List K)
    (h : v.length = fineSizes ss dims) : (binNDs ss dims v).length = size dims := by
  induction ss, dims, hl using length_eq_induction generalizing v with
  | nil => simpa [binNDs, size, fineSizes] using h
  | cons s ss n rest hl ih =>
    rw [fineSizes_cons] at h
    have hg := groups_mem_length s n _ v h
    simp only [binNDs, size_cons, List.length_flatMap]
    rw [List.map_congr_left fun g hg' => ih _ (vsum_length _ _ (hg g hg'))]
    simp [chunks_length]

/-- the total is conserved whatever the lists of factors and dimensions are: where they end, `binNDs` stops binning -/
theorem binNDs_sum (ss dims : List Nat) (v : List K) (h : v.length = fineSizes ss dims) :
    (binNDs ss dims v).sum = v.sum := by
  fun_induction binNDs ss dims v with
  | case1 s ss n rest v m ih =>
    rw [fineSizes_cons] at h
    have hg := groups_mem_length s n _ v h
    -- `v` is the concatenation of its rows, the rows that of the groups; the sums agree group by group
    conv_rhs =>
      rw [← chunks_flatten m (n * s) v h, ← groups_rows_flatten s n m v, List.flatten_flatten, List.sum_flatten,
        List.map_map]
    simp only [List.flatMap_def, List.sum_flatten, List.map_map]
    congr 1
    apply List.map_congr_left
    intro g hg'
    simp only [Function.comp]
    rw [ih _ (vsum_length _ _ (hg g hg')), vsum_sum _ _ (hg g hg'), List.sum_flatten]
  | case2 => rfl

theorem binND_length (s : Nat) (dims : List Nat) (v : List K) (h : v.length = fineSize s dims) :
    (binND s dims v).length = size dims := by
  rw [← binNDs_replicate, binNDs_length _ dims (by simp) v (by rw [fineSizes_replicate]; exact h)]

theorem binND_sum (s : Nat) (dims : List Nat) (v : List K) (h : v.length = fineSize s dims) :
    (binND s dims v).sum = v.sum := by
  rw [← binNDs_replicate, binNDs_sum _ dims v (by rw [fineSizes_replicate]; exact h)]

theorem zipWith_div_mul_cancel : ∀ (N D : List K), (∀ x ∈ D, x ≠ 0) → N.length = D.length →
    List.zipWith (· * ·) (List.zipWith (· / ·) N D) D = N := by
  intro N D hD hl
  induction N, D, hl using length_eq_induction with
  | nil => rfl
  | cons n N d D hl ih =>
    simp only [List.zipWith_cons_cons, ih fun x hx => hD x (List.mem_cons_of_mem _ hx),
      div_mul_cancel₀ n (hD d List.mem_cons_self)]

end sums

/-! ### the index map of binning: a binned pixel is the sum `boxSums` over its box of sub-pixels -/

section idx
variable {α : Type}

theorem chunks_getElem? (m k : Nat) (v : List α) (i : Nat) (hi : i < k) :
    (chunks m k v)[i]? = some ((v.drop (i * m)).take m) := by
  rw [chunks_eq, List.getElem?_map, List.getElem?_range hi, Option.map_some]

theorem take_drop_getElem? (v : List α) (a m f : Nat) (hf : f < m) :
    ((v.drop a).take m)[f]? = v[a + f]? := by
  rw [List.getElem?_take_of_lt hf, List.getElem?_drop]

theorem group_eq (s n m : Nat) (v : List α) (c0 : Nat) (h0 : c0 < n) :
    ((chunks m (n * s) v).drop (c0 * s)).take s
      = (List.range s).map fun r0 => (v.drop ((c0 * s + r0) * m)).take m := by
  rw [chunks_eq, ← List.map_drop, ← List.map_take, List.range_eq_range', List.drop_range',
    List.take_range'_of_length_ge (block_le s h0), List.range'_eq_map_range, List.map_map, Nat.zero_add, Nat.mul_one]
  rfl

end idx

section index
variable {K : Type} [Field K]

theorem take_drop_getD (v : List K) (a m f : Nat) (hf : f < m) :
    ((v.drop a).take m).getD f 0 = v.getD (a + f) 0 := by
  rw [List.getD_eq_getElem?_getD, take_drop_getElem? v a m f hf, List.getD_eq_getElem?_getD]

theorem zipWith_getD (f : K → K → K) (hf : f 0 0 = 0) (a b : List K) (i : Nat) (h : a.length = b.length) :
    (List.zipWith f a b).getD i 0 = f (a.getD i 0) (b.getD i 0) := by
  rw [← ListFacts.getD_zipWith f h 0 0 i, hf]

theorem vadd_getD (a b : List K) (i : Nat) (h : a.length = b.length) :
    (vadd a b).getD i 0 = a.getD i 0 + b.getD i 0 :=
  zipWith_getD (· + ·) (add_zero 0) a b i h

theorem vsum_getD (m : Nat) (g : List (List K)) (h : ∀ c ∈ g, c.length = m) (f : Nat) :
    (vsum m g).getD f 0 = (g.map fun c => c.getD f 0).sum := by
  induction g with
  | nil => simp [vsum, vzero]
  | cons c g ih =>
    rw [List.forall_mem_cons] at h
    rw [vsum_cons, vadd_getD _ _ _ (h.1.trans (vsum_length m g h.2).symm), ih h.2, List.map_cons, List.sum_cons]

theorem flatIdx_lt (dims c : List Nat) (h : InBounds dims c) : flatIdx dims c < size dims := by
  induction dims generalizing c with
  | nil => simp [flatIdx, size]
  | cons n rest ih =>
    simp only [flatIdx, size_cons]
    exact ListFacts.flat_lt h.1 (ih _ h.2)

theorem boxSums_zero (dims ss c : List Nat) : boxSums dims ss c (fun _ => (0 : K)) = 0 := by
  induction dims generalizing ss c with
  | nil => simp [boxSums]
  | cons n rest ih => simp [boxSums, ih]

theorem boxSums_add (dims ss c : List Nat) (a b : Nat → K) :
    boxSums dims ss c (fun f => a f + b f) = boxSums dims ss c a + boxSums dims ss c b := by
  induction dims generalizing ss c a b with
  | nil => simp [boxSums]
  | cons n rest ih =>
    simp only [boxSums, ih]
    rw [List.sum_map_add]

theorem boxSums_sum (dims ss c : List Nat) (l : List Nat) (h : Nat → Nat → K) :
    boxSums dims ss c (fun f => (l.map fun r => h r f).sum) = (l.map fun r => boxSums dims ss c (h r)).sum := by
  induction l with
  | nil => simp [boxSums_zero]
  | cons r l ih => simp only [List.map_cons, List.sum_cons, boxSums_add, ih]

theorem binNDs_getD (dims ss c : List Nat) (hl : ss.length = dims.length) (hc : InBounds dims c) (v : List K)
    (h : v.length = fineSizes ss dims) :
    (binNDs ss dims v).getD (flatIdx dims c) 0 = boxSums dims ss c (fun f => v.getD f 0) := by
  -- `boxSums` only asks for the samples below `fineSizes ss dims`: the induction runs over any `get` that gives those
  suffices ∀ get : Nat → K, (∀ f < fineSizes ss dims, v.getD f 0 = get f) →
      (binNDs ss dims v).getD (flatIdx dims c) 0 = boxSums dims ss c get from this _ fun _ _ => rfl
  induction ss, dims, hl using length_eq_induction generalizing c v with
  | nil => intro get hget; simpa [binNDs, flatIdx, boxSums] using hget 0 (by simp [fineSizes])
  | cons s ss n rest hl ih =>
    intro get hget
    obtain ⟨h0, h1⟩ := hc
    rw [fineSizes_cons] at h hget
    have hg := groups_mem_length s n _ v h
    have hblk : ∀ g ∈ chunks s n (chunks (fineSizes ss rest) (n * s) v),
        (binNDs ss rest (vsum (fineSizes ss rest) g)).length = size rest :=
      fun g hg' => binNDs_length ss rest hl _ (vsum_length _ _ (hg g hg'))
    have hrow := chunks_getElem? s n (chunks (fineSizes ss rest) (n * s) v) (c.headD 0) h0
    have hmem := List.mem_of_getElem? hrow
    simp only [binNDs, flatIdx, boxSums, List.headD_cons, List.tail_cons]
    rw [List.getD_eq_getElem?_getD, ListFacts.flatMap_getElem? _ _ (size rest) hblk _ _ (flatIdx_lt rest c.tail h1), hrow,
      Option.bind_some, ← List.getD_eq_getElem?_getD, ← boxSums_sum]
    apply ih c.tail h1 _ (vsum_length _ _ (hg _ hmem))
    intro f hf
    rw [vsum_getD _ _ (hg _ hmem) f, group_eq s n _ v _ h0, List.map_map]
    exact congrArg List.sum (List.map_congr_left fun r0 hr0 => (take_drop_getD _ _ _ _ hf).trans
      (hget _ (ListFacts.flat_lt (ListFacts.flat_lt h0 (List.mem_range.mp hr0)) hf)))

end index

/-! ### tensor fields: the single reshape with the tensor axes in front is component-wise binning -/

section
variable {α : Type}

theorem chunks_one (k : Nat) (l : List α) (h : l.length = k) : chunks 1 k l = l.map fun x => [x] := by
  induction k generalizing l with
  | zero => simp at h; simp [chunks, h]
  | succ k ih =>
    cases l with
    | nil => simp at h
    | cons x l => simp at h; simp [chunks, ih l h]

theorem chunks_take (m k : Nat) (v : List α) : chunks m k (v.take (k * m)) = chunks m k v := by
  simp only [chunks_eq]
  apply List.map_congr_left
  intro i hi
  rw [List.drop_take, List.take_take, Nat.min_eq_left (block_le m (List.mem_range.1 hi))]

theorem chunks_add (m a b : Nat) (v : List α) :
    chunks m (a + b) v = chunks m a v ++ chunks m b (v.drop (a * m)) := by
  simp only [chunks_eq, List.range_add, List.map_append, List.map_map, Function.comp_def, List.drop_drop, Nat.add_mul]

theorem chunks_chunks (M k T : Nat) (v : List α) :
    (chunks (k * M) T v).flatMap (chunks M k) = chunks M (T * k) v := by
  induction T generalizing v with
  | zero => simp [chunks]
  | succ T ih =>
    simp only [chunks, List.flatMap_cons]
    rw [ih, chunks_take]
    have e : (T + 1) * k = k + T * k := by ring
    rw [e, chunks_add]

end

section
variable {K : Type} [Field K]

theorem binNDs_one_cons (ss dims : List Nat) (T : Nat) (v : List K) (hv : v.length = T * fineSizes ss dims) :
    binNDs (1 :: ss) (T :: dims) v = (chunks (fineSizes ss dims) T v).flatMap (binNDs ss dims) := by
  simp only [binNDs, Nat.mul_one]
  rw [chunks_one T _ (chunks_length _ _ _), List.flatMap_map]
  apply List.flatMap_congr
  intro row hrow
  have := chunks_mem_length (fineSizes ss dims) T v hv row hrow
  simp [vsum, vadd_vzero_right _ _ this]

theorem fineSizes_ones_append (ss dims ts : List Nat) :
    fineSizes (ts.map (fun _ => 1) ++ ss) (ts ++ dims) = size ts * fineSizes ss dims := by
  induction ts with
  | nil => simp [size]
  | cons T ts ih => simp only [List.map_cons, List.cons_append, fineSizes_cons, ih, size_cons]; ring

theorem binTensorL_eq (ss dims : List Nat) : ∀ (ts : List Nat) (v : List K),
    v.length = size ts * fineSizes ss dims →
    binTensorL ss dims ts v = (chunks (fineSizes ss dims) (size ts) v).flatMap (binNDs ss dims) := by
  intro ts
  induction ts with
  | nil =>
    intro v hv
    simp only [size, List.foldr_nil, Nat.one_mul] at hv
    simp [binTensorL, size, chunks, List.take_of_length_le (Nat.le_of_eq hv)]
  | cons T ts ih =>
    intro v hv
    simp only [binTensorL, List.map_cons, List.cons_append] at ih ⊢
    rw [size_cons] at hv ⊢
    have hm := fineSizes_ones_append ss dims ts
    rw [binNDs_one_cons _ _ T v (by rw [hm, hv]; ring), hm]
    have : ∀ blk ∈ chunks (size ts * fineSizes ss dims) T v,
        binNDs (ts.map (fun _ => 1) ++ ss) (ts ++ dims) blk
          = (chunks (fineSizes ss dims) (size ts) blk).flatMap (binNDs ss dims) := by
      intro blk hblk
      exact ih blk (chunks_mem_length _ T v (by rw [hv]; ring) blk hblk)
    rw [List.flatMap_congr this, ← List.flatMap_assoc, chunks_chunks]

end

/-! ### binning is linear: a common factor of the samples (of the weights: another unit of length) factors out -/

theorem chunks_map {α β : Type} (f : α → β) (m : Nat) (k : Nat) (v : List α) :
    chunks m k (v.map f) = (chunks m k v).map (List.map f) := by
  simp only [chunks_eq, List.map_map, Function.comp_def, List.map_take, List.map_drop]

section
variable {K : Type} [Field K]

theorem vadd_smul (c : K) (a b : List K) :
    vadd (a.map (c * ·)) (b.map (c * ·)) = (vadd a b).map (c * ·) := by
  simp only [vadd, List.zipWith_map, List.map_zipWith, mul_add]

theorem vsum_smul (c : K) (m : Nat) (l : List (List K)) :
    vsum m (l.map (List.map (c * ·))) = (vsum m l).map (c * ·) := by
  induction l with
  | nil => simp [vsum, vzero]
  | cons g l ih => rw [List.map_cons, vsum_cons, ih, vadd_smul, vsum_cons]

theorem binNDs_smul (c : K) : ∀ (ss dims : List Nat) (v : List K),
    binNDs ss dims (v.map (c * ·)) = (binNDs ss dims v).map (c * ·) := by
  intro ss dims v
  fun_induction binNDs ss dims v with
  | case1 s ss n rest v m ih =>
    rw [binNDs, chunks_map, chunks_map, List.flatMap_map, List.map_flatMap]
    exact List.flatMap_congr fun g _ => by rw [vsum_smul, ih]
  | case2 ss dims v h => rw [binNDs.eq_2 _ _ _ h]

theorem zipWith_mul_smul (c : K) (v w : List K) :
    List.zipWith (· * ·) v (w.map (c * ·)) = (List.zipWith (· * ·) v w).map (c * ·) := by
  simp only [List.zipWith_map_right, List.map_zipWith, mul_left_comm]

theorem zipWith_div_smul (c : K) (hc : c ≠ 0) (N D : List K) :
    List.zipWith (· / ·) (N.map (c * ·)) (D.map (c * ·)) = List.zipWith (· / ·) N D := by
  simp only [List.zipWith_map, mul_div_mul_left _ _ hc]

end

end HcipyVerif.Binning
