-- generated by tools/gen_root.py; do not edit
import HcipyVerif.Driver.C01
import HcipyVerif.Driver.C02
import HcipyVerif.Driver.C03
import HcipyVerif.Driver.C04
import HcipyVerif.Driver.C05
import HcipyVerif.Driver.C06
import HcipyVerif.Driver.C07
import HcipyVerif.Driver.C08
import HcipyVerif.Driver.C09
import HcipyVerif.Driver.C10
import HcipyVerif.Driver.C11
import HcipyVerif.Driver.C12
import HcipyVerif.Driver.C13
import HcipyVerif.Driver.C14
import HcipyVerif.Driver.C15
import HcipyVerif.Driver.C16
import HcipyVerif.Driver.C17
import HcipyVerif.Driver.C18
import HcipyVerif.Driver.C19
import HcipyVerif.Driver.C19Ref
import HcipyVerif.Driver.C20
import HcipyVerif.Gen.FieldDispatch
import HcipyVerif.Gen.Mueller
import HcipyVerif.Gen.PhaseCoef
import HcipyVerif.Gen.Retarder
import HcipyVerif.Gen.Stokes
import HcipyVerif.Lemmas.Aperture
import HcipyVerif.Lemmas.ApertureList
import HcipyVerif.Lemmas.AperturePolar
import HcipyVerif.Lemmas.AperturePolygon
import HcipyVerif.Lemmas.AperturePupil
import HcipyVerif.Lemmas.ApertureStat
import HcipyVerif.Lemmas.Axes
import HcipyVerif.Lemmas.Binning
import HcipyVerif.Lemmas.Cache
import HcipyVerif.Lemmas.CacheDecorator
import HcipyVerif.Lemmas.CacheOld
import HcipyVerif.Lemmas.Coronagraph
import HcipyVerif.Lemmas.CoronagraphAbstract
import HcipyVerif.Lemmas.CoronagraphGeometry
import HcipyVerif.Lemmas.CoronagraphLyot
import HcipyVerif.Lemmas.CoronagraphMS
import HcipyVerif.Lemmas.CoronagraphMat
import HcipyVerif.Lemmas.CoronagraphToFn
import HcipyVerif.Lemmas.CoronagraphVV
import HcipyVerif.Lemmas.Cramer
import HcipyVerif.Lemmas.Czt
import HcipyVerif.Lemmas.Detector
import HcipyVerif.Lemmas.DetectorOld
import HcipyVerif.Lemmas.Dict
import HcipyVerif.Lemmas.EffectLoops
import HcipyVerif.Lemmas.Effects
import HcipyVerif.Lemmas.FftBackward2
import HcipyVerif.Lemmas.FftDecide
import HcipyVerif.Lemmas.FftIndex
import HcipyVerif.Lemmas.FftPipeline
import HcipyVerif.Lemmas.FftPipeline2
import HcipyVerif.Lemmas.FftPipelineN
import HcipyVerif.Lemmas.FftPlan
import HcipyVerif.Lemmas.FftSelect
import HcipyVerif.Lemmas.FftState
import HcipyVerif.Lemmas.FieldDispatch
import HcipyVerif.Lemmas.FieldProg
import HcipyVerif.Lemmas.FieldRef
import HcipyVerif.Lemmas.FilterM
import HcipyVerif.Lemmas.FormalPhase
import HcipyVerif.Lemmas.FourierC02
import HcipyVerif.Lemmas.FourierC02Exp
import HcipyVerif.Lemmas.FourierC02N
import HcipyVerif.Lemmas.FourierExp
import HcipyVerif.Lemmas.FourierLink
import HcipyVerif.Lemmas.FourierLinkC04
import HcipyVerif.Lemmas.FourierSwitch
import HcipyVerif.Lemmas.FourierWitness
import HcipyVerif.Lemmas.Fraunhofer
import HcipyVerif.Lemmas.FraunhoferAbstract
import HcipyVerif.Lemmas.FraunhoferBridge
import HcipyVerif.Lemmas.FraunhoferClassify
import HcipyVerif.Lemmas.FraunhoferMft
import HcipyVerif.Lemmas.FraunhoferObj
import HcipyVerif.Lemmas.FraunhoferSelect
import HcipyVerif.Lemmas.GaussJordan
import HcipyVerif.Lemmas.GridAxes
import HcipyVerif.Lemmas.GridEq
import HcipyVerif.Lemmas.GridGeom
import HcipyVerif.Lemmas.GridHeap
import HcipyVerif.Lemmas.GridLayout
import HcipyVerif.Lemmas.GridList
import HcipyVerif.Lemmas.GridMut
import HcipyVerif.Lemmas.GridOld
import HcipyVerif.Lemmas.GridPolar
import HcipyVerif.Lemmas.GridShare
import HcipyVerif.Lemmas.GridWeights
import HcipyVerif.Lemmas.Interp
import HcipyVerif.Lemmas.Jones
import HcipyVerif.Lemmas.JonesAttr
import HcipyVerif.Lemmas.JonesLaurent
import HcipyVerif.Lemmas.KeyBounds
import HcipyVerif.Lemmas.Layer
import HcipyVerif.Lemmas.LayerHeap
import HcipyVerif.Lemmas.ListFacts
import HcipyVerif.Lemmas.Lstsq
import HcipyVerif.Lemmas.Mft
import HcipyVerif.Lemmas.MftState
import HcipyVerif.Lemmas.Mirror
import HcipyVerif.Lemmas.ModeBasis
import HcipyVerif.Lemmas.MultiLayer
import HcipyVerif.Lemmas.Multiplex
import HcipyVerif.Lemmas.NearField
import HcipyVerif.Lemmas.NearFieldAbstract
import HcipyVerif.Lemmas.NearFieldCutout
import HcipyVerif.Lemmas.NearFieldExec
import HcipyVerif.Lemmas.NearFieldFilter
import HcipyVerif.Lemmas.NearFieldGRat
import HcipyVerif.Lemmas.NearFieldMatrixExec
import HcipyVerif.Lemmas.NearFieldScalar
import HcipyVerif.Lemmas.NearFieldTensor
import HcipyVerif.Lemmas.Nft
import HcipyVerif.Lemmas.OpIR
import HcipyVerif.Lemmas.OptionRules
import HcipyVerif.Lemmas.PassiveOptics
import HcipyVerif.Lemmas.PhaseOptics
import HcipyVerif.Lemmas.PhaseOpticsAnalytic
import HcipyVerif.Lemmas.ScalarHom
import HcipyVerif.Lemmas.Scheduler
import HcipyVerif.Lemmas.SchedulerClock
import HcipyVerif.Lemmas.SchedulerHist
import HcipyVerif.Lemmas.SchedulerLoop
import HcipyVerif.Lemmas.SchedulerRef
import HcipyVerif.Lemmas.SchedulerTerm
import HcipyVerif.Lemmas.SchedulerTile
import HcipyVerif.Lemmas.Serial
import HcipyVerif.Lemmas.SerialFiles
import HcipyVerif.Lemmas.Shift
import HcipyVerif.Lemmas.ShiftCyc
import HcipyVerif.Lemmas.SliceSegment
import HcipyVerif.Lemmas.WavelengthKey
import HcipyVerif.Lemmas.Zernike
import HcipyVerif.Lemmas.ZernikeArr
import HcipyVerif.Lemmas.ZernikeIndex
import HcipyVerif.Lemmas.ZernikeIndexReal
import HcipyVerif.Lemmas.ZernikeIntegral
import HcipyVerif.Lemmas.ZernikeMoment
import HcipyVerif.Lemmas.ZernikeMomentAlg
import HcipyVerif.Lemmas.ZernikeRadialGen
import HcipyVerif.Lemmas.ZernikeRadialReal
import HcipyVerif.Lemmas.ZernikeReal
import HcipyVerif.Lemmas.ZernikeTrig
import HcipyVerif.Lemmas.ZoomN
import HcipyVerif.Lemmas.ZoomNExp
import HcipyVerif.Model.Aperture
import HcipyVerif.Model.ApertureHistory
import HcipyVerif.Model.AperturePupil
import HcipyVerif.Model.ApertureTelescopes
import HcipyVerif.Model.Axes
import HcipyVerif.Model.Binning
import HcipyVerif.Model.Cache
import HcipyVerif.Model.CacheDecorator
import HcipyVerif.Model.Coords
import HcipyVerif.Model.Coronagraph
import HcipyVerif.Model.Czt
import HcipyVerif.Model.Detector
import HcipyVerif.Model.DetectorOld
import HcipyVerif.Model.Effects
import HcipyVerif.Model.Elements
import HcipyVerif.Model.FftDecide
import HcipyVerif.Model.FftGrid
import HcipyVerif.Model.FftIndex
import HcipyVerif.Model.FftIndex2
import HcipyVerif.Model.FftIndex2b
import HcipyVerif.Model.FftIndexN
import HcipyVerif.Model.FftMulti
import HcipyVerif.Model.FftSelect
import HcipyVerif.Model.FftState
import HcipyVerif.Model.FftWeights
import HcipyVerif.Model.FieldDispatch
import HcipyVerif.Model.FieldProg
import HcipyVerif.Model.FieldRef
import HcipyVerif.Model.FilterM
import HcipyVerif.Model.FourierConfig
import HcipyVerif.Model.FourierSwitch
import HcipyVerif.Model.Fraunhofer
import HcipyVerif.Model.FraunhoferObj
import HcipyVerif.Model.FraunhoferPipe
import HcipyVerif.Model.Grid
import HcipyVerif.Model.GridHeap
import HcipyVerif.Model.GridLayout
import HcipyVerif.Model.GridOps
import HcipyVerif.Model.GridShare
import HcipyVerif.Model.Interp
import HcipyVerif.Model.Jones
import HcipyVerif.Model.Layer
import HcipyVerif.Model.LayerHeap
import HcipyVerif.Model.Mft
import HcipyVerif.Model.MftState
import HcipyVerif.Model.Mirror
import HcipyVerif.Model.ModeBasis
import HcipyVerif.Model.MultiLayer
import HcipyVerif.Model.Multiplex
import HcipyVerif.Model.NearField
import HcipyVerif.Model.Nft
import HcipyVerif.Model.OpIR
import HcipyVerif.Model.PassiveOptics
import HcipyVerif.Model.PhaseOptics
import HcipyVerif.Model.Proto
import HcipyVerif.Model.Scheduler
import HcipyVerif.Model.SchedulerRef
import HcipyVerif.Model.Serial
import HcipyVerif.Model.Shift
import HcipyVerif.Model.Zernike
import HcipyVerif.Model.ZernikeArr
import HcipyVerif.Model.ZernikeGrid
import HcipyVerif.Model.ZoomN
import HcipyVerif.Properties.C01
import HcipyVerif.Properties.C02
import HcipyVerif.Properties.C03
import HcipyVerif.Properties.C04
import HcipyVerif.Properties.C05
import HcipyVerif.Properties.C06
import HcipyVerif.Properties.C07
import HcipyVerif.Properties.C08
import HcipyVerif.Properties.C09
import HcipyVerif.Properties.C10
import HcipyVerif.Properties.C11
import HcipyVerif.Properties.C12
import HcipyVerif.Properties.C13
import HcipyVerif.Properties.C14
import HcipyVerif.Properties.C15
import HcipyVerif.Properties.C16
import HcipyVerif.Properties.C17
import HcipyVerif.Properties.C18
import HcipyVerif.Properties.C19
import HcipyVerif.Properties.C20
