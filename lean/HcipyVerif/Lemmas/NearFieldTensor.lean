import Mathlib.Data.Matrix.Mul
import Mathlib.LinearAlgebra.Matrix.ConjTranspose
import Mathlib.Algebra.BigOperators.Fin
import HcipyVerif.Lemmas.NearFieldFilter

/-!
# C04 — tensor fields through the `FourierFilter`: Stokes-`I` power, matrix-valued transfer functions

* `stokesPower w S E` — `Wavefront.total_power` of a Jones-matrix wavefront `E` with input Stokes vector `S` on a
  regular grid (`Σ_k I_k · w`), with `I` the executable `stokesI` of `Model/NearField.lean` (the polynomial
  `Wavefront.I` evaluates; the driver runs it at `Rat`).  `herm_contraction`: the Hermitian form behind it is
  positive semi-definite for a physical Stokes vector, hence non-increasing under any linear contraction.
* `filterM P e D` — `FourierFilter._operation` with a matrix-valued transfer function: the point-wise product is
  the executable `matVec (D m)` (`field_dot`), the adjoint uses `conjT conj (D m)` (`field_conjugate_transpose`).
-/

set_option linter.unusedSectionVars false

open Complex ComplexConjugate

namespace HcipyVerif.NearField

variable {ι μ : Type*} [Fintype ι] [Fintype μ] [DecidableEq μ]

/-- The trivial Fourier pair (`F = F⁻¹ = id`, `c = 1`), for counterexamples. -/
noncomputable def FourierPair.idPair (α : Type*) [Fintype α] : FourierPair α :=
  { F := LinearMap.id, Finv := LinearMap.id, c := 1, c_pos := one_pos,
    Finv_F := fun _ => rfl, F_Finv := fun _ => rfl, adj := fun x y => by simp }

/-- `Wavefront.total_power` for a partially polarised (Jones-matrix + Stokes vector) wavefront on a regular
grid with pixel weight `w`: `Σ_k stokesI(S; E_k) · w`. Components `(0,0)=x, (0,1)=y, (1,0)=z, (1,1)=w`. -/
noncomputable def stokesPower (w : ℝ) (S : Fin 4 → ℝ) (E : Fin 2 × Fin 2 → ι → ℂ) : ℝ :=
  ∑ i, stokesI (S 0) (S 1) (S 2) (S 3) (E (0, 0) i).re (E (0, 0) i).im (E (0, 1) i).re (E (0, 1) i).im
    (E (1, 0) i).re (E (1, 0) i).im (E (1, 1) i).re (E (1, 1) i).im * w

/-- The Hermitian form of one row `(u, v)` of the Jones matrix field: `(u v)ᴴ C (u v)` summed over the grid,
`C = [[S0+S1, S2+iS3], [S2-iS3, S0-S1]]` (twice the coherency matrix). -/
noncomputable def herm (S : Fin 4 → ℝ) (u v : ι → ℂ) : ℝ :=
  (S 0 + S 1) * nsq u + (S 0 - S 1) * nsq v + 2 * (conj ((S 2 : ℂ) + (S 3 : ℂ) * I) * ip v u).re

theorem stokesPower_eq_herm (w : ℝ) (S : Fin 4 → ℝ) (E : Fin 2 × Fin 2 → ι → ℂ) :
    stokesPower w S E = w / 2 * (herm S (E (0, 0)) (E (0, 1)) + herm S (E (1, 0)) (E (1, 1))) := by
  unfold stokesPower herm nsq ip
  simp only [Finset.mul_sum, Complex.re_sum, ← Finset.sum_add_distrib]
  apply Finset.sum_congr rfl
  intro i _
  simp only [stokesI, Complex.sq_norm, Complex.normSq_apply, Complex.mul_re, Complex.mul_im, Complex.add_re,
    Complex.add_im, Complex.conj_re, Complex.conj_im, Complex.ofReal_re, Complex.ofReal_im, Complex.I_re,
    Complex.I_im]
  ring

theorem nsq_add_smul (u v : ι → ℂ) (γ : ℂ) :
    nsq (u + γ • v) = nsq u + ‖γ‖ ^ 2 * nsq v + 2 * (conj γ * ip v u).re := by
  unfold nsq ip
  simp only [Finset.mul_sum, Complex.re_sum, ← Finset.sum_add_distrib]
  apply Finset.sum_congr rfl
  intro i _
  simp only [Pi.add_apply, Pi.smul_apply, smul_eq_mul]
  rw [Complex.sq_norm, Complex.sq_norm, Complex.sq_norm, Complex.sq_norm, Complex.normSq_add,
    Complex.normSq_mul]
  have h : u i * conj (γ * v i) = conj γ * (conj (v i) * u i) := by rw [map_mul]; ring
  rw [h]

/-- A positive semi-definite `2 × 2` Hermitian matrix `[[p, c̄], [c, q]]` factors: `c = p γ` with `p |γ|² ≤ q`. -/
theorem exists_mul_eq_of_normSq_le {p q : ℝ} {c : ℂ} (hp : 0 ≤ p) (hq : 0 ≤ q) (hc : ‖c‖ ^ 2 ≤ p * q) :
    ∃ γ : ℂ, (p : ℂ) * γ = c ∧ 0 ≤ q - p * ‖γ‖ ^ 2 := by
  -- `γ = c / p`, also for `p = 0`: there `c = 0`, and `x / 0 = 0`
  refine ⟨c / p, mul_div_cancel_of_imp' fun h0 => ?_, sub_nonneg.mpr ?_⟩
  · rw [Complex.ofReal_eq_zero.mp h0, zero_mul] at hc
    exact norm_eq_zero.mp (sq_eq_zero_iff.mp (le_antisymm hc (sq_nonneg _)))
  · -- `p (‖c‖ / p)² = ‖c‖² / p`
    rw [Complex.norm_div, Complex.norm_of_nonneg hp, div_pow, sq p, ← mul_div_assoc, mul_comm, mul_div_assoc,
      div_self_mul_self', ← div_eq_mul_inv]
    exact div_le_of_le_mul₀ hp hq (by rwa [mul_comm] at hc)

/-- Completing the square. -/
theorem herm_eq_sq (S : Fin 4 → ℝ) {γ : ℂ}
    (hγ : ((S 0 + S 1 : ℝ) : ℂ) * γ = (S 2 : ℂ) + (S 3 : ℂ) * I) (a b : ι → ℂ) :
    herm S a b = (S 0 + S 1) * nsq (a + γ • b) + ((S 0 - S 1) - (S 0 + S 1) * ‖γ‖ ^ 2) * nsq b := by
  unfold herm
  rw [nsq_add_smul, ← hγ, map_mul, Complex.conj_ofReal, mul_assoc, Complex.re_ofReal_mul]
  ring

/-- For a physical Stokes vector the form is positive semi-definite, so it does not increase under a linear contraction. -/
theorem herm_contraction (S : Fin 4 → ℝ) (hS0 : 0 ≤ S 0) (hphys : S 1 ^ 2 + S 2 ^ 2 + S 3 ^ 2 ≤ S 0 ^ 2)
    (T : (ι → ℂ) → (ι → ℂ)) (hlin : ∀ (a b : ℂ) (x y : ι → ℂ), T (a • x + b • y) = a • T x + b • T y)
    (hcon : ∀ x, nsq (T x) ≤ nsq x) (u v : ι → ℂ) : herm S (T u) (T v) ≤ herm S u v := by
  have h1 : |S 1| ≤ S 0 := abs_le_of_sq_le_sq (by linarith [sq_nonneg (S 2), sq_nonneg (S 3)]) hS0
  have hp : 0 ≤ S 0 + S 1 := neg_le_iff_add_nonneg'.mp (abs_le.mp h1).1
  have hq : 0 ≤ S 0 - S 1 := sub_nonneg.mpr (abs_le.mp h1).2
  have hc : ‖(S 2 : ℂ) + (S 3 : ℂ) * I‖ ^ 2 ≤ (S 0 + S 1) * (S 0 - S 1) := by
    rw [Complex.sq_norm, Complex.normSq_add_mul_I]
    linarith
  obtain ⟨γ, hγ, hr⟩ := exists_mul_eq_of_normSq_le hp hq hc
  -- `herm = p ‖u + γ v‖² + r ‖v‖²` with `p, r ≥ 0`, and `T` contracts both squares
  have hl : T (u + γ • v) = T u + γ • T v := by simpa using hlin 1 γ u v
  rw [herm_eq_sq S hγ, herm_eq_sq S hγ, ← hl]
  exact add_le_add (mul_le_mul_of_nonneg_left (hcon _) hp) (mul_le_mul_of_nonneg_left (hcon _) hr)

theorem stokesPower_contraction (w : ℝ) (hw : 0 ≤ w) (S : Fin 4 → ℝ) (hS0 : 0 ≤ S 0)
    (hphys : S 1 ^ 2 + S 2 ^ 2 + S 3 ^ 2 ≤ S 0 ^ 2)
    (T : (ι → ℂ) → (ι → ℂ)) (hlin : ∀ (a b : ℂ) (x y : ι → ℂ), T (a • x + b • y) = a • T x + b • T y)
    (hcon : ∀ x, nsq (T x) ≤ nsq x) (E : Fin 2 × Fin 2 → ι → ℂ) :
    stokesPower w S (fun t => T (E t)) ≤ stokesPower w S E := by
  rw [stokesPower_eq_herm, stokesPower_eq_herm]
  exact mul_le_mul_of_nonneg_left
    (add_le_add (herm_contraction S hS0 hphys T hlin hcon _ _) (herm_contraction S hS0 hphys T hlin hcon _ _))
    (div_nonneg hw zero_le_two)

variable {n : ℕ}

theorem sumFin_eq_sum (f : Fin n → ℂ) : sumFin n f = ∑ j, f j := by
  unfold sumFin
  rw [Fin.sum_univ_def]

theorem matVec_apply (D : Fin n → Fin n → ℂ) (v : Fin n → ℂ) (i : Fin n) :
    matVec D v i = ∑ j, D i j * v j := sumFin_eq_sum _

/-- `field_dot(D, ·)` on the internal grid: at every sample the matrix `D m` times the vector of components. -/
def mulDM (D : μ → Fin n → Fin n → ℂ) (y : Fin n → μ → ℂ) : Fin n → μ → ℂ :=
  fun t m => matVec (D m) (fun j => y j m) t

/-- `FourierFilter.forward` with a matrix-valued transfer function on a vector field:
`crop ∘ ifftn ∘ field_dot(D, ·) ∘ fftn ∘ pad`, the transforms acting on every component. -/
noncomputable def filterM (P : FourierPair μ) (e : ι → μ) (D : μ → Fin n → Fin n → ℂ) (x : Fin n → ι → ℂ) :
    Fin n → ι → ℂ :=
  fun t => crop e (P.Finv (mulDM D (fun j => P.F (pad e (x j))) t))

/-- `FourierFilter.backward`: the same with `field_conjugate_transpose(D)`. -/
noncomputable def filterMBackward (P : FourierPair μ) (e : ι → μ) (D : μ → Fin n → Fin n → ℂ)
    (x : Fin n → ι → ℂ) : Fin n → ι → ℂ :=
  filterM P e (fun m => conjT (fun z => conj z) (D m)) x

theorem sum_ip_mulDM_right (D : μ → Fin n → Fin n → ℂ) (a b : Fin n → μ → ℂ) :
    ∑ t, ip (a t) (mulDM D b t) = ∑ t, ip (mulDM (fun m => conjT (fun z => conj z) (D m)) a t) (b t) := by
  unfold ip mulDM
  simp only [matVec_apply]
  -- at one sample `m`: `star a ⬝ᵥ D *ᵥ b = star (Dᴴ *ᵥ a) ⬝ᵥ b`
  refine Finset.sum_comm.trans ((Finset.sum_congr rfl fun m _ => ?_).trans Finset.sum_comm)
  refine (Matrix.dotProduct_mulVec (star fun t => a t m) (Matrix.of (D m)) fun j => b j m).trans ?_
  rw [← Matrix.conjTranspose_conjTranspose (Matrix.of (D m)), ← Matrix.star_mulVec]
  rfl

end HcipyVerif.NearField
