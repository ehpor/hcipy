import HcipyVerif.Lemmas.Fraunhofer
import HcipyVerif.Lemmas.FourierLink
import HcipyVerif.Lemmas.FraunhoferSelect
import HcipyVerif.Lemmas.FraunhoferBridge

/-!
# C03 — the abstract layer: a Fraunhofer propagator over an abstract Fourier transform (lemmas)

Nothing here is executed by the driver: `Propagator` is a record over an abstract `FourierTransform` (two `ℂ`-linear
maps) with the named Fourier hypotheses (`EvaluatesFourierSum`, `EvaluatesAdjointSum`, `ParsevalOn`, `InverseOn`),
instantiated with C01/C02's FFT and MFT models (`fftPropagator`, `mftPropagator`, `lensPropagator`).  The statements
are dimension-free / tensor-component-generic **lemmas**: the property theorems of `Properties/C03.lean` about the
executed pipeline (`lensForward`, …) and the executed propagator object (`LensProp.forward`, …) are derived from them
(`lens_transform` packages the executed pipeline as such a `FourierTransform`; `lensPropagator_forward_eq_pipeline(_mft)`
at the end identify `lensPropagator.forward` with the executed `lensForward`).
-/

set_option linter.unusedSectionVars false

open Finset Complex ComplexConjugate

namespace HcipyVerif.Fraunhofer

variable {ι κ τ : Type*} [Fintype ι] [Fintype κ] [Fintype τ] {d : ℕ}

/-- `Wavefront`: electric field (one scalar field per tensor component), wavelength, optional Stokes vector. -/
structure Wavefront (ι τ : Type*) where
  field : τ → ι → ℂ
  wavelength : ℝ
  stokes : Option (Fin 4 → ℝ)

/-- `FraunhoferPropagator`: pupil grid, focal grid, focal length (constant or a function of the wavelength),
and the Fourier transform `make_instance` builds for each wavelength. -/
structure Propagator (ι κ : Type*) (d : ℕ) where
  pupil : Grid ι d
  focal : Grid κ d
  focalLength : ℝ → ℝ
  ft : ℝ → FourierTransform ι κ

/-- `instance_data.uv_grid` for wavelength `lam`. -/
noncomputable def Propagator.uvGrid (P : Propagator ι κ d) (lam : ℝ) : Grid κ d :=
  P.focal.scaled (uvScaleR lam (P.focalLength lam))

/-- `FraunhoferPropagator.forward`. -/
noncomputable def Propagator.forward (P : Propagator ι κ d) (wf : Wavefront ι τ) : Wavefront κ τ :=
  { field := fun t => normFactorC wf.wavelength (P.focalLength wf.wavelength) • (P.ft wf.wavelength).fwd (wf.field t)
    wavelength := wf.wavelength
    stokes := wf.stokes }

/-- `FraunhoferPropagator.backward`. -/
noncomputable def Propagator.backward (P : Propagator ι κ d) (wf : Wavefront κ τ) : Wavefront ι τ :=
  { field := fun t => (normFactorC wf.wavelength (P.focalLength wf.wavelength))⁻¹ • (P.ft wf.wavelength).bwd (wf.field t)
    wavelength := wf.wavelength
    stokes := wf.stokes }

/-- **C01 hypothesis for a propagator**: for every wavelength the selected transform evaluates the weighted
Fourier sum on the uv grid it was built for. -/
def Propagator.TransformsCorrect (P : Propagator ι κ d) : Prop :=
  ∀ lam, EvaluatesFourierSum (P.ft lam) P.pupil (P.uvGrid lam)

theorem uvScaleR_eq (lam f : ℝ) : uvScaleR lam f = 2 * Real.pi / (lam * f) := by
  unfold uvScaleR; rw [mul_comm f lam]

/-- At every focal point `x_k`, every tensor component `t`, whatever the kind of focal grid and whichever transform
was selected: `E_out(x) = 1/(i λ f) · Σ_u E_in(u) w(u) exp(-2πi x·u/(λ f))`.  The C01 hypothesis is needed only at the
wavelength of the wavefront. -/
theorem fraunhofer_eq_integral_at (P : Propagator ι κ d) (wf : Wavefront ι τ)
    (hT : EvaluatesFourierSum (P.ft wf.wavelength) P.pupil (P.uvGrid wf.wavelength)) (t : τ) (k : κ) :
    (P.forward wf).field t k
      = 1 / (I * (wf.wavelength : ℂ) * (P.focalLength wf.wavelength : ℂ))
        * ∑ j, wf.field t j * (P.pupil.weights j : ℂ)
            * cexp (-(2 * (Real.pi : ℂ) * I * ((dot (P.focal.pts k) (P.pupil.pts j) : ℝ) : ℂ))
                / ((wf.wavelength : ℂ) * (P.focalLength wf.wavelength : ℂ))) :=
  forward_eq_integral hT (wf.field t) k

/-- `fraunhofer_eq_integral_at` for a propagator whose transforms are correct at every wavelength. -/
theorem fraunhofer_eq_integral (P : Propagator ι κ d) (hT : P.TransformsCorrect) (wf : Wavefront ι τ)
    (t : τ) (k : κ) :
    (P.forward wf).field t k
      = 1 / (I * (wf.wavelength : ℂ) * (P.focalLength wf.wavelength : ℂ))
        * ∑ j, wf.field t j * (P.pupil.weights j : ℂ)
            * cexp (-(2 * (Real.pi : ℂ) * I * ((dot (P.focal.pts k) (P.pupil.pts j) : ℝ) : ℂ))
                / ((wf.wavelength : ℂ) * (P.focalLength wf.wavelength : ℂ))) :=
  fraunhofer_eq_integral_at P wf (hT wf.wavelength) t k

set_option linter.unusedVariables false in
/-- Inner products of any two propagated components equal those of the inputs:
`Σ_k conj(E_out) G_out w_focal = Σ_j conj(E) G w_pupil` on a full conjugate grid (`ParsevalOn`).  `hpos` is not used:
the law holds for every `λ f` (`forward_inner`); at `λ f = 0` `ParsevalOn` itself makes both sides `0`. -/
theorem fraunhofer_inner (P : Propagator ι κ 2) (wf : Wavefront ι τ)
    (hpos : 0 < wf.wavelength * P.focalLength wf.wavelength)
    (hPars : ParsevalOn (P.ft wf.wavelength) P.pupil (P.uvGrid wf.wavelength)) (s t : τ) :
    wip P.focal.weights ((P.forward wf).field s) ((P.forward wf).field t)
      = wip P.pupil.weights (wf.field s) (wf.field t) :=
  forward_inner hPars _ _

/-- **`fraunhofer_power`.** Total power `Σ_t Σ |E_t|² w` (scalar and Jones-vector wavefronts) is conserved on
the full conjugate grid. -/
theorem fraunhofer_power (P : Propagator ι κ 2) (wf : Wavefront ι τ)
    (hpos : 0 < wf.wavelength * P.focalLength wf.wavelength)
    (hPars : ParsevalOn (P.ft wf.wavelength) P.pupil (P.uvGrid wf.wavelength)) :
    ∑ t, power P.focal.weights ((P.forward wf).field t) = ∑ t, power P.pupil.weights (wf.field t) :=
  Finset.sum_congr rfl fun t _ => power_eq_of_wip (fraunhofer_inner P wf hpos hPars t t)

/-- Intensity `I` of a partially polarised wavefront exactly as `Wavefront.I` computes it from the Jones
matrix field `(x y; z w)` and the input Stokes vector `(a, b, c, d)`. -/
noncomputable def stokesI (S : Fin 4 → ℝ) (x y z w : ℂ) : ℝ :=
  let M11 := normSq x + normSq y + normSq z + normSq w
  let M12 := normSq x - normSq y + normSq z - normSq w
  let M13 := 2 * (x.re * y.re + x.im * y.im + z.re * w.re + z.im * w.im)
  let M14 := 2 * (-x.re * y.im + x.im * y.re - z.re * w.im + z.im * w.re)
  0.5 * (M11 * S 0 + M12 * S 1 + M13 * S 2 + M14 * S 3)

/-- Jones matrix `(0 1; 0 0)`: intensity `1/2` for the unpolarised Stokes vector `(1, 0, 0, 0)`, `0` for `(1, 1, 0, 0)`. -/
theorem stokesI_unpolarised_ne : stokesI ![1, 0, 0, 0] 0 1 0 0 ≠ stokesI ![1, 1, 0, 0] 0 1 0 0 := by
  unfold stokesI
  simp
  norm_num

/-- `I` is the real part of a combination of products `conj(p)·q` of components. -/
theorem stokesI_eq_re (S : Fin 4 → ℝ) (x y z w : ℂ) :
    stokesI S x y z w =
      ((1 / 2 : ℂ) * (((S 0 + S 1 : ℝ) : ℂ) * (conj x * x + conj z * z)
        + ((S 0 - S 1 : ℝ) : ℂ) * (conj y * y + conj w * w)
        + 2 * ((S 2 : ℂ) - (S 3 : ℂ) * I) * (conj y * x + conj w * z))).re := by
  have h2 : (1 / 2 : ℂ) = ((1 / 2 : ℝ) : ℂ) := by push_cast; rfl
  have h3 : ∀ (a b : ℝ) (c : ℂ), (2 * ((a : ℂ) - (b : ℂ) * I) * c).re = 2 * (a * c.re + b * c.im) := by
    intro a b c
    simp only [Complex.mul_re, Complex.mul_im, Complex.sub_re, Complex.sub_im, Complex.ofReal_re, Complex.ofReal_im,
      Complex.I_re, Complex.I_im, Complex.re_ofNat, Complex.im_ofNat]
    ring
  rw [h2, Complex.re_ofReal_mul, Complex.add_re, Complex.add_re, Complex.re_ofReal_mul, Complex.re_ofReal_mul, h3,
    Complex.add_re, Complex.add_re, Complex.add_re, Complex.add_im]
  simp only [Complex.mul_re, Complex.mul_im, Complex.conj_re, Complex.conj_im]
  unfold stokesI
  simp only [Complex.normSq_apply]
  rw [show (0.5 : ℝ) = 1 / 2 by norm_num]
  ring

/-- Total power of a Jones-matrix wavefront with Stokes vector: `Σ_k I_k w_k` (`Wavefront.power` for tensor
order 2), components indexed by `Fin 2 × Fin 2`. -/
noncomputable def stokesPower {α : Type*} [Fintype α] (w : α → ℝ) (S : Fin 4 → ℝ) (E : Fin 2 × Fin 2 → α → ℂ) : ℝ :=
  ∑ i, stokesI S (E (0, 0) i) (E (0, 1) i) (E (1, 0) i) (E (1, 1) i) * w i

theorem stokesPower_eq_re {α : Type*} [Fintype α] (w : α → ℝ) (S : Fin 4 → ℝ) (E : Fin 2 × Fin 2 → α → ℂ) :
    stokesPower w S E =
      ((1 / 2 : ℂ) * (((S 0 + S 1 : ℝ) : ℂ) * (wip w (E (0, 0)) (E (0, 0)) + wip w (E (1, 0)) (E (1, 0)))
        + ((S 0 - S 1 : ℝ) : ℂ) * (wip w (E (0, 1)) (E (0, 1)) + wip w (E (1, 1)) (E (1, 1)))
        + 2 * ((S 2 : ℂ) - (S 3 : ℂ) * I) * (wip w (E (0, 1)) (E (0, 0)) + wip w (E (1, 1)) (E (1, 0))))).re := by
  unfold stokesPower wip
  simp only [← Finset.sum_add_distrib, Finset.mul_sum, Complex.re_sum]
  apply Finset.sum_congr rfl
  intro i _
  rw [stokesI_eq_re, ← Complex.re_mul_ofReal]
  congr 1
  ring

/-- **`fraunhofer_power` for Jones-matrix wavefronts**: the Stokes-`I` power is conserved as well. -/
theorem fraunhofer_stokes_power (P : Propagator ι κ 2) (wf : Wavefront ι (Fin 2 × Fin 2)) (S : Fin 4 → ℝ)
    (hpos : 0 < wf.wavelength * P.focalLength wf.wavelength)
    (hPars : ParsevalOn (P.ft wf.wavelength) P.pupil (P.uvGrid wf.wavelength)) :
    stokesPower P.focal.weights S (P.forward wf).field = stokesPower P.pupil.weights S wf.field := by
  rw [stokesPower_eq_re, stokesPower_eq_re]
  simp only [fraunhofer_inner P wf hpos hPars]

/-- **`fraunhofer_inverse`.** On the full conjugate grid backward propagation restores the input wavefront
(field, wavelength and Stokes vector). -/
theorem fraunhofer_inverse (P : Propagator ι κ d) (wf : Wavefront ι τ)
    (hne : wf.wavelength * P.focalLength wf.wavelength ≠ 0)
    (hInv : InverseOn (P.ft wf.wavelength)) :
    P.backward (P.forward wf) = wf := by
  unfold Propagator.backward Propagator.forward
  cases wf with
  | mk field lam stokes =>
    simp only [Wavefront.mk.injEq, and_true]
    funext t
    rw [map_smul, hInv, smul_smul, inv_mul_cancel₀ (normFactorC_ne_zero hne), one_smul]

/-! ## one propagator object used repeatedly

`forward`/`backward` are functions of the propagator's *current* fields and of the wavefront: no call leaves
anything behind that a later call could see (the real object's scratch arrays and instance cache must be
transparent — C05 proves that for the cache; the harness replays call sequences on one object).  The setter
`prop.focal_length = g` replaces the focal length and, having cleared the cache, the transforms. -/

/-- `prop.focal_length = g`: new focal length, transforms rebuilt by `make_instance` on the next call. -/
def Propagator.setFocalLength (P : Propagator ι κ d) (g : ℝ → ℝ) (ft' : ℝ → FourierTransform ι κ) :
    Propagator ι κ d :=
  { P with focalLength := g, ft := ft' }

/-- After the setter, forward is the Fourier integral for the **new** focal length (constant or
wavelength-dependent) — nothing of the old one survives, whatever was propagated before. -/
theorem fraunhofer_eq_integral_after_set (P : Propagator ι κ d) (g : ℝ → ℝ) (ft' : ℝ → FourierTransform ι κ)
    (hT : (P.setFocalLength g ft').TransformsCorrect) (wf : Wavefront ι τ) (t : τ) (k : κ) :
    ((P.setFocalLength g ft').forward wf).field t k
      = 1 / (I * (wf.wavelength : ℂ) * (g wf.wavelength : ℂ))
        * ∑ j, wf.field t j * (P.pupil.weights j : ℂ)
            * cexp (-(2 * (Real.pi : ℂ) * I * ((dot (P.focal.pts k) (P.pupil.pts j) : ℝ) : ℂ))
                / ((wf.wavelength : ℂ) * (g wf.wavelength : ℂ))) :=
  fraunhofer_eq_integral (P.setFocalLength g ft') hT wf t k

/-- The last assignment wins — **by construction** (the setter overwrites the two fields).  For the running code
the harness replays set/forward sequences on one object (`trace`) and the instance cache's transparency is C05's
subject. -/
theorem setFocalLength_setFocalLength (P : Propagator ι κ d) (g h : ℝ → ℝ) (f1 f2 : ℝ → FourierTransform ι κ) :
    (P.setFocalLength g f1).setFocalLength h f2 = P.setFocalLength h f2 := rfl

/-- **Backward is the adjoint Fourier integral** (two dimensions), for any focal grid on which the selected
transform's `backward` evaluates the adjoint sum (C02 `adjoint_sum`):
`E_back(u) = i/(λf) · Σ_x E(x) w_focal(x) exp(+2πi x·u/(λf))`.  This is what the harness compares every
`backward` of a call sequence with. -/
theorem fraunhofer_backward_eq_adjoint_integral (P : Propagator ι κ 2) (wg : Wavefront κ τ)
    (hpos : 0 < wg.wavelength * P.focalLength wg.wavelength)
    (hA : EvaluatesAdjointSum (P.ft wg.wavelength) P.pupil (P.uvGrid wg.wavelength)) (t : τ) (j : ι) :
    (P.backward wg).field t j
      = I / ((wg.wavelength : ℂ) * (P.focalLength wg.wavelength : ℂ))
        * ∑ k, wg.field t k * (P.focal.weights k : ℂ)
            * cexp (2 * (Real.pi : ℂ) * I * ((dot (P.focal.pts k) (P.pupil.pts j) : ℝ) : ℂ)
                / ((wg.wavelength : ℂ) * (P.focalLength wg.wavelength : ℂ))) :=
  backward_eq_adjoint_integral hpos.ne' hA _ j

/-- Forward and backward copy the wavelength and the Stokes vector unchanged — **true by construction** of
`Propagator.forward/backward` (which transcribe `Wavefront(Field(U_new, grid), wavefront.wavelength,
wavefront.input_stokes_vector)`); the statement only records what the model says.  What carries the clause for the
running code is the harness: every `forward`/`backward` of every case compares `wavelength` and
`input_stokes_vector` of the result with the input (labels `wavelength-carried`, `stokes-carried`), and
`Bad.forward_dropStokes_changes_power` shows the clause is not empty: a forward that forgets the optional third
constructor argument changes the reported power of a polarised wavefront. -/
theorem meta_carried_by_construction (P : Propagator ι κ d) (wf : Wavefront ι τ) (wg : Wavefront κ τ) :
    (P.forward wf).wavelength = wf.wavelength ∧ (P.forward wf).stokes = wf.stokes ∧
    (P.backward wg).wavelength = wg.wavelength ∧ (P.backward wg).stokes = wg.stokes :=
  ⟨rfl, rfl, rfl, rfl⟩

/-- **`Bad` variant** (not the code's behaviour): a `forward` that builds `Wavefront(field, wavelength)` and
forgets `input_stokes_vector`. -/
noncomputable def Bad.forwardDropStokes (P : Propagator ι κ d) (wf : Wavefront ι τ) : Wavefront κ τ :=
  { P.forward wf with stokes := none }

/-- `Wavefront.I` of a Jones-matrix wavefront: with a Stokes vector `stokesI`, without one the unpolarised value
`stokesI (1, 0, 0, 0)`. -/
noncomputable def wavefrontI (S : Option (Fin 4 → ℝ)) (x y z w : ℂ) : ℝ :=
  stokesI (S.getD ![1, 0, 0, 0]) x y z w

/-- The clause "the Stokes vector is carried" can fail and matters: for the Stokes vector `(1, 1, 0, 0)` and the
Jones matrix `(0 1; 0 0)` the intensity is `0`, but `1/2` once the Stokes vector is dropped. -/
theorem Bad.forward_dropStokes_changes_power (P : Propagator ι κ d) (wf : Wavefront ι τ)
    (hS : wf.stokes = some ![1, 1, 0, 0]) :
    (Bad.forwardDropStokes P wf).stokes ≠ (P.forward wf).stokes ∧
      wavefrontI (Bad.forwardDropStokes P wf).stokes 0 1 0 0 ≠ wavefrontI (P.forward wf).stokes 0 1 0 0 := by
  have h1 : (P.forward wf).stokes = some ![1, 1, 0, 0] := hS
  have h2 : (Bad.forwardDropStokes P wf).stokes = none := rfl
  rw [h1, h2]
  exact ⟨nofun, stokesI_unpolarised_ne⟩

/-- `TransformsCorrect` is satisfiable for every pupil and focal grid: take the transform *defined* as the
weighted Fourier sum (hcipy's `NaiveFourierTransform`). -/
example (pupil : Grid ι d) (focal : Grid κ d) (f : ℝ → ℝ) :
    ∃ P : Propagator ι κ d, P.pupil = pupil ∧ P.focal = focal ∧ P.focalLength = f ∧ P.TransformsCorrect := by
  exact ⟨⟨pupil, focal, f, fun lam => naiveTransform pupil (focal.scaled (uvScaleR lam (f lam)))⟩, rfl, rfl, rfl,
    fun lam => (naive_isFT _ _).evaluates⟩

/-- `ParsevalOn` and `InverseOn` are satisfiable together in two dimensions: one pupil sample of weight `1`
at the origin, one uv sample of weight `(2π)²`; the transform is the identity. -/
example : ∃ (T : FourierTransform Unit Unit) (pupil uv : Grid Unit 2),
    EvaluatesFourierSum T pupil uv ∧ ParsevalOn T pupil uv ∧ InverseOn T := by
  refine ⟨{ fwd := LinearMap.id, bwd := LinearMap.id }, { pts := fun _ _ => 0, weights := fun _ => 1 },
    { pts := fun _ _ => 0, weights := fun _ => (2 * Real.pi) ^ 2 }, ?_, ?_, fun _ => rfl⟩
  · intro E k
    simp [fourierSum, dot]
  · intro E G
    simp [wip]
    ring

/-! ## the Fourier hypotheses discharged: the FFT model of C01/C02 (`Lemmas/FourierLink.lean`)

`fftPropagator` is a Fraunhofer propagator between the regular pupil grid of two axis configurations
`gy gx : Cfg ℝ ℂ` (sizes `N`, padded sizes `M`, output sizes `Mo`, spacings, offsets, shifts — the data of a
`FastFourierTransform`, `AxisOK` = `N ≤ M`, `Mo ≤ M`, `Δ·M·δ = 2π`, weight `δ`) and the focal grid that is
FFT-native at the wavelength `lam0`; its transform is the *model of the code*: the literal 2-D pipelines
`fastForward2` / `fastBackward2` (zero padding, (emulated) fftshifts, `fftn`, cropping, multipliers).
The theorems below carry no hypothesis about the Fourier transform. -/

section fft
open HcipyVerif.Fft HcipyVerif.FourierLink

/-- The propagator built on the FFT model: pupil grid of `(gy, gx)`, focal grid FFT-native at `lam0`. -/
noncomputable def fftPropagator (gy gx : Cfg ℝ ℂ) (oky : AxisOK gy) (okx : AxisOK gx) (hemu : gy.emu = gx.emu)
    (f lam0 : ℝ) : Propagator (Fin gy.N × Fin gx.N) (Fin gy.Mo × Fin gx.Mo) 2 :=
  { pupil := pupilGrid2 gy gx
    focal := (uvGrid2 gy gx).scaled (uvScaleR lam0 f)⁻¹
    focalLength := fun _ => f
    ft := fun _ => fftTransform2 gy gx oky okx hemu }

/-- at the design wavelength the uv grid is the output grid of the FFT, so the model is the transform pair of the
propagator's two grids -/
theorem fftPropagator_isFT (gy gx : Cfg ℝ ℂ) (oky : AxisOK gy) (okx : AxisOK gx) (hemu : gy.emu = gx.emu) {f lam0 : ℝ}
    (hpos : 0 < lam0 * f) :
    IsFT (fftTransform2 gy gx oky okx hemu) (pupilGrid2 gy gx) ((fftPropagator gy gx oky okx hemu f lam0).uvGrid lam0) := by
  show IsFT _ _ (((uvGrid2 gy gx).scaled (uvScaleR lam0 f)⁻¹).scaled (uvScaleR lam0 f))
  rw [(uvGrid2 gy gx).scaled_inv_scaled (uvScaleR_pos hpos).ne']
  exact fft2_isFT gy gx oky okx hemu

/-- **`fraunhofer_eq_integral` for the FFT model**: on every consistent FFT grid (any padding `q`, cropping
`fov`, shift, either `emulate_fftshifts` setting) the propagated field is the scaled Fourier integral. -/
theorem fraunhofer_eq_integral_fft (gy gx : Cfg ℝ ℂ) (oky : AxisOK gy) (okx : AxisOK gx) (hemu : gy.emu = gx.emu)
    (f lam0 : ℝ) (hpos : 0 < lam0 * f) (wf : Wavefront (Fin gy.N × Fin gx.N) τ) (hwl : wf.wavelength = lam0)
    (t : τ) (k : Fin gy.Mo × Fin gx.Mo) :
    ((fftPropagator gy gx oky okx hemu f lam0).forward wf).field t k
      = 1 / (I * (lam0 : ℂ) * (f : ℂ))
        * ∑ j, wf.field t j * ((gy.δ * gx.δ : ℝ) : ℂ)
            * cexp (-(2 * (Real.pi : ℂ) * I
                * ((dot ((fftPropagator gy gx oky okx hemu f lam0).focal.pts k) ((pupilGrid2 gy gx).pts j) : ℝ) : ℂ))
                / ((lam0 : ℂ) * (f : ℂ))) := by
  subst hwl
  exact fraunhofer_eq_integral_at _ wf (fftPropagator_isFT gy gx oky okx hemu hpos).evaluates t k

/-- **`fraunhofer_power` for the FFT model** on the full conjugate pair (`fov = 1` on both axes). -/
theorem fraunhofer_power_fft (gy gx : Cfg ℝ ℂ) (oky : AxisOK gy) (okx : AxisOK gx) (hemu : gy.emu = gx.emu)
    (hfy : gy.Mo = gy.M) (hfx : gx.Mo = gx.M)
    (f lam0 : ℝ) (hpos : 0 < lam0 * f) (wf : Wavefront (Fin gy.N × Fin gx.N) τ) (hwl : wf.wavelength = lam0) :
    ∑ t, power (fftPropagator gy gx oky okx hemu f lam0).focal.weights
        (((fftPropagator gy gx oky okx hemu f lam0).forward wf).field t)
      = ∑ t, power (pupilGrid2 gy gx).weights (wf.field t) := by
  subst hwl
  exact fraunhofer_power _ wf hpos
    (parsevalOn_of_inverseOn (fftPropagator_isFT gy gx oky okx hemu hpos) (fft2_inverse gy gx oky okx hemu hfy hfx))

/-- … and for Jones-matrix wavefronts with a Stokes vector. -/
theorem fraunhofer_stokes_power_fft (gy gx : Cfg ℝ ℂ) (oky : AxisOK gy) (okx : AxisOK gx) (hemu : gy.emu = gx.emu)
    (hfy : gy.Mo = gy.M) (hfx : gx.Mo = gx.M) (f lam0 : ℝ) (hpos : 0 < lam0 * f)
    (wf : Wavefront (Fin gy.N × Fin gx.N) (Fin 2 × Fin 2)) (S : Fin 4 → ℝ) (hwl : wf.wavelength = lam0) :
    stokesPower (fftPropagator gy gx oky okx hemu f lam0).focal.weights S
        ((fftPropagator gy gx oky okx hemu f lam0).forward wf).field
      = stokesPower (pupilGrid2 gy gx).weights S wf.field := by
  subst hwl
  exact fraunhofer_stokes_power _ wf S hpos
    (parsevalOn_of_inverseOn (fftPropagator_isFT gy gx oky okx hemu hpos) (fft2_inverse gy gx oky okx hemu hfy hfx))

/-- **`fraunhofer_inverse` for the FFT model** on the full conjugate pair. -/
theorem fraunhofer_inverse_fft (gy gx : Cfg ℝ ℂ) (oky : AxisOK gy) (okx : AxisOK gx) (hemu : gy.emu = gx.emu)
    (hfy : gy.Mo = gy.M) (hfx : gx.Mo = gx.M)
    (f lam0 : ℝ) (hpos : 0 < lam0 * f) (wf : Wavefront (Fin gy.N × Fin gx.N) τ) (hwl : wf.wavelength = lam0) :
    (fftPropagator gy gx oky okx hemu f lam0).backward ((fftPropagator gy gx oky okx hemu f lam0).forward wf) = wf :=
  fraunhofer_inverse (fftPropagator gy gx oky okx hemu f lam0) wf (hwl ▸ hpos.ne')
    (fft2_inverse gy gx oky okx hemu hfy hfx)

/-- **`fraunhofer_backward_eq_adjoint_integral` for the FFT model**: on every consistent FFT grid
(cropped or not, either shift setting) `backward` is the adjoint Fourier integral
`i/(λf)·Σ_x E(x) w_focal(x) exp(+2πi x·u/(λf))`. -/
theorem fraunhofer_backward_eq_adjoint_integral_fft (gy gx : Cfg ℝ ℂ) (oky : AxisOK gy) (okx : AxisOK gx)
    (hemu : gy.emu = gx.emu) (f lam0 : ℝ) (hpos : 0 < lam0 * f)
    (wg : Wavefront (Fin gy.Mo × Fin gx.Mo) τ) (hwl : wg.wavelength = lam0) (t : τ) (j : Fin gy.N × Fin gx.N) :
    ((fftPropagator gy gx oky okx hemu f lam0).backward wg).field t j
      = I / ((lam0 : ℂ) * (f : ℂ))
        * ∑ k, wg.field t k * ((fftPropagator gy gx oky okx hemu f lam0).focal.weights k : ℂ)
            * cexp (2 * (Real.pi : ℂ) * I
                * ((dot ((fftPropagator gy gx oky okx hemu f lam0).focal.pts k) ((pupilGrid2 gy gx).pts j) : ℝ) : ℂ)
                / ((lam0 : ℂ) * (f : ℂ))) := by
  subst hwl
  exact fraunhofer_backward_eq_adjoint_integral (fftPropagator gy gx oky okx hemu f wg.wavelength) wg hpos
    (fftPropagator_isFT gy gx oky okx hemu hpos).adjoint t j

/-! ## the MFT model of C01 — the path lens propagators take for every grid of `make_focal_grid`

`mftPropagator` is a Fraunhofer propagator between **any two separated Cartesian grids** (regular or not,
arbitrary weights): per wavelength `make_instance` builds `MatrixFourierTransform(pupil, focal.scaled(2π/(λf)))`,
modelled by `mftTransform2` (C01's `mftForward`/`mftBackward`: the two `gemm` products with their transposes,
either weight branch) with output coordinates in units of 2π, `X/(λ f)` — the very function the driver runs at
`Rat`/`PSum` (`Model/FraunhoferPipe.lean`, op `lens`).  No Fourier hypothesis, no restriction on the wavelength. -/

/-- `FraunhoferPropagator(pupil, focal, f)` whose transform is the MFT model at every wavelength.
`w` = `weights_input`, `wOut lam` = `weights_output` of the instance for `lam`. -/
noncomputable def mftPropagator {Ny Nx Nv Nu : ℕ} (x y X Y : ℕ → ℝ) (wp : Fin Ny × Fin Nx → ℝ)
    (wf : Fin Nv × Fin Nu → ℝ) (f : ℝ → ℝ) (w : Weights ℂ) (wOut : ℝ → Weights ℂ) :
    Propagator (Fin Ny × Fin Nx) (Fin Nv × Fin Nu) 2 :=
  { pupil := sepGrid x y wp
    focal := sepGrid X Y wf
    focalLength := f
    ft := fun lam => mftTransform2 Nx Ny Nu Nv x y (fun k => X k / (lam * f lam)) (fun k => Y k / (lam * f lam))
      w (wOut lam) }

/-- **`Propagator.TransformsCorrect` discharged for the MFT model** (C01 `mft_eq_sum_2d`, either weight branch):
every wavelength, every focal length function, every pair of separated grids. -/
theorem mftPropagator_transformsCorrect {Ny Nx Nv Nu : ℕ} (x y X Y : ℕ → ℝ) (wp : Fin Ny × Fin Nx → ℝ)
    (wf : Fin Nv × Fin Nu → ℝ) (f : ℝ → ℝ) (w : Weights ℂ) (wOut : ℝ → Weights ℂ)
    (hw : ∀ p : Fin Ny × Fin Nx, w.get (p.1 * Nx + p.2) = ((wp p : ℝ) : ℂ)) :
    (mftPropagator x y X Y wp wf f w wOut).TransformsCorrect := by
  intro lam
  show EvaluatesFourierSum _ _ ((sepGrid X Y wf).scaled (uvScaleR lam (f lam)))
  rw [uvScaleR_eq]
  exact mft2_evaluates _ _ _ _ _ _ _ _ _ _ _ _ _ hw

/-- **`fraunhofer_eq_integral` for the MFT model — no hypothesis about the transform**: for every pair of
separated Cartesian grids (both focal-grid constructors, hand-made regular, separated), every wavelength, every
(wavelength-dependent) focal length, every tensor component and focal point. -/
theorem fraunhofer_eq_integral_mft {Ny Nx Nv Nu : ℕ} (x y X Y : ℕ → ℝ) (wp : Fin Ny × Fin Nx → ℝ)
    (wf : Fin Nv × Fin Nu → ℝ) (f : ℝ → ℝ) (w : Weights ℂ) (wOut : ℝ → Weights ℂ)
    (hw : ∀ p : Fin Ny × Fin Nx, w.get (p.1 * Nx + p.2) = ((wp p : ℝ) : ℂ))
    (wfr : Wavefront (Fin Ny × Fin Nx) τ) (t : τ) (k : Fin Nv × Fin Nu) :
    ((mftPropagator x y X Y wp wf f w wOut).forward wfr).field t k
      = 1 / (I * (wfr.wavelength : ℂ) * (f wfr.wavelength : ℂ))
        * ∑ j : Fin Ny × Fin Nx, wfr.field t j * (wp j : ℂ)
            * cexp (-(2 * (Real.pi : ℂ) * I * ((dot ![X k.2, Y k.1] ![x j.2, y j.1] : ℝ) : ℂ))
                / ((wfr.wavelength : ℂ) * (f wfr.wavelength : ℂ))) :=
  fraunhofer_eq_integral (mftPropagator x y X Y wp wf f w wOut)
    (mftPropagator_transformsCorrect x y X Y wp wf f w wOut hw) wfr t k

/-- **backward of the MFT model is the adjoint Fourier integral** (C01 `mft_backward_eq_sum_2d'`), `λ f > 0`,
when the instance holds `weights_output = uv.weights/(2π)²`. -/
theorem fraunhofer_backward_eq_adjoint_integral_mft {Ny Nx Nv Nu : ℕ} (x y X Y : ℕ → ℝ)
    (wp : Fin Ny × Fin Nx → ℝ) (wf : Fin Nv × Fin Nu → ℝ) (f : ℝ → ℝ) (w : Weights ℂ) (wOut : ℝ → Weights ℂ)
    (wg : Wavefront (Fin Nv × Fin Nu) τ) (hpos : 0 < wg.wavelength * f wg.wavelength)
    (hwo : ∀ k : Fin Nv × Fin Nu, (wOut wg.wavelength).get (k.1 * Nu + k.2)
      = ((|2 * Real.pi / (wg.wavelength * f wg.wavelength)| ^ 2 * wf k : ℝ) : ℂ) / (((2 * Real.pi) ^ 2 : ℝ) : ℂ))
    (t : τ) (j : Fin Ny × Fin Nx) :
    ((mftPropagator x y X Y wp wf f w wOut).backward wg).field t j
      = I / ((wg.wavelength : ℂ) * (f wg.wavelength : ℂ))
        * ∑ k : Fin Nv × Fin Nu, wg.field t k * (wf k : ℂ)
            * cexp (2 * (Real.pi : ℂ) * I * ((dot ![X k.2, Y k.1] ![x j.2, y j.1] : ℝ) : ℂ)
                / ((wg.wavelength : ℂ) * (f wg.wavelength : ℂ))) := by
  apply fraunhofer_backward_eq_adjoint_integral (mftPropagator x y X Y wp wf f w wOut) wg hpos
  show EvaluatesAdjointSum _ _ ((sepGrid X Y wf).scaled (uvScaleR wg.wavelength (f wg.wavelength)))
  rw [uvScaleR_eq]
  exact mft2_adjoint _ _ _ _ _ _ _ _ _ _ _ _ _ hwo

/-- the weight hypothesis is satisfiable for every grid: the array branch with the grid's own weights … -/
example {Ny Nx : ℕ} (wp : Fin Ny × Fin Nx → ℝ) :
    ∃ w : Weights ℂ, ∀ p : Fin Ny × Fin Nx, w.get (p.1 * Nx + p.2) = ((wp p : ℝ) : ℂ) :=
  ⟨.array (flat2 fun p => ((wp p : ℝ) : ℂ)), fun p => by
    show flat2 _ (p.1 * Nx + p.2) = _
    rw [flat2_flat _ p.1 p.2.2, ext2_apply]⟩

/-- … and the scalar branch when all weights are equal (regular grids). -/
example {Ny Nx : ℕ} (w0 : ℝ) :
    ∀ p : Fin Ny × Fin Nx, (Weights.scalar ((w0 : ℝ) : ℂ)).get (p.1 * Nx + p.2) = (((fun _ => w0) p : ℝ) : ℂ) :=
  fun _ => rfl

/-! ## the transform `make_fourier_transform` selects, every wavelength

`lensPropagator`: two regular Cartesian grids; per wavelength the transform is the constructor call on the method
that C01's model of `make_fourier_transform` (`Fft.choose detectFix`) selects for the scaled grid
(`Lemmas/FraunhoferSelect.lean`): the FFT model when the uv grid is FFT-native at that wavelength **and** the
planner prefers it, the MFT model otherwise.  The planner's float comparison is the oracle `cheaper : ℝ → Bool`
(any function).  Both branches are models of code, proved by C01; none is the specification. -/

/-- `FraunhoferPropagator(pupil, focal, f)` on regular grids with `make_fourier_transform`'s selection. -/
noncomputable def lensPropagator (py px Fy Fx : RegAxis) (f : ℝ → ℝ) (cheaper : ℝ → Bool) (emu : Bool) :
    Propagator (Fin py.n × Fin px.n) (Fin Fy.n × Fin Fx.n) 2 :=
  { pupil := regGrid2 py px
    focal := regGrid2 Fy Fx
    focalLength := f
    ft := fun lam => lensTransform py px Fy Fx (lam * f lam) (cheaper lam) emu }

/-- **The selected transform is the transform pair of pupil and uv grid**, every wavelength, whichever method is
selected there (FFT branch: C01 `fast_forward_eq_sum_2d`; MFT branch: C01 `mft_eq_sum_2d`); in particular
`Propagator.TransformsCorrect` holds. -/
theorem lensPropagator_isFT (py px Fy Fx : RegAxis) (f : ℝ → ℝ) (cheaper : ℝ → Bool) (emu : Bool) (lam : ℝ) :
    IsFT ((lensPropagator py px Fy Fx f cheaper emu).ft lam) (regGrid2 py px)
      ((lensPropagator py px Fy Fx f cheaper emu).uvGrid lam) := by
  show IsFT _ _ ((regGrid2 Fy Fx).scaled (uvScaleR lam (f lam)))
  rw [uvScaleR_eq]
  exact lensTransform_isFT _ _ _ _ _ _ _

/-- On a full conjugate pair every transform pair *is* the FFT model with padded size = focal size, for which C02 gives
the inverse; Parseval follows. -/
theorem IsFT.full {py px Fy Fx : RegAxis} {lam f : ℝ} (h : FullAt py px Fy Fx (lam * f))
    {T : FourierTransform (Fin py.n × Fin px.n) (Fin Fy.n × Fin Fx.n)}
    (hT : IsFT T (regGrid2 py px) ((regGrid2 Fy Fx).scaled (uvScaleR lam f))) :
    InverseOn T ∧ ParsevalOn T (regGrid2 py px) ((regGrid2 Fy Fx).scaled (uvScaleR lam f)) := by
  have hI : InverseOn T := by
    rw [uvScaleR_eq] at hT
    exact hT.unique (fftAt_isFT h.1 h.2.1 h.2.2 false) ▸ fft2_inverse _ _ _ _ _ rfl rfl
  exact ⟨hI, parsevalOn_of_inverseOn hT hI⟩

/-- **`fraunhofer_eq_integral` for the selected transform**: regular pupil and focal grids of any size, spacing
and position, every wavelength and focal-length function, every outcome of the planner, both shift settings. -/
theorem fraunhofer_eq_integral_sel (py px Fy Fx : RegAxis) (f : ℝ → ℝ) (cheaper : ℝ → Bool) (emu : Bool)
    (wf : Wavefront (Fin py.n × Fin px.n) τ) (t : τ) (k : Fin Fy.n × Fin Fx.n) :
    ((lensPropagator py px Fy Fx f cheaper emu).forward wf).field t k
      = 1 / (I * (wf.wavelength : ℂ) * (f wf.wavelength : ℂ))
        * ∑ j : Fin py.n × Fin px.n, wf.field t j * ((py.δ * px.δ : ℝ) : ℂ)
            * cexp (-(2 * (Real.pi : ℂ) * I * ((dot ![Fx.x k.2, Fy.x k.1] ![px.x j.2, py.x j.1] : ℝ) : ℂ))
                / ((wf.wavelength : ℂ) * (f wf.wavelength : ℂ))) :=
  fraunhofer_eq_integral_at _ wf (lensPropagator_isFT py px Fy Fx f cheaper emu _).evaluates t k

/-- **backward = adjoint integral for the selected transform**, `λ f > 0`. -/
theorem fraunhofer_backward_eq_adjoint_integral_sel (py px Fy Fx : RegAxis) (f : ℝ → ℝ) (cheaper : ℝ → Bool)
    (emu : Bool) (wg : Wavefront (Fin Fy.n × Fin Fx.n) τ) (hpos : 0 < wg.wavelength * f wg.wavelength)
    (t : τ) (j : Fin py.n × Fin px.n) :
    ((lensPropagator py px Fy Fx f cheaper emu).backward wg).field t j
      = I / ((wg.wavelength : ℂ) * (f wg.wavelength : ℂ))
        * ∑ k : Fin Fy.n × Fin Fx.n, wg.field t k * ((Fy.δ * Fx.δ : ℝ) : ℂ)
            * cexp (2 * (Real.pi : ℂ) * I * ((dot ![Fx.x k.2, Fy.x k.1] ![px.x j.2, py.x j.1] : ℝ) : ℂ)
                / ((wg.wavelength : ℂ) * (f wg.wavelength : ℂ))) :=
  fraunhofer_backward_eq_adjoint_integral _ wg hpos (lensPropagator_isFT py px Fy Fx f cheaper emu _).adjoint t j

/-- **`fraunhofer_power` whichever transform is selected**: when the focal grid is a full conjugate of the pupil
grid at the wavelength of the wavefront (`FullAt`: `Mo·δ·Δ = λ f`, `N ≤ Mo` on both axes; any position). -/
theorem fraunhofer_power_sel (py px Fy Fx : RegAxis) (f : ℝ → ℝ) (cheaper : ℝ → Bool) (emu : Bool)
    (wf : Wavefront (Fin py.n × Fin px.n) τ) (hpos : 0 < wf.wavelength * f wf.wavelength)
    (hfull : FullAt py px Fy Fx (wf.wavelength * f wf.wavelength)) :
    ∑ t, power (regGrid2 Fy Fx).weights (((lensPropagator py px Fy Fx f cheaper emu).forward wf).field t)
      = ∑ t, power (regGrid2 py px).weights (wf.field t) :=
  fraunhofer_power _ wf hpos ((lensPropagator_isFT py px Fy Fx f cheaper emu _).full hfull).2

/-- … Jones-matrix wavefronts with a Stokes vector. -/
theorem fraunhofer_stokes_power_sel (py px Fy Fx : RegAxis) (f : ℝ → ℝ) (cheaper : ℝ → Bool) (emu : Bool)
    (wf : Wavefront (Fin py.n × Fin px.n) (Fin 2 × Fin 2)) (S : Fin 4 → ℝ)
    (hpos : 0 < wf.wavelength * f wf.wavelength)
    (hfull : FullAt py px Fy Fx (wf.wavelength * f wf.wavelength)) :
    stokesPower (regGrid2 Fy Fx).weights S ((lensPropagator py px Fy Fx f cheaper emu).forward wf).field
      = stokesPower (regGrid2 py px).weights S wf.field :=
  fraunhofer_stokes_power _ wf S hpos ((lensPropagator_isFT py px Fy Fx f cheaper emu _).full hfull).2

/-- **`fraunhofer_inverse` whichever transform is selected** on a full conjugate. -/
theorem fraunhofer_inverse_sel (py px Fy Fx : RegAxis) (f : ℝ → ℝ) (cheaper : ℝ → Bool) (emu : Bool)
    (wf : Wavefront (Fin py.n × Fin px.n) τ) (hne : wf.wavelength * f wf.wavelength ≠ 0)
    (hfull : FullAt py px Fy Fx (wf.wavelength * f wf.wavelength)) :
    (lensPropagator py px Fy Fx f cheaper emu).backward ((lensPropagator py px Fy Fx f cheaper emu).forward wf) = wf :=
  fraunhofer_inverse _ wf hne ((lensPropagator_isFT py px Fy Fx f cheaper emu _).full hfull).1

/-- After `prop.focal_length = g` (cache cleared, transforms rebuilt by `make_instance`) the object is the
propagator of the new focal length … -/
theorem lensPropagator_setFocalLength (py px Fy Fx : RegAxis) (f g : ℝ → ℝ) (cheaper : ℝ → Bool) (emu : Bool) :
    (lensPropagator py px Fy Fx f cheaper emu).setFocalLength g (lensPropagator py px Fy Fx g cheaper emu).ft
      = lensPropagator py px Fy Fx g cheaper emu := by rfl

/-- … hence forward is the Fourier integral for the **new** focal length (constant or callable), every wavelength. -/
theorem fraunhofer_eq_integral_after_set_sel (py px Fy Fx : RegAxis) (f g : ℝ → ℝ) (cheaper : ℝ → Bool) (emu : Bool)
    (wf : Wavefront (Fin py.n × Fin px.n) τ) (t : τ) (k : Fin Fy.n × Fin Fx.n) :
    (((lensPropagator py px Fy Fx f cheaper emu).setFocalLength g
        (lensPropagator py px Fy Fx g cheaper emu).ft).forward wf).field t k
      = 1 / (I * (wf.wavelength : ℂ) * (g wf.wavelength : ℂ))
        * ∑ j : Fin py.n × Fin px.n, wf.field t j * ((py.δ * px.δ : ℝ) : ℂ)
            * cexp (-(2 * (Real.pi : ℂ) * I * ((dot ![Fx.x k.2, Fy.x k.1] ![px.x j.2, py.x j.1] : ℝ) : ℂ))
                / ((wf.wavelength : ℂ) * (g wf.wavelength : ℂ))) := by
  rw [lensPropagator_setFocalLength]
  exact fraunhofer_eq_integral_sel py px Fy Fx g cheaper emu wf t k

/-- Non-vacuity of `FullAt` / `NativeAt`: pupil `2×2`, `δ = 1/2`; focal `4×4`, `Δ = 1/2`; `λ f = 1`. -/
example : FullAt ⟨2, 1 / 2, 0⟩ ⟨2, 1 / 2, 0⟩ ⟨4, 1 / 2, -1⟩ ⟨4, 1 / 2, -1⟩ 1 := by
  refine ⟨one_ne_zero, ⟨?_, ?_, ?_⟩, ⟨?_, ?_, ?_⟩⟩ <;> norm_num

/-- … and a wavelength at which the same grids are *not* native (`λ f = 1/2`: `M = 2 < Mo = 4`), so the selected
transform there is the MFT model (`lensTransform_eq`). -/
example : ¬ NativeAt ⟨2, 1 / 2, 0⟩ ⟨2, 1 / 2, 0⟩ ⟨4, 1 / 2, -1⟩ ⟨4, 1 / 2, -1⟩ (1 / 2) := by
  rintro ⟨_, My, Mx, ⟨_, h2, h3⟩, _⟩
  have h4 : (4 : ℝ) ≤ (My : ℝ) := by exact_mod_cast h2
  norm_num at h3
  linarith

/-- Non-vacuity: a consistent full pair exists (`N = 2`, `M = Mo = 4`, `δ = 1/2`, `dT = 1/2` on both axes). -/
example : ∃ g : Cfg ℝ ℂ, AxisOK g ∧ g.Mo = g.M :=
  ⟨{ N := 2, M := 4, Mo := 4, δ := 1 / 2, z := 0, dT := 1 / 2, s := 0, w := ((1 / 2 : ℝ) : ℂ), emu := false },
    ⟨by norm_num, by norm_num, by norm_num, rfl⟩, rfl⟩

end fft

section bridge
open HcipyVerif.Fft HcipyVerif.FourierLink
variable {ι κ τ : Type*} [Fintype ι] [Fintype κ] [Fintype τ] {d : ℕ}

/-- **Bridge from the propagator object of the `_sel` theorems to the executed pipeline**: at a wavelength where the uv
grid is FFT-native, `lensPropagator.forward` *is* `lensForward` on the method the planner's outcome selects, with the
padded sizes of the native grid … -/
theorem lensPropagator_forward_eq_pipeline (py px Fy Fx : RegAxis) (f : ℝ → ℝ) (cheaper : ℝ → Bool) (emu : Bool)
    (wf : Wavefront (Fin py.n × Fin px.n) τ) (h : NativeAt py px Fy Fx (wf.wavelength * f wf.wavelength))
    (t : τ) (k : Fin Fy.n × Fin Fx.n) :
    ((lensPropagator py px Fy Fx f cheaper emu).forward wf).field t k
      = lensForward expT expE (2 * Real.pi) Complex.ofReal (normFactorC wf.wavelength (f wf.wavelength))
          (if cheaper wf.wavelength then Method.fft else Method.mft) emu (axOf py) (axOf px) (axOf Fy) (axOf Fx)
          (wf.wavelength * f wf.wavelength) (nativeMy h) (nativeMx h) (ext2 (wf.field t)) k.1 k.2 := by
  show normFactorC wf.wavelength (f wf.wavelength)
      * (lensTransform py px Fy Fx (wf.wavelength * f wf.wavelength) (cheaper wf.wavelength) emu).fwd (wf.field t) k = _
  rw [lensTransform_eq]
  cases hc : cheaper wf.wavelength
  · rw [dif_neg (by simp)]
    exact (lensForward_mft py px Fy Fx _ _ _ emu _ (wf.field t) k).symm
  · rw [dif_pos ⟨h, rfl⟩]
    exact (lensForward_fft py px Fy Fx _ _ _ emu _ _ _ (wf.field t) k).symm

/-- … and at every other wavelength the MFT pipeline. -/
theorem lensPropagator_forward_eq_pipeline_mft (py px Fy Fx : RegAxis) (f : ℝ → ℝ) (cheaper : ℝ → Bool) (emu : Bool)
    (wf : Wavefront (Fin py.n × Fin px.n) τ) (h : ¬ NativeAt py px Fy Fx (wf.wavelength * f wf.wavelength))
    (My Mx : ℕ) (t : τ) (k : Fin Fy.n × Fin Fx.n) :
    ((lensPropagator py px Fy Fx f cheaper emu).forward wf).field t k
      = lensForward expT expE (2 * Real.pi) Complex.ofReal (normFactorC wf.wavelength (f wf.wavelength))
          Method.mft emu (axOf py) (axOf px) (axOf Fy) (axOf Fx)
          (wf.wavelength * f wf.wavelength) My Mx (ext2 (wf.field t)) k.1 k.2 := by
  show normFactorC wf.wavelength (f wf.wavelength)
      * (lensTransform py px Fy Fx (wf.wavelength * f wf.wavelength) (cheaper wf.wavelength) emu).fwd (wf.field t) k = _
  rw [lensTransform_eq, dif_neg fun hn => h hn.1]
  exact (lensForward_mft py px Fy Fx _ My Mx emu _ (wf.field t) k).symm

end bridge

end HcipyVerif.Fraunhofer
