import Mathlib.Data.Complex.Basic
import Mathlib.Tactic.NormNum
import HcipyVerif.Model.FftIndex

/-! Three concrete `FastFourierTransform` axes on which the hypotheses of the C19 statements about
`emulate_fftshifts` hold (`Valid`: sizes, grid consistency `dT·M·δ = 1`, output weight `1/M`); the
satisfiability examples of `Properties/C19.lean` are instances of these. -/
namespace HcipyVerif.Fft.Witness

noncomputable def axis24 : Cfg ℝ ℂ :=
  { N := 2, M := 4, Mo := 3, δ := 1 / 2, z := 0, dT := 1 / 2, s := 0, w := 1, emu := false }

noncomputable def axis36 : Cfg ℝ ℂ :=
  { N := 3, M := 6, Mo := 6, δ := 1 / 3, z := -1, dT := 1 / 2, s := 1, w := 1, emu := false }

noncomputable def axis12 : Cfg ℝ ℂ :=
  { N := 1, M := 2, Mo := 2, δ := 1, z := 0, dT := 1 / 2, s := 0, w := 1, emu := false }

def Valid (g : Cfg ℝ ℂ) : Prop :=
  g.N ≤ g.M ∧ g.Mo ≤ g.M ∧ g.dT * (g.M : ℝ) * g.δ = 1 ∧ 1 / (g.M : ℂ) * (g.M : ℂ) * g.w = 1

theorem weight_inv (g : Cfg ℝ ℂ) (hM : g.M ≠ 0) (hw : g.w = 1) : 1 / (g.M : ℂ) * (g.M : ℂ) * g.w = 1 := by
  rw [hw, mul_one, one_div, inv_mul_cancel₀ (Nat.cast_ne_zero.mpr hM)]

theorem axis24_valid : Valid axis24 := by
  refine ⟨by decide, by decide, ?_, weight_inv _ (by decide) rfl⟩
  show (1 / 2 : ℝ) * ((4 : ℕ) : ℝ) * (1 / 2) = 1
  norm_num

theorem axis36_valid : Valid axis36 := by
  refine ⟨by decide, by decide, ?_, weight_inv _ (by decide) rfl⟩
  show (1 / 2 : ℝ) * ((6 : ℕ) : ℝ) * (1 / 3) = 1
  norm_num

theorem axis12_valid : Valid axis12 := by
  refine ⟨by decide, by decide, ?_, weight_inv _ (by decide) rfl⟩
  show (1 / 2 : ℝ) * ((2 : ℕ) : ℝ) * 1 = 1
  norm_num

end HcipyVerif.Fft.Witness
