import HcipyVerif.Model.Fraunhofer
import HcipyVerif.Lemmas.FftPlan
import Mathlib.Algebra.Order.Field.Rat
import Mathlib.Tactic.Ring
import Mathlib.Tactic.Linarith
import Mathlib.Tactic.FieldSimp
import Mathlib.Tactic.NormNum
import Mathlib.Algebra.Order.Floor.Ring

/-!
# C03 — the executable ℚ bookkeeping (`Model/Fraunhofer.lean`) in exact arithmetic

Nothing here mentions a Fourier transform or a real number:

* `rows_origin` — a grid built from per-axis rows `(Δ, M, slack)`, as both focal-grid constructors do, contains the origin
  (sample `⌊M/2⌋` on every axis, `zero = -Δ·⌊M/2⌋`), any number of axes; `focalFromPupil_2d` — the second constructor in two
  dimensions, explicitly;
* `paddedSize_eq_some_iff`, `classify_2d` — `paddedSize` and the executable classification (compared with the running code
  on every run) on two 2-D grids written out; `classify_full_2d`, `classify_native_2d`, `classify_2d_none` say what each
  outcome means;
* `truncSlack_eq_zero_of_den`, `paddedSizeLoose_zero` — the slack and the tolerant test of near-miss grids.
-/

namespace HcipyVerif.Fraunhofer

/-- the grid both constructors build from their per-axis rows `(Δ, M, slack)` -/
def gridOfRows (rows : List (Rat × Nat × Rat)) : RegGrid :=
  { delta := rows.map (·.1), dims := rows.map (·.2.1), zero := rows.map fun (Δ, M, _) => centredZero Δ M }

theorem rows_origin (rows : List (Rat × Nat × Rat)) :
    (gridOfRows rows).point ((gridOfRows rows).dims.map (· / 2)) = (gridOfRows rows).dims.map fun _ => 0 := by
  induction rows with
  | nil => rfl
  | cons r rs ih =>
    obtain ⟨Δ, M, sl⟩ := r
    simp only [gridOfRows, RegGrid.point, List.map_cons, List.zip_cons_cons, List.cons.injEq] at ih ⊢
    refine ⟨?_, ih⟩
    unfold centredZero
    ring

/-- the index `⌊M/2⌋` is a sample of the grid whenever the axis is not empty -/
theorem half_lt {M : ℕ} (h : 0 < M) : M / 2 < M := Nat.div_lt_self h (by norm_num)

theorem paddedSize_eq_some_iff {lf δ Δ : ℚ} {N M : ℕ} :
    paddedSize lf δ Δ N = some M ↔ δ * Δ ≠ 0 ∧ N ≤ M ∧ (M : ℚ) * (δ * Δ) = lf ∧ 0 < M := by
  unfold paddedSize
  by_cases h0 : δ * Δ = 0
  · simp [h0]
  rw [if_neg h0, ← eq_div_iff h0]
  dsimp only
  generalize lf / (δ * Δ) = m
  constructor
  · intro h
    split_ifs at h with h1
    obtain ⟨hden, hpos, hN⟩ := h1
    obtain rfl : m.num.toNat = M := Option.some.inj h
    refine ⟨h0, by omega, ?_, by omega⟩
    rw [← Int.cast_natCast, Int.toNat_of_nonneg hpos.le, Rat.coe_int_num_of_den_eq_one hden]
  · rintro ⟨-, hN, rfl, hM⟩
    rw [if_pos ⟨Rat.den_natCast M, by rw [Rat.num_natCast]; exact_mod_cast hM, by rw [Rat.num_natCast]; exact_mod_cast hN⟩,
      Rat.num_natCast, Int.toNat_natCast]

theorem paddedSize_some {lf δ Δ : ℚ} {N M : ℕ} (h : paddedSize lf δ Δ N = some M) :
    N ≤ M ∧ (M : ℚ) * (δ * Δ) = lf ∧ 0 < M :=
  (paddedSize_eq_some_iff.mp h).2

theorem paddedSize_of_eq {lf δ Δ : ℚ} {N M : ℕ} (hlf : lf ≠ 0) (hN : N ≤ M) (h : (M : ℚ) * (δ * Δ) = lf) :
    paddedSize lf δ Δ N = some M :=
  paddedSize_eq_some_iff.mpr ⟨fun h0 => hlf (by rw [← h, h0, mul_zero]), hN, h,
    Nat.pos_of_ne_zero fun h0 => hlf (by rw [← h, h0, Nat.cast_zero, zero_mul])⟩

theorem paddedSize_none_of_ne {lf δ Δ : ℚ} (N : ℕ) (h : ∀ M : ℕ, lf / (δ * Δ) ≠ M) : paddedSize lf δ Δ N = none :=
  Option.eq_none_iff_forall_ne_some.mpr fun M hM =>
    have ⟨h0, _, hm, _⟩ := paddedSize_eq_some_iff.mp hM
    h M (div_eq_of_eq_mul h0 hm.symm)

theorem paddedSize_none_of_neg {lf δ Δ : ℚ} (N : ℕ) (h : lf / (δ * Δ) < 0) : paddedSize lf δ Δ N = none :=
  paddedSize_none_of_ne N fun M hM => absurd (hM ▸ h) (not_lt.mpr (Nat.cast_nonneg M))

/-- the spacing `Δ = λf/(δ M)` of the constructor is commensurate with padded size `M` -/
theorem paddedSize_of_conj {lf δ : ℚ} {N M : ℕ} (hlf : lf ≠ 0) (hδ : δ ≠ 0) (hM : 0 < M) (hN : N ≤ M) :
    paddedSize lf δ (lf / (δ * (M : ℚ))) N = some M := by
  have hMq : (M : ℚ) ≠ 0 := by exact_mod_cast hM.ne'
  exact paddedSize_of_eq hlf hN (by field_simp)

theorem classify_2d {s : Setup} {focal : RegGrid} {δx δy Δx Δy zx zy Zx Zy : ℚ} {Nx Ny Mox Moy : ℕ}
    (hp : s.pupil = ⟨[δx, δy], [Nx, Ny], [zx, zy]⟩) (hf : focal = ⟨[Δx, Δy], [Mox, Moy], [Zx, Zy]⟩) :
    classify s focal = match paddedSize (lamf s) δx Δx Nx, paddedSize (lamf s) δy Δy Ny with
      | some Mx, some My =>
        if Mox ≤ Mx ∧ Moy ≤ My then
          (if (Mox = Mx ∧ Moy = My) ∧ Zx = nativeZero Δx Mox ∧ Zy = nativeZero Δy Moy then .full else .native, [Mx, My])
        else (.other, [Mx, My])
      | _, _ => (.other, []) := by
  subst hf
  unfold classify paddedSizes
  rw [hp]
  simp only [List.length_cons, List.length_nil, ne_eq, not_true_eq_false, ↓reduceIte, List.zip_cons_cons,
    List.zip_nil_right, List.mapM_cons, List.mapM_nil, Option.pure_def, Option.bind_eq_bind]
  cases paddedSize (lamf s) δx Δx Nx with
  | none => rfl
  | some Mx =>
    cases paddedSize (lamf s) δy Δy Ny with
    | none => rfl
    | some My =>
      simp only [Option.bind_some, List.zip_cons_cons, List.zip_nil_right, List.all_cons, List.all_nil, Bool.and_true,
        Bool.and_eq_true, decide_eq_true_eq, beq_iff_eq, List.cons.injEq, and_true]

section classify
variable {s : Setup} {focal : RegGrid} {δx δy Δx Δy zx zy Zx Zy : ℚ} {Nx Ny Mox Moy : ℕ}
  (hp : s.pupil = ⟨[δx, δy], [Nx, Ny], [zx, zy]⟩) (hf : focal = ⟨[Δx, Δy], [Mox, Moy], [Zx, Zy]⟩)
include hp hf

theorem classify_2d_none (h : paddedSize (lamf s) δx Δx Nx = none ∨ paddedSize (lamf s) δy Δy Ny = none) :
    classify s focal = (.other, []) := by
  rw [classify_2d hp hf]
  rcases h with h | h
  · rw [h]
  · rw [h]
    cases paddedSize (lamf s) δx Δx Nx <;> rfl

theorem classify_native_2d (h : (classify s focal).1 ≠ .other) :
    ∃ Mx My, (classify s focal).2 = [Mx, My] ∧ (Nx ≤ Mx ∧ Mox ≤ Mx ∧ (Mx : ℚ) * (δx * Δx) = lamf s) ∧
      (Ny ≤ My ∧ Moy ≤ My ∧ (My : ℚ) * (δy * Δy) = lamf s) := by
  revert h
  rw [classify_2d hp hf]
  split
  · next Mx My hx hy =>
    by_cases hle : Mox ≤ Mx ∧ Moy ≤ My
    · rw [if_pos hle]
      exact fun _ => ⟨Mx, My, rfl, ⟨(paddedSize_some hx).1, hle.1, (paddedSize_some hx).2.1⟩,
        ⟨(paddedSize_some hy).1, hle.2, (paddedSize_some hy).2.1⟩⟩
    · rw [if_neg hle]
      exact fun h => absurd rfl h
  · exact fun h => absurd rfl h

theorem classify_full_2d {Ms : List ℕ} (h : classify s focal = (.full, Ms)) :
    Ms = [Mox, Moy] ∧ (Nx ≤ Mox ∧ (Mox : ℚ) * (δx * Δx) = lamf s ∧ 0 < Mox) ∧
      (Ny ≤ Moy ∧ (Moy : ℚ) * (δy * Δy) = lamf s ∧ 0 < Moy) ∧ Zx = nativeZero Δx Mox ∧ Zy = nativeZero Δy Moy := by
  rw [classify_2d hp hf] at h
  split at h
  · next Mx My hx hy =>
    split_ifs at h with hle hfull
    · obtain ⟨⟨rfl, rfl⟩, hZx, hZy⟩ := hfull
      exact ⟨(Prod.mk.inj h).2.symm, paddedSize_some hx, paddedSize_some hy, hZx, hZy⟩
    · cases h
    · cases h
  · cases h

end classify

theorem ratAbs_eq_abs (q : ℚ) : ratAbs q = |q| := by
  unfold ratAbs
  split_ifs with h
  · exact (abs_of_neg h).symm
  · exact (abs_of_nonneg (not_lt.mp h)).symm

theorem weight_pair (a b : ℚ) (ds : List ℕ) (zs : List ℚ) : RegGrid.weight ⟨[a, b], ds, zs⟩ = |a| * |b| := by
  simp only [RegGrid.weight, prodRat, List.map_cons, List.map_nil, List.foldl_cons, List.foldl_nil, ratAbs_eq_abs, one_mul]

/-- a concrete full conjugate pair (pupil `2×2`, `δ = 1`; focal `4×4`, `Δ = 1`, centred; `λ f = 4`) -/
theorem classify_example_full :
    classify ⟨4, 1, ⟨[1, 1], [2, 2], [0, 0]⟩⟩ ⟨[1, 1], [4, 4], [-2, -2]⟩ = (.full, [4, 4]) := by
  decide +kernel

/-- `make_focal_grid_from_pupil_grid(pupil, q)` (full field of view) in two dimensions, explicitly -/
theorem focalFromPupil_2d (δx δy zx zy : ℚ) (Nx Ny : ℕ) (q lf : ℚ) :
    let Mx := (roundHalfEven (q * (Nx : ℚ))).toNat
    let My := (roundHalfEven (q * (Ny : ℚ))).toNat
    let Δx := lf / (δx * (Mx : ℚ))
    let Δy := lf / (δy * (My : ℚ))
    (focalFromPupil ⟨[δx, δy], [Nx, Ny], [zx, zy]⟩ q none lf).1
      = ⟨[Δx, Δy], [Mx, My], [centredZero Δx Mx, centredZero Δy My]⟩ := by
  -- the truncation `int(M · 1)` of the full field of view is C01's `outSize M 1`
  have hfl : ∀ M : ℕ, ((M : ℚ) * 1).floor.toNat = M := fun M =>
    (Fft.outSize_eq_natFloor M 1).trans (by rw [mul_one, Nat.floor_natCast])
  simp only [focalFromPupil, List.reverse_cons, List.reverse_nil, List.nil_append, List.cons_append,
    List.zip_cons_cons, List.zip_nil_right, List.map_cons, List.map_nil, hfl]

/-- `roundHalfEven` here and in C01's model (`Fft.roundHalfEven`, `Fft.paddedSize`) are the same function. -/
theorem le_round_of_one_le {q : ℚ} (hq : 1 ≤ q) {N : ℕ} : N ≤ (roundHalfEven (q * (N : ℚ))).toNat :=
  Fft.le_paddedSize N q hq

theorem truncSlack_intCast (n : ℤ) : truncSlack (n : ℚ) = 0 := by
  unfold truncSlack frac
  rw [Rat.floor_intCast]
  simp

theorem truncSlack_eq_zero_of_den {q : ℚ} (h : q.den = 1) : truncSlack q = 0 := by
  rw [← Rat.coe_int_num_of_den_eq_one h]
  exact truncSlack_intCast _

theorem paddedSize_none_of_slack {lf δ Δ : ℚ} (N : ℕ) (h : truncSlack (lf / (δ * Δ)) ≠ 0) :
    paddedSize lf δ Δ N = none :=
  paddedSize_none_of_ne N fun M hM => h (hM ▸ truncSlack_intCast M)

theorem commSlack_2d {s : Setup} {focal : RegGrid} {δx δy Δx Δy zx zy Zx Zy : ℚ} {Nx Ny Mox Moy : ℕ}
    (hp : s.pupil = ⟨[δx, δy], [Nx, Ny], [zx, zy]⟩) (hf : focal = ⟨[Δx, Δy], [Mox, Moy], [Zx, Zy]⟩) :
    commSlack s focal = [truncSlack (lamf s / (δx * Δx)), truncSlack (lamf s / (δy * Δy))] := by
  subst hf
  unfold commSlack
  rw [hp]
  rfl

theorem paddedSizeLoose_zero (lf δ Δ : ℚ) (N : ℕ) : paddedSizeLoose 0 0 lf δ Δ N = paddedSize lf δ Δ N := by
  unfold paddedSizeLoose paddedSize
  by_cases h0 : δ * Δ = 0
  · rw [if_pos h0, if_pos h0]
  rw [if_neg h0, if_neg h0]
  dsimp only
  generalize lf / (δ * Δ) = m
  rw [ratAbs_eq_abs, zero_mul, add_zero]
  by_cases hd : m.den = 1
  · have hm : m = ((m.num : ℤ) : ℚ) := (Rat.coe_int_num_of_den_eq_one hd).symm
    have hr : roundHalfEven m = m.num := hm ▸ Fft.roundHalfEven_intCast m.num
    have habs : |m - ((m.num : ℤ) : ℚ)| ≤ 0 := by rw [← hm]; simp
    simp only [hd, hr, habs, true_and]
  · have hne : ¬ |m - ((roundHalfEven m : ℤ) : ℚ)| ≤ 0 := by
      intro h
      have : m = ((roundHalfEven m : ℤ) : ℚ) := by
        have := abs_nonpos_iff.mp h
        linarith
      exact hd (by rw [this]; exact Rat.den_intCast _)
    simp only [hd, hne, false_and, if_false]

end HcipyVerif.Fraunhofer
