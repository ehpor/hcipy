import Mathlib.Analysis.Complex.Norm
import Mathlib.Data.Complex.BigOperators
import Mathlib.Data.Matrix.Mul
import Mathlib.Algebra.BigOperators.Group.Finset.Piecewise
import Mathlib.Algebra.Module.LinearMap.Defs
import Mathlib.Algebra.Module.Pi
import Mathlib.Tactic.Ring
import HcipyVerif.Model.NearField

/-!
# C04 — the `FourierFilter` operator over an abstract Fourier pair

`FourierFilter._operation` (hcipy/fourier/fourier_operations.py) is

  `T_D x = crop (ifftn (D · fftn (pad x)))`,   backward: the same with `conj D`.

Linear algebra over `ℂ` on finite index types: `ι` indexes the input grid, `μ` the zero-padded internal grid,
`e : ι → μ` is the cut-out (injective; bijective when nothing is padded).  What is needed about `fftn`/`ifftn` is the
structure `FourierPair` (`Lemmas/FourierLinkC04.lean` constructs it for the DFT of C01/C02).
-/

set_option linter.unusedSectionVars false

open Complex ComplexConjugate

namespace HcipyVerif.NearField

variable {ι μ : Type*} [Fintype ι] [Fintype μ] [DecidableEq μ]

/-- `⟨x, y⟩ = Σ conj(x i) · y i` (conjugate-linear in the first argument). -/
noncomputable def ip {α : Type*} [Fintype α] (x y : α → ℂ) : ℂ := ∑ i, conj (x i) * y i

/-- `‖x‖² = Σ |x i|²` — total power up to the (uniform) grid weight. -/
noncomputable def nsq {α : Type*} [Fintype α] (x : α → ℂ) : ℝ := ∑ i, ‖x i‖ ^ 2

/-- Zero-padding: write `x` into the cut-out `e` of an all-zero internal array. -/
noncomputable def pad (e : ι → μ) (x : ι → ℂ) : μ → ℂ := fun m => ∑ j, if e j = m then x j else 0

def crop (e : ι → μ) (y : μ → ℂ) : ι → ℂ := fun j => y (e j)

/-- Pointwise multiplication by the (ifftshifted) transfer function. -/
def mulD (D : μ → ℂ) (y : μ → ℂ) : μ → ℂ := fun m => D m * y m

/-- What the filter needs to know about `fftn` / `ifftn` on the internal grid.

* `Finv_F`, `F_Finv` : `ifftn` inverts `fftn` (C02 `full_grid_inverse` on the internal grid);
* `adj` : `⟨y, F x⟩ = c ⟨F⁻¹ y, x⟩`, i.e. `F⁻¹ = c⁻¹ F†` with `c = ∏ M_i > 0` (C02 `adjoint_sum` /
  `parseval_full` for the unnormalised DFT). -/
structure FourierPair (μ : Type*) [Fintype μ] where
  F : (μ → ℂ) →ₗ[ℂ] (μ → ℂ)
  Finv : (μ → ℂ) →ₗ[ℂ] (μ → ℂ)
  c : ℝ
  c_pos : 0 < c
  Finv_F : ∀ x, Finv (F x) = x
  F_Finv : ∀ y, F (Finv y) = y
  adj : ∀ x y, ip y (F x) = (c : ℂ) * ip (Finv y) x

/-- `T_D = P† F⁻¹ D F P` exactly as `FourierFilter._operation` composes it. -/
noncomputable def filter (P : FourierPair μ) (e : ι → μ) (D : μ → ℂ) (x : ι → ℂ) : ι → ℂ :=
  crop e (P.Finv (mulD D (P.F (pad e x))))

/-- `FourierFilter.backward`: the same pipeline with the conjugated transfer function. -/
noncomputable def filterBackward (P : FourierPair μ) (e : ι → μ) (D : μ → ℂ) (x : ι → ℂ) : ι → ℂ :=
  filter P e (fun m => conj (D m)) x

theorem ip_conj {α : Type*} [Fintype α] (x y : α → ℂ) : conj (ip x y) = ip y x := by
  unfold ip
  rw [map_sum]
  apply Finset.sum_congr rfl
  intro i _
  rw [map_mul, Complex.conj_conj, mul_comm]

theorem ip_self {α : Type*} [Fintype α] (x : α → ℂ) : ip x x = ((nsq x : ℝ) : ℂ) := by
  unfold ip nsq
  rw [Complex.ofReal_sum]
  apply Finset.sum_congr rfl
  intro i _
  rw [Complex.sq_norm, Complex.normSq_eq_conj_mul_self]

theorem nsq_nonneg {α : Type*} [Fintype α] (x : α → ℂ) : 0 ≤ nsq x :=
  Finset.sum_nonneg fun i _ => by positivity

/-- `ip x y` is Mathlib's `star x ⬝ᵥ y`, so linearity in the second argument is `dotProduct`'s. -/
theorem ip_add_right {α : Type*} [Fintype α] (x y z : α → ℂ) : ip x (y + z) = ip x y + ip x z :=
  dotProduct_add (star x) y z

theorem ip_smul_right {α : Type*} [Fintype α] (a : ℂ) (x y : α → ℂ) : ip x (a • y) = a * ip x y :=
  dotProduct_smul a (star x) y

theorem pad_apply_of_inj {e : ι → μ} (he : Function.Injective e) (x : ι → ℂ) (j : ι) :
    pad e x (e j) = x j := by
  unfold pad
  rw [Finset.sum_eq_single j]
  · simp
  · intro b _ hb
    rw [if_neg]
    intro h; exact hb (he h)
  · intro h; exact absurd (Finset.mem_univ j) h

theorem pad_apply_of_forall_ne {e : ι → μ} {m : μ} (hm : ∀ j, e j ≠ m) (x : ι → ℂ) : pad e x m = 0 :=
  Finset.sum_eq_zero fun j _ => if_neg (hm j)

theorem crop_pad {e : ι → μ} (he : Function.Injective e) (x : ι → ℂ) : crop e (pad e x) = x := by
  funext j; exact pad_apply_of_inj he x j

theorem pad_crop {e : ι → μ} (he : Function.Bijective e) (y : μ → ℂ) : pad e (crop e y) = y := by
  funext m
  obtain ⟨j, rfl⟩ := he.2 m
  exact pad_apply_of_inj he.1 (crop e y) j

theorem pad_add (e : ι → μ) (x y : ι → ℂ) : pad e (x + y) = pad e x + pad e y := by
  funext m
  simp only [pad, Pi.add_apply]
  rw [← Finset.sum_add_distrib]
  apply Finset.sum_congr rfl
  intro j _
  split <;> simp

theorem pad_smul (e : ι → μ) (a : ℂ) (x : ι → ℂ) : pad e (a • x) = a • pad e x := by
  funext m
  simp only [pad, Pi.smul_apply, smul_eq_mul]
  rw [Finset.mul_sum]
  apply Finset.sum_congr rfl
  intro j _
  split <;> simp

theorem crop_add (e : ι → μ) (x y : μ → ℂ) : crop e (x + y) = crop e x + crop e y := rfl
theorem crop_smul (e : ι → μ) (a : ℂ) (x : μ → ℂ) : crop e (a • x) = a • crop e x := rfl

-- `mulD D y` is `D * y` in the algebra `μ → ℂ`: its laws are the ring's
theorem mulD_add (D x y : μ → ℂ) : mulD D (x + y) = mulD D x + mulD D y := mul_add D x y

theorem mulD_smul (D : μ → ℂ) (a : ℂ) (x : μ → ℂ) : mulD D (a • x) = a • mulD D x := mul_smul_comm a D x

theorem ip_pad_left (e : ι → μ) (y : ι → ℂ) (z : μ → ℂ) : ip (pad e y) z = ip y (crop e z) := by
  unfold ip pad crop
  simp only [map_sum, Finset.sum_mul]
  rw [Finset.sum_comm]
  apply Finset.sum_congr rfl
  intro j _
  rw [Finset.sum_eq_single (e j)]
  · simp
  · intro m _ hm
    rw [if_neg (Ne.symm hm)]; simp
  · intro h; exact absurd (Finset.mem_univ _) h

theorem ip_pad_right (e : ι → μ) (z : μ → ℂ) (x : ι → ℂ) : ip z (pad e x) = ip (crop e z) x := by
  rw [← ip_conj, ip_pad_left, ip_conj]

theorem nsq_pad {e : ι → μ} (he : Function.Injective e) (x : ι → ℂ) : nsq (pad e x) = nsq x := by
  have h : ip (pad e x) (pad e x) = ip x x := by rw [ip_pad_left, crop_pad he]
  rw [ip_self, ip_self] at h
  exact_mod_cast h

theorem nsq_crop_le {e : ι → μ} (he : Function.Injective e) (z : μ → ℂ) : nsq (crop e z) ≤ nsq z := by
  unfold nsq crop
  calc ∑ j, ‖z (e j)‖ ^ 2 = ∑ m ∈ Finset.univ.image e, ‖z m‖ ^ 2 := by
        rw [Finset.sum_image]; intro a _ b _ h; exact he h
    _ ≤ ∑ m, ‖z m‖ ^ 2 :=
        Finset.sum_le_sum_of_subset_of_nonneg (Finset.subset_univ _) (fun m _ _ => by positivity)

theorem nsq_crop_of_bij {e : ι → μ} (he : Function.Bijective e) (z : μ → ℂ) : nsq (crop e z) = nsq z := by
  unfold nsq crop
  exact Function.Bijective.sum_comp he (fun m => ‖z m‖ ^ 2)

theorem norm_sq_mul_le {t : ℂ} (ht : ‖t‖ ≤ 1) (E : ℂ) : ‖t * E‖ ^ 2 ≤ ‖E‖ ^ 2 := by
  rw [Complex.norm_mul, mul_pow]
  exact mul_le_of_le_one_left (sq_nonneg _) (pow_le_one₀ (norm_nonneg t) ht)

theorem nsq_mulD_le {D : μ → ℂ} (hD : ∀ m, ‖D m‖ ≤ 1) (z : μ → ℂ) : nsq (mulD D z) ≤ nsq z :=
  Finset.sum_le_sum fun m _ => norm_sq_mul_le (hD m) (z m)

theorem nsq_mulD_eq {D : μ → ℂ} (hD : ∀ m, ‖D m‖ = 1) (z : μ → ℂ) : nsq (mulD D z) = nsq z := by
  unfold nsq mulD
  apply Finset.sum_congr rfl
  intro m _
  rw [Complex.norm_mul, hD m, one_mul]

theorem ip_mulD_right (D a b : μ → ℂ) : ip a (mulD D b) = ip (mulD (fun m => conj (D m)) a) b := by
  unfold ip mulD
  apply Finset.sum_congr rfl
  intro m _
  rw [map_mul, Complex.conj_conj]; ring

namespace FourierPair
variable (P : FourierPair μ)

theorem adj' (a b : μ → ℂ) : ip (P.F a) b = (P.c : ℂ) * ip a (P.Finv b) := by
  have h := congrArg conj (P.adj a b)
  rw [map_mul, ip_conj, ip_conj, Complex.conj_ofReal] at h
  exact h

theorem nsq_F (z : μ → ℂ) : nsq (P.F z) = P.c * nsq z := by
  have h : ip (P.F z) (P.F z) = (P.c : ℂ) * ip z z := by rw [P.adj, P.Finv_F]
  rw [ip_self, ip_self] at h
  exact_mod_cast h

theorem nsq_Finv (z : μ → ℂ) : nsq (P.Finv z) = P.c⁻¹ * nsq z := by
  have h := P.nsq_F (P.Finv z)
  rw [P.F_Finv] at h
  rw [h, ← mul_assoc, inv_mul_cancel₀ P.c_pos.ne', one_mul]

end FourierPair

/-- `F ∘ pad` and `crop ∘ F⁻¹` are adjoint up to `c`, as `F` and `F⁻¹` are. -/
theorem ip_F_pad_left (P : FourierPair μ) (e : ι → μ) (y : ι → ℂ) (Z : μ → ℂ) :
    ip (P.F (pad e y)) Z = (P.c : ℂ) * ip y (crop e (P.Finv Z)) := by
  rw [P.adj', ip_pad_left]

theorem ip_F_pad_right (P : FourierPair μ) (e : ι → μ) (W : μ → ℂ) (x : ι → ℂ) :
    ip W (P.F (pad e x)) = (P.c : ℂ) * ip (crop e (P.Finv W)) x := by
  rw [P.adj, ip_pad_right]

theorem filter_comp (P : FourierPair μ) {e : ι → μ} (he : Function.Bijective e) (D₁ D₂ : μ → ℂ) (x : ι → ℂ) :
    filter P e D₂ (filter P e D₁ x) = filter P e (fun m => D₂ m * D₁ m) x := by
  unfold filter
  rw [pad_crop he, P.F_Finv]
  exact congrArg (fun y => crop e (P.Finv y)) (mul_assoc D₂ D₁ _).symm

theorem filter_one (P : FourierPair μ) {e : ι → μ} (he : Function.Injective e) (x : ι → ℂ) :
    filter P e (fun _ => 1) x = x := by
  unfold filter
  rw [show mulD (fun _ => 1) (P.F (pad e x)) = _ from one_mul _, P.Finv_F, crop_pad he]

end HcipyVerif.NearField
