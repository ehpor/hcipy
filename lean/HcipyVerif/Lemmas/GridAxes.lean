import HcipyVerif.Lemmas.GridEq
import HcipyVerif.Lemmas.GridList

/-! `Coords.scale`, `Coords.shift` and the rounded shift `Coords.shiftR` act with one parameter per axis: instances of
`Coords.zipAx`, which keeps kind and shape (`Coords.SameShape`), hence dimension, size and well-formedness. -/

namespace HcipyVerif.Grid

theorem rect_iff (c : List Rat) (cs : List (List Rat)) :
    rect (c :: cs) = true ↔ ∀ d ∈ cs, d.length = c.length := by
  simp only [rect, List.all_eq_true, beq_iff_eq]

/-- Axis `i` is rewritten with the parameter `p[i]`: a regular axis by `ra`, every stored value of a separated axis
or of a column by `k p[i]`. -/
def Coords.zipAx (ra : RegAxis → Rat → RegAxis) (k : Rat → Rat → Rat) (p : List Rat) : Coords → Coords
  | .regular a => .regular (List.zipWith ra a p)
  | .separated a => .separated (List.zipWith (fun ax pi => ax.map (k pi)) a p)
  | .unstructured c => .unstructured (List.zipWith (fun col pi => col.map (k pi)) c p)

theorem Coords.scale_eq_zipAx (f : List Rat) (c : Coords) :
    c.scale f = c.zipAx (fun x fi => { x with delta := x.delta * fi, zero := x.zero * fi }) (fun fi x => x * fi) f := by
  cases c <;> rfl

theorem Coords.shift_eq_zipAx (b : List Rat) (c : Coords) :
    c.shift b = c.zipAx (fun x bi => { x with zero := x.zero + bi }) (fun bi x => x + bi) b := by
  cases c <;> rfl

theorem Coords.shiftR_eq_zipAx (rnd : Rat → Rat) (b : List Rat) (c : Coords) :
    c.shiftR rnd b = c.zipAx (fun x bi => { x with zero := rnd (x.zero + bi) }) (fun bi x => rnd (x + bi)) b := by
  cases c <;> rfl

section
variable (ra : RegAxis → Rat → RegAxis) (k : Rat → Rat → Rat)

theorem Coords.kind_zipAx (p : List Rat) (c : Coords) : (c.zipAx ra k p).kind = c.kind := by
  cases c <;> rfl

theorem lengths_zipWith_map (a : List (List Rat)) (p : List Rat) (h : p.length = a.length) :
    (List.zipWith (fun ax pi => ax.map (k pi)) a p).map List.length = a.map List.length :=
  map_zipWith_of_inv (fun _ _ => List.length_map _) a p h

theorem length_headD (l : List (List Rat)) : (l.headD []).length = (l.map List.length).headD 0 := by
  cases l <;> rfl

def Coords.shape : Coords → List Nat
  | .regular a => a.map (·.dim)
  | .separated a => a.map List.length
  | .unstructured c => c.map List.length

def Coords.SameShape (c' c : Coords) : Prop := c'.kind = c.kind ∧ c'.shape = c.shape

theorem Coords.ndim_eq (c : Coords) : c.ndim = c.shape.length := by
  cases c <;> exact (List.length_map _).symm

theorem Coords.size_eq (c : Coords) : c.size = if c.kind = 2 then c.shape.headD 0 else natProd c.shape := by
  cases c with
  | unstructured a => exact length_headD a
  | _ => rfl

theorem Coords.WF_iff (c : Coords) : c.WF ↔ c.shape ≠ [] ∧ (c.kind = 2 → ∀ n ∈ c.shape, n = c.shape.headD 0) := by
  cases c with
  | regular a | separated a => exact ⟨fun h => ⟨mt List.map_eq_nil_iff.mp h, nofun⟩, fun h => mt List.map_eq_nil_iff.mpr h.1⟩
  | unstructured a =>
    cases a with
    | nil => exact ⟨fun h => absurd rfl h.1, fun h => absurd rfl h.1⟩
    | cons c0 cs =>
      exact ⟨fun h => ⟨nofun, fun _ => List.forall_mem_cons.mpr ⟨rfl, List.forall_mem_map.mpr ((rect_iff c0 cs).mp h.2)⟩⟩,
        fun h => ⟨nofun, (rect_iff c0 cs).mpr (List.forall_mem_map.mp (List.forall_mem_cons.mp (h.2 rfl)).2)⟩⟩

/-- Dimension, size and well-formedness are read off kind and shape. -/
theorem Coords.SameShape.all {c' c : Coords} (h : c'.SameShape c) :
    c'.ndim = c.ndim ∧ c'.size = c.size ∧ (c.WF → c'.WF) := by
  rw [c'.ndim_eq, c'.size_eq, c'.WF_iff, h.1, h.2, ← c.ndim_eq, ← c.size_eq, ← c.WF_iff]
  exact ⟨rfl, rfl, id⟩

theorem Coords.SameShape.ndim {c' c : Coords} (h : c'.SameShape c) : c'.ndim = c.ndim := h.all.1
theorem Coords.SameShape.size {c' c : Coords} (h : c'.SameShape c) : c'.size = c.size := h.all.2.1
theorem Coords.SameShape.WF {c' c : Coords} (h : c'.SameShape c) : c.WF → c'.WF := h.all.2.2

theorem Coords.sameShape_zipAx (p : List Rat) (c : Coords) (h : p.length = c.ndim) (hdim : ∀ x pi, (ra x pi).dim = x.dim) :
    (c.zipAx ra k p).SameShape c := by
  refine ⟨Coords.kind_zipAx ra k p c, ?_⟩
  cases c with
  | regular a => exact map_zipWith_of_inv hdim a p h
  | separated a | unstructured a => exact lengths_zipWith_map k a p h

end

theorem Coords.sameShape_scale (c : Coords) (f : List Rat) (h : f.length = c.ndim) : (c.scale f).SameShape c := by
  rw [Coords.scale_eq_zipAx]; exact Coords.sameShape_zipAx _ _ f c h fun _ _ => rfl

theorem Coords.sameShape_shift (c : Coords) (b : List Rat) (h : b.length = c.ndim) : (c.shift b).SameShape c := by
  rw [Coords.shift_eq_zipAx]; exact Coords.sameShape_zipAx _ _ b c h fun _ _ => rfl

theorem Coords.sameShape_shiftR (rnd : Rat → Rat) (c : Coords) (b : List Rat) (h : b.length = c.ndim) :
    (c.shiftR rnd b).SameShape c := by
  rw [Coords.shiftR_eq_zipAx]; exact Coords.sameShape_zipAx _ _ b c h fun _ _ => rfl

end HcipyVerif.Grid
