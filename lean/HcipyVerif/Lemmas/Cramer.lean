import HcipyVerif.Lemmas.Interp
import Mathlib.LinearAlgebra.Matrix.Adjugate

/-! Cramer's rule for the list-based Laplace expansion `detN`, every size, and with it: `baryN` answers on every
non-degenerate simplex in every dimension, with weights that reproduce the point (`baryN_eq_some`), so the executed
interpolant is exact on affine functions (`linearSimplex_affine_exact`) and returns the vertex values at the vertices
(`linearSimplex_hits_vertex`). -/

namespace HcipyVerif.Interp
open HcipyVerif.Binning

/-- `E` lists the `n` rows of an `n × n` matrix -/
def Square {α : Type} (n : Nat) (E : List (List α)) : Prop := E.length = n ∧ ∀ row ∈ E, row.length = n

theorem Square.set {α : Type} {n : Nat} {E : List (List α)} (h : Square n E) (i : Nat) {r : List α} (hr : r.length = n) :
    Square n (E.set i r) :=
  ⟨by rw [List.length_set, h.1], fun row hm => (List.mem_or_eq_of_mem_set hm).elim (h.2 row) (· ▸ hr)⟩

theorem Square.getD_length {α : Type} {n : Nat} {E : List (List α)} (h : Square n E) {k : Nat} (hk : k < n) :
    (E.getD k []).length = n :=
  h.2 _ (ListFacts.getD_mem _ _ _ (h.1 ▸ hk))

section
variable {K : Type} [Field K]

/-- the list of rows as a matrix (missing entries are 0) -/
def rowsMatrix (n : Nat) (E : List (List K)) : Matrix (Fin n) (Fin n) K :=
  Matrix.of fun i j => (E.getD i []).getD j 0

theorem laplace_eq_sum (minor : Nat → K) (row : List K) : ∀ (j : Nat) (sgn : K),
    laplace minor j sgn row
      = ∑ k ∈ Finset.range row.length, sgn * (-1) ^ k * row.getD k 0 * minor (j + k) := by
  induction row with
  | nil => intro j sgn; simp [laplace]
  | cons a row ih =>
    intro j sgn
    rw [laplace, ih, List.length_cons, Finset.sum_range_succ', add_comm]
    congr 1
    · apply Finset.sum_congr rfl
      intro k _
      rw [List.getD_cons_succ, pow_succ, Nat.add_assoc, Nat.add_comm 1 k]
      ring
    · simp

theorem getD_eraseIdx (l : List K) (j k : Nat) :
    (l.eraseIdx j).getD k 0 = l.getD (if k < j then k else k + 1) 0 := by
  simp only [List.getD_eq_getElem?_getD, List.getElem?_eraseIdx]
  split <;> rfl

/-- **The bridge**: `detN` is Mathlib's determinant of the matrix of rows.  Both expand along the first row
(`Matrix.det_succ_row_zero`); erasing entry `j` of every remaining row is the minor `submatrix Fin.succ j.succAbove`.
Everything below that is linear algebra comes through it: `Matrix.mulVec_cramer` (the weights solve the system) and
`Matrix.cramer_transpose_row_self` (the weights at a vertex). -/
theorem detN_eq_det : ∀ (n : Nat) (E : List (List K)), Square n E → detN n E = (rowsMatrix n E).det
  | 0, [], _ => by rw [Matrix.det_isEmpty]; simp [detN]
  | n + 1, row :: rest, ⟨hl, hr⟩ => by
    rw [List.forall_mem_cons] at hr
    rw [detN, laplace_eq_sum, hr.1, Finset.sum_range, Matrix.det_succ_row_zero]
    apply Finset.sum_congr rfl
    intro j _
    have hminor : Square n (rest.map (·.eraseIdx j)) := by
      refine ⟨by simpa using hl, fun r hr' => ?_⟩
      obtain ⟨r', h', rfl⟩ := List.mem_map.mp hr'
      rw [List.length_eraseIdx_of_lt (by rw [hr.2 r' h']; exact j.2), hr.2 r' h']
      rfl
    have : rowsMatrix n (rest.map (·.eraseIdx j))
        = (rowsMatrix (n + 1) (row :: rest)).submatrix Fin.succ j.succAbove := by
      ext i k
      have hk : ((j.succAbove k : Fin (n + 1)) : Nat) = if (k : Nat) < j then (k : Nat) else k + 1 := by
        simp only [Fin.succAbove, Fin.lt_def, Fin.val_castSucc]
        split <;> rfl
      have he : (rest.map (·.eraseIdx j)).getD i [] = (rest.getD i []).eraseIdx j :=
        List.getD_map (l := rest) (d := []) (n := i) (fun x : List K => x.eraseIdx j)
      simp only [rowsMatrix, Matrix.of_apply, Matrix.submatrix_apply, Fin.val_succ, List.getD_cons_succ, hk, he,
        getD_eraseIdx]
    rw [Nat.zero_add, detN_eq_det n _ hminor, this, Nat.cast_one, one_mul]
    rfl

theorem rowsMatrix_set (n : Nat) (E : List (List K)) (i : Fin n) (r : List K) (hi : i < E.length) :
    rowsMatrix n (E.set i r) = (rowsMatrix n E).updateRow i fun j => r.getD j 0 := by
  ext a c
  simp only [rowsMatrix, Matrix.of_apply, Matrix.updateRow_apply, List.getD_eq_getElem?_getD, List.getElem?_set]
  by_cases h : a = i
  · simp [h, hi]
  · simp [h, Fin.val_ne_of_ne (Ne.symm h)]

/-- the numerators of `cramer` are Mathlib's `Matrix.cramer` of the transposed matrix of rows -/
theorem detN_set {n : Nat} {E : List (List K)} (h : Square n E) {r : List K} (hr : r.length = n) (i : Fin n) :
    detN n (E.set i r) = (rowsMatrix n E).transpose.cramer (fun j => r.getD j 0) i := by
  rw [detN_eq_det n _ (h.set i hr), rowsMatrix_set n E i r (h.1 ▸ i.2), Matrix.cramer_transpose_apply]

/-- **Cramer's rule** for `detN`: the weights `detN (E.set i r) / detN E` combine the rows of `E` to `r` -/
theorem cramer_rows {n : Nat} {E : List (List K)} (h : Square n E) {r : List K} (hr : r.length = n)
    (hD : detN n E ≠ 0) (j : Nat) (hj : j < n) :
    ∑ i ∈ Finset.range n, detN n (E.set i r) / detN n E * (E.getD i []).getD j 0 = r.getD j 0 := by
  have hc := congrFun (Matrix.mulVec_cramer (rowsMatrix n E).transpose fun j => r.getD j 0) ⟨j, hj⟩
  simp only [Matrix.mulVec, dotProduct, Matrix.transpose_apply, Matrix.det_transpose, Pi.smul_apply, smul_eq_mul] at hc
  rw [Finset.sum_range]
  rw [Finset.sum_congr rfl fun (i : Fin n) _ =>
    show _ = (E.getD i []).getD j 0 * (rowsMatrix n E).transpose.cramer (fun j => r.getD j 0) i * (detN n E)⁻¹ by
      rw [detN_set h hr i]; ring, ← Finset.sum_mul]
  rw [detN_eq_det n E h] at hD ⊢
  exact (mul_inv_eq_iff_eq_mul₀ hD).mpr (hc.trans (mul_comm _ _))

/-- a row of `E` in place of row `m`: `E` itself or two equal rows -/
theorem detN_set_row {n : Nat} {E : List (List K)} (h : Square n E) (m k : Fin n) :
    detN n (E.set m (E.getD k [])) = if m = k then detN n E else 0 := by
  rw [detN_set h (h.getD_length k.2) m,
    show (fun j : Fin n => (E.getD k []).getD j 0) = rowsMatrix n E k from rfl, Matrix.cramer_transpose_row_self,
    Pi.single_apply, detN_eq_det n E h]

theorem detN_set_zero {n : Nat} {E : List (List K)} (h : Square n E) (m : Fin n) : detN n (E.set m (vzero n)) = 0 := by
  rw [detN_set h (vzero_length n) m,
    show (fun j : Fin n => (vzero n : List K).getD j 0) = 0 from funext fun j => List.getD_replicate _ j.2,
    LinearMap.map_zero]
  rfl

/-- a sum weighted with Cramer's weights `λ_0 = 1 - Σ t_i`, `λ_{i+1} = t_i` is `F 0 + Σ_i t_i (F (i+1) - F 0)` -/
theorem cramer_weighted (E : List (List K)) (r : List K) (F : Nat → K) :
    ∑ m ∈ Finset.range (cramer E r).length, (cramer E r).getD m 0 * F m =
      F 0 + ∑ i ∈ Finset.range E.length, detN E.length (E.set i r) / detN E.length E * (F (i + 1) - F 0) := by
  simp only [cramer, List.length_cons, List.length_map, List.length_range, Finset.sum_range_succ', List.getD_cons_succ,
    List.getD_cons_zero, Nat.cast_one]
  rw [Finset.sum_congr rfl fun i hi => by rw [ListFacts.getD_map_range _ (Finset.mem_range.mp hi)],
    Finset.sum_congr rfl fun i _ => mul_sub _ (F (i + 1)) (F 0), Finset.sum_sub_distrib, ← Finset.sum_mul]
  -- the sum of a list over `List.range` is by definition the sum over `Finset.range`
  rw [show (List.map (fun i => detN E.length (E.set i r) / detN E.length E) (List.range E.length)).sum
    = ∑ i ∈ Finset.range E.length, detN E.length (E.set i r) / detN E.length E from rfl]
  ring

theorem vsub_getD (a b : List K) (h : a.length = b.length) (j : Nat) : (vsub a b).getD j 0 = a.getD j 0 - b.getD j 0 :=
  zipWith_getD (· - ·) (sub_zero 0) a b j h

theorem vsub_length (a b : List K) (h : a.length = b.length) : (vsub a b).length = b.length := by
  rw [vsub, List.length_zipWith, h, Nat.min_self]

/-! the edge matrix of a simplex with `n + 1` vertices of `n` coordinates each -/

theorem edges_square {v0 : List K} {rest : List (List K)} {n : Nat} (hlen : rest.length = n)
    (hv : ∀ v ∈ v0 :: rest, v.length = n) : Square n (edges (v0 :: rest)) := by
  refine ⟨by rw [edges, List.length_map, hlen], fun row hm => ?_⟩
  obtain ⟨q, hq, rfl⟩ := List.mem_map.mp hm
  rw [vsub_length q v0 ((hv q (List.mem_cons_of_mem _ hq)).trans (hv v0 List.mem_cons_self).symm), hv v0 List.mem_cons_self]

/-- row `i` of the edge matrix is `v_{i+1} - v_0` -/
theorem edges_getD (v0 : List K) (rest : List (List K)) (i : Nat) :
    (edges (v0 :: rest)).getD i [] = vsub ((v0 :: rest).getD (i + 1) []) v0 :=
  List.getD_map (l := rest) (d := []) (n := i) (vsub · v0)

end

variable {K : Type} [Field K] [LinearOrder K] [IsStrictOrderedRing K]

theorem wsum_getD (n : Nat) (lam : List K) (verts : List (List K)) (hv : ∀ v ∈ verts, v.length = n) (j : Nat) :
    (wsum n lam verts).getD j 0 = ∑ i ∈ Finset.range lam.length, lam.getD i 0 * (verts.getD i []).getD j 0 := by
  induction lam generalizing verts with
  | nil => simp [wsum, vzero]
  | cons l lam ih =>
    cases verts with
    | nil => simp [wsum, vzero]
    | cons v verts =>
      rw [List.forall_mem_cons] at hv
      rw [wsum, vadd_getD _ _ _ (((List.length_map _).trans hv.1).trans (wsum_length n lam verts hv.2).symm), ih _ hv.2,
        List.length_cons, Finset.sum_range_succ', add_comm]
      simp only [List.getD_cons_succ, List.getD_cons_zero]
      congr 1
      exact ListFacts.getD_map_of_eq (l * ·) (mul_zero l) v j

theorem dot_eq_sum (a b : List K) : dot a b = ∑ i ∈ Finset.range a.length, a.getD i 0 * b.getD i 0 := by
  induction a generalizing b with
  | nil => simp [dot]
  | cons x a ih =>
    cases b with
    | nil => simp [dot]
    | cons y b =>
      rw [dot_cons, ih, List.length_cons, Finset.sum_range_succ', add_comm]
      rfl

/-- **Cramer's weights are barycentric coordinates**, every dimension: on a non-degenerate simplex they reproduce `p` -/
theorem wsum_cramer {v0 : List K} {rest : List (List K)} {p : List K} (hlen : rest.length = p.length)
    (hv : ∀ v ∈ v0 :: rest, v.length = p.length) (hdet : simplexDet (v0 :: rest) ≠ 0) :
    wsum p.length (cramer (edges (v0 :: rest)) (vsub p v0)) (v0 :: rest) = p := by
  have hE := edges_square hlen hv
  have hv0 := hv v0 List.mem_cons_self
  rw [simplexDet, hE.1] at hdet
  refine List.ext_getElem (wsum_length _ _ _ hv) fun j _ h2 => ?_
  rw [← List.getD_eq_getElem _ 0, ← List.getD_eq_getElem _ 0 h2, wsum_getD _ _ _ hv,
    cramer_weighted, hE.1,
    -- `F (i + 1) - F 0` is entry `j` of row `i` of the edge matrix
    Finset.sum_congr rfl fun i hi => by
      rw [List.getD_cons_zero, ← vsub_getD _ v0 ((hv _ (ListFacts.getD_mem _ _ _
        (by simpa [hlen] using Finset.mem_range.mp hi))).trans hv0.symm), ← edges_getD],
    cramer_rows hE ((vsub_length p v0 hv0.symm).trans hv0) hdet j h2, vsub_getD p v0 hv0.symm]
  exact add_sub_cancel _ _

/-- on a non-degenerate simplex of the right shape `baryN` answers, with Cramer's weights: every dimension -/
theorem baryN_eq_some (v0 : List K) (rest : List (List K)) (p : List K)
    (hlen : rest.length = p.length) (hv : ∀ v ∈ v0 :: rest, v.length = p.length)
    (hdet : simplexDet (v0 :: rest) ≠ 0) :
    baryN (v0 :: rest) p = some (cramer (edges (v0 :: rest)) (vsub p v0)) := by
  have hall : ((v0 :: rest).all fun v => v.length == p.length) = true :=
    List.all_eq_true.mpr fun v hm => beq_iff_eq.mpr (hv v hm)
  -- `baryN` checks its answer: the weights add up to one (`cramer_sum`) and reproduce `p` (`wsum_cramer`)
  simp only [baryN, hlen, hall, wsum_cramer hlen hv hdet, cramer_sum, Nat.cast_one, ne_eq, not_true_eq_false,
    decide_false, Bool.not_true, Bool.or_self, Bool.false_eq_true, if_false, and_self, if_true]
  exact if_neg hdet

/-- **The executed interpolant is exact on affine functions on every non-degenerate simplex, every dimension**, at
every point (inside the simplex or not) -/
theorem linearSimplex_affine_exact (v0 : List K) (rest : List (List K)) (c0 : K) (c p : List K)
    (hc : c.length = p.length) (hlen : rest.length = p.length) (hv : ∀ v ∈ v0 :: rest, v.length = p.length)
    (hdet : simplexDet (v0 :: rest) ≠ 0) :
    linearSimplex (v0 :: rest) ((v0 :: rest).map (affine c0 c)) p = some (affine c0 c p) := by
  rw [linearSimplex, baryN_eq_some v0 rest p hlen hv hdet, Option.map_some,
    combine_affine c0 c _ _ (by simp [cramer, edges]) (hc ▸ hv), cramer_sum, hc, wsum_cramer hlen hv hdet, mul_one]
  rfl

/-- **The executed interpolant returns the vertex values at the vertices**, every dimension, arbitrary values: at
vertex `i` every determinant of Cramer's rule has a zero row, two equal rows, or is `simplexDet` itself -/
theorem linearSimplex_hits_vertex (v0 : List K) (rest : List (List K)) (vals : List K)
    (hlen : rest.length = v0.length) (hv : ∀ v ∈ rest, v.length = v0.length)
    (hdet : simplexDet (v0 :: rest) ≠ 0) (i : Nat) (hi : i < rest.length + 1) :
    linearSimplex (v0 :: rest) vals ((v0 :: rest).getD i []) = some (vals.getD i 0) := by
  have hall : ∀ v ∈ v0 :: rest, v.length = v0.length := List.forall_mem_cons.mpr ⟨rfl, hv⟩
  have hE := edges_square hlen hall
  have hp : ((v0 :: rest).getD i []).length = v0.length := hall _ (ListFacts.getD_mem _ _ _ (by simpa using hi))
  have hD := hdet
  rw [simplexDet, hE.1] at hD
  rw [linearSimplex, baryN_eq_some v0 rest _ (hlen.trans hp.symm) (fun v hm => (hall v hm).trans hp.symm) hdet,
    Option.map_some, combine, dot_eq_sum, cramer_weighted, hE.1]
  cases i with
  | zero =>
    -- the right-hand side is zero: every weight vanishes
    rw [List.getD_cons_zero, show vsub v0 v0 = vzero v0.length by simp [vsub, vzero, List.zipWith_self],
      Finset.sum_eq_zero fun m hm => by rw [detN_set_zero hE ⟨m, Finset.mem_range.mp hm⟩, zero_div, zero_mul], add_zero]
  | succ k =>
    -- the right-hand side is row `k`: weight `k` is one, the others have two equal rows
    have hk : k < v0.length := hlen ▸ Nat.lt_of_succ_lt_succ hi
    rw [← edges_getD, Finset.sum_eq_single_of_mem k (Finset.mem_range.mpr hk) fun m hm hne => by
        rw [detN_set_row hE ⟨m, Finset.mem_range.mp hm⟩ ⟨k, hk⟩, if_neg (by simpa [Fin.ext_iff] using hne), zero_div,
          zero_mul],
      detN_set_row hE ⟨k, hk⟩ ⟨k, hk⟩, if_pos rfl, div_self hD, one_mul, add_sub_cancel]

end HcipyVerif.Interp
