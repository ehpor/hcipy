import HcipyVerif.Lemmas.SchedulerLoop

/-! C20, tiling: clock-consistent traces (`Consistent`), the interval list they induce (`Tiles`), and
that every run produces one. -/

namespace HcipyVerif.Scheduler

/-- `Consistent t tr t'`: replaying `tr` from clock `t` ends at clock `t'`; every integration is
longer than the coalescing threshold and every callback saw exactly the running clock. -/
def Consistent : Rat → List Event → Rat → Prop
  | t, [], t' => t = t'
  | t, Event.integrate dt :: tr, t' => eps < dt ∧ Consistent (t + dt) tr t'
  | t, Event.fire _ clk :: tr, t' => clk = t ∧ Consistent t tr t'

/-- `Tiles a b l`: the intervals of `l` are laid end to end from `a` to `b`, each one starting where
the previous one ended, each longer than `eps`.  (`l = []` forces `a = b`.) -/
def Tiles : Rat → Rat → List (Rat × Rat) → Prop
  | a, b, [] => a = b
  | a, b, p :: rest => p.1 = a ∧ eps < p.2 - p.1 ∧ Tiles p.2 b rest

theorem Consistent.append_iff {t t'' : Rat} {a b : List Event} :
    Consistent t (a ++ b) t'' ↔ Consistent t a (t + sumDt a) ∧ Consistent (t + sumDt a) b t'' := by
  fun_induction sumDt a generalizing t with
  | case1 => rw [add_zero]; exact (and_iff_right rfl).symm
  | case2 dt tr ih => rw [← add_assoc]; exact (and_congr_right fun _ => ih).trans and_assoc.symm
  | case3 _ _ tr ih => exact (and_congr_right fun _ => ih).trans and_assoc.symm

theorem Consistent.end_eq {t t' : Rat} {tr : List Event} (h : Consistent t tr t') :
    t' = t + sumDt tr :=
  ((Consistent.append_iff (b := []).mp (by rwa [List.append_nil])).2 : t + sumDt tr = t').symm

theorem Consistent.append {t t' t'' : Rat} {a b : List Event} (ha : Consistent t a t')
    (hb : Consistent t' b t'') : Consistent t (a ++ b) t'' := by
  cases ha.end_eq; exact append_iff.mpr ⟨ha, hb⟩

theorem Consistent.sumDt_eq {t t' : Rat} {tr : List Event} (h : Consistent t tr t') :
    sumDt tr = t' - t := by
  rw [h.end_eq, add_sub_cancel_left]

theorem Consistent.tiles {t t' : Rat} {tr : List Event} (h : Consistent t tr t') :
    Tiles t t' (intervals t tr) := by
  fun_induction intervals t tr with
  | case1 => exact h
  | case2 t dt tr ih => exact ⟨rfl, by have := h.1; linarith, ih h.2⟩
  | case3 t _ _ tr ih => exact ih h.2

theorem intervals_append (t : Rat) (a b : List Event) :
    intervals t (a ++ b) = intervals t a ++ intervals (t + sumDt a) b := by
  fun_induction intervals t a <;> simp only [List.cons_append, List.nil_append, intervals, sumDt, add_zero, add_assoc, *]

theorem intervals_length (t : Rat) (tr : List Event) :
    (intervals t tr).length = (tr.filter (fun ev => match ev with | .integrate _ => true | _ => false)).length := by
  fun_induction intervals t tr <;> simp [*]

theorem Tiles.le {a b : Rat} {l : List (Rat × Rat)} (h : Tiles a b l) : a ≤ b := by
  induction l generalizing a with
  | nil => simp only [Tiles] at h; exact le_of_eq h
  | cons p rest ih =>
    obtain ⟨h1, h2, h3⟩ := h
    have := ih h3
    have := eps_pos
    linarith

theorem Tiles.long {a b : Rat} {l : List (Rat × Rat)} (h : Tiles a b l) :
    ∀ p ∈ l, eps < p.2 - p.1 := by
  induction l generalizing a with
  | nil => exact List.forall_mem_nil _
  | cons p rest ih =>
    exact List.forall_mem_cons.mpr ⟨h.2.1, ih h.2.2⟩

theorem Tiles.head {a b : Rat} {l : List (Rat × Rat)} (h : Tiles a b l) :
    ∀ p ∈ l.head?, p.1 = a := by
  cases l with
  | nil => simp
  | cons p rest => simp only [List.head?_cons, Option.mem_def, Option.some.injEq]; rintro q rfl; exact h.1

theorem Tiles.last {a b : Rat} {l : List (Rat × Rat)} (h : Tiles a b l) :
    ∀ p ∈ l.getLast?, p.2 = b := by
  induction l generalizing a with
  | nil => simp
  | cons p rest ih =>
    obtain ⟨h1, h2, h3⟩ := h
    cases rest with
    | nil => simp only [Tiles] at h3; simp [h3]
    | cons q rest' =>
      rw [List.getLast?_cons_cons]
      exact ih h3

theorem Tiles.nil_iff {a b : Rat} : Tiles a b [] ↔ a = b := Iff.rfl

theorem Tiles.abut {a b : Rat} {l : List (Rat × Rat)} (h : Tiles a b l) :
    ∀ i (hi : i + 1 < l.length), (l[i]'(by omega)).2 = (l[i + 1]).1 := by
  induction l generalizing a with
  | nil => simp
  | cons p rest ih =>
    obtain ⟨h1, h2, h3⟩ := h
    intro i hi
    cases i with
    | zero =>
      cases rest with
      | nil => simp at hi
      | cons q rest' => simp only [List.getElem_cons_zero, List.getElem_cons_succ]; exact h3.1.symm
    | succ j =>
      simp only [List.getElem_cons_succ]
      exact ih h3 j (by simpa using hi)

/-- half-open intervals laid end to end: an instant lies in `[a, m)` or in `[m, b)` exactly when it lies in
`[a, b)`, and never in both -/
theorem ite_interval_add {a m b τ : Rat} (h1 : a ≤ m) (h2 : m ≤ b) :
    (if a ≤ τ ∧ τ < m then 1 else 0) + (if m ≤ τ ∧ τ < b then 1 else 0) = if a ≤ τ ∧ τ < b then 1 else 0 := by
  rcases lt_or_ge τ m with h | h
  · have : ¬(m ≤ τ ∧ τ < b) := fun hh => absurd hh.1 (not_le.mpr h)
    rw [if_neg this, Nat.add_zero]
    exact if_congr (and_congr_right fun _ => iff_of_true h (lt_of_lt_of_le h h2)) rfl rfl
  · have : ¬(a ≤ τ ∧ τ < m) := fun hh => absurd hh.2 (not_lt.mpr h)
    rw [if_neg this, Nat.zero_add]
    exact if_congr (and_congr_left fun _ => iff_of_true h (h1.trans h)) rfl rfl

theorem Tiles.cover_once {a b : Rat} {l : List (Rat × Rat)} (h : Tiles a b l) (τ : Rat) :
    l.countP (fun p => decide (p.1 ≤ τ ∧ τ < p.2)) = if a ≤ τ ∧ τ < b then 1 else 0 := by
  induction l generalizing a with
  | nil =>
    cases h
    exact (if_neg fun hh => absurd hh.2 (not_lt.mpr hh.1)).symm
  | cons p rest ih =>
    obtain ⟨rfl, h2, h3⟩ := h
    rw [List.countP_cons, ih h3, Nat.add_comm]
    simp only [decide_eq_true_eq]
    exact ite_interval_add (by linarith [eps_pos]) h3.le

theorem advance_consistent (s : Sys) (dt : Rat) :
    Consistent s.t (advance s dt).2 (advance s dt).1.t := by
  unfold advance; split
  · rename_i h; exact ⟨h, rfl⟩
  · rfl

theorem popped_consistent (s : Sys) (e : Entry) (rest : List Entry) :
    Consistent s.t (advance s (e.time - s.t)).2 (popped s e rest).t :=
  advance_events s rest _ ▸ advance_consistent { s with queue := rest } _

theorem Runs.consistent {K : Rat → Entry → List (Rat × Nat)} {T : Rat} {fuel : Nat} {s : Sys} {r : Run}
    (h : Runs K T fuel s r) : Consistent s.t r.trace r.s.t := by
  induction h with
  | zero => rfl
  | stop _ s => exact advance_consistent s _
  | @step _ s e rest _ _ _ _ ih =>
    rw [next_t] at ih
    exact (popped_consistent s e rest).append ⟨rfl, ih⟩

theorem loop_t_mono (kids : Entry → List (Rat × Nat)) (T : Rat) (fuel : Nat) (s : Sys) :
    s.t ≤ (loop kids T fuel s).s.t :=
  (loop_runs kids T fuel s).consistent.tiles.le

end HcipyVerif.Scheduler
