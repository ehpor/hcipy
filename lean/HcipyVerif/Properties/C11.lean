import HcipyVerif.Lemmas.GridHeap
import HcipyVerif.Lemmas.GridWeights
import HcipyVerif.Lemmas.GridPolar
import Mathlib.Tactic.LinearCombination

/-!
# C11 — Grid geometry: transformations act consistently on points and weights

All theorems are about the model in `Model/Grid.lean` / `Model/GridOps.lean` (points with x fastest,
the in-place arithmetic of the three coordinate kinds, the cached / automatic weights, the
constructors of `field/util.py`) for grids of **every** dimension, size and (rational) value, and
factors of either sign.  The model is tied to the code by the C11 correspondence
(harness/props/c11.py) which compares representation, stored weights, the weights getter and the
points after every operation of random histories.

The definitions model the code after the repairs D20, D21, D27, D30.  The behaviour before the
repairs (`autoWeightsOld`, `Grid.reverseOld`) has proved counterexamples at the end.
The trigonometric clauses (Cartesian → polar → Cartesian, polar rotation) are stated over `ℝ` with
the specification functions `toPolar` / `toCart` of `Lemmas/GridPolar.lean`, **and** on the exact executable
model `cartToPolar?` / `polarToCart` (direction `(cos θ, sin θ)` instead of `θ`; defined on the points with a
rational radius), which the driver runs (`aspolar`, `ascart`) and the harness compares with `Grid.as_`;
`cartToPolar_matches_spec` bridges the two.
-/

namespace HcipyVerif.Grid

/-! ## Points move as the affine map says (regular, separated and unstructured alike) -/

/-- **Scaling** (per-axis factors `f` of either sign): the points of the scaled coordinates are the
images `p ↦ (p_i f_i)`.  Regular: `delta *= f; zero *= f`; separated: per axis; unstructured: per column. -/
theorem points_scale (c : Coords) (f : List Rat) (h : f.length = c.ndim) :
    (c.scale f).points = c.points.map (scalePt f) := Coords.points_scale c f h

/-- `CartesianGrid.scale` / `.scaled` with a scalar or a vector argument. -/
theorem points_scale_grid (g g' : Grid) (s : ScaleArg) (hc : g.system = .cartesian)
    (hl : (s.factors g.coords.ndim).length = g.coords.ndim) (h : g.scale s = some g') :
    g'.coords.points = g.coords.points.map (scalePt (s.factors g.coords.ndim)) := by
  obtain ⟨w, _, rfl⟩ := Grid.scale_cartesian hc h
  exact Coords.points_scale _ _ hl

/-- `PolarGrid.scale` scales the radius only. -/
theorem points_scale_polar (g g' : Grid) (k : Rat) (hp : g.system = .polar) (h2 : g.coords.ndim = 2)
    (h : g.scale (.scalar k) = some g') : g'.coords.points = g.coords.points.map (scalePt [k, 1]) := by
  obtain ⟨w, _, rfl⟩ := Grid.scale_polar hp h
  exact Coords.points_scale _ _ h2.symm

/-- **Shifting**: `p ↦ p + b`. -/
theorem points_shift (g : Grid) (b : List Rat) (h : b.length = g.coords.ndim) :
    (g.shift b).coords.points = g.coords.points.map (shiftPt b) := Coords.points_shift g.coords b h

/-- **Reversing** lists the same points in the opposite order. -/
theorem points_reverse (g : Grid) (h : g.coords.WF) : g.reverse.coords.points = g.coords.points.reverse :=
  Coords.points_reverse g.coords h

/-- **Rotating** (any matrix `M`, in particular `rot2 c s` and `rot3 …`): every point is multiplied
by `M`; the result is unstructured. -/
theorem points_rotate (g : Grid) (M : List (List Rat)) (hM : M ≠ []) :
    (g.linmap M).coords.points = g.coords.points.map (linPt M) ∧
    (g.linmapped M).coords.points = g.coords.points.map (linPt M) :=
  ⟨Coords.points_linmap g.coords M hM, Coords.points_linmap g.coords M hM⟩

/-- the 2-D matrix is the rotation by the angle with cosine `c` and sine `s`, and it is an isometry -/
theorem rot2_apply (c s x y : Rat) (h : c * c + s * s = 1) :
    linPt (rot2 c s) [x, y] = [c * x - s * y, s * x + c * y] ∧
    (c * x - s * y) * (c * x - s * y) + (s * x + c * y) * (s * x + c * y) = x * x + y * y := by
  constructor
  · simp only [rot2, linPt_cons, linPt_nil, dot_cons, dot_nil, List.cons.injEq, and_true]
    constructor <;> ring
  · linear_combination (x * x + y * y) * h

/-- the 3-D (Rodrigues) matrix `I + s K + (1-c) K²` fixes its axis `(a, b, d)` -/
theorem rot3_axis (a b d c s : Rat) : linPt (rot3 a b d c s) [a, b, d] = [a, b, d] := by
  simp only [rot3, linPt_cons, linPt_nil, dot_cons, dot_nil, List.cons.injEq, and_true]
  refine ⟨?_, ?_, ?_⟩ <;> ring

/-- **The 3-D matrix is Rodrigues' rotation** about the unit axis `k = (a, b, d)` by the angle with
cosine `c` and sine `s`: `R p = c·p + s·(k × p) + (1 - c)(k·p)·k`, for *every* point.  This determines
the matrix entirely (it is a statement about all `p`), and in particular the sense of rotation: the
`s`-term is `+ k × p` (right-handed about `k`), which neither the identity nor the rotation by the
opposite angle satisfies. -/
theorem rot3_rodrigues (a b d c s x y z : Rat) (hu : a * a + b * b + d * d = 1) :
    linPt (rot3 a b d c s) [x, y, z] =
      [c * x + s * (b * z - d * y) + (1 - c) * (a * x + b * y + d * z) * a,
       c * y + s * (d * x - a * z) + (1 - c) * (a * x + b * y + d * z) * b,
       c * z + s * (a * y - b * x) + (1 - c) * (a * x + b * y + d * z) * d] := by
  simp only [rot3, linPt_cons, linPt_nil, dot_cons, dot_nil, List.cons.injEq, and_true]
  refine ⟨?_, ?_, ?_⟩
  · linear_combination (-(1 - c) * x) * hu
  · linear_combination (-(1 - c) * y) * hu
  · linear_combination (-(1 - c) * z) * hu

/-- the 3-D matrix is an isometry when the axis is a unit vector and `c² + s² = 1` -/
theorem rot3_isometry (a b d c s x y z : Rat) (hu : a * a + b * b + d * d = 1) (hcs : c * c + s * s = 1) :
    ∃ x' y' z', linPt (rot3 a b d c s) [x, y, z] = [x', y', z'] ∧
      x' * x' + y' * y' + z' * z' = x * x + y * y + z * z := by
  refine ⟨_, _, _, rot3_rodrigues a b d c s x y z hu, ?_⟩
  -- with `t = k·p`, `u = k × p`: `u ⊥ p`, `u ⊥ k`, `|u|² = |k|²|p|² - t²` (Lagrange) are polynomial identities, so
  -- `|R p|² - |p|² = (|k|² - 1)(s²|p|² + (1-c)²t²) + (|p|² - t²)(c² + s² - 1)`
  linear_combination (s * s * (x * x + y * y + z * z) + (1 - c) ^ 2 * (a * x + b * y + d * z) ^ 2) * hu +
    (x * x + y * y + z * z - (a * x + b * y + d * z) ^ 2) * hcs

/-- **A vector perpendicular to the axis is turned by the angle `(c, s)` in the plane perpendicular
to the axis, counter-clockwise seen from the tip of the axis**: `R p = c·p + s·(k × p)`.  Together with
`rot3_axis` this pins the matrix down (the identity and the opposite angle are excluded as soon as
`s ≠ 0` and `p ≠ 0`, see `rot3_perp_sense`). -/
theorem rot3_perp (a b d c s x y z : Rat) (hu : a * a + b * b + d * d = 1) (hp : a * x + b * y + d * z = 0) :
    linPt (rot3 a b d c s) [x, y, z] =
      [c * x + s * (b * z - d * y), c * y + s * (d * x - a * z), c * z + s * (a * y - b * x)] := by
  rw [rot3_rodrigues a b d c s x y z hu, hp]
  simp only [mul_zero, zero_mul, add_zero]

/-- the quarter turn about the z-axis sends x̂ to ŷ (not to −ŷ): the sense of rotation, concretely -/
theorem rot3_perp_sense : linPt (rot3 0 0 1 0 1) [1, 0, 0] = [0, 1, 0] ∧ linPt (rot3 0 0 1 0 (-1)) [1, 0, 0] = [0, -1, 0] := by
  decide +kernel

/-- `PolarGrid.rotate` (repaired): the angular coordinate of every point grows by the angle. -/
theorem points_polar_rotate (g : Grid) (α : Rat) (h2 : g.coords.ndim = 2) :
    (g.polarRotate α).coords.points = g.coords.points.map (shiftPt [0, α]) :=
  Coords.points_shift g.coords [0, α] h2.symm

/-! ## Weights -/

/-- **Scaling multiplies every cell weight by the absolute Jacobian** `Π|f_i|` (per-axis factors of
either sign; `|s|^ndim` for a scalar), whatever the weights were: explicit, cached or automatic. -/
theorem weights_scale (g g' : Grid) (s : ScaleArg) (wl : List Rat) (hc : g.system = .cartesian)
    (hl : (s.factors g.coords.ndim).length = g.coords.ndim) (h : g.scale s = some g')
    (hw : g.weightList = some wl) :
    g'.weightList = some (wl.map (· * jac (s.factors g.coords.ndim))) := by
  obtain ⟨w, hgw, rfl⟩ := Grid.scale_cartesian hc h
  rw [← weightFactor_eq_jac]
  exact Grid.weightList_mul g w wl _ _ hgw (Coords.sameShape_scale _ _ hl).size hw

/-- **`PolarGrid.scale` multiplies every cell weight by `|k|²`** (the Jacobian of `(r, θ) ↦ (k r, θ)`
in the physical plane), whatever the weights were — explicit, cached, or the scalar 1 a polar grid
gets when it has none. -/
theorem weights_scale_polar (g g' : Grid) (k : Rat) (wl : List Rat) (hp : g.system = .polar) (h2 : g.coords.ndim = 2)
    (h : g.scale (.scalar k) = some g') (hw : g.weightList = some wl) :
    g'.weightList = some (wl.map (· * absQ k ^ 2)) := by
  obtain ⟨w, hgw, rfl⟩ := Grid.scale_polar hp h
  rw [← h2]
  exact Grid.weightList_mul g w wl _ _ hgw (g.coords.sameShape_scale [k, 1] h2.symm).size hw

example : ∃ g g' : Grid, g.system = .polar ∧ g.coords.ndim = 2 ∧ g.scale (.scalar (-3 / 2)) = some g' ∧
    g'.weightList = some [9 / 4, 9 / 4] :=
  ⟨⟨.polar, .separated [[1, 2], [0]], .none⟩, _, rfl, rfl, rfl, by decide +kernel⟩

/-- **History independence of scaling**: the automatic weights of the scaled coordinates are the
scaled automatic weights (regular and separated grids), so it does not matter whether the weights
had been computed before the grid was scaled. -/
theorem weights_scale_auto (c : Coords) (f : List Rat) (h : f.length = c.ndim) (hk : c.kind ≠ 2) :
    autoWeights .cartesian (c.scale f) = (autoWeights .cartesian c).map (Weights.mul (jac f)) := by
  cases c with
  | regular a =>
    have : (List.zipWith (fun x fi => ({ x with delta := x.delta * fi, zero := x.zero * fi } : RegAxis)) a f).map (·.delta) =
        scalePt f (a.map (·.delta)) := by
      rw [scalePt, List.zipWith_map_right, List.zipWith_comm, List.map_zipWith]
    simp only [Coords.scale, autoWeights, Option.map_some, Weights.mul, jac, ratProd_map_absQ, this]
    rw [ratProd_scalePt f _ ((List.length_map _).trans h.symm), absQ_eq_abs, abs_mul]
  | separated a =>
    simp only [Coords.scale, autoWeights, all_two_le, lengths_zipWith_map (fun fi x => x * fi) a f h]
    split
    · have : (List.zipWith (fun ax fi => ax.map (· * fi)) a f).map axisW =
          List.zipWith (fun w fi => w.map (· * fi)) (a.map axisW) (f.map absQ) := by
        simp only [List.map_zipWith, List.zipWith_map_left, List.zipWith_map_right, axisW_scale]
      rw [this, tensorW_scale _ _ (by rw [List.length_map, List.length_map]; exact h)]
      rfl
    · rfl
  | unstructured c => exact absurd rfl hk

/-- **Shifting keeps the weights** (stored or automatic). -/
theorem weights_shift (g : Grid) (b : List Rat) (h : b.length = g.coords.ndim) :
    (g.shift b).weightList = g.weightList := by
  simp only [Grid.weightList, Grid.getWeights, Grid.shift, (g.coords.sameShape_shift b h).size]
  cases g.weights <;> simp only [autoWeights_shift _ _ _ h]

/-- **Reversing keeps the weight of every point**: the list of weights is reversed together with the
list of points — whether the weights were explicit, cached or are computed afterwards. -/
theorem weights_reverse (g : Grid) : g.reverse.weightList = g.weightList.map List.reverse := by
  simp only [Grid.weightList, Grid.getWeights, Grid.reverse, g.coords.sameShape_reverse.size]
  cases hw : g.weights with
  | none =>
    simp only [Weights.reverse, autoWeights_reverse, Option.map_map]
    exact congrArg (Option.map · _) (funext fun w => Weights.toList_reverse _ w)
  | scalar x | array x => exact congrArg some (Weights.toList_reverse _ _)

/-- in particular weights are never negative when they are automatic -/
theorem auto_weights_nonneg_regular (a : List RegAxis) (w : Rat)
    (h : autoWeights .cartesian (.regular a) = some (.scalar w)) : 0 ≤ w := by
  simp only [autoWeights, Option.some.injEq, Weights.scalar.injEq] at h
  subst h; exact absQ_eq_abs ▸ abs_nonneg _

/-! ## Non-mutating forms return independent copies -/

/-- the result of a non-mutating operation lives in a fresh slot: the original and all other live
grids are untouched, and a later in-place operation on the result does not reach the original -/
theorem nonmutating_independent (st : Store) (g g2 : Grid) (j : Nat) (h : j < st.length) :
    (st.push g)[j]? = st[j]? ∧ ((st.push g).update st.length g2)[j]? = st[j]? := by
  have hne : st.length ≠ j := by omega
  simp only [Store.push, Store.update, List.getElem?_append_left h, List.getElem?_set_ne hne, and_self]

/-- **The same clause on the reference model** (`Model/GridHeap.lean`: coordinate and weight arrays in a heap,
grids holding references, `scale` / `shift` writing through them — a model in which aliasing *can* happen;
`nonmutating_independent` above is about the value store, where it cannot).  `scaled` / `shifted` =
copy, then the in-place operation on the copy (`ops`: one array operation per coordinate array and one for
the weights array).  As long as no array is shared (`Sep`, kept by every operation — C10 `ref_sep_invariant`;
the harness compares the number of shared arrays of the real grids with the model's after every operation):
every existing grid, the source included, reads the same coordinates and weights afterwards; the result
holds the transformed values; a later in-place operation `ops2` on the result changes the result only. -/
theorem ref_nonmutating_independent (w : RWorld) (hs : w.Sep) (i : Nat) (hi : i < w.objs.length) (ops ops2 : List ArrOp)
    (hl : ops.length = (w.objs[i]).refs.length) (hl2 : ops2.length = (w.objs[i]).refs.length) :
    (w.copied i ops).Sep ∧
    (w.copied i ops).abs = w.abs ++ [List.zipWith (fun op a => op.apply a) ops (w.objs[i].val w.heap)] ∧
    ((w.copied i ops).inplace w.objs.length ops2).abs =
      w.abs ++ [List.zipWith (fun op a => op.apply a) ops2 (List.zipWith (fun op a => op.apply a) ops (w.objs[i].val w.heap))] := by
  refine ⟨w.Sep_copied hs i ops, w.abs_copied hs i hi ops hl, ?_⟩
  -- the later operation acts on the last object of a world whose values are `w.abs ++ [·]`
  exact (w.copied i ops).abs_inplace_last (w.Sep_copied hs i ops) w _ (w.abs_copied hs i hi ops hl) ops2
    (by rw [List.length_zipWith, hl, RObj.val, List.length_map, Nat.min_self]; exact hl2)

example : (RWorld.new {} [[1, 2], [3]]).Sep ∧ (0 : Nat) < (RWorld.new {} [[1, 2], [3]]).objs.length := by decide

/-- a `scaled` that shares the weights array with its source (copying the coordinates only): the in-place
`weights *= |J|` on the result changes the source's weights. -/
theorem Bad.scaled_shares_weights :
    let w : RWorld := { heap := [[0, 1], [1, 1], [0, 2], [5, 5]], objs := [⟨[0, 1]⟩, ⟨[2, 1]⟩] }
    (w.inplace 1 [.mulS 2, .mulS 2]).abs = [[[0, 1], [2, 2]], [[0, 4], [2, 2]]] ∧ ¬ w.Sep := by
  refine ⟨by decide +kernel, by decide⟩

/-- **Identity arguments** (`scaled(1)`, `scaled(1.0)`, `scaled([1, 1])`, `shifted(0)`, `shifted([0, 0])`, … — every
spelling of the neutral element, `ArrOp.IsIdentity`): the non-mutating form still returns an *independent copy*.
In the reference model, where aliasing can be expressed: (1) the result holds the same values as its source,
(2) no array is shared afterwards (`Sep`), (3) a later in-place edit of the result leaves every earlier object —
the source included — as it was, and (4) a later in-place edit of the *source* leaves the result as it was.
(`return self` for an identity argument — the seeded regression C11-8 — violates (2)–(4): it is `Bad.copy`.) -/
theorem identity_op_returns_independent_copy (w : RWorld) (hs : w.Sep) (i : Nat) (hi : i < w.objs.length)
    (ops ops2 : List ArrOp)
    (hid : List.Forall₂ (fun op a => ArrOp.IsIdentity a op) ops (w.objs[i].val w.heap))
    (hl2 : ops2.length = (w.objs[i]).refs.length) :
    (w.copied i ops).abs = w.abs ++ [w.objs[i].val w.heap] ∧
    (w.copied i ops).Sep ∧
    ((w.copied i ops).inplace w.objs.length ops2).abs =
      w.abs ++ [List.zipWith (fun op a => op.apply a) ops2 (w.objs[i].val w.heap)] ∧
    ((w.copied i ops).inplace i ops2).abs =
      w.abs.set i (List.zipWith (fun op a => op.apply a) ops2 (w.objs[i].val w.heap)) ++ [w.objs[i].val w.heap] := by
  have hl : ops.length = (w.objs[i]).refs.length := hid.length_eq.trans (List.length_map _)
  -- `ref_nonmutating_independent` for operations that change nothing
  obtain ⟨hs', habs, hin⟩ := ref_nonmutating_independent w hs i hi ops ops2 hl hl2
  rw [zipWith_apply_identity ops _ hid] at habs hin
  exact ⟨habs, hs', hin, (w.copied i ops).abs_inplace_init hs' w _ habs i hi ops2 hl2⟩

example : (RWorld.new {} [[1, 2], [3]]).Sep ∧
    List.Forall₂ (fun op a => ArrOp.IsIdentity a op) [.mulS 1, .addV [0]]
      (((RWorld.new {} [[1, 2], [3]]).objs[0]'(by decide)).val (RWorld.new {} [[1, 2], [3]]).heap) := by
  exact ⟨by decide, List.Forall₂.cons rfl (List.Forall₂.cons ⟨by decide, by decide⟩ List.Forall₂.nil)⟩

/-- the same history with a result that *is* its source (`return self`): the edit of the "result" changes the source -/
theorem Bad.identity_returns_self :
    let w : RWorld := Bad.copy (RWorld.new {} [[0, 1], [0, 2]]) 0
    (w.inplace 1 [.mulS 2, .mulS 2]).abs = [[[0, 2], [0, 4]], [[0, 2], [0, 4]]] ∧ ¬ w.Sep := by
  refine ⟨by decide +kernel, by decide⟩

/-! ## Regular grids: covered area, sub/supersampling, focal grids -/

/-- **The weights of a regular grid sum to the covered area** `Π dims_i·|δ_i|` (either sign of `δ`). -/
theorem regular_weights_sum (a : List RegAxis) :
    (Grid.mk .cartesian (.regular a) .none).weightList.map ratSum =
      some (ratProd (a.map fun x => (x.dim : Rat) * absQ x.delta)) := by
  simp only [Grid.weightList, Grid.getWeights, autoWeights, Option.map_some, Weights.toList, Coords.size,
    ratSum_eq_sum, List.sum_replicate, nsmul_eq_mul, Option.some.injEq]
  rw [← ratProd_map_absQ]; exact area_prod a

/-- **Supersampling then subsampling by the same factors returns the original sampling** (spacing,
origin and number of points per axis), for any positive integer factor per axis. -/
theorem sub_super_id (g : Grid) (a : List RegAxis) (k : List Nat) (hg : g.coords = .regular a)
    (hl : k.length = a.length) (hk : ∀ x ∈ k, 1 ≤ x) :
    (g.supersample k >>= Grid.subsample k) = .ok { g with weights := .none } := by
  -- axis by axis the two resamplings cancel (`sub_super_axis`); nothing else of the grid is touched
  have hz : List.zipWith RegAxis.subsample k (List.zipWith RegAxis.supersample k a) = a :=
    List.ext_getElem (by simp only [List.length_zipWith, hl, Nat.min_self]) fun i h1 h2 => by
      rw [List.getElem_zipWith, List.getElem_zipWith]
      exact sub_super_axis _ (hk _ (List.getElem_mem _)) _
  simp only [Grid.supersample, hg, Grid.subsample, bind, Except.bind, hz]

/-- **`make_uniform_grid(…, has_center=True)` contains its centre** on every axis, for odd and even
numbers of points alike (any extent, any centre, any number of dimensions). -/
theorem uniform_has_center (dims : List Nat) (extent center : List Rat) (hl : extent.length = dims.length)
    (hc : center.length = dims.length) (hn : ∀ n ∈ dims, 1 ≤ n) :
    center ∈ (makeUniformGrid dims extent center true).coords.points := by
  simp only [makeUniformGrid, Coords.points]
  refine mem_tensorPoints.mpr (List.forall₂_iff_get.mpr ⟨?_, fun i h1 h2 => ?_⟩)
  · simp only [List.length_map, List.length_zipWith, List.length_zip, hl, hc, Nat.min_self]
  · simp only [List.get_eq_getElem, List.getElem_map, List.getElem_zipWith, List.getElem_zip]
    rw [uniformAxis_eq_centred _ _ _ (hn _ (List.getElem_mem _))]
    exact centred_mem _ _ _ (hn _ (List.getElem_mem _))

example : [(1 / 2 : Rat), -5 / 4] ∈ (makeUniformGrid [4, 5] [1, 5 / 2] [1 / 2, -5 / 4] true).coords.points := by decide +kernel

/-- a regular grid whose axes are `delta·(-n/2 + (n mod 2)/2) + k·delta` contains the origin, for
odd and for even `n ≥ 1` alike -/
theorem centred_has_origin (l : List (Rat × Nat)) (h : ∀ x ∈ l, 1 ≤ x.2) :
    List.replicate l.length 0 ∈ (Coords.regular (l.map fun x => centredAxis x.1 x.2 0)).points := by
  rw [Coords.points, ← List.map_const', mem_tensorPoints, List.forall₂_map_left_iff, List.map_map,
    List.forall₂_map_right_iff, List.forall₂_same]
  exact fun x hx => centred_mem _ _ 0 (h x hx)

/-- **`make_focal_grid` always contains the origin** (per-axis `q`, `num_airy`, resolution; the
number of points `int(2·num_airy·q)` may be odd or even) as soon as it has a point at all. -/
theorem focal_grid_has_origin (q1 q2 na1 na2 sr1 sr2 : Rat) (h1 : 1 ≤ 2 * na1 * q1) (h2 : 1 ≤ 2 * na2 * q2) :
    [0, 0] ∈ (makeFocalGrid [q1, q2] [na1, na2] [sr1, sr2]).coords.points :=
  centred_has_origin [(sr1 / q1, truncNat (2 * na1 * q1)), (sr2 / q2, truncNat (2 * na2 * q2))]
    (List.forall_mem_cons.mpr ⟨truncNat_pos _ h1, List.forall_mem_cons.mpr ⟨truncNat_pos _ h2, nofun⟩⟩)

/-- **`make_focal_grid_from_pupil_grid` contains the origin**: the FFT grid it builds has centred axes
(whatever `2π`, `q`, `fov` are), and the final scaling by `fλ/2π` maps the origin to itself. -/
theorem focal_from_pupil_has_origin (tau s : Rat) (a1 a2 : RegAxis) (q1 q2 fov1 fov2 : Rat)
    (h1 : 1 ≤ (fftAxis tau a1 q1 fov1 0).dim) (h2 : 1 ≤ (fftAxis tau a2 q2 fov2 0).dim) :
    [0, 0] ∈ ((Coords.regular [fftAxis tau a1 q1 fov1 0, fftAxis tau a2 q2 fov2 0]).scale [s, s]).points := by
  rw [Coords.points_scale _ _ rfl]
  refine List.mem_map.mpr ⟨[0, 0], ?_, by simp only [scalePt, List.zipWith_cons_cons, List.zipWith_nil_right, zero_mul]⟩
  exact centred_has_origin [((fftAxis tau a1 q1 fov1 0).delta, (fftAxis tau a1 q1 fov1 0).dim),
    ((fftAxis tau a2 q2 fov2 0).delta, (fftAxis tau a2 q2 fov2 0).dim)]
    (List.forall_mem_cons.mpr ⟨h1, List.forall_mem_cons.mpr ⟨h2, nofun⟩⟩)

/-! ## Compositions: the single-step theorems chain

`WF`, the dimension and the kind are preserved by every operation (`Coords.sameShape_scale/_shift/_reverse` with
`Coords.SameShape.WF/.ndim`, `Coords.WF_linmap`, `Coords.ndim_linmap`, `Coords.kind_*` in Lemmas/GridAxes.lean, GridGeom.lean),
so the hypotheses of one step are available after another. -/

/-- the hypotheses of the single-step theorems survive every operation -/
theorem wf_preserved (c : Coords) (f b : List Rat) (M : List (List Rat)) (hf : f.length = c.ndim) (hb : b.length = c.ndim)
    (hM : M ≠ []) (hw : c.WF) :
    (c.scale f).WF ∧ (c.shift b).WF ∧ c.reverse.WF ∧ (c.linmap M).WF ∧
    (c.scale f).ndim = c.ndim ∧ (c.shift b).ndim = c.ndim ∧ c.reverse.ndim = c.ndim ∧ (c.linmap M).ndim = M.length :=
  ⟨(c.sameShape_scale f hf).WF hw, (c.sameShape_shift b hb).WF hw, c.sameShape_reverse.WF hw, Coords.WF_linmap c M hM,
    (c.sameShape_scale f hf).ndim, (c.sameShape_shift b hb).ndim, c.sameShape_reverse.ndim, Coords.ndim_linmap c M⟩

/-- **scale → shift → reverse → rotate** on any well-formed coordinates: the points are the images under
the composed affine map, listed in the reversed order. -/
theorem points_scale_shift_reverse_rotate (c : Coords) (f b : List Rat) (M : List (List Rat)) (hf : f.length = c.ndim)
    (hb : b.length = c.ndim) (hM : M ≠ []) (hw : c.WF) :
    ((((c.scale f).shift b).reverse).linmap M).points =
      (c.points.map (linPt M ∘ shiftPt b ∘ scalePt f)).reverse := by
  have hb' : b.length = (c.scale f).ndim := hb.trans (c.sameShape_scale f hf).ndim.symm
  have h2 := ((c.scale f).sameShape_shift b hb').WF ((c.sameShape_scale f hf).WF hw)
  rw [Coords.points_linmap _ M hM, Coords.points_reverse _ h2,
    Coords.points_shift _ b hb', Coords.points_scale c f hf]
  simp only [List.map_map, List.map_reverse]

/-- **The weights of a scaled regular grid sum to the scaled area** `Π dims_i·|δ_i| · Π|f_i|`
(`regular_weights_sum` composed with `weights_scale`), scalar or per-axis factors of either sign. -/
theorem regular_weights_sum_scaled (a : List RegAxis) (s : ScaleArg) (g' : Grid)
    (hl : (s.factors a.length).length = a.length)
    (h : (Grid.mk .cartesian (.regular a) .none).scale s = some g') :
    g'.weightList.map ratSum =
      some (ratProd (a.map fun x => (x.dim : Rat) * absQ x.delta) * jac (s.factors a.length)) := by
  rw [weights_scale ⟨.cartesian, .regular a, .none⟩ g' s _ rfl hl h rfl, Option.map_some, ratSum_map_mul]
  exact congrArg (Option.map (· * jac (s.factors a.length))) (regular_weights_sum a)

/-- … and reversing afterwards keeps that sum (the weights are only re-ordered). -/
theorem weights_sum_reverse (g : Grid) : g.reverse.weightList.map ratSum = g.weightList.map ratSum := by
  rw [weights_reverse, Option.map_map]
  exact congrArg (Option.map · _) (funext ratSum_reverse)

example : ∃ g', (Grid.mk .cartesian (.regular [⟨1 / 2, 3, 0⟩, ⟨-1, 2, 1⟩]) .none).scale (.vector [-2, 3]) = some g' := ⟨_, rfl⟩

/-- the hypotheses of `focal_from_pupil_has_origin` are satisfiable (355/113·2 stands for `2π`) -/
example : 1 ≤ (fftAxis (710 / 113) ⟨1 / 8, 8, -7 / 16⟩ 2 (3 / 4) 0).dim ∧
    1 ≤ (fftAxis (710 / 113) ⟨1 / 4, 5, -1 / 2⟩ (3 / 2) 1 0).dim := by decide +kernel
example : (fftAxis (710 / 113) ⟨1 / 8, 8, -7 / 16⟩ 2 (3 / 4) 0).dim = 12 := by decide +kernel

/-! ## More constructors: `make_pupil_grid`, `make_focal_grid` with all its arguments, `make_hexagonal_grid` -/

/-- `make_pupil_grid`: per axis `n` samples of pitch `D/n`, symmetric about the origin (first and last sample add up
to zero).  With `regular_weights_sum` the weights then sum to `Π n_i·|D_i/n_i|`, the area `Π D_i` for `D_i > 0`. -/
theorem pupil_grid_spec (n : Nat) (d : Rat) (hn : 0 < n) :
    let a := uniformAxis n d 0 false
    a.dim = n ∧ a.delta = d / n ∧ a.zero + (a.zero + a.delta * ((n : Rat) - 1)) = 0 := by
  have hn' : (n : Rat) ≠ 0 := by exact_mod_cast (Nat.pos_iff_ne_zero.mp hn)
  simp only [uniformAxis, if_false, Bool.false_eq_true]
  refine ⟨trivial, trivial, ?_⟩
  linear_combination div_mul_cancel₀ d hn'

example : (0 : Nat) < 4 := by decide

/-- `make_pupil_grid` is `make_uniform_grid` with extent `diameter` and centre 0 (the executed definition) -/
theorem pupil_grid_is_uniform (dims : List Nat) (diam : List Rat) :
    makePupilGrid dims diam = makeUniformGrid dims diam (diam.map fun _ => 0) false := rfl

/-- the spatial resolution `make_focal_grid` uses: given directly; else `f_number·λ` with `f_number` given or
`focal_length / pupil_diameter`; else 1 when nothing at all was given; every other combination is refused. -/
theorem focal_resolution_spec (s f p l w : Rat) :
    focalResolution (some s) none none none none = .ok s ∧
    focalResolution none (some f) none none (some w) = .ok (f * w) ∧
    focalResolution none none (some p) (some l) (some w) = .ok (l / p * w) ∧
    focalResolution none none none none none = .ok 1 ∧
    focalResolution none none none none (some w) = .error .value ∧
    focalResolution none (some f) none none none = .error .value ∧
    focalResolution none none (some p) (some l) none = .error .value ∧
    focalResolution none none (some p) none (some w) = .error .value := by
  simp only [focalResolution, and_self]

/-- **whatever way the resolution was specified, the focal grid contains the origin** -/
theorem focal_full_has_origin (q na : Rat) (sr fnum pd fl wl : Option Rat) (g : Grid)
    (h : makeFocalGridFull [q, q] [na, na] sr fnum pd fl wl = .ok g) (h1 : 1 ≤ 2 * na * q) :
    ∃ s, g = makeFocalGrid [q, q] [na, na] [s, s] ∧ [0, 0] ∈ g.coords.points := by
  unfold makeFocalGridFull at h
  cases hr : focalResolution sr fnum pd fl wl with
  | error e => rw [hr] at h; cases h
  | ok s => rw [hr] at h; cases h; exact ⟨s, rfl, focal_grid_has_origin q q na na s s h1 h1⟩

example : makeFocalGridFull [2, 2] [3, 3] none (some 10) none none (some (1 / 2)) = .ok (makeFocalGrid [2, 2] [3, 3] [5, 5]) ∧
    (1 : Rat) ≤ 2 * 3 * 2 := by decide +kernel

/-- ring `n` of a hexagonal grid has `6 n` hexagons -/
theorem hexRing_length (n : Nat) : (hexRing n).length = 6 * n := by
  simp only [hexRing, List.length_append, List.length_map, List.length_range]; omega

/-- **`make_hexagonal_grid` with `n` rings has `1 + 3 n (n + 1)` points** -/
theorem hexQR_length (rings : Nat) : (hexQR rings).length = 1 + 3 * rings * (rings + 1) := by
  induction rings with
  | zero => rfl
  | succ m ih =>
    simp only [hexQR, List.length_cons, List.range_succ, List.flatMap_append, List.length_append,
      List.flatMap_cons, List.flatMap_nil, List.append_nil, hexRing_length] at ih ⊢
    have : 3 * (m + 1) * (m + 1 + 1) = 3 * m * (m + 1) + 6 * (m + 1) := by ring
    omega

/-- every hexagon of ring `n` is at hexagonal distance `n` from the centre -/
theorem hexRing_distance (n : Nat) (p : Int × Int) (h : p ∈ hexRing n) :
    p.1.natAbs + p.2.natAbs + (p.1 + p.2).natAbs = 2 * n := by
  simp only [hexRing, List.mem_append, List.mem_map, List.mem_range] at h
  -- on every side two of `|q|`, `|r|`, `|q + r|` are `k` and `n` outright; the third is `n - k`
  rcases h with ((((( ⟨k, hk, rfl⟩ | ⟨k, hk, rfl⟩) | ⟨k, hk, rfl⟩) | ⟨k, hk, rfl⟩) | ⟨k, hk, rfl⟩) | ⟨k, hk, rfl⟩) <;>
    simp only [Int.natAbs_natCast, Int.natAbs_neg, sub_add_cancel, add_neg_cancel_right,
      add_neg_cancel_left] <;> omega

example : (1, 1) ∈ hexRing 2 ∧ hexQR 1 = [(0, 0), (1, 0), (0, 1), (-1, 1), (-1, 0), (0, -1), (1, -1)] := by decide

/-- the points and the weight of the hexagonal grid in closed form: hexagon `(q, r)` sits at
`((r − q)·D/2, (q + r)·2a) + centre` with apothem `a = D√3/4` (flat top: the two coordinates exchanged *after* the
centre was added, as the code on /repo HEAD does — so a flat-topped grid is centred on `(cy, cx)`, the centre exchanged:
observed, outside the property; proposed repair in pending_fixes/D86-hexagonal-grid-center.diff), and every
hexagon weighs `2 a² √3` — the area of a regular hexagon of circum-diameter `D`, which is `3√3/8·D²` when `s3² = 3`. -/
theorem hex_points_weights (s3 d : Rat) (rings : Nat) (cx cy : Rat) :
    (makeHexGrid s3 d rings true cx cy).coords.points =
      (hexQR rings).map (fun p => [((-p.1 + p.2 : Int) : Rat) * d / 2 + cx, ((p.1 + p.2 : Int) : Rat) * (d * s3 / 4) * 2 + cy]) ∧
    (makeHexGrid s3 d rings false cx cy).coords.points =
      (hexQR rings).map (fun p => [((p.1 + p.2 : Int) : Rat) * (d * s3 / 4) * 2 + cy, ((-p.1 + p.2 : Int) : Rat) * d / 2 + cx]) ∧
    (makeHexGrid s3 d rings true cx cy).weights = .scalar (2 * (d * s3 / 4 * (d * s3 / 4)) * s3) ∧
    (s3 * s3 = 3 → 2 * (d * s3 / 4 * (d * s3 / 4)) * s3 = 3 * s3 / 8 * (d * d)) := by
  refine ⟨?_, ?_, rfl, ?_⟩
  · show pointsOfCols (List.map _ (hexQR rings)).length _ = _
    rw [List.length_map]; exact pointsOfCols_maps (hexQR rings) [_, _]
  · show pointsOfCols (List.map _ (hexQR rings)).length _ = _
    rw [List.length_map]; exact pointsOfCols_maps (hexQR rings) [_, _]
  · intro h
    linear_combination (s3 / 8 * (d * d)) * h

/-! ## Coordinate-system conversion (over `ℝ`)

First the two facts about the executed conversion that the `ℝ` theorems cite: it computes the specification
(`cartToPolar_matches_spec`) and its round trip is exact (`as_roundtrip_exact`). -/

/-- **The executable model computes the specification**: where `cartToPolar?` is defined its radius is
`hypot(x, y)` and its direction is `(cos θ, sin θ)` of `θ = arctan2(y, x)` (`toPolar`, over `ℝ`). -/
theorem cartToPolar_matches_spec (x y r c s : Rat) (h : cartToPolar? [x, y] = some [r, c, s]) :
    (toPolar ((x : ℝ), (y : ℝ))).1 = (r : ℝ) ∧ Real.cos (toPolar ((x : ℝ), (y : ℝ))).2 = (c : ℝ) ∧
      Real.sin (toPolar ((x : ℝ), (y : ℝ))).2 = (s : ℝ) := by
  obtain ⟨h0, hsq, _, hx, hy⟩ := cartToPolar?_some h
  have hrad : (toPolar ((x : ℝ), (y : ℝ))).1 = (r : ℝ) := by
    have hsqR : ((x : ℝ) * x + y * y) = (r : ℝ) * r := by exact_mod_cast hsq.symm
    rw [toPolar, hsqR]; exact Real.sqrt_mul_self (by exact_mod_cast h0)
  refine ⟨hrad, ?_⟩
  by_cases hz : r = 0
  · -- the origin: `arctan2(0, 0) = 0`, so the direction is `(1, 0)`, which is what the executed conversion returns
    subst hz
    obtain ⟨rfl, rfl⟩ := And.intro (hx.trans (zero_mul c)) (hy.trans (zero_mul s))
    have hc : cartToPolar? [0, 0] = some [0, 1, 0] := by decide +kernel
    rw [hc] at h
    simp only [Option.some.injEq, List.cons.injEq, and_true, true_and] at h
    obtain ⟨rfl, rfl⟩ := h
    have : (⟨(0 : ℝ), (0 : ℝ)⟩ : ℂ) = 0 := rfl
    simp only [toPolar, Rat.cast_zero, this, Complex.arg_zero, Real.cos_zero, Real.sin_zero, Rat.cast_one, and_self]
  · -- elsewhere `r cos θ = x = r c` and `r sin θ = y = r s` by the round trip `toCart_toPolar`
    have hrR : (r : ℝ) ≠ 0 := by exact_mod_cast hz
    have hrt := toCart_toPolar ((x : ℝ), (y : ℝ))
    simp only [toCart, hrad, Prod.mk.injEq] at hrt
    exact ⟨mul_left_cancel₀ hrR (hrt.1.trans (by exact_mod_cast hx)),
      mul_left_cancel₀ hrR (hrt.2.trans (by exact_mod_cast hy))⟩

/-- **Cartesian → polar → Cartesian returns the same point, exactly** (executable model; every point on
which the model is defined, origin and negative x-axis included). -/
theorem as_roundtrip_exact (x y : Rat) (q : List Rat) (h : cartToPolar? [x, y] = some q) : polarToCart q = [x, y] := by
  obtain ⟨r, c, s, rfl, _, _, _, hx, hy⟩ := cartToPolar?_spec x y q h
  simp only [polarToCart, hx, hy]

/-- **Cartesian → polar → Cartesian returns the same point**: over `ℝ` for every point including the origin
and the negative x-axis (specification `toPolar` = (`hypot`, `arctan2`), `toCart`), **and** the executed exact
conversion `cartToPolar?` / `polarToCart` (driver ops `aspolar`, `ascart`) is that specification wherever it is defined. -/
theorem polar_roundtrip (p : ℝ × ℝ) :
    toCart (toPolar p) = p ∧
    ∀ x y r c s : Rat, p = ptR [x, y] → cartToPolar? [x, y] = some [r, c, s] →
      (toPolar p).1 = (r : ℝ) ∧ Real.cos (toPolar p).2 = (c : ℝ) ∧ Real.sin (toPolar p).2 = (s : ℝ) ∧
      polarToCart [r, c, s] = [x, y] ∧ ptR (polarToCart [r, c, s]) = p := by
  refine ⟨toCart_toPolar p, ?_⟩
  intro x y r c s hp h
  subst hp
  have hb := cartToPolar_matches_spec x y r c s h
  have hpc := as_roundtrip_exact x y _ h
  exact ⟨hb.1, hb.2.1, hb.2.2, hpc, by rw [hpc]⟩

/-- the polar radius is the distance from the origin and never negative — specification and executed conversion -/
theorem polar_radius (p : ℝ × ℝ) :
    (0 ≤ (toPolar p).1 ∧ (toPolar p).1 * (toPolar p).1 = p.1 * p.1 + p.2 * p.2) ∧
    ∀ x y r c s : Rat, p = ptR [x, y] → cartToPolar? [x, y] = some [r, c, s] →
      (toPolar p).1 = (r : ℝ) ∧ 0 ≤ r ∧ r * r = x * x + y * y := by
  refine ⟨toPolar_radius p, ?_⟩
  intro x y r c s hp h
  subst hp
  have hb := cartToPolar_matches_spec x y r c s h
  obtain ⟨h0, hsq, _⟩ := cartToPolar?_some h
  exact ⟨hb.1, h0, hsq⟩

/-- executable analogue of `polar_rotate_is_rotation`: turning the direction `(c, s)` of a polar point by the
angle with cosine `ca` and sine `sa` rotates the Cartesian point by `rot2 ca sa` -/
theorem polarToCart_rotate (r c s ca sa : Rat) :
    polarToCart [r, c * ca - s * sa, s * ca + c * sa] = linPt (rot2 ca sa) (polarToCart [r, c, s]) := by
  simp only [polarToCart, rot2, linPt_cons, linPt_nil, dot_cons, dot_nil, List.cons.injEq, and_true]
  constructor <;> ring

/-- **`PolarGrid.rotate`** (`θ += α`) rotates the physical point by `α`: over `ℝ`, and instantiated at the
executed `polarToCart` (direction `(c, s)` turned by `(ca, sa)`), which equals `rot2 ca sa` applied to the point. -/
theorem polar_rotate_is_rotation (r c s ca sa : Rat) (θ α : ℝ)
    (hc : Real.cos θ = (c : ℝ)) (hs : Real.sin θ = (s : ℝ)) (hca : Real.cos α = (ca : ℝ)) (hsa : Real.sin α = (sa : ℝ)) :
    toCart ((r : ℝ), θ + α) =
      (Real.cos α * (toCart ((r : ℝ), θ)).1 - Real.sin α * (toCart ((r : ℝ), θ)).2,
       Real.sin α * (toCart ((r : ℝ), θ)).1 + Real.cos α * (toCart ((r : ℝ), θ)).2) ∧
    toCart ((r : ℝ), θ + α) = ptR (polarToCart [r, c * ca - s * sa, s * ca + c * sa]) ∧
    polarToCart [r, c * ca - s * sa, s * ca + c * sa] = linPt (rot2 ca sa) (polarToCart [r, c, s]) := by
  refine ⟨toCart_rotate _ _ _, toCart_eq_ptR r _ _ _ ?_ ?_, polarToCart_rotate r c s ca sa⟩
  · rw [Real.cos_add, hc, hs, hca, hsa]; push_cast; rfl
  · rw [Real.sin_add, hc, hs, hca, hsa]; push_cast; rfl

/-- **`PolarGrid.scale`** (radius × k) scales the physical point: over `ℝ`, and instantiated at the executed `polarToCart`. -/
theorem polar_scale_is_scaling (r c s k : Rat) (θ : ℝ) (hc : Real.cos θ = (c : ℝ)) (hs : Real.sin θ = (s : ℝ)) :
    toCart (((r * k : Rat) : ℝ), θ) = ((toCart ((r : ℝ), θ)).1 * (k : ℝ), (toCart ((r : ℝ), θ)).2 * (k : ℝ)) ∧
    toCart (((r * k : Rat) : ℝ), θ) = ptR (scalePt [k, k] (polarToCart [r, c, s])) ∧
    polarToCart [r * k, c, s] = scalePt [k, k] (polarToCart [r, c, s]) := by
  refine ⟨by push_cast; exact toCart_scale _ _ _, ?_, polarToCart_scale r c s k⟩
  rw [← polarToCart_scale]; exact toCart_eq_ptR (r * k) c s θ hc hs

/-- the hypotheses of the trigonometric bridges are satisfiable -/
example : Real.cos 0 = ((1 : Rat) : ℝ) ∧ Real.sin 0 = ((0 : Rat) : ℝ) := by
  simp only [Real.cos_zero, Rat.cast_one, Real.sin_zero, Rat.cast_zero, and_self]

/-! ### `PolarGrid.shift` / `.shifted`: the three executed steps composed (`pshiftedPts`, `pshiftPts`; driver ops `pshifted`, `pshift`) -/

/-- the executed composite is the translation of the Cartesian image, point by point -/
theorem points_polar_shifted (c : Coords) (dirs : List (Rat × Rat)) (b1 b2 : Rat) :
    c.pshiftedPts dirs [b1, b2] =
      List.zipWith (fun p d => [p.headD 0 * d.1 + b1, p.headD 0 * d.2 + b2]) c.points dirs := by
  simp only [Coords.pshiftedPts, Coords.asCartPts, List.map_zipWith]
  congr 1

/-- **`PolarGrid.shift` translates the points in Cartesian space.**  For a polar point `(r, θ)` with direction
`(c, s) = (cos θ, sin θ)`: (1) the executed Cartesian image shifted by `b` is `(r c + b₁, r s + b₂)`; (2) the polar
point the specification puts there (`toPolar`, i.e. `hypot` / `arctan2` of the shifted Cartesian point) lies at
`toCart (r, θ) + b`; (3) wherever the executed `cartToPolar?` is defined on the shifted point, *any* angle with the
direction it returns gives that same position. -/
theorem points_polar_shift (r c s b1 b2 : Rat) (θ : ℝ) (hc : Real.cos θ = (c : ℝ)) (hs : Real.sin θ = (s : ℝ)) :
    shiftPt [b1, b2] (polarToCart [r, c, s]) = [r * c + b1, r * s + b2] ∧
    toCart (toPolar (((r * c + b1 : Rat) : ℝ), ((r * s + b2 : Rat) : ℝ))) =
      ((toCart ((r : ℝ), θ)).1 + (b1 : ℝ), (toCart ((r : ℝ), θ)).2 + (b2 : ℝ)) ∧
    ∀ r' c' s', cartToPolar? (shiftPt [b1, b2] (polarToCart [r, c, s])) = some [r', c', s'] →
      ∀ θ' : ℝ, Real.cos θ' = (c' : ℝ) → Real.sin θ' = (s' : ℝ) →
        toCart ((r' : ℝ), θ') = ((toCart ((r : ℝ), θ)).1 + (b1 : ℝ), (toCart ((r : ℝ), θ)).2 + (b2 : ℝ)) := by
  refine ⟨rfl, ?_, fun r' c' s' h θ' hc' hs' => ?_⟩
  · rw [toCart_toPolar]; simp only [Rat.cast_add, Rat.cast_mul, toCart, hc, hs]
  · -- the executed round trip puts `(r', θ')` at the shifted point
    rw [toCart_eq_ptR r' c' s' θ' hc' hs', as_roundtrip_exact (r * c + b1) (r * s + b2) _ h]
    simp only [ptR_pair, Rat.cast_add, Rat.cast_mul, toCart, hc, hs]

/-! ## The executable conversion model (`cartToPolar?`, `polarToCart`, `Coords.asPolarPts`, `Coords.asCartPts`)

The `ℝ` theorems above are about the specification functions.  The statements below are about the
exact **executable** model of `as_` in Model/Grid.lean, which the driver runs (`aspolar i`, `ascart i …`)
on the current value of a live grid after every history and which the harness compares with what
`grid.as_(…)` returns on the real object *with its conversion history* (radius, direction `(cos θ,
sin θ)` ↔ `θ = arctan2`).  A polar point of the model is `[r, c, s]` with `(c, s)` the direction; the model
is defined on the points whose radius is rational (Pythagorean directions), where it is exact.
`cartToPolar_matches_spec` (above) connects the two levels; the exact round trip Cartesian → polar → Cartesian is
`as_roundtrip_exact` (above). -/

/-- the converted point: non-negative radius = distance from the origin, direction on the unit circle -/
theorem as_polar_spec (x y : Rat) (q : List Rat) (h : cartToPolar? [x, y] = some q) :
    ∃ r c s, q = [r, c, s] ∧ 0 ≤ r ∧ r * r = x * x + y * y ∧ c * c + s * s = 1 ∧ x = r * c ∧ y = r * s :=
  cartToPolar?_spec x y q h

/-- **polar → Cartesian → polar** returns the same radius and direction (for `r > 0`; the origin has the
canonical direction `(1, 0)`, as `arctan2(0, 0) = 0`): the model is defined exactly on the points with a
rational radius and unit direction. -/
theorem as_roundtrip_polar (r c s : Rat) (hr : 0 ≤ r) (hcs : c * c + s * s = 1) :
    cartToPolar? (polarToCart [r, c, s]) = some (if r = 0 then [0, 1, 0] else [r, c, s]) := by
  have : r * c * (r * c) + r * s * (r * s) = r * r := by linear_combination (r * r) * hcs
  simp only [polarToCart, cartToPolar?, this, ratSqrt?_sq r hr, Option.map_some, Option.some.injEq]
  by_cases hz : r = 0
  · simp only [hz, ↓reduceIte]
  · simp only [hz, if_false, List.cons.injEq, and_true, true_and]
    exact ⟨mul_div_cancel_left₀ c hz, mul_div_cancel_left₀ s hz⟩

/-- `polarToCart` is `toCart` for an angle with the direction `(c, s)` (the converse bridge is `cartToPolar_matches_spec`). -/
theorem polarToCart_matches_spec (r c s : Rat) (θ : ℝ) (hc : Real.cos θ = (c : ℝ)) (hs : Real.sin θ = (s : ℝ)) :
    toCart ((r : ℝ), θ) = (((r * c : Rat) : ℝ), ((r * s : Rat) : ℝ)) ∧ polarToCart [r, c, s] = [r * c, r * s] :=
  ⟨toCart_eq_ptR r c s θ hc hs, rfl⟩

example : cartToPolar? [-3 / 2, 2] = some [5 / 2, -3 / 5, 4 / 5] ∧ cartToPolar? [0, 0] = some [0, 1, 0] ∧
    cartToPolar? [-2, 0] = some [2, -1, 0] ∧ cartToPolar? [1, 1] = none := by decide +kernel

/-! ### Conversion histories: what a conversion returns after other operations

`Coords.asPolarPts c = c.points.map cartToPolar?` has no state besides the current coordinates — in the
model that is by construction; that the *code* has no stale cache either is what the tie checks (the
`aspolar` / `ascart` answers are compared with a fresh `as_()` of a real grid that has been converted,
reversed, scaled and converted again).  The theorems say what the current value is after each operation. -/

/-- **convert → reverse → convert**: the second conversion lists the converted points in reversed order. -/
theorem as_after_reverse (g : Grid) (h : g.coords.WF) : g.reverse.coords.asPolarPts = g.coords.asPolarPts.reverse := by
  simp only [Coords.asPolarPts, Grid.reverse, Coords.points_reverse g.coords h, List.map_reverse]

/-- a conversion after a scale / shift / rotation converts the scaled / shifted / rotated points -/
theorem as_after_scale_shift_rotate (c : Coords) (f b : List Rat) (M : List (List Rat))
    (hf : f.length = c.ndim) (hb : b.length = c.ndim) (hM : M ≠ []) :
    (c.scale f).asPolarPts = c.points.map (cartToPolar? ∘ scalePt f) ∧
    (c.shift b).asPolarPts = c.points.map (cartToPolar? ∘ shiftPt b) ∧
    (c.linmap M).asPolarPts = c.points.map (cartToPolar? ∘ linPt M) := by
  simp only [Coords.asPolarPts, Coords.points_scale c f hf, List.map_map, Coords.points_shift c b hb,
    Coords.points_linmap c M hM, and_self]

/-- **Scaling commutes with the conversion**: the polar form of the scaled point `(k x, k y)`, `k > 0`,
is the scaled radius with the same direction — so `PolarGrid.scale(k)` (radius × k, `polar_scale_is_scaling`)
and `CartesianGrid.scale(k)` agree through `as_`. -/
theorem as_scale_commutes (x y k r c s : Rat) (hk : 0 < k) (h : cartToPolar? [x, y] = some [r, c, s]) (hr : r ≠ 0) :
    cartToPolar? [x * k, y * k] = some [r * k, c, s] := by
  obtain ⟨h0, _, hcs, _⟩ := cartToPolar?_some h
  -- the scaled point is the Cartesian image of `(r k, c, s)`; convert that back
  have hxy : [x * k, y * k] = polarToCart [r * k, c, s] := by
    rw [polarToCart_scale, as_roundtrip_exact x y _ h]; rfl
  rw [hxy, as_roundtrip_polar (r * k) c s (by positivity) hcs, if_neg (mul_ne_zero hr hk.ne')]

/-- **polar scale, then convert** = **convert, then Cartesian scale** on the executable model, whatever
directions the points have. -/
theorem asCart_after_polar_scale (c : Coords) (k : Rat) (dirs : List (Rat × Rat)) (h2 : c.ndim = 2) :
    (c.scale [k, 1]).asCartPts dirs = (c.asCartPts dirs).map (scalePt [k, k]) := by
  simp only [Coords.asCartPts, Coords.points_scale c [k, 1] h2.symm, List.zipWith_map_left, List.map_zipWith, headD_scalePt,
    polarToCart_scale]

/-- equal grids (`==`) convert to the same points: a fresh equal grid is as good as the one with a
conversion history -/
theorem as_of_equal_grids (a b : Grid) (h : a.eq b = true) (dirs : List (Rat × Rat)) :
    a.coords.asPolarPts = b.coords.asPolarPts ∧ a.coords.asCartPts dirs = b.coords.asCartPts dirs := by
  rw [(Grid.eq_true_imp h).2]; exact ⟨rfl, rfl⟩

/-! ## Old — the code before the repairs (documentation of D21 / D30; code that no longer exists in /repo:
not evidence for the property) -/

/-- D21: with signed automatic weights a reversed 1-D regular grid gets negative weights — unless the
weights had been cached before the reversal (history dependence). -/
theorem Old.weights_history_dependent :
    ∃ g g' : Grid, g.materialize = some g' ∧ g.coords = g'.coords ∧
      g.reverseOld.weightListOld = some [-1 / 2, -1 / 2] ∧ g'.reverseOld.weightListOld = some [1 / 2, 1 / 2] :=
  ⟨⟨.cartesian, .regular [⟨1 / 2, 2, 0⟩], .none⟩, ⟨.cartesian, .regular [⟨1 / 2, 2, 0⟩], .scalar (1 / 2)⟩,
    by decide +kernel, rfl, by decide +kernel, by decide +kernel⟩

/-- D30: the old `reverse` left cached per-point weights in the old order, so they no longer belong
to their points. -/
theorem Old.reverse_misplaces_weights :
    ∃ g : Grid, g.reverseOld.weightList ≠ g.weightList.map List.reverse :=
  ⟨⟨.cartesian, .separated [[0, 1, 3]], .array [1, 3 / 2, 2]⟩, by decide +kernel⟩

example : ∃ g g' : Grid, g.system = .cartesian ∧ g.scale (.vector [-2, 3]) = some g' :=
  ⟨⟨.cartesian, .separated [[0, 1, 3], [0, 2]], .none⟩, _, rfl, rfl⟩
example : (1 : Rat) ≤ 2 * (3 / 2) * (5 / 2) := by norm_num
example : ∃ c s : Rat, c * c + s * s = 1 ∧ s ≠ 0 := ⟨3 / 5, 4 / 5, by norm_num, by norm_num⟩
example : ∃ a b d : Rat, a * a + b * b + d * d = 1 ∧ a ≠ 0 ∧ b ≠ 0 ∧ d ≠ 0 :=
  ⟨2 / 3, 2 / 3, 1 / 3, by norm_num, by norm_num, by norm_num, by norm_num⟩

/-! ## `grid.weights = w` as an operation of a history (driver op `setw`) -/

/-- **Assigning the weights changes the weights only**: the coordinate system, the coordinates and so every point stay. -/
theorem setWeights_points (g : Grid) (w : Weights) :
    (g.setWeights w).system = g.system ∧ (g.setWeights w).coords = g.coords ∧
    (g.setWeights w).coords.points = g.coords.points := ⟨rfl, rfl, rfl⟩

/-- **The weights read back are the assigned ones** (an array as it is, a scalar broadcast to every point); assigning `None`
returns to the automatic weights. -/
theorem setWeights_weightList (g : Grid) (a : List Rat) (k : Rat) :
    (g.setWeights (.array a)).weightList = some a ∧
    (g.setWeights (.scalar k)).weightList = some (List.replicate g.coords.size k) ∧
    (g.setWeights .none).getWeights = autoWeights g.system g.coords := ⟨rfl, rfl, rfl⟩

/-- **A scale after the assignment multiplies exactly the assigned weights by the Jacobian** (Cartesian grids, either
argument form), whatever weights the grid had before. -/
theorem setWeights_then_scale (g g' : Grid) (a : List Rat) (s : ScaleArg) (hc : g.system = .cartesian)
    (h : (g.setWeights (.array a)).scale s = some g') :
    g'.weightList = some (a.map (· * s.weightFactor g.coords.ndim)) ∧ g'.coords = g.coords.scale (s.factors g.coords.ndim) := by
  simp only [Grid.scale, Grid.setWeights, hc, Grid.getWeights, Option.map_some, Option.some.injEq] at h
  subst h
  exact ⟨rfl, rfl⟩

example : ∃ g g' : Grid, g.system = .cartesian ∧ (g.setWeights (.array [1, 2])).scale (.scalar 2) = some g' :=
  ⟨⟨.cartesian, .separated [[0, 1]], .none⟩, _, rfl, rfl⟩

end HcipyVerif.Grid
