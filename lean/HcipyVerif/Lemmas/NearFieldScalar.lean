import HcipyVerif.Lemmas.NearFieldAbstract

/-!
# C04 — the executed scalar-polymorphic propagators at `ℂ`

`Model/NearField.lean` defines `fourierFilter`, `fourierFilterBackward`, `fresnelTF`, `fresnelForward`,
`fresnelBackward`, `fourierFilterM`, `fourierFilterMBackward` once, for any `Scalar C` (rationals, the character
`t ↦ exp(2πi t)`, conjugation).  The driver runs them at `psumScalar` (formal phase sums).  Here:

* `cScalar : Scalar ℂ` — the scalar of the theorems (`exp(2πi t)`, complex conjugation);
* `fourierFilter_eq_filter` — at `cScalar` the executed pipeline *is* the abstract operator
  `filter (dftPair2 …) (cutoutEmb p h)` of `Lemmas/NearFieldAbstract.lean` (so its theorems instantiate), for any transfer
  function given as a function on `ℕ × ℕ`; `backward` is the same pipeline at the conjugated transfer function;
* `ev_ofRat`, `ev_kerF`, `ev_kerB`, `ev_conj` — `PSum.ev` (the complex number a formal phase sum denotes) maps what `psumScalar`
  provides onto what `cScalar` provides; hence `ev_meanTurns`, `ev_fresnelTF`, `ev_fresnelIrTFc`, `ev_fresnelTFSwitched`: it maps the
  driver's transfer functions onto those at `cScalar` (for the pipelines: `*_denotes_*` in `Properties/C04.lean`);
* `fresnelTF_eq_sampled`, `angularTF_eq_sampled` — the executed transfer functions (rational phases `fresnelTurns`, executed
  radicands through `angSample`) are the sub-pixel means of `transfer_function_native` as the code writes it (`fresnelAt`,
  `angularAt`), with no hypothesis on `n`, `λ`; so modulus `≤ 1` (`= 1` without oversampling), `D(-z) = conj D(z)`,
  `D(z₁)·D(z₂) = D(z₁+z₂)` are those of `fresnelD`, `angularD` (`Lemmas/NearField.lean`).
-/

open Complex ComplexConjugate

namespace HcipyVerif.NearField

open HcipyVerif.Fft (expT PSum)

/-- The scalar of the theorems: `ℂ`, `t ↦ exp(2πi t)`, complex conjugation. -/
noncomputable def cScalar : Scalar ℂ :=
  ⟨fun q => ((q : ℚ) : ℂ), fun t => expT ((t : ℚ) : ℝ), starRingEnd ℂ⟩

theorem cScalar_kerF (M : ℕ) : cScalar.kerF M = kF M := by
  funext n
  unfold Scalar.kerF kF
  show expT _ = _
  congr 1
  push_cast
  rfl

theorem cScalar_kerB (M : ℕ) : cScalar.kerB M = kB M := by
  funext n
  unfold Scalar.kerB kB
  show expT _ = _
  congr 1
  push_cast
  rfl

theorem cScalar_scale (N : ℕ) : cScalar.ofRat (1 / ((N : ℕ) : ℚ)) = ((N : ℕ) : ℂ)⁻¹ := by
  show (((1 / ((N : ℕ) : ℚ) : ℚ)) : ℂ) = _
  push_cast
  rw [one_div]

theorem fourierFilter_c (p : Params) (D x : ℕ → ℕ → ℂ) :
    fourierFilter cScalar p D x
      = filterP p (kF (my p)) (kF (mx p)) (kB (my p)) (kB (mx p)) (((my p * mx p : ℕ) : ℂ)⁻¹) D x := by
  unfold fourierFilter
  rw [cScalar_kerF, cScalar_kerF, cScalar_kerB, cScalar_kerB, cScalar_scale]

theorem fourierFilterBackward_eq {C : Type} [Zero C] [Add C] [Mul C] (S : Scalar C) (p : Params) (D x : ℕ → ℕ → C) :
    fourierFilterBackward S p D x = fourierFilter S p (fun a b => S.conj (D a b)) x := rfl

theorem fourierFilterMBackward_eq {C : Type} [Zero C] [Add C] [Mul C] {n : ℕ} (S : Scalar C) (p : Params)
    (D : ℕ → ℕ → Fin n → Fin n → C) (x : Fin n → ℕ → ℕ → C) :
    fourierFilterMBackward S p D x = fourierFilterM S p (fun a b => conjT S.conj (D a b)) x := rfl

theorem fourierFilterM_c {n : ℕ} (p : Params) (D : ℕ → ℕ → Fin n → Fin n → ℂ) (x : Fin n → ℕ → ℕ → ℂ) :
    fourierFilterM cScalar p D x
      = filterMP p (kF (my p)) (kF (mx p)) (kB (my p)) (kB (mx p)) (((my p * mx p : ℕ) : ℂ)⁻¹) D x := by
  unfold fourierFilterM
  rw [cScalar_kerF, cScalar_kerF, cScalar_kerB, cScalar_kerB, cScalar_scale]

/-- The transfer function of the executed pipeline (a function on `ℕ × ℕ`, read on `[0,My)×[0,Mx)` only) as a function on
the internal grid. -/
def onGrid {My Mx : ℕ} (D : ℕ → ℕ → ℂ) : Fin My × Fin Mx → ℂ := fun m => D (m.1 : ℕ) (m.2 : ℕ)

theorem fourierFilter_eq_filter (p : Params) (h : padOK p = true) (D : ℕ → ℕ → ℂ) (x : Fin p.ny × Fin p.nx → ℂ)
    (j : Fin p.ny × Fin p.nx) :
    fourierFilter cScalar p D (ext2 x) (j.1 : ℕ) (j.2 : ℕ)
      = filter (dftPair2 (my p) (mx p) (my_pos h) (mx_pos h)) (cutoutEmb p h) (onGrid D) x j :=
  (congrFun (congrFun (fourierFilter_c p D (ext2 x)) _) _).trans (filterP_eq_filter p h D x j)

/-- The padded sizes and the cut-out do not depend on the distance, and `backward` is `forward` at the conjugated transfer
function: the filter built after `distance := z` whose transfer function is the conjugate of `D` is `backward` of `D`. -/
theorem fourierFilter_distance_conj (p : Params) (z : ℚ) {D' D : ℕ → ℕ → ℂ} (hD : ∀ a b, D' a b = conj (D a b))
    (X : ℕ → ℕ → ℂ) :
    fourierFilter cScalar (withParam p (.distance z)) D' X = fourierFilterBackward cScalar p D X :=
  congrArg (fourierFilter cScalar p · X) (funext fun a => funext (hD a))

theorem ev_ofRat (q : ℚ) : PSum.ev (psumScalar.ofRat q) = cScalar.ofRat q := PSum.ev_ofRat q

theorem ev_kerF (M : ℕ) (n : ℤ) : PSum.ev (psumScalar.kerF M n) = cScalar.kerF M n := PSum.ev_turns _

theorem ev_kerB (M : ℕ) (n : ℤ) : PSum.ev (psumScalar.kerB M n) = cScalar.kerB M n := PSum.ev_turns _

theorem ev_conj (a : PSum) : PSum.ev (psumScalar.conj a) = cScalar.conj (PSum.ev a) := ev_psumConj a

theorem meanTurns_c (l : List ℚ) : meanTurns cScalar l = listMean (l.map fun t => expT ((t : ℚ) : ℝ)) := by
  unfold meanTurns listMean
  show (((1 / (l.length : ℚ) : ℚ)) : ℂ) * (l.map (fun t => expT ((t : ℚ) : ℝ))).foldr (· + ·) 0 = _
  rw [← List.sum_eq_foldr, List.length_map]
  push_cast
  ring

theorem ev_meanTurns (l : List ℚ) : PSum.ev (meanTurns psumScalar l) = meanTurns cScalar l := by
  unfold meanTurns
  rw [PSum.ev_mul, ← List.sum_eq_foldr, ← List.sum_eq_foldr, PSum.ev_hom.list_sum, List.map_map]
  exact congrArg₂ (· * ·) (PSum.ev_ofRat _) (congrArg List.sum (List.map_congr_left fun t _ => PSum.ev_turns t))

theorem ev_fresnelTF (p : Params) (qy qx : ℕ) :
    PSum.ev (fresnelTF psumScalar p qy qx) = fresnelTF cScalar p qy qx := ev_meanTurns _

theorem fresnelTF_eq_sampled (p : Params) (qy qx : ℕ) :
    fresnelTF cScalar p qy qx
      = listMean ((subFreqs p (ifftshiftIdx (mx p) qx) (ifftshiftIdx (my p) qy)).map (fresnelAt p)) := by
  unfold fresnelTF fresnelSubTurns
  rw [meanTurns_c, List.map_map]
  refine congrArg listMean (List.map_congr_left ?_)
  rintro ⟨a, b⟩ _
  exact (expT_frac _).trans (fresnelAt_eq_expT p (a, b)).symm

theorem norm_fresnelTF_le_one (p : Params) (qy qx : ℕ) : ‖fresnelTF cScalar p qy qx‖ ≤ 1 := by
  rw [fresnelTF_eq_sampled]
  exact norm_listMean_map_le_one _ _ fun ν _ => (norm_fresnelD _ _ _ _).le

theorem fresnelTF_of_no_oversampling {p : Params} (hx : p.sx = 1) (hy : p.sy = 1) (qy qx : ℕ) :
    fresnelTF cScalar p qy qx
      = fresnelAt p (nu p.dx (mx p) (ifftshiftIdx (mx p) qx) 0, nu p.dy (my p) (ifftshiftIdx (my p) qy) 0) := by
  rw [fresnelTF_eq_sampled, subFreqs_of_no_oversampling hx hy, List.map_singleton, listMean_singleton]

theorem norm_fresnelTF_eq_one {p : Params} (hx : p.sx = 1) (hy : p.sy = 1) (qy qx : ℕ) :
    ‖fresnelTF cScalar p qy qx‖ = 1 := by
  rw [fresnelTF_of_no_oversampling hx hy]
  exact norm_fresnelD _ _ _ _

theorem fresnelTF_neg_z (p : Params) (qy qx : ℕ) :
    fresnelTF cScalar (withParam p (.distance (-p.z))) qy qx = conj (fresnelTF cScalar p qy qx) := by
  rw [fresnelTF_eq_sampled, fresnelTF_eq_sampled, conj_listMean_map]
  exact congrArg listMean (List.map_congr_left fun ν _ => fresnelAt_neg_z p ν)

theorem fresnelTF_mul {p : Params} (hx : p.sx = 1) (hy : p.sy = 1) (z₁ z₂ : ℚ) (qy qx : ℕ) :
    fresnelTF cScalar (withParam p (.distance z₂)) qy qx * fresnelTF cScalar (withParam p (.distance z₁)) qy qx
      = fresnelTF cScalar (withParam p (.distance (z₁ + z₂))) qy qx := by
  rw [fresnelTF_of_no_oversampling (p := withParam p (.distance z₂)) hx hy,
    fresnelTF_of_no_oversampling (p := withParam p (.distance z₁)) hx hy,
    fresnelTF_of_no_oversampling (p := withParam p (.distance (z₁ + z₂))) hx hy]
  exact fresnelAt_mul p z₁ z₂ _

/-- The angular-spectrum transfer function at a sub-sample with radicand `r = (n/λ)² - ν²` (what the driver op `tfq`
prints, `angularSubRadicands`), decay distance `ez` (`evanescentZ p = |z|`) and distance `z`: `exp(2πi z √r)` for a
propagating wave (`r ≥ 0`), `exp(-2π·ez·√(-r))` for an evanescent one — the formula by which the harness turns the
driver's answer into the number it compares with the running code's array. -/
noncomputable def angSample (z ez r : ℚ) : ℂ :=
  if 0 ≤ r then cexp (((2 * Real.pi * Real.sqrt ((r : ℚ) : ℝ) * ((z : ℚ) : ℝ) : ℝ) : ℂ) * I)
  else cexp (((-(2 * Real.pi * Real.sqrt (-((r : ℚ) : ℝ)) * ((ez : ℚ) : ℝ)) : ℝ) : ℂ))

theorem norm_angSample_of_propagating {z ez r : ℚ} (h : 0 ≤ r) : ‖angSample z ez r‖ = 1 := by
  unfold angSample
  rw [if_pos h, Complex.norm_exp_ofReal_mul_I]

theorem norm_angSample_of_evanescent {z ez r : ℚ} (h : r < 0) :
    ‖angSample z ez r‖ = Real.exp (-(2 * Real.pi * Real.sqrt (-((r : ℚ) : ℝ)) * ((ez : ℚ) : ℝ))) := by
  unfold angSample
  rw [if_neg (not_le.mpr h), Complex.norm_exp_ofReal]

/-- The executed radicand is `(k² - k⊥²)/(2π)²` at `k = 2πn/λ`, `k⊥ = 2πν` (also for `λ = 0`, where both sides are `-ν²`). -/
theorem angularAt_eq_angSample (p : Params) (ν : ℚ × ℚ) :
    angularAt p ν = angSample p.z (evanescentZ p) (radicand p ν.1 ν.2) := by
  unfold angularAt waveK evanescentZ angSample
  rw [angularD_of_radicand (r := ((radicand p ν.1 ν.2 : ℚ) : ℝ)) (by unfold radicand; push_cast; ring), ratAbs_eq_abs,
    Rat.cast_abs]
  exact if_congr Rat.cast_nonneg rfl rfl

/-- The angular-spectrum transfer function that multiplies FFT bin `(qy,qx)`: the sub-pixel mean of `angSample` over the
executed radicands `angularSubRadicands` of the centred pixel (`ifftshiftIdx`) — the number the harness computes from the
driver's answer to `tfq` (`model_tf_value`) and compares with the array the real filter multiplies with. -/
noncomputable def angularTF (p : Params) (qy qx : ℕ) : ℂ :=
  listMean ((angularSubRadicands p (ifftshiftIdx (mx p) qx) (ifftshiftIdx (my p) qy)).map
    (angSample p.z (evanescentZ p)))

theorem angularTF_eq_sampled (p : Params) (qy qx : ℕ) :
    angularTF p qy qx
      = listMean ((subFreqs p (ifftshiftIdx (mx p) qx) (ifftshiftIdx (my p) qy)).map (angularAt p)) := by
  unfold angularTF angularSubRadicands
  rw [List.map_map]
  refine congrArg listMean (List.map_congr_left ?_)
  rintro ⟨a, b⟩ _
  exact (angularAt_eq_angSample p (a, b)).symm

theorem norm_angularTF_le_one (p : Params) (qy qx : ℕ) : ‖angularTF p qy qx‖ ≤ 1 := by
  rw [angularTF_eq_sampled]
  exact norm_listMean_map_le_one _ _ fun ν _ => angularD_norm_le_one _ _ _

theorem angularTF_neg_z (p : Params) (qy qx : ℕ) :
    angularTF (withParam p (.distance (-p.z))) qy qx = conj (angularTF p qy qx) := by
  rw [angularTF_eq_sampled, angularTF_eq_sampled, conj_listMean_map]
  exact congrArg listMean (List.map_congr_left fun ν _ => angularAt_neg_z p ν)

theorem ev_fresnelIrTFc (p : Params) (iy ix : ℕ) :
    PSum.ev (fresnelIrTFc psumScalar p iy ix) = fresnelIrTFc cScalar p iy ix := by
  unfold fresnelIrTFc
  rw [PSum.ev_mul, PSum.ev_hom.sumRange]
  refine congrArg₂ (· * ·) (PSum.ev_ofRat _) (congrArg _ (funext fun jy => ?_))
  rw [PSum.ev_hom.sumRange]
  refine congrArg _ (funext fun jx => ?_)
  rw [PSum.ev_mul, PSum.ev_mul, ev_meanTurns, ev_kerF, ev_kerF]

theorem ev_fresnelTFSwitched (p : Params) (qy qx : ℕ) :
    PSum.ev (fresnelTFSwitched psumScalar p qy qx) = fresnelTFSwitched cScalar p qy qx := by
  unfold fresnelTFSwitched
  split
  · exact ev_fresnelIrTFc p _ _
  · exact ev_fresnelTF p qy qx

theorem fresnelPropagatorForward_eq {C : Type} [Zero C] [Add C] [Mul C] (S : Scalar C) (p : Params) (x : ℕ → ℕ → C) :
    fresnelPropagatorForward S p x = fourierFilter S p (fresnelTFSwitched S p) x := by
  unfold fresnelPropagatorForward fresnelTFSwitched fresnelForward
  split <;> rfl

theorem fresnelPropagatorBackward_eq {C : Type} [Zero C] [Add C] [Mul C] (S : Scalar C) (p : Params) (x : ℕ → ℕ → C) :
    fresnelPropagatorBackward S p x = fourierFilterBackward S p (fresnelTFSwitched S p) x := by
  unfold fresnelPropagatorBackward fresnelTFSwitched fresnelBackward
  split <;> rfl

/-- `impulse_response` of `FresnelPropagator.make_instance` as the code writes it:
`exp(ikz)/(iλz) · exp(i k/(2z) (x²+y²))` at `k = 2πn/λ`. -/
noncomputable def fresnelIrAt (p : Params) (x y : ℚ) : ℂ :=
  cexp (((waveK p * (p.z : ℝ) : ℝ) : ℂ) * I) / (I * ((p.lam : ℝ) : ℂ) * ((p.z : ℝ) : ℂ))
    * cexp (((waveK p / (2 * (p.z : ℝ)) * ((x : ℝ) * (x : ℝ) + (y : ℝ) * (y : ℝ)) : ℝ) : ℂ) * I)

theorem fresnelIrAt_eq_turns (p : Params) (x y : ℚ) :
    fresnelIrAt p x y = cScalar.ofRat (fresnelIrAmp p) * cScalar.turns (fresnelIrTurns p x y) := by
  show _ = (((fresnelIrAmp p : ℚ)) : ℂ) * expT ((fresnelIrTurns p x y : ℚ) : ℝ)
  -- the phase `2π·turns` is `-π/2` (the factor `1/i`) plus the two phases the code writes
  have e : (2 * Real.pi * ((fresnelIrTurns p x y : ℚ) : ℝ) : ℝ)
      = -(Real.pi / 2) + (waveK p * (p.z : ℝ)
          + waveK p / (2 * (p.z : ℝ)) * ((x : ℝ) * (x : ℝ) + (y : ℝ) * (y : ℝ))) := by
    unfold fresnelIrTurns waveK
    push_cast
    ring
  have hI : cexp (((-(Real.pi / 2) : ℝ) : ℂ) * I) = I⁻¹ := by
    rw [Complex.ofReal_neg, neg_mul, Complex.exp_neg, Complex.ofReal_div, Complex.ofReal_ofNat,
      Complex.exp_pi_div_two_mul_I]
  rw [expT_eq_cexp, e, Complex.ofReal_add, Complex.ofReal_add, add_mul, add_mul, Complex.exp_add,
    Complex.exp_add, hI]
  unfold fresnelIrAt fresnelIrAmp
  push_cast
  ring

theorem sumRange_mul_left (c : ℂ) (n : ℕ) (g : ℕ → ℂ) : c * Fft.sumRange n g = Fft.sumRange n (fun i => c * g i) := by
  rw [Fft.sumRange_eq, Fft.sumRange_eq, Finset.mul_sum]

theorem listMean_fresnelIrAt (p : Params) (jx jy : ℕ) :
    listMean ((dithers p.sy).flatMap fun dy => (dithers p.sx).map fun dx =>
        fresnelIrAt p (xCoord p.dx (mx p) jx dx) (xCoord p.dy (my p) jy dy))
      = cScalar.ofRat (fresnelIrAmp p) * meanTurns cScalar (fresnelIrSubTurns p jx jy) := by
  rw [meanTurns_c]
  unfold fresnelIrSubTurns listMean
  rw [List.length_map, List.map_flatMap, List.length_flatMap, List.length_flatMap, ← mul_div_assoc]
  congr 1
  · -- row by row: `(l.flatMap f).sum` is the sum of the row sums
    rw [List.flatMap_def, List.flatMap_def, List.sum_flatten, List.sum_flatten, List.map_map, List.map_map,
      ← List.sum_map_mul_left]
    refine congrArg List.sum (List.map_congr_left fun dy _ => ?_)
    show (List.map _ _).sum = _ * (List.map _ _).sum
    rw [List.map_map, ← List.sum_map_mul_left]
    congr 1
    apply List.map_congr_left
    intro dx _
    simp only [Function.comp]
    rw [fresnelIrAt_eq_turns, expT_frac]
    rfl
  · simp only [List.length_map]

end HcipyVerif.NearField
