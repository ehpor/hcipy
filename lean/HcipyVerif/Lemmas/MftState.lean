import HcipyVerif.Model.MftState

/-!
# MFT switches: the invariant that makes every call independent of the call history
-/

namespace HcipyVerif.Fft

variable {α : Type}

/-- the stored objects are what their tags say: the matrices were built for `matrices_dtype` by `build`,
the buffer has the precision `intermediate_dtype`; absent tags mean nothing is relied upon -/
def MftSt.Good (build : Prec → α) (s : MftSt α) : Prop :=
  (∀ d, s.matricesDtype = some d → s.matrices = some (d, build d)) ∧
  (∀ d, s.interDtype = some d → s.inter = some d)

theorem MftSt.init_good (build : Prec → α) : (MftSt.init (α := α)).Good build := by
  constructor <;> intro d h <;> simp [MftSt.init] at h

/-- after `_compute_matrices(d)` both tags are `d` (the buffer's only on two axes) -/
theorem mftCompute_good (c : MftCfg) (build : Prec → α) (s : MftSt α) (d : Prec) (hs : s.Good build) :
    (mftCompute c build s d).1.Good build ∧
    (mftCompute c build s d).1.matricesDtype = some d ∧
    (c.ndim = 2 → (mftCompute c build s d).1.interDtype = some d) := by
  unfold mftCompute
  extract_lets rebuilt s1 realloc s2
  -- first the matrices; the buffer is untouched
  have h1 : s1.Good build ∧ s1.matricesDtype = some d := by
    unfold s1 rebuilt
    split
    · exact ⟨⟨fun d' h' => by cases h'; rfl, hs.2⟩, rfl⟩
    · next h => exact ⟨hs, by simpa using h⟩
  -- then the buffer
  show s2.Good build ∧ s2.matricesDtype = some d ∧ (c.ndim = 2 → s2.interDtype = some d)
  unfold s2 realloc
  split
  · exact ⟨⟨h1.1.1, fun d' h' => by cases h'; rfl⟩, h1.2, fun _ => rfl⟩
  · next h => exact ⟨h1.1, h1.2, fun h2 => by simpa [h2] using h⟩

theorem mftRemove_good (c : MftCfg) (build : Prec → α) (s : MftSt α) (hs : s.Good build) :
    (mftRemove c s).Good build := by
  unfold mftRemove
  extract_lets s1
  -- a tag that is cleared promises nothing; the other pair is untouched
  have h1 : s1.Good build := by
    unfold s1
    split
    · exact hs
    · exact ⟨nofun, hs.2⟩
  split
  · exact ⟨h1.1, nofun⟩
  · exact h1

theorem mftHistory_at_use (c : MftCfg) (build : Prec → α) (ds : List Prec) :
    ∀ (s : MftSt α), s.Good build →
      ∀ (k : Nat) (hk : k < ds.length),
        ∃ r, (mftHistory c build s ds)[k]? = some r ∧
          r.1.matrices = some (ds[k], build ds[k]) ∧ (c.ndim = 2 → r.1.inter = some ds[k]) := by
  induction ds with
  | nil => exact fun _ _ _ => nofun
  | cons d ds ih =>
    intro s hs
    obtain ⟨hg, h3, h4⟩ := mftCompute_good c build s d hs
    -- entry `k + 1` of the history from `s` is entry `k` of the history from the state the first call leaves
    rintro (_ | k) hk
    · exact ⟨_, rfl, hg.1 d h3, fun h2 => hg.2 d (h4 h2)⟩
    · exact ih _ (mftRemove_good c build _ hg) k (Nat.lt_of_succ_lt_succ hk)

end HcipyVerif.Fft
