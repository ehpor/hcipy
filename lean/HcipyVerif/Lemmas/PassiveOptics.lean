import HcipyVerif.Model.PassiveOptics
import HcipyVerif.Lemmas.Jones
import HcipyVerif.Lemmas.FftIndex
import HcipyVerif.Lemmas.FourierLinkC04
import HcipyVerif.Lemmas.NearFieldGRat
import Mathlib.Tactic.Ring
import Mathlib.Tactic.IntervalCases

/-!
# The passive-optics model `Model/PassiveOptics.lean` (C07)

* sums of the pair model are sums in `ℂ` (`toComplex_sumRange`), so the Finset theorems apply to the executable model;
* `knifeRow` with the DFT kernels `kF M`, `kB M` *is* the `FourierFilter` pipeline `crop ∘ F⁻¹ ∘ D ∘ F ∘ pad` of
  `Lemmas/NearFieldFilter.lean` for the FFT pair `dftPair M` built from C01/C02's DFT specification (`knifeRow_eq_filter`);
* the Gaussian-integer kernels the driver runs are those of `Model/NearField.lean` (`iPow_toComplex`), hence the DFT kernels when
  `M ∣ 4` (`C07.knife_exec_kernels`);
* `knifeRow` commutes with every map of scalars preserving `0`, `+`, `·` (`knifeRow_map`), so running it at the formal phase
  sums is running it at the complex numbers they denote.
-/

namespace HcipyVerif.Passive
open HcipyVerif.Jones HcipyVerif.Fft HcipyVerif.NearField

theorem power_eq_sum (E : ℕ → Cx ℝ) (w : ℕ → ℝ) (n : ℕ) :
    power E w n = ∑ i ∈ Finset.range n, (E i).normSq * w i := by
  unfold power; rw [sumRange_eq]

theorem toComplex_zero : (0 : Cx ℝ).toComplex = 0 := rfl

theorem toComplex_hom : ScalarHom Cx.toComplex := ⟨⟨toComplex_zero, Cx.toComplex_add⟩, Cx.toComplex_mul⟩

theorem toComplex_sumRange (f : ℕ → Cx ℝ) (n : ℕ) :
    (sumRange n f).toComplex = ∑ i ∈ Finset.range n, (f i).toComplex := by
  rw [toComplex_hom.sumRange, sumRange_eq]

theorem fibreAmp_toComplex (E m : ℕ → Cx ℝ) (w : ℕ → ℝ) (n : ℕ) :
    (fibreAmp E m w n).toComplex
      = ∑ i ∈ Finset.range n, (starRingEnd ℂ) (E i).toComplex * (w i : ℂ) * (m i).toComplex := by
  unfold fibreAmp
  rw [toComplex_sumRange]
  apply Finset.sum_congr rfl
  intro i _
  rw [Cx.toComplex_mul, Cx.toComplex_smul, Cx.toComplex_conj]; ring

theorem mask_unimodular_stokes {t : Cx ℝ} (ht : t.normSq = 1) (e : J2 ℝ) (s : S4 ℝ) (v : V2 ℝ) :
    jonesStokes (maskJ t e) s = jonesStokes e s ∧ vecStokes (maskV t v) = vecStokes v := by
  unfold maskJ maskV
  rw [jonesStokes_scale, vecStokes_scale, ht]
  simp only [one_mul, and_self]

/-- the cut-out as an embedding `Fin N → Fin M` -/
def cut (N M start : ℕ) (h : start + N ≤ M) : Fin N → Fin M := fun j => ⟨j.1 + start, by omega⟩

theorem cut_injective (N M start : ℕ) (h : start + N ≤ M) : Function.Injective (cut N M start h) := by
  intro a b hab
  simp only [cut, Fin.mk.injEq] at hab
  exact Fin.ext (by omega)

theorem padAt_eq_pad (N M start : ℕ) (h : start + N ≤ M) (x : ℕ → ℂ) (p : ℕ) (hp : p < M) :
    padAt N start x p = ext (NearField.pad (cut N M start h) fun j : Fin N => x j.1) p := by
  unfold padAt ext
  rw [dif_pos hp]
  by_cases hc : start ≤ p ∧ p < start + N
  · have hj : p - start < N := by omega
    have hcut : (⟨p, hp⟩ : Fin M) = cut N M start h ⟨p - start, hj⟩ := Fin.ext (by simp only [cut]; omega)
    rw [if_pos hc, hcut, pad_apply_of_inj (cut_injective N M start h)]
  · rw [if_neg hc, pad_apply_of_forall_ne]
    intro j he
    have := j.2
    simp only [cut, Fin.mk.injEq] at he
    omega

theorem knifeRow_eq_filter (N M start : ℕ) (hM : 0 < M) (h : start + N ≤ M) (mask x : ℕ → ℂ) (j : Fin N) :
    knifeRow N M start (kF M) (kB M) ((M : ℂ)⁻¹) mask x j.1
      = filter (dftPair M hM) (cut N M start h) (fun q : Fin M => mask q.1) (fun j : Fin N => x j.1) j :=
  -- both sides are `M⁻¹ · dft (mask · dft …)` by unfolding; the two transforms read their arguments below `M` only
  congrArg ((M : ℂ)⁻¹ * ·) (dft_congr M (kB M) _ _ (fun q hq => by
    rw [ext, dif_pos hq]
    exact congrArg (mask q * ·) (dft_congr M (kF M) _ _ (padAt_eq_pad N M start h x) q)) _)

/-- `iPow` and `NearField.gPowI` are the same table `1, i, −1, −i`, so `gaussKerF`, `gaussKerB` denote what `gKerF`, `gKerB` denote. -/
theorem iPow_toComplex (k : ℤ) : (iPow ((k % 4).toNat) : Cx ℝ).toComplex = GRat.toC (gPowI k) := by
  have h4 : (k % 4).toNat < 4 := by omega
  unfold gPowI
  generalize (k % 4).toNat = r at h4 ⊢
  interval_cases r <;> apply Complex.ext <;> simp [iPow, Cx.toComplex, GRat.toC]

theorem knifeRow_map {C C' : Type} [Zero C] [Add C] [Mul C] [Zero C'] [Add C'] [Mul C'] {φ : C → C'} (h : ScalarHom φ)
    (N M start : ℕ) (kF kB : ℤ → C) (sc : C) (mask x : ℕ → C) (j : ℕ) :
    φ (knifeRow N M start kF kB sc mask x j)
      = knifeRow N M start (fun n => φ (kF n)) (fun n => φ (kB n)) (φ sc) (fun q => φ (mask q)) (fun i => φ (x i)) j := by
  simp only [knifeRow, Fft.dft, padAt, h.mul, h.sumRange, apply_ite φ, h.zero]

/-- the complex number a pair of rationals (the exact value of a pair of floats) denotes -/
noncomputable def cxC (z : Cx Rat) : ℂ := NearField.GRat.toC ⟨z.re, z.im⟩

end HcipyVerif.Passive
