import HcipyVerif.Model.FftIndex2

/-!
# C04 — executable bookkeeping of `FresnelPropagator` / `AngularSpectrumPropagator` (core Lean only)

Both propagators build `FourierFilter(input_grid, transfer_function, q)`:

* padded (internal) size per axis `M = round(q·N)` (`np.round`, half to even) with `q` per axis (a scalar `zero_padding` is broadcast,
  an array pads each axis by its own factor — possibly only one axis); Fresnel takes
  `q = zero_padding`, angular spectrum always `q = 2`;
* the input is written into `internal[start : start+N]`, `start = ⌊M/2⌋ - ⌊N/2⌋` (no cut-out when
  `M = N`), transformed with `fftn`, multiplied by the transfer function sampled on the internal
  frequency grid (`Δk = 2π/(δ M)`, `zero = -Δk ⌊M/2⌋`), transformed back, cropped;
* the regime switch: `np.any(delta < λ|z|/L_max)`, `L_max = max(dims·delta)` selects the
  *impulse response* branch, otherwise the *transfer function* branch is sampled directly and
  averaged over `s × s` sub-samples (`evaluate_supersampled`, dithers `(j+½)/s - ½`).

Frequencies are carried in cycles per unit length `ν = k⊥/2π`, phases in turns:

* Fresnel   `D = exp(i k z) · exp(-i z k⊥²/(2k))`, `k = 2π n/λ`   ⇒  turns `n z/λ - z λ ν²/(2 n)`;
* angular   `D = exp(i k_z z)`, `k_z = 2π √((n/λ)² - ν²)`          ⇒  radicand `(n/λ)² - ν²`
  (negative radicand = evanescent wave: `D = exp(-2π √(-radicand) · evanescentZ)`).
-/
namespace HcipyVerif.NearField

inductive Kind where
  | fresnel | angular
deriving Repr, DecidableEq

structure Params where
  kind : Kind
  nx : Nat
  ny : Nat
  dx : Rat
  dy : Rat
  lam : Rat
  z : Rat
  n : Rat          -- refractive index
  qx : Rat         -- zero_padding along x (ignored for angular: 2); a scalar argument is broadcast
  qy : Rat         -- zero_padding along y
  sx : Nat         -- num_oversampling along x (already rounded to an integer ≥ 1); a scalar is broadcast
  sy : Nat         -- num_oversampling along y
deriving Repr

def ratAbs (q : Rat) : Rat := if q < 0 then -q else q
def ratMax (a b : Rat) : Rat := if a < b then b else a
def ratMin (a b : Rat) : Rat := if b < a then b else a

/-- `np.round`: round half to even. -/
def roundHalfEven (q : Rat) : Int :=
  let fl := q.floor
  let r := q - (fl : Rat)
  if r < 1/2 then fl
  else if 1/2 < r then fl + 1
  else if fl % 2 = 0 then fl else fl + 1

def effQx (p : Params) : Rat := match p.kind with | .fresnel => p.qx | .angular => 2
def effQy (p : Params) : Rat := match p.kind with | .fresnel => p.qy | .angular => 2

/-- Padded size of one axis: `round(q·N)` (the repaired, integer `make_fft_grid`; the unrepaired
float recomputation `int(N·(round(qN)/N))` can land one short — finding D4, owned by C01). -/
def padded (q : Rat) (N : Nat) : Nat := (roundHalfEven (q * (N : Rat))).toNat

def mx (p : Params) : Nat := padded (effQx p) p.nx
def my (p : Params) : Nat := padded (effQy p) p.ny

/-- `L_max = max(dims · delta)`. -/
def lmax (p : Params) : Rat := ratMax ((p.nx : Rat) * p.dx) ((p.ny : Rat) * p.dy)

/-- `λ |z| / L_max`. -/
def threshold (p : Params) : Rat := p.lam * ratAbs p.z / lmax p

/-- The branch taken by `make_instance`: `true` = impulse response (under-sampled transfer function). -/
def impulseBranch (p : Params) : Bool := p.dx < threshold p || p.dy < threshold p

/-- Distance of the decision from its boundary (for boundary skipping by the harness). -/
def branchSlack (p : Params) : Rat := ratMin p.dx p.dy - threshold p

/-- The regime as the property words it: pixel ≥ λ|z|/extent and pixel ≥ λ/2. -/
def statedRegime (p : Params) : Bool :=
  !impulseBranch p && decide (p.lam / 2 ≤ p.dx) && decide (p.lam / 2 ≤ p.dy)

/-- Cut-out start of one axis, `none` when nothing is padded. -/
def cutStart (M N : Nat) : Nat := M / 2 - N / 2

/-- `(start_y, end_y, start_x, end_x)` in numpy shape order, or `none` (no cut-out). -/
def cutout (p : Params) : Option (Nat × Nat × Nat × Nat) :=
  if mx p = p.nx ∧ my p = p.ny then none
  else some (cutStart (my p) p.ny, cutStart (my p) p.ny + p.ny, cutStart (mx p) p.nx, cutStart (mx p) p.nx + p.nx)

/-- Internal index (one axis) of input index `i`: `internal[start + i] = input[i]`, `start = cutStart M N`.
This is the map the slice `start : start+N` of `FourierFilter.cutout` realises; with nothing padded
(`M = N`) `start = 0` and it is the identity (the code then skips the copy altogether). -/
def embAxis (M N i : Nat) : Nat := cutStart M N + i

/-- Internal row of input row `iy` / internal column of input column `ix`. -/
def embY (p : Params) (iy : Nat) : Nat := embAxis (my p) p.ny iy
def embX (p : Params) (ix : Nat) : Nat := embAxis (mx p) p.nx ix

/-- The complete cut-out as the driver prints it: internal rows of input rows `0 … ny-1`, internal columns
of input columns `0 … nx-1` (the embedding is the product of the two). -/
def embRows (p : Params) : List Nat := (List.range p.ny).map (embY p)
def embCols (p : Params) : List Nat := (List.range p.nx).map (embX p)

/-- What the driver (and hcipy's constructors) insist on: a non-empty grid and padding factors `≥ 1`. -/
def padOK (p : Params) : Bool :=
  decide (0 < p.nx) && decide (0 < p.ny) && decide (1 ≤ effQx p) && decide (1 ≤ effQy p)

/-- Spacing of the internal frequency grid in cycles per unit: `1/(δ M)` (`Δk = 2π` times this). -/
def nuDelta (δ : Rat) (M : Nat) : Rat := 1 / (δ * (M : Rat))

/-- Dither offsets of `evaluate_supersampled`: `(j + ½)/s - ½`, `j < s`, in units of the spacing. -/
def dithers (s : Nat) : List Rat :=
  (List.range s).map fun (j : Nat) => ((j : Rat) + 1/2) / (s : Rat) - 1/2

/-- Frequency (cycles/unit) of internal index `m` (centred layout, before `ifftshift`) and dither `d`. -/
def nu (δ : Rat) (M : Nat) (m : Nat) (d : Rat) : Rat :=
  ((m : Rat) - ((M / 2 : Nat) : Rat) + d) * nuDelta δ M

/-- Fresnel transfer-function phase in turns at frequency `(νx, νy)`. -/
def fresnelTurns (p : Params) (νx νy : Rat) : Rat :=
  p.n * p.z / p.lam - p.z * p.lam * (νx * νx + νy * νy) / (2 * p.n)

/-- Angular-spectrum radicand `(n/λ)² - ν²`; `k_z = 2π √radicand`. -/
def radicand (p : Params) (νx νy : Rat) : Rat :=
  (p.n / p.lam) * (p.n / p.lam) - (νx * νx + νy * νy)

def frac (q : Rat) : Rat := q - (q.floor : Rat)

/-- All sub-sample frequencies of internal pixel `(ix, iy)`, in the order in which
`make_uniform_grid(oversampling, 1).points` enumerates the dithers (x fastest). -/
def subFreqs (p : Params) (ix iy : Nat) : List (Rat × Rat) :=
  (dithers p.sy).flatMap fun dy => (dithers p.sx).map fun dx =>
    (nu p.dx (mx p) ix dx, nu p.dy (my p) iy dy)

/-- `np.fft.ifftshift` along one axis of length `M`: `ifftshift(a)[q] = a[(q + ⌊M/2⌋) mod M]` — the centred index
whose transfer-function sample multiplies FFT bin `q`. -/
def ifftshiftIdx (M q : Nat) : Nat := (q + M / 2) % M

/-- Fresnel: phases (turns mod 1) of the sub-samples whose mean is the transfer function at `(ix,iy)`. -/
def fresnelSubTurns (p : Params) (ix iy : Nat) : List Rat :=
  (subFreqs p ix iy).map fun (a, b) => frac (fresnelTurns p a b)

/-- Angular spectrum: radicands of the sub-samples of pixel `(ix,iy)`. -/
def angularSubRadicands (p : Params) (ix iy : Nat) : List Rat :=
  (subFreqs p ix iy).map fun (a, b) => radicand p a b

/-! ### impulse-response branch

`transfer_function = FastFourierTransform(enlarged_grid).forward(evaluate_supersampled(impulse_response,
enlarged_grid, s))`, `enlarged_grid = make_fft_grid(internal_grid)`: spacing `δ`, `M` samples, centred
(`x_j = (j - ⌊M/2⌋)·δ`).  So `D(ν_i) = δx δy · Σ_j mean_sub h(x_j + dither·δ) · exp(-2πi (i-⌊M/2⌋)(j-⌊M/2⌋)/M)`.

* Fresnel `h = exp(i k z)/(i λ z) · exp(i k r²/(2z))`  ⇒  amplitude `1/(λ z)`, turns `-1/4 + n z/λ + n r²/(2 λ z)`;
* angular `h = cosθ/(2π) · exp(i k R) (1/R² - i k/R)`, `R² = r² + z²` (the model returns `R²`). -/

/-- Coordinate of enlarged-grid index `j` displaced by dither `d`. -/
def xCoord (δ : Rat) (M j : Nat) (d : Rat) : Rat := ((j : Rat) - ((M / 2 : Nat) : Rat) + d) * δ

def fresnelIrAmp (p : Params) : Rat := 1 / (p.lam * p.z)

def fresnelIrTurns (p : Params) (x y : Rat) : Rat :=
  -(1/4 : Rat) + p.n * p.z / p.lam + p.n * (x * x + y * y) / (2 * p.lam * p.z)

/-- Sub-sample points of row `jy` of the enlarged grid: for every `jx`, all `s²` dithers. -/
def irRowPoints (p : Params) (jy : Nat) : List (Rat × Rat) :=
  (List.range (mx p)).flatMap fun jx =>
    (dithers p.sy).flatMap fun dy => (dithers p.sx).map fun dx =>
      (xCoord p.dx (mx p) jx dx, xCoord p.dy (my p) jy dy)

def fresnelIrRow (p : Params) (jy : Nat) : List Rat :=
  (irRowPoints p jy).map fun (x, y) => frac (fresnelIrTurns p x y)

def angularIrRow (p : Params) (jy : Nat) : List Rat :=
  (irRowPoints p jy).map fun (x, y) => x * x + y * y + p.z * p.z

/-- Distance that multiplies `|k_z|` in the decay `exp(-|k_z|·…)` of an evanescent component.
Repaired code (finding D30): `k_z` is conjugated for negative distances, so evanescent waves decay with `|z|`
in either direction and `D_{-z} = conj D_z` holds at every frequency. -/
def evanescentZ (p : Params) : Rat := ratAbs p.z

/-- Unrepaired behaviour: `exp(i k_z z)` with `k_z = +i|k_z|` — grows like `exp(|k_z||z|)` for `z < 0`. -/
def evanescentZOld (p : Params) : Rat := p.z

/-- Largest `|ν|` sampled along one axis (over all pixels and dithers). -/
def nuMaxAbs (δ : Rat) (M s : Nat) : Rat :=
  match dithers s with
  | [] => 0
  | d0 :: ds =>
    let dl := ds.getLastD d0
    ratMax (ratAbs (nu δ M 0 d0)) (ratAbs (nu δ M (M - 1) dl))

/-- Smallest radicand over everything the transfer function samples. -/
def minRadicand (p : Params) : Rat :=
  let a := nuMaxAbs p.dx (mx p) p.sx
  let b := nuMaxAbs p.dy (my p) p.sy
  radicand p a b

/-- No evanescent wave is sampled (`k_z` real everywhere). -/
def noEvanescent (p : Params) : Bool := decide (0 ≤ minRadicand p)

/-! ### Stokes-`I` intensity of a Jones-matrix wavefront with an input Stokes vector

`Wavefront.I` (hcipy/optics/wavefront.py l.121-139), written exactly as the code writes it, for the Jones
matrix `(x y; z w)` (real and imaginary parts separately) and the Stokes vector `(a, b, c, d)`; polymorphic in
the scalar so that the driver runs it at `Rat` and `stokes_power_nonincreasing` is about it at `ℝ`. -/

def stokesI {K : Type} [Add K] [Sub K] [Mul K] [Neg K] [Div K] [OfNat K 2]
    (a b c d xr xi yr yi zr zi wr wi : K) : K :=
  let m11 := (xr * xr + xi * xi) + (yr * yr + yi * yi) + (zr * zr + zi * zi) + (wr * wr + wi * wi)
  let m12 := (xr * xr + xi * xi) - (yr * yr + yi * yi) + (zr * zr + zi * zi) - (wr * wr + wi * wi)
  let m13 := 2 * (xr * yr + xi * yi + zr * wr + zi * wi)
  let m14 := 2 * (-xr * yi + xi * yr - zr * wi + zi * wr)
  (m11 * a + m12 * b + m13 * c + m14 * d) / 2

/-- The Stokes vectors for which `I` is a positive semi-definite form (degree of polarisation `≤ 1`). -/
def stokesPhysical (a b c d : Rat) : Bool := decide (0 ≤ a) && decide (b * b + c * c + d * d ≤ a * a)

/-! ### matrix-valued transfer function (`FourierFilter` with a tensor transfer function)

`FourierFilter._operation` (fourier_operations.py l.127-139): when the transfer function is a matrix field the
point-wise product is `field_dot(tf, f)` — at every internal sample the matrix `D` times the vector (or matrix)
of field components — and the adjoint uses `field_conjugate_transpose(tf)`.  Polymorphic in the scalar: the
driver runs it on Gaussian rationals, `filterM_adjoint` is about it at `ℂ`. -/

/-- `Σ_{j<n} f j`. -/
def sumFin {K : Type} [Add K] [Zero K] (n : Nat) (f : Fin n → K) : K := ((List.finRange n).map f).sum

/-- `field_dot(D, v)` at one sample: matrix times vector. -/
def matVec {K : Type} [Add K] [Mul K] [Zero K] {n : Nat} (D : Fin n → Fin n → K) (v : Fin n → K) : Fin n → K :=
  fun i => sumFin n fun j => D i j * v j

/-- `field_conjugate_transpose(D)` at one sample (`cj` = complex conjugation of the scalar). -/
def conjT {K : Type} {n : Nat} (cj : K → K) (D : Fin n → Fin n → K) : Fin n → Fin n → K :=
  fun i j => cj (D j i)

/-- Gaussian rationals: the exact complex numbers the driver computes with. -/
structure GRat where
  re : Rat
  im : Rat
deriving Repr, DecidableEq

instance : Add GRat := ⟨fun a b => ⟨a.re + b.re, a.im + b.im⟩⟩
instance : Mul GRat := ⟨fun a b => ⟨a.re * b.re - a.im * b.im, a.re * b.im + a.im * b.re⟩⟩
instance : Zero GRat := ⟨⟨0, 0⟩⟩
def GRat.conj (a : GRat) : GRat := ⟨a.re, -a.im⟩

/-- Row-major list of `n²` entries as a matrix, list of `n` entries as a vector (`0` beyond the end). -/
def matOfList (n : Nat) (l : List GRat) : Fin n → Fin n → GRat := fun i j => l.getD (i.val * n + j.val) 0
def vecOfList (n : Nat) (l : List GRat) : Fin n → GRat := fun i => l.getD i.val 0
def listOfVec {n : Nat} (v : Fin n → GRat) : List GRat := (List.finRange n).map v

/-- `field_dot(D, v)` (`adjoint = false`) or `field_dot(field_conjugate_transpose(D), v)` (`adjoint = true`)
at one sample, entries as lists. -/
def mdot (n : Nat) (adjoint : Bool) (D v : List GRat) : List GRat :=
  let Dm := matOfList n D
  listOfVec (matVec (if adjoint then conjT GRat.conj Dm else Dm) (vecOfList n v))

/-! ### The `FourierFilter._operation` pipeline itself (fourier_operations.py l.88-153), executable

`f[:] = 0; f[cutout] = field` → `fftn` → multiply by the `ifftshift`ed transfer function → `ifftn` → `[cutout]`.
Polymorphic in the scalar and in the DFT kernels (`Fft.dft2`, the specification of `fftn` shared with C01/C02):
the driver op `filt` runs *these definitions* on Gaussian rationals with the exact kernels of the sizes 1, 2, 4
(`gKerF`, `gKerB`: powers of `i`) and the harness compares the output with the real `FourierFilter.forward/backward`;
at `ℂ` with the kernels `exp(∓2πi n/M)` they are the operator `filter (dftPair2 …) (cutoutEmb p h)` of the theorems
(`filter_dft2_eq_filterP` in `Lemmas/NearFieldAbstract.lean`). -/

section pipeline
variable {C : Type} [Zero C] [Add C] [Mul C]

/-- `internal[:] = 0; internal[sy:sy+ny, sx:sx+nx] = f`. -/
def padAt (sy sx ny nx : Nat) (f : Nat → Nat → C) (py px : Nat) : C :=
  if (sy ≤ py ∧ py < sy + ny) ∧ (sx ≤ px ∧ px < sx + nx) then f (py - sy) (px - sx) else 0

/-- `internal[sy:sy+ny, sx:sx+nx]`. -/
def cropAt (sy sx : Nat) (a : Nat → Nat → C) (ky kx : Nat) : C := a (sy + ky) (sx + kx)

/-- `np.fft.ifftshift(transfer_function)`: the array that multiplies FFT bin `(qy,qx)`, from the centred one. -/
def shiftD (My Mx : Nat) (Dc : Nat → Nat → C) (qy qx : Nat) : C := Dc (ifftshiftIdx My qy) (ifftshiftIdx Mx qx)

/-- `FourierFilter._operation`: `crop (scale · ifftn (D · fftn (pad x)))`; `D` in FFT layout, `scale = 1/(My·Mx)`,
`kF*` / `kB*` the forward / inverse DFT kernels of the two axes. -/
def filterN (My Mx : Nat) (kFy kFx kBy kBx : Int → C) (scale : C) (sy sx ny nx : Nat)
    (D x : Nat → Nat → C) : Nat → Nat → C :=
  cropAt sy sx fun qy qx => scale * Fft.dft2 My Mx kBy kBx
    (fun py px => D py px * Fft.dft2 My Mx kFy kFx (padAt sy sx ny nx x) py px) qy qx

/-- `FourierFilter.backward`: the same pipeline with the conjugated transfer function (`cj` = conjugation). -/
def filterNBackward (cj : C → C) (My Mx : Nat) (kFy kFx kBy kBx : Int → C) (scale : C) (sy sx ny nx : Nat)
    (D x : Nat → Nat → C) : Nat → Nat → C :=
  filterN My Mx kFy kFx kBy kBx scale sy sx ny nx (fun py px => cj (D py px)) x

/-- The pipeline with the sizes and the cut-out of the propagator / filter described by `p`. -/
def filterP (p : Params) (kFy kFx kBy kBx : Int → C) (scale : C) (D x : Nat → Nat → C) : Nat → Nat → C :=
  filterN (my p) (mx p) kFy kFx kBy kBx scale (cutStart (my p) p.ny) (cutStart (mx p) p.nx) p.ny p.nx D x

def filterPBackward (cj : C → C) (p : Params) (kFy kFx kBy kBx : Int → C) (scale : C) (D x : Nat → Nat → C) :
    Nat → Nat → C :=
  filterNBackward cj (my p) (mx p) kFy kFx kBy kBx scale (cutStart (my p) p.ny) (cutStart (mx p) p.nx) p.ny p.nx D x

end pipeline

/-- `i^k` as a Gaussian rational. -/
def gPowI (k : Int) : GRat :=
  match (k % 4).toNat with
  | 0 => ⟨1, 0⟩
  | 1 => ⟨0, 1⟩
  | 2 => ⟨-1, 0⟩
  | _ => ⟨0, -1⟩

/-- Inverse-DFT kernel `exp(+2πi n/M)` for `M ∣ 4` (exact: a power of `i`). -/
def gKerB (M : Nat) (n : Int) : GRat := gPowI (n * ((4 / M : Nat) : Int))

/-- Forward-DFT kernel `exp(-2πi n/M)` for `M ∣ 4`. -/
def gKerF (M : Nat) (n : Int) : GRat := gPowI (-(n * ((4 / M : Nat) : Int)))

/-- Row-major list (row length `w`) as an array (`0` beyond the end). -/
def gratArr (w : Nat) (l : List GRat) : Nat → Nat → GRat := fun iy ix => l.getD (iy * w + ix) 0

/-- What the driver op `filt` computes: `FourierFilter(grid, D, q).forward(x)` (`back = false`) or `.backward(x)`
for the filter described by `p` (internal sizes in `{1,2,4}`), `D` the centred transfer function on the internal
grid (row-major, `My·Mx` entries), `x` the input (row-major, `ny·nx` entries); output row-major. -/
def filtOp (p : Params) (back : Bool) (D x : List GRat) : List GRat :=
  let My := my p
  let Mx := mx p
  let sc : GRat := ⟨1 / ((My * Mx : Nat) : Rat), 0⟩
  let Ds := shiftD My Mx (gratArr Mx D)
  let r := if back then filterPBackward GRat.conj p (gKerF My) (gKerF Mx) (gKerB My) (gKerB Mx) sc Ds (gratArr p.nx x)
           else filterP p (gKerF My) (gKerF Mx) (gKerB My) (gKerB Mx) sc Ds (gratArr p.nx x)
  (List.range p.ny).flatMap fun iy => (List.range p.nx).map fun ix => r iy ix

/-! ### the same pipeline on formal phase sums: any internal size

`Fft.PSum` (`Model/FftIndex.lean`, the scalar type the C01 driver runs the FFT pipeline at): finite sums of
`c·exp(2πi t)`, `c, t` rational, exact `+` and `·`.  The DFT kernels of *every* size are monomials, a Gaussian rational
`a + b i` is `a + b·exp(2πi/4)`.  The driver op `filtp` runs `filterP` / `filterPBackward` at this scalar type;
`filtp_*_denotes_complex_pipeline` (Properties) says its output evaluates to the complex pipeline of the theorems. -/

def psumOfGRat (g : GRat) : Fft.PSum := Fft.PSum.ofRat g.re + Fft.PSum.ofRat g.im * Fft.PSum.turns (1 / 4)

/-- complex conjugation of a formal phase sum: negate every phase -/
def psumConj (a : Fft.PSum) : Fft.PSum := ⟨a.terms.map fun x => ⟨x.c, Fft.fracPart (-x.t), -x.r⟩⟩

/-! ### one definition of the propagators, parametrised by the scalar type and its character

`Scalar C` is what the pipeline needs of the numbers it computes with besides `0, +, ·`: the embedding of the rationals,
the character `t ↦ exp(2πi t)` (phases in turns) and complex conjugation.  `fourierFilter`, `fourierFilterBackward`,
`fresnelForward`, `fresnelBackward`, `fourierFilterM`, `fourierFilterMBackward` below are *the* model of
`FourierFilter.forward/backward` and `FresnelPropagator.forward/backward` (transfer-function branch): the driver ops
`filtp`, `prop`, `filtmp` run them at `psumScalar` (formal phase sums, exact for every size) and the harness compares the
result with the running code; the property theorems of `Properties/C04.lean` are stated about the same definitions at
`cScalar` (`ℂ`, `exp(2πi t)`; `Lemmas/NearFieldScalar.lean`). -/

structure Scalar (C : Type) where
  ofRat : Rat → C
  turns : Rat → C
  conj : C → C

section scalarPipeline
variable {C : Type} [Zero C] [Add C] [Mul C]

/-- forward / inverse DFT kernels `exp(∓2πi n/M)` -/
def Scalar.kerF (S : Scalar C) (M : Nat) (n : Int) : C := S.turns (-((n : Rat) / (M : Rat)))
def Scalar.kerB (S : Scalar C) (M : Nat) (n : Int) : C := S.turns ((n : Rat) / (M : Rat))

/-- `FourierFilter(grid, D, q).forward(x)`: `crop (ifftn (D · fftn (pad x)))` with the sizes and the cut-out of `p`;
`D` in FFT layout. -/
def fourierFilter (S : Scalar C) (p : Params) (D x : Nat → Nat → C) : Nat → Nat → C :=
  filterP p (S.kerF (my p)) (S.kerF (mx p)) (S.kerB (my p)) (S.kerB (mx p))
    (S.ofRat (1 / ((my p * mx p : Nat) : Rat))) D x

/-- `FourierFilter(grid, D, q).backward(x)`: the same with the conjugated transfer function. -/
def fourierFilterBackward (S : Scalar C) (p : Params) (D x : Nat → Nat → C) : Nat → Nat → C :=
  filterPBackward S.conj p (S.kerF (my p)) (S.kerF (mx p)) (S.kerB (my p)) (S.kerB (mx p))
    (S.ofRat (1 / ((my p * mx p : Nat) : Rat))) D x

/-- mean of `exp(2πi t)` over a list of phases in turns (`evaluate_supersampled`: the sub-pixel average) -/
def meanTurns (S : Scalar C) (l : List Rat) : C :=
  S.ofRat (1 / (l.length : Rat)) * (l.map S.turns).foldr (· + ·) 0

/-- The Fresnel transfer function that multiplies FFT bin `(qy,qx)` (`ifftshift` applied): the sub-pixel mean of
`exp(2πi · fresnelTurns)` over the executable sample frequencies of the centred pixel. -/
def fresnelTF (S : Scalar C) (p : Params) (qy qx : Nat) : C :=
  meanTurns S (fresnelSubTurns p (ifftshiftIdx (mx p) qx) (ifftshiftIdx (my p) qy))

/-- `FresnelPropagator.forward` on a scalar field (transfer-function branch of `make_instance`). -/
def fresnelForward (S : Scalar C) (p : Params) (x : Nat → Nat → C) : Nat → Nat → C :=
  fourierFilter S p (fresnelTF S p) x

/-- `FresnelPropagator.backward`. -/
def fresnelBackward (S : Scalar C) (p : Params) (x : Nat → Nat → C) : Nat → Nat → C :=
  fourierFilterBackward S p (fresnelTF S p) x

/-! #### the impulse-response branch of `FresnelPropagator.make_instance`, and the regime switch

`transfer_function = FastFourierTransform(enlarged_grid).forward(evaluate_supersampled(impulse_response, enlarged_grid, s))`:
the impulse response `exp(ikz)/(iλz)·exp(ik r²/2z)` has the *rational* amplitude `fresnelIrAmp` and the rational phase
`fresnelIrTurns` (turns), so its sub-pixel mean is `fresnelIrAmp · meanTurns`, and the centred discrete transform
`δx δy Σ_j h_j exp(-2πi (i-⌊M/2⌋)(j-⌊M/2⌋)/M)` of `FastFourierTransform.forward` is a finite sum of such terms: the whole
transfer function of this branch is a formal phase sum as well. -/

/-- phases (turns mod 1) of the `sx·sy` sub-samples of the impulse response at pixel `(jx,jy)` of the enlarged grid -/
def fresnelIrSubTurns (p : Params) (jx jy : Nat) : List Rat :=
  (dithers p.sy).flatMap fun dy => (dithers p.sx).map fun dx =>
    frac (fresnelIrTurns p (xCoord p.dx (mx p) jx dx) (xCoord p.dy (my p) jy dy))

/-- offset of index `i` from the centre `⌊M/2⌋` of an axis of length `M` -/
def centred (M i : Nat) : Int := (i : Int) - ((M / 2 : Nat) : Int)

/-- The transfer function of the impulse-response branch at the *centred* internal pixel `(iy,ix)`:
`δx δy /(λ z) · Σ_{jy,jx} mean_sub exp(2πi·fresnelIrTurns) · exp(-2πi (iy-cy)(jy-cy)/My) · exp(-2πi (ix-cx)(jx-cx)/Mx)`. -/
def fresnelIrTFc (S : Scalar C) (p : Params) (iy ix : Nat) : C :=
  S.ofRat (p.dx * p.dy * fresnelIrAmp p) *
    Fft.sumRange (my p) fun jy => Fft.sumRange (mx p) fun jx =>
      meanTurns S (fresnelIrSubTurns p jx jy) *
        (S.kerF (my p) (centred (my p) jy * centred (my p) iy) * S.kerF (mx p) (centred (mx p) jx * centred (mx p) ix))

/-- … as it multiplies FFT bin `(qy,qx)` (`ifftshift` applied by `FourierFilter`). -/
def fresnelIrTF (S : Scalar C) (p : Params) (qy qx : Nat) : C :=
  fresnelIrTFc S p (ifftshiftIdx (my p) qy) (ifftshiftIdx (mx p) qx)

/-- The transfer function `FresnelPropagator.make_instance` hands to `FourierFilter`, **with the regime switch**
`np.any(input_grid.delta < wavelength * abs(distance) / L_max)` (`impulseBranch`; the *vacuum* wavelength — the refractive
index does not enter the decision). -/
def fresnelTFSwitched (S : Scalar C) (p : Params) (qy qx : Nat) : C :=
  if impulseBranch p then fresnelIrTF S p qy qx else fresnelTF S p qy qx

/-- `FresnelPropagator.forward` on a scalar field, either branch of `make_instance`. -/
def fresnelPropagatorForward (S : Scalar C) (p : Params) (x : Nat → Nat → C) : Nat → Nat → C :=
  if impulseBranch p then fourierFilter S p (fresnelIrTF S p) x else fresnelForward S p x

/-- `FresnelPropagator.backward`, either branch. -/
def fresnelPropagatorBackward (S : Scalar C) (p : Params) (x : Nat → Nat → C) : Nat → Nat → C :=
  if impulseBranch p then fourierFilterBackward S p (fresnelIrTF S p) x else fresnelBackward S p x

end scalarPipeline

/-- The regime switch as it would be with the wavelength *inside the medium* `λ/n` (the variant argued for by the seeded
patch C04-11).  Not what the code does; kept to state the difference (`Alt.*` theorems). -/
def impulseBranchMedium (p : Params) : Bool :=
  p.dx < (p.lam / p.n) * ratAbs p.z / lmax p || p.dy < (p.lam / p.n) * ratAbs p.z / lmax p

/-- the executable instance: formal phase sums -/
def psumScalar : Scalar Fft.PSum := ⟨Fft.PSum.ofRat, Fft.PSum.turns, psumConj⟩

/-- What the driver op `filtp` computes (as `filtOp`, any internal size): one formal phase sum per output pixel. -/
def filtOpP (p : Params) (back : Bool) (D x : List GRat) : List Fft.PSum :=
  let My := my p
  let Mx := mx p
  let Ds := shiftD My Mx (fun a b => psumOfGRat (gratArr Mx D a b))
  let xs := fun a b => psumOfGRat (gratArr p.nx x a b)
  let r := if back then fourierFilterBackward psumScalar p Ds xs else fourierFilter psumScalar p Ds xs
  (List.range p.ny).flatMap fun iy => (List.range p.nx).map fun ix => r iy ix

/-! ### the Fresnel propagator itself, exactly

On the transfer-function branch the Fresnel transfer function at an internal pixel is the mean of `exp(2πi t)` over the
rational phases `fresnelSubTurns` — a formal phase sum.  So the whole `FresnelPropagator.forward` is computed exactly. -/

/-- What the driver op `prop` computes: `FresnelPropagator(...).forward(x)` / `.backward(x)` (either branch of the regime switch) on
formal phase sums; `x` row-major `ny·nx` Gaussian rationals. -/
def propOpP (p : Params) (back : Bool) (x : List GRat) : List Fft.PSum :=
  let xs := fun a b => psumOfGRat (gratArr p.nx x a b)
  let r := if back then fresnelPropagatorBackward psumScalar p xs else fresnelPropagatorForward psumScalar p xs
  (List.range p.ny).flatMap fun iy => (List.range p.nx).map fun ix => r iy ix

/-- What the driver op `irtf` computes: the transfer function of the set-up Fresnel propagator at FFT bin `(qy,qx)`
as `FourierFilter` multiplies with it, whichever branch `make_instance` takes. -/
def tfOpP (p : Params) (qy qx : Nat) : Fft.PSum := fresnelTFSwitched psumScalar p qy qx

/-! ### the pipeline with a matrix-valued transfer function (`field_dot(tf, ·)` between the transforms) -/

section pipelineM
variable {C : Type} [Zero C] [Add C] [Mul C] {n : Nat}

/-- `FourierFilter._operation` with a tensor transfer function on a vector field: component `t` of
`crop (scale · ifftn (field_dot(D, fftn (pad x))))`; `D py px` is the matrix at internal sample `(py,px)` (FFT layout). -/
def filterMN (My Mx : Nat) (kFy kFx kBy kBx : Int → C) (scale : C) (sy sx ny nx : Nat)
    (D : Nat → Nat → Fin n → Fin n → C) (x : Fin n → Nat → Nat → C) : Fin n → Nat → Nat → C :=
  fun t => cropAt sy sx fun qy qx => scale * Fft.dft2 My Mx kBy kBx
    (fun py px => matVec (D py px) (fun j => Fft.dft2 My Mx kFy kFx (padAt sy sx ny nx (x j)) py px) t) qy qx

/-- `.backward`: the same with `field_conjugate_transpose(D)`. -/
def filterMNBackward (cj : C → C) (My Mx : Nat) (kFy kFx kBy kBx : Int → C) (scale : C) (sy sx ny nx : Nat)
    (D : Nat → Nat → Fin n → Fin n → C) (x : Fin n → Nat → Nat → C) : Fin n → Nat → Nat → C :=
  filterMN My Mx kFy kFx kBy kBx scale sy sx ny nx (fun py px => conjT cj (D py px)) x

def filterMP (p : Params) (kFy kFx kBy kBx : Int → C) (scale : C)
    (D : Nat → Nat → Fin n → Fin n → C) (x : Fin n → Nat → Nat → C) : Fin n → Nat → Nat → C :=
  filterMN (my p) (mx p) kFy kFx kBy kBx scale (cutStart (my p) p.ny) (cutStart (mx p) p.nx) p.ny p.nx D x

def filterMPBackward (cj : C → C) (p : Params) (kFy kFx kBy kBx : Int → C) (scale : C)
    (D : Nat → Nat → Fin n → Fin n → C) (x : Fin n → Nat → Nat → C) : Fin n → Nat → Nat → C :=
  filterMNBackward cj (my p) (mx p) kFy kFx kBy kBx scale (cutStart (my p) p.ny) (cutStart (mx p) p.nx) p.ny p.nx D x

/-- `FourierFilter(grid, tensor D, q).forward(x)` / `.backward(x)` on a vector field, at the scalar `S`. -/
def fourierFilterM (S : Scalar C) (p : Params) (D : Nat → Nat → Fin n → Fin n → C) (x : Fin n → Nat → Nat → C) :
    Fin n → Nat → Nat → C :=
  filterMP p (S.kerF (my p)) (S.kerF (mx p)) (S.kerB (my p)) (S.kerB (mx p))
    (S.ofRat (1 / ((my p * mx p : Nat) : Rat))) D x

def fourierFilterMBackward (S : Scalar C) (p : Params) (D : Nat → Nat → Fin n → Fin n → C)
    (x : Fin n → Nat → Nat → C) : Fin n → Nat → Nat → C :=
  filterMPBackward S.conj p (S.kerF (my p)) (S.kerF (mx p)) (S.kerB (my p)) (S.kerB (mx p))
    (S.ofRat (1 / ((my p * mx p : Nat) : Rat))) D x

end pipelineM

/-- What the driver op `filtmp` computes: `FourierFilter(grid, D, q).forward(x)` / `.backward(x)` for an `n×n` matrix
transfer function `D` (centred; list index `(i·n + j)·My·Mx + pixel`) and a vector field `x` (list index
`t·ny·nx + pixel`), on formal phase sums; output index `t·ny·nx + pixel`. -/
def filtMOpP (p : Params) (n : Nat) (back : Bool) (D x : List GRat) : List Fft.PSum :=
  let My := my p
  let Mx := mx p
  let Dc : Nat → Nat → Fin n → Fin n → Fft.PSum := fun a b i j => psumOfGRat (D.getD ((i.val * n + j.val) * (My * Mx) + (a * Mx + b)) 0)
  let Ds : Nat → Nat → Fin n → Fin n → Fft.PSum := fun qy qx => Dc (ifftshiftIdx My qy) (ifftshiftIdx Mx qx)
  let xs : Fin n → Nat → Nat → Fft.PSum := fun t a b => psumOfGRat (x.getD (t.val * (p.ny * p.nx) + (a * p.nx + b)) 0)
  let r := if back then fourierFilterMBackward psumScalar p Ds xs else fourierFilterM psumScalar p Ds xs
  (List.finRange n).flatMap fun t => (List.range p.ny).flatMap fun iy => (List.range p.nx).map fun ix => r t iy ix

/-! ### One propagator object used repeatedly: the setters between calls

`distance`, `num_oversampling`, `zero_padding`, `refractive_index` have setters that clear the instance
cache; the wavelength comes with each wavefront.  What a call computes is a function of the *current*
parameters only (`withParam` then any of the functions above). -/

inductive Setter where
  | distance (z : Rat)
  | refractiveIndex (n : Rat)
  | oversampling (sx sy : Nat)
  | zeroPadding (qx qy : Rat)
  | wavelength (lam : Rat)
deriving Repr

def withParam (p : Params) : Setter → Params
  | .distance z => { p with z := z }
  | .refractiveIndex n => { p with n := n }
  | .oversampling sx sy => { p with sx := sx, sy := sy }
  | .zeroPadding qx qy => { p with qx := qx, qy := qy }
  | .wavelength lam => { p with lam := lam }

/-- The parameters in force after a sequence of setter calls. -/
def afterSetters (p : Params) (l : List Setter) : Params := l.foldl withParam p

/-! ### dtype / tensor-shape bookkeeping of one `FourierFilter` object (`_compute_functions`, fourier_operations.py l.40-56)

The object caches the `ifftshift`ed transfer function cast to the dtype of the last field (`_transfer_function`) and a
scratch array per dtype and tensor shape (`internal_array`).  A call with a field of dtype `dt` and tensor shape `ts`
recomputes the transfer function *from its source* when none is cached or the cached dtype differs, and reallocates the
scratch array when none exists or its rank, dtype or tensor shape differ.  Driver op `dtypes`; compared with the
attributes of the real object after every call of a session. -/

inductive Dt where
  | c64 | c128
deriving Repr, DecidableEq

structure FState where
  tf : Option Dt := none                  -- dtype of the cached `_transfer_function`
  arr : Option (Dt × List Nat) := none    -- dtype and tensor shape of `internal_array`
deriving Repr, DecidableEq

structure Call where
  dt : Dt
  ts : List Nat
deriving Repr, DecidableEq

/-- is the transfer function recomputed from its source by this call? -/
def tfRecomputed (s : FState) (c : Call) : Bool :=
  match s.tf with
  | none => true
  | some d => decide (d ≠ c.dt)

/-- is the scratch array reallocated by this call? -/
def arrRecomputed (s : FState) (c : Call) : Bool :=
  match s.arr with
  | none => true
  | some (d, ts) => decide (ts.length ≠ c.ts.length) || decide (d ≠ c.dt) || decide (ts ≠ c.ts)

def callStep (s : FState) (c : Call) : FState :=
  { tf := if tfRecomputed s c then some c.dt else s.tf,
    arr := if arrRecomputed s c then some (c.dt, c.ts) else s.arr }

def runCalls (s : FState) (l : List Call) : FState := l.foldl callStep s

/-- what the driver prints: per call the two recompute flags and the state after the call -/
def traceCalls : FState → List Call → List (Bool × Bool × FState)
  | _, [] => []
  | s, c :: l => (tfRecomputed s c, arrRecomputed s c, callStep s c) :: traceCalls (callStep s c) l

end HcipyVerif.NearField
