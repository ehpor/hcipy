import HcipyVerif.Lemmas.Zernike
import Mathlib.Tactic.Positivity
import Mathlib.Data.Nat.Factorial.Basic
import Mathlib.Algebra.BigOperators.Intervals
import Mathlib.Algebra.BigOperators.Ring.Finset
import Mathlib.Tactic.Ring
import Mathlib.Tactic.Linarith
import Mathlib.Tactic.LinearCombination
import Mathlib.Tactic.FieldSimp

/-! The q-recursive radial polynomial equals the factorial definition for every order (`reducedEval_eq_PP`,
`radialEval_eq_sum`); its values at `t = 1` (the three coefficients of the step add up to one) and at `t = 0`. -/

namespace HcipyVerif.Zernike
open Finset

/-- the step of the recursion with `p = n`, `q = n - 2k = d + 4` as rationals -/
theorem reducedEval_add_two (n k d : Nat) (hn : n = 2 * k + 4 + d) (t : Rat) :
    reducedEval n t (k + 2) = h1 n ((d : Rat) + 4) * t ^ 2 * reducedEval n t k
      + (h2 n ((d : Rat) + 4) * t + h3 n ((d : Rat) + 4)) * reducedEval n t (k + 1) := by
  have hq : ((n - 2 * k : Nat) : Rat) = (d : Rat) + 4 := by
    rw [show n - 2 * k = d + 4 by omega]; push_cast; ring
  simp only [reducedEval, hq]

/-! The reciprocal factorial extended by zero to the negative integers (as `1 / Γ(z + 1)` is) obeys `ifact (z - 1) = z · ifact z`
at every integer.  Written with it, the coefficient `cc n k j` vanishes by itself outside `0 ≤ j ≤ k`, and its relations to
its neighbours in `k` and `j` hold at every position, the ends of the range included. -/

def ifact (z : ℤ) : ℚ := if 0 ≤ z then (z.toNat.factorial : ℚ)⁻¹ else 0

theorem ifact_natCast (a : ℕ) : ifact a = (a.factorial : ℚ)⁻¹ := by
  rw [ifact, if_pos (Int.natCast_nonneg a), Int.toNat_natCast]

theorem ifact_neg {z : ℤ} (h : z < 0) : ifact z = 0 := if_neg (not_le.mpr h)

/-- at `z = 0` this holds because `ifact (-1) = 0` -/
theorem ifact_pred (z : ℤ) : ifact (z - 1) = z * ifact z := by
  rcases lt_trichotomy z 0 with h | rfl | h
  · rw [ifact_neg h, ifact_neg (by omega), mul_zero]
  · rw [ifact_neg (by omega), Int.cast_zero, zero_mul]
  · obtain ⟨a, rfl⟩ : ∃ a : ℕ, z = a + 1 := ⟨(z - 1).toNat, by omega⟩
    rw [add_sub_cancel_right, ← Nat.cast_succ, ifact_natCast, ifact_natCast, Nat.factorial_succ]
    push_cast
    field_simp

/-- the coefficient of `t^(k-j)` in `S_n^{n-2k}` -/
def cc (n k j : Nat) : Rat :=
  (-1 : Rat) ^ j * ((n - j).factorial : Rat) /
    ((j.factorial : Rat) * ((n - k - j).factorial : Rat) * ((k - j).factorial : Rat))

/-- `cc n k j` on integer arguments -/
def cz (n k j : ℤ) : ℚ :=
  (-1) ^ j * ((n - j).toNat.factorial : ℚ) * (ifact j * ifact (n - k - j) * ifact (k - j))

theorem cz_natCast {n k j : ℕ} (hj : j ≤ k) (hk : k + j ≤ n) : cz n k j = cc n k j := by
  unfold cz cc
  rw [← Nat.cast_sub (by omega : j ≤ n), ← Nat.cast_sub (by omega : k ≤ n), ← Nat.cast_sub (by omega : j ≤ n - k),
    ← Nat.cast_sub hj, Int.toNat_natCast, ifact_natCast, ifact_natCast, ifact_natCast, zpow_natCast, div_eq_mul_inv,
    mul_inv, mul_inv]

theorem cz_of_lt {n k j : ℤ} (h : k < j) : cz n k j = 0 := by
  rw [cz, ifact_neg (show k - j < 0 by omega), mul_zero, mul_zero]

/-- the neighbour in `k` -/
theorem cz_succ_k (n k j : ℤ) : cz n k j * ((n : ℚ) - k - j) = cz n (k + 1) j * ((k : ℚ) + 1 - j) := by
  have a := ifact_pred (k + 1 - j)
  have b := ifact_pred (n - k - j)
  unfold cz
  rw [show n - (k + 1) - j = n - k - j - 1 by ring, b, show k - j = k + 1 - j - 1 by ring, a]
  push_cast
  ring

/-- the neighbour in `k` and `j`; here the numerator `(n - j)!` moves as well, hence `j ≤ n` -/
theorem cz_diag (n k j : ℤ) (hj : j ≤ n) :
    cz n k (j - 1) * (((n : ℚ) - k - j) * ((n : ℚ) - k - j + 1)) = -(cz n (k + 1) j * ((j : ℚ) * ((n : ℚ) - j + 1))) := by
  have a := ifact_pred j
  have b := ifact_pred (n - k - j)
  have c := ifact_pred (n - k - j + 1)
  obtain ⟨a', ha⟩ : ∃ a' : ℕ, n - j = a' := ⟨(n - j).toNat, by omega⟩
  unfold cz
  rw [show n - (j - 1) = (a' + 1 : ℕ) by push_cast; omega, ha, Int.toNat_natCast, Int.toNat_natCast, Nat.factorial_succ,
    zpow_sub_one₀ (by norm_num), a, show k - (j - 1) = k + 1 - j by ring,
    show n - (k + 1) - j = n - k - j - 1 by ring, b, show n - k - (j - 1) = n - k - j + 1 by ring]
  rw [add_sub_cancel_right] at c
  rw [c]
  have : ((a' : ℕ) : ℚ) = (n : ℚ) - j := by rw [← Int.cast_natCast, ← ha]; push_cast; ring
  push_cast
  rw [this]
  ring

/-! `h2` and `h1` are linear in `h3`: what is needed of the three is a combination of their defining equations. -/

theorem h3_mul (p q : Rat) (h1' : p + q - 2 ≠ 0) (h2' : p - q + 4 ≠ 0) :
    h3 p q * ((p + q - 2) * (p - q + 4)) = -4 * (q - 2) * (q - 3) :=
  div_mul_cancel₀ _ (mul_ne_zero h1' h2')

theorem h2_mul (p q : Rat) (h3' : q - 1 ≠ 0) :
    h2 p q * (4 * (q - 1)) = h3 p q * (p + q) * (p - q + 2) + (q - 2) * (4 * (q - 1)) := by
  unfold h2
  rw [add_mul, div_mul_cancel₀ _ (mul_ne_zero four_ne_zero h3')]

/-- the three coefficients of the step for `S_n^{n-2(k+2)}` (as `reducedEval_add_two` gives them) add up to one -/
theorem h_sum_one (n k d : Nat) (hn : n = 2 * k + 4 + d) :
    h1 n ((d : Rat) + 4) + h2 n ((d : Rat) + 4) + h3 n ((d : Rat) + 4) = 1 := by
  have hp : (n : Rat) = 2 * (k : Rat) + d + 4 := by rw [hn]; push_cast; ring
  have hk : (0 : Rat) ≤ k := Nat.cast_nonneg k
  have hd : (0 : Rat) ≤ d := Nat.cast_nonneg d
  unfold h1
  linear_combination (-1 / 4 : Rat) * h2_mul n ((d : Rat) + 4) (ne_of_gt (by linarith))
    + (-1 / 8 : Rat) * h3_mul n ((d : Rat) + 4) (ne_of_gt (by linarith)) (ne_of_gt (by linarith))

/-- the step at position `j`, in units of `cc n (k + 2) j / ((s + d + 2) (s + d + 1))`: `p = n = 2s + d + 2j`, `q = d + 4` -/
theorem h_step {p q s d j : Rat} (hp : p = 2 * s + d + 2 * j) (hq : q = d + 4) (hd : 0 ≤ d) (hsj : 2 ≤ s + j) :
    h1 p q * (s * (s - 1)) + h2 p q * (s * (s + d + 2)) - h3 p q * (j * (2 * s + d + j + 1)) = (s + d + 2) * (s + d + 1) := by
  have e2 := h2_mul p q (ne_of_gt (by linarith))
  have e3 := h3_mul p q (ne_of_gt (by linarith)) (ne_of_gt (by linarith))
  subst hp hq
  unfold h1
  refine mul_left_cancel₀ (show d + 3 ≠ 0 by positivity) ?_
  linear_combination ((s * (s + d + 2) - (d + 4) * (s * (s - 1))) / 4) * e2 - ((s - 1) * (s - 2) * (d + 3) / 8) * e3

/-- the factorial definition of `S_n^{n-2k}` as a polynomial in `t` -/
def PP (n k : Nat) (t : Rat) : Rat := ∑ j ∈ range (k + 1), cc n k j * t ^ (k - j)

/-- `t ^ e · PP n k t` as a sum over any longer range -/
theorem PP_shift (n k e N : Nat) (hk : 2 * k ≤ n) (hN : k < N) (t : Rat) :
    t ^ e * PP n k t = ∑ j ∈ range N, cz n k j * t ^ (k + e - j) := by
  unfold PP
  rw [mul_sum, ← sum_subset (range_subset_range.mpr hN) fun j _ hj => by
    rw [cz_of_lt (by have := mt mem_range.mpr hj; omega), zero_mul]]
  refine sum_congr rfl fun j hj => ?_
  have hj' : j ≤ k := by have := mem_range.mp hj; omega
  rw [cz_natCast hj' (by omega), show k + e - j = (k - j) + e by omega, pow_add]
  ring

/-- the same sum with the index moved up by one -/
theorem PP_shift0 (n k : Nat) (hk : 2 * k ≤ n) (t : Rat) :
    PP n k t = ∑ j ∈ range (k + 2), cz n k ((j : ℤ) - 1) * t ^ (k + 1 - j) := by
  rw [sum_range_succ', Nat.cast_zero, cz, ifact_neg (show (0 : ℤ) - 1 < 0 by omega)]
  unfold PP
  simp only [zero_mul, mul_zero, add_zero]
  refine sum_congr rfl fun j hj => ?_
  have hj' : j ≤ k := by have := mem_range.mp hj; omega
  rw [Nat.cast_succ, add_sub_cancel_right, cz_natCast hj' (by omega), Nat.add_sub_add_right]

/-- position `j` of the step, multiplied by `(n - k - j) (n - k - j - 1)`, is `h_step` with `s = k + 2 - j` -/
theorem PP_step (n k d : Nat) (hn : n = 2 * k + 4 + d) (p q t : Rat) (hp : p = (n : Rat)) (hq : q = (d : Rat) + 4) :
    PP n (k + 2) t = h1 p q * t ^ 2 * PP n k t + (h2 p q * t + h3 p q) * PP n (k + 1) t := by
  have e : h1 p q * t ^ 2 * PP n k t + (h2 p q * t + h3 p q) * PP n (k + 1) t
      = h1 p q * (t ^ 2 * PP n k t) + h2 p q * (t ^ 1 * PP n (k + 1) t) + h3 p q * PP n (k + 1) t := by ring
  rw [e, PP_shift n k 2 (k + 3) (by omega) (by omega), PP_shift n (k + 1) 1 (k + 3) (by omega) (by omega),
    PP_shift0 n (k + 1) (by omega), mul_sum, mul_sum, mul_sum, ← sum_add_distrib, ← sum_add_distrib]
  unfold PP
  refine sum_congr rfl fun j hj => ?_
  have hj' : j ≤ k + 2 := by have := mem_range.mp hj; omega
  have hjq : (j : ℚ) ≤ k + 2 := by exact_mod_cast hj'
  have hnq : (n : ℚ) = 2 * k + 4 + d := by rw [hn]; push_cast; ring
  have A := cz_succ_k n k j
  have B := cz_succ_k n (k + 1) j
  have C := cz_diag n (k + 1) j (by omega)
  rw [show (k : ℤ) + 1 + 1 = (k + 2 : ℕ) by push_cast; ring] at B C
  rw [← cz_natCast hj' (by omega)]
  push_cast at A B C ⊢
  rw [hnq] at A B C
  have hid := h_step (p := p) (q := q) (s := (k : ℚ) + 2 - j) (d := d) (j := j) (by rw [hp, hnq]; ring) hq
    (by positivity) (by linarith [Nat.cast_nonneg (α := ℚ) k])
  refine mul_left_cancel₀ (show ((k : ℚ) + 2 - j + d + 2) * ((k : ℚ) + 2 - j + d + 1) ≠ 0 from
    mul_ne_zero (by positivity) (by positivity)) ?_
  linear_combination (-(cz n ((k : ℤ) + 2) j * t ^ (k + 2 - j))) * hid
    - h1 p q * t ^ (k + 2 - j) * (((k : ℚ) + 2 - j + d + 1) * A + ((k : ℚ) + 1 - j) * B)
    - h2 p q * t ^ (k + 2 - j) * ((k : ℚ) + 2 - j + d + 2) * B - h3 p q * t ^ (k + 2 - j) * C

theorem PP_zero (n : Nat) (t : Rat) : PP n 0 t = 1 := by
  unfold PP cc
  have h : ((n.factorial : Rat)) ≠ 0 := by positivity
  rw [sum_range_succ, sum_range_zero]
  simp only [Nat.sub_zero, Nat.factorial_zero, pow_zero, Nat.cast_one, one_mul, mul_one, zero_add]
  exact div_self h

theorem PP_one (n : Nat) (hn : 2 ≤ n) (t : Rat) : PP n 1 t = (n : Rat) * t - ((n : Rat) - 1) := by
  obtain ⟨m, rfl⟩ : ∃ m, n = m + 2 := ⟨n - 2, by omega⟩
  unfold PP cc
  rw [sum_range_succ, sum_range_succ, sum_range_zero]
  have e3 : m + 2 - 1 = m + 1 := by omega
  simp only [e3, Nat.sub_zero, Nat.sub_self, Nat.factorial_succ, Nat.factorial_zero]
  push_cast
  field_simp
  ring

theorem reducedEval_eq_PP (n : Nat) (t : Rat) : ∀ k, 2 * k ≤ n → reducedEval n t k = PP n k t
  | 0, _ => by rw [PP_zero]; rfl
  | 1, h => by rw [PP_one n (by omega)]; rfl
  | k + 2, h => by
    have a := reducedEval_eq_PP n t k (by omega)
    have b := reducedEval_eq_PP n t (k + 1) (by omega)
    obtain ⟨d, hd⟩ : ∃ d, n = 2 * k + 4 + d := ⟨n - (2 * k + 4), by omega⟩
    rw [reducedEval_add_two n k d hd, a, b, PP_step n k d hd n ((d : Rat) + 4) t rfl rfl]

theorem radialEval_eq_sum (n m : Nat) (hm : m ≤ n) (hpar : (n - m) % 2 = 0) (r : Rat) :
    radialEval n m r = ∑ k ∈ Finset.range ((n - m) / 2 + 1),
      ((-1) ^ k * ((n - k).factorial : Rat) /
        ((k.factorial : Rat) * (((n + m) / 2 - k).factorial : Rat) * (((n - m) / 2 - k).factorial : Rat))) *
          r ^ (n - 2 * k) := by
  obtain ⟨K, hK⟩ : ∃ K, n = m + 2 * K := ⟨(n - m) / 2, by omega⟩
  have hK1 : (n - m) / 2 = K := by omega
  have hK2 : (n + m) / 2 = n - K := by omega
  unfold radialEval
  rw [hK1, hK2, reducedEval_eq_PP n _ K (by omega), PP, mul_sum]
  unfold cc
  apply sum_congr rfl
  intro j hj
  have hj' : j ≤ K := by have := mem_range.mp hj; omega
  have e : r ^ (n - 2 * j) = r ^ m * (r * r) ^ (K - j) := by
    rw [← pow_two, ← pow_mul, ← pow_add]; congr 1; omega
  rw [e, mul_left_comm]

/-- `m = 0`, `t = 0`: only the constant term of the factorial form survives -/
theorem reducedEval_zero (k : Nat) : reducedEval (2 * k) 0 k = (-1 : Rat) ^ k := by
  rw [reducedEval_eq_PP (2 * k) 0 k (le_refl _), PP]
  unfold cc
  rw [Finset.sum_eq_single k]
  · have e1 : 2 * k - k = k := by omega
    simp only [e1, Nat.sub_self, Nat.factorial_zero, Nat.cast_one, mul_one, pow_zero]
    field_simp
  · intro j hj hne
    have : j < k := by have := Finset.mem_range.mp hj; omega
    rw [zero_pow (by omega), mul_zero]
  · intro h; exact absurd (Finset.mem_range.mpr (Nat.lt_succ_self k)) h

end HcipyVerif.Zernike
