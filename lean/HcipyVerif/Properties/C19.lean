import HcipyVerif.Lemmas.FieldProg
import HcipyVerif.Lemmas.FourierSwitch
import HcipyVerif.Lemmas.FieldRef
import HcipyVerif.Lemmas.FourierWitness
import HcipyVerif.Model.FourierConfig
import HcipyVerif.Gen.FieldDispatch
import HcipyVerif.Lemmas.FieldDispatch
import HcipyVerif.Lemmas.FftPipelineN
import HcipyVerif.Lemmas.Mft
import HcipyVerif.Lemmas.Nft
import HcipyVerif.Lemmas.FftPlan
import HcipyVerif.Lemmas.ZoomNExp

/-!
# C19 — results do not depend on the configured Field implementation (model level)

* The two interpreters of `Model/FieldProg.lean` (`runO`: ndarray-subclass route, `runN`: wrapper route): same
  values, where the grid stays attached, in-place statements.  That these interpreters behave like hcipy's
  `OldStyleField` / `NewStyleField` on NumPy is *not* proved — NumPy's dispatch machinery is run-time
  behaviour — it is checked on every run by the differential test of `harness/props/c19.py` (plain / old / new /
  mixed style / both model routes; the driver's `run` op executes `runO`, `runN`, `agree?`, `disagreeAt`).
* Section `Fourier`, about `Model/FourierSwitch.lean`: backend selection of `hcipy/_math/fft.py:_make_func` and
  the cache switches of `MatrixFourierTransform` / `NaiveFourierTransform` (driver ops `select`, `mft`, `nft`).
* Section `FourierConfig`: the same switches, and `emulate_fftshifts`, as settings of C01's transform models
  (`Cfg.emu`, `mftKern`); every statement there rests on a lemma that C01 publishes under a name of its own.
* Section `References`, about the store with aliasing of `Model/FieldRef.lean`: copies and pickles own their
  data, slices under the intended wrapper are views.  Memory order in pickles and views of the running
  implementations are checked on the real code only.
* Section `Dispatch`: the table probed from the running implementations (`Gen/FieldDispatch.lean`).
-/

namespace HcipyVerif.C19
open HcipyVerif.FieldProg

/-- **Both routes yield the same values** — after every statement (including the same exception
at the same statement) and in the final read-out of every variable, aliases included — for every
program, every grid table, unbounded sizes.  The hypothesis is the *decidable* check `agree?` (run by
the driver for every generated program, reported as `agree=`): no `shaped` node is applied to an object
that the two routes tag differently.  It is `true` for every program without `shaped`
(`backends_same_values_noShaped`); where it is `false` the routes really differ
(`shaped_needs_agreeing_tags`, `agree_detects_0d_shaped`) — the harness generates such programs and
logs them as accepted divergence after checking that the real code diverges exactly as predicted. -/
theorem backends_same_values (gs : Grids) (p : List Stmt) (h : agree? gs p = true) :
    traceData ((runO gs {} p).1, (runO gs {} p).2.map OState.dump) =
    traceData ((runN gs {} p).1, (runN gs {} p).2.map NState.dump) :=
  run_same_values gs p {} {} rfl (progAgreeB_sound gs p {} {} h)

/-- the hypothesis of `backends_same_values` is satisfied by a program that uses `shaped` -/
example : agree? [(0, some [2, 2])]
    [.assign 0 (.shaped (.field ⟨[4], .real, [⟨1, 0⟩, ⟨2, 0⟩, ⟨3, 0⟩, ⟨4, 0⟩]⟩ 0))] = true := by decide

/-- the check passes for every program that does not use `.shaped` (so `backends_same_values` is
unconditional there; the semantic form of the hypothesis, `ProgAgree`, and the proof that the check implies
it are `FieldProg.progAgreeB_sound` / `FieldProg.run_same_values` in `Lemmas/FieldProg.lean`) -/
theorem agree_of_noShaped (gs : Grids) (p : List Stmt) (h : ∀ st ∈ p, StmtNoShaped st) : agree? gs p = true :=
  progAgreeB_of_noShaped gs p h {} {}

/-- the statement index the driver reports (`A 0 <i>`) is `none` exactly when the check passes -/
theorem agree_iff_no_disagreeing_statement (gs : Grids) (p : List Stmt) :
    disagreeAt gs p = none ↔ agree? gs p = true :=
  progDisagreeAt_none_iff gs p {} {} 0

/-- the check rejects the program on which the routes differ (`shaped` of a full reduction) -/
theorem agree_detects_0d_shaped :
    agree? [(0, some [1])] [Stmt.assign 0 (.shaped (.red .max .all (.field ⟨[1], .real, [⟨3, 0⟩]⟩ 0)))] = false := by
  decide

/-- Unconditional form: every program that does not use `.shaped`. -/
theorem backends_same_values_noShaped (gs : Grids) (p : List Stmt) (h : ∀ st ∈ p, StmtNoShaped st) :
    traceData ((runO gs {} p).1, (runO gs {} p).2.map OState.dump) =
    traceData ((runN gs {} p).1, (runN gs {} p).2.map NState.dump) :=
  backends_same_values gs p (agree_of_noShaped gs p h)

/-- Expression level, any two wrapping policies and any stores that read the same values. -/
theorem expression_same_values (P Q : Policy) (gs : Grids) (lo ln : Nat → Except Err Val)
    (hl : ∀ x, dataOf (lo x) = dataOf (ln x)) (e : Expr) (hs : ShapedAgree P Q gs lo ln e) :
    dataOf (eval P gs lo e) = dataOf (eval Q gs ln e) :=
  eval_same_values P Q gs lo ln hl e hs

/-- The side condition on `shaped` cannot be dropped: `Field([c], g).max().shaped` is a `(1,)`
Field under the subclass route (a full reduction stays a 0-d Field) and an `AttributeError` under
the wrapper route (the reduction returned a scalar). -/
theorem shaped_needs_agreeing_tags :
    let p := [Stmt.assign 0 (.shaped (.red .max .all (.field ⟨[1], .real, [⟨3, 0⟩]⟩ 0)))]
    (runO [(0, some [1])] {} p).1.map obsData = [.ok (0, ⟨[1], .real, [⟨3, 0⟩]⟩)] ∧
    (runN [(0, some [1])] {} p).1.map obsData = [.error .attr] := by
  intro p
  constructor <;> rfl

/-- **Elementwise results keep the grid (subclass route)**: a ufunc with a Field operand returns a
Field on the grid of the leftmost Field operand, whatever the shape.  (A reading of the rule `oldPolicy.ufunc`
encodes — definitional; that NumPy's view-casting + `__array_finalize__` follow this rule is what the driver's
`run` op and the per-route correspondence on tags tie to the running code, and the oracle's node-level check
`grid-lost` / `grid-changed` tests on the real code without the model.) -/
theorem elementwise_keeps_grid_old (ts : List Tag) (a : Arr) (g : Nat) (h : leftGrid ts = some g) :
    oldPolicy.ufunc ts a = .field g := by
  simp only [oldPolicy, h]

/-- **Elementwise results keep the grid (wrapper route)**: the same, unless the raw result is 0-d
(NumPy then hands back a scalar, which the wrapper leaves bare).  Definitional in the same sense as
`elementwise_keeps_grid_old`; the evaluated forms are `elementwise_keeps_grid_route_old/_new`. -/
theorem elementwise_keeps_grid_new (ts : List Tag) (a : Arr) (g : Nat) (h : leftGrid ts = some g)
    (hnd : a.shape ≠ []) : newPolicy.ufunc ts a = .field g := by
  simp only [newPolicy, h, List.isEmpty_eq_false_iff.mpr hnd, Bool.false_eq_true, if_false]

/-- **Elementwise results carry the grid of the Field operand (subclass route, evaluated)**: whatever
the operands evaluate to under this route, if one of them is a Field the result is a Field on the grid
of the leftmost one — 0-d results included. -/
theorem elementwise_keeps_grid_route_old (gs : Grids) (lo : Nat → Except Err Val) (op : BinOp) (l r : Expr)
    (vl vr : Val) (g : Nat)
    (hl : eval oldPolicy gs lo l = .ok vl) (hr : eval oldPolicy gs lo r = .ok vr)
    (hg : leftGrid [vl.2, vr.2] = some g) (a : Arr) (hk : Prim.binop op vl.1 vr.1 = .ok a) :
    eval oldPolicy gs lo (.bin op l r) = .ok (a, .field g) := by
  simp only [eval, hl, hr, hk, Except.map, elementwise_keeps_grid_old _ _ _ hg]

/-- the same for the wrapper route, unless the raw result is 0-d -/
theorem elementwise_keeps_grid_route_new (gs : Grids) (ln : Nat → Except Err Val) (op : BinOp) (l r : Expr)
    (vl vr : Val) (g : Nat)
    (hl : eval newPolicy gs ln l = .ok vl) (hr : eval newPolicy gs ln r = .ok vr)
    (hg : leftGrid [vl.2, vr.2] = some g) (a : Arr) (hk : Prim.binop op vl.1 vr.1 = .ok a) (hnd : a.shape ≠ []) :
    eval newPolicy gs ln (.bin op l r) = .ok (a, .field g) := by
  simp only [eval, hl, hr, hk, Except.map, elementwise_keeps_grid_new _ _ _ hg hnd]

/-- both routes at once; the operands may be *different kinds of object* under the two routes (a 0-d
Field vs a scalar, a bare array vs a Field after `np.where`) — each route attaches the grid of its own
leftmost Field operand -/
theorem elementwise_keeps_grid (gs : Grids) (lo ln : Nat → Except Err Val) (op : BinOp) (l r : Expr)
    (al ar : Arr) (tlo tro tln trn : Tag) (g g' : Nat)
    (hlo : eval oldPolicy gs lo l = .ok (al, tlo)) (hro : eval oldPolicy gs lo r = .ok (ar, tro))
    (hln : eval newPolicy gs ln l = .ok (al, tln)) (hrn : eval newPolicy gs ln r = .ok (ar, trn))
    (hgo : leftGrid [tlo, tro] = some g) (hgn : leftGrid [tln, trn] = some g')
    (a : Arr) (hk : Prim.binop op al ar = .ok a) (hnd : a.shape ≠ []) :
    eval oldPolicy gs lo (.bin op l r) = .ok (a, .field g) ∧
    eval newPolicy gs ln (.bin op l r) = .ok (a, .field g') :=
  ⟨elementwise_keeps_grid_route_old gs lo op l r _ _ g hlo hro hgo a hk,
   elementwise_keeps_grid_route_new gs ln op l r _ _ g' hln hrn hgn a hk hnd⟩

/-- satisfiable: `Field([1, 2], g0) + 1.0` -/
example :
    eval oldPolicy [] (fun _ => .error .unsupported) (.bin .add (.field ⟨[2], .real, [⟨1, 0⟩, ⟨2, 0⟩]⟩ 0) (.scal ⟨1, 0⟩ .real))
      = .ok (⟨[2], .real, [⟨2, 0⟩, ⟨3, 0⟩]⟩, .field 0) ∧
    eval newPolicy [] (fun _ => .error .unsupported) (.bin .add (.field ⟨[2], .real, [⟨1, 0⟩, ⟨2, 0⟩]⟩ 0) (.scal ⟨1, 0⟩ .real))
      = .ok (⟨[2], .real, [⟨2, 0⟩, ⟨3, 0⟩]⟩, .field 0) :=
  elementwise_keeps_grid [] _ _ .add _ _ _ _ (.field 0) .scalar (.field 0) .scalar 0 0 rfl rfl rfl rfl rfl rfl _
    (by decide +kernel) (by decide)

/-- the same for unary ufuncs -/
theorem elementwise_keeps_grid_unary (gs : Grids) (lo ln : Nat → Except Err Val) (u : UnOp) (e : Expr)
    (ae : Arr) (g : Nat)
    (ho : eval oldPolicy gs lo e = .ok (ae, .field g)) (hn : eval newPolicy gs ln e = .ok (ae, .field g))
    (a : Arr) (hk : Prim.unop u ae = .ok a) (hnd : a.shape ≠ []) :
    eval oldPolicy gs lo (.un u e) = .ok (a, .field g) ∧
    eval newPolicy gs ln (.un u e) = .ok (a, .field g) := by
  -- `.real` / `.imag` keep the object, every other unary operation is a ufunc on one Field operand
  have hto : unTag oldPolicy u (.field g) a = .field g := by cases u <;> rfl
  have htn : unTag newPolicy u (.field g) a = .field g := by
    cases u with
    | re | im => rfl
    | neg | pos | abs | sq | conj | not => exact elementwise_keeps_grid_new _ a g rfl hnd
  exact ⟨by simp only [eval, ho, hk, Except.map, hto], by simp only [eval, hn, hk, Except.map, htn]⟩

/-- satisfiable: `-Field([1, 2], g0)` -/
example :
    eval oldPolicy [] (fun _ => .error .unsupported) (.un .neg (.field ⟨[2], .real, [⟨1, 0⟩, ⟨2, 0⟩]⟩ 0))
      = .ok (⟨[2], .real, [⟨-1, 0⟩, ⟨-2, 0⟩]⟩, .field 0) :=
  (elementwise_keeps_grid_unary [] _ (fun _ => .error .unsupported) .neg _ _ 0 rfl rfl _ rfl (by decide)).1

/-- **The 0-d divergence, stated**: on a 0-d raw result with a Field operand the subclass route returns
a 0-d *Field on the grid*, the wrapper route a bare *scalar* — for ufuncs and for reductions alike.  This
is the one place where "elementwise results stay attached to the same grid" fails between the styles;
the values are equal (`backends_same_values`).  Accepted divergence (NumPy returns scalars for 0-d
results; the harness counts the occurrences as `tags old/new:f…/s`). -/
theorem zero_dim_divergence (ts : List Tag) (a : Arr) (g : Nat) (h : leftGrid ts = some g) (h0 : a.shape = []) :
    oldPolicy.ufunc ts a = .field g ∧ newPolicy.ufunc ts a = .scalar ∧
    oldPolicy.reduce (.field g) a = .field g ∧ newPolicy.reduce (.field g) a = .scalar := by
  refine ⟨elementwise_keeps_grid_old ts a g h, ?_, rfl, ?_⟩
  · simp only [newPolicy, h, h0, List.isEmpty_nil, if_true]
  · simp only [newPolicy, h0, List.isEmpty_nil, if_true]

/-- … and its consequence one operation later: `f.sum() * np.array([1, 2])` is a Field under the
subclass route and a bare ndarray under the wrapper route (same values) -/
theorem zero_dim_divergence_propagates :
    let e := Expr.bin .mul (.red .sum .all (.field ⟨[2], .real, [⟨1, 0⟩, ⟨2, 0⟩]⟩ 0)) (.lit ⟨[2], .real, [⟨1, 0⟩, ⟨2, 0⟩]⟩)
    eval oldPolicy [] (fun _ => .error .unsupported) e = .ok (⟨[2], .real, [⟨3, 0⟩, ⟨6, 0⟩]⟩, .field 0) ∧
    eval newPolicy [] (fun _ => .error .unsupported) e = .ok (⟨[2], .real, [⟨3, 0⟩, ⟨6, 0⟩]⟩, .plain) := by
  decide +kernel

/-- **copy and pickle round trips** (a statement about how the model *defines* the two operations, not a
derivation from the pickling code): under any wrapping policy, `copy(e)` and `pickle.loads(pickle.dumps(e))`
evaluate to exactly what `e` evaluates to — same values, same shape and dtype class, same kind of object,
same grid.  `eval` passes the tag through and restores the array from its `ndarray.__reduce__` state
(`setstate_getstate`); memory order, `_field_reconstruct` and the slicing of the state tuple in
`__setstate__` are not modelled.  What carries the clause "fields survive copy and pickle" for the running
code is the tie: the real `copy` (3 spellings) and `pickle` (protocols 2–5) results of both styles are compared
with this identity at every such node (values, dtype, kind of object, grid, no shared memory: `_roundtrip_check`),
including F-ordered and non-contiguous Fields in the extended programs. -/
theorem copy_pickle_roundtrip (P : Policy) (gs : Grids) (look : Nat → Except Err Val) (e : Expr) :
    eval P gs look (.copy e) = eval P gs look e ∧ eval P gs look (.pickle e) = eval P gs look e := by
  constructor
  · cases h : eval P gs look e <;> simp [eval, h]
  · cases h : eval P gs look e <;> simp [eval, h, Prim.setstate, Prim.getstate]

/-- the ndarray state (shape, dtype class, data) survives `__setstate__(__getstate__())` -/
theorem setstate_getstate (a : Arr) : Prim.setstate (Prim.getstate a) = a := rfl

/-- **Grid rule for every further modelled operation** (reductions with keepdims, cumsum/cumprod,
sort/argsort, argmax/argmin, astype, clip, 1-d matmul, field_dot, field_trace): whenever the first
operand is a Field on grid `g` and the result is not 0-d, both routes return a Field on `g`.
The only class excluded is `func` (`np.where`), see `where_grid_rule`. -/
theorem fnTag_keeps_grid (c : TagClass) (hc : c ≠ .func) (ts : List Tag) (a : Arr) (g : Nat)
    (hnd : a.shape ≠ []) :
    fnTag oldPolicy c (.field g :: ts) a = .field g ∧ fnTag newPolicy c (.field g :: ts) a = .field g := by
  -- off 0-d results and `func` the wrapper route tags as the subclass route does
  have he := List.isEmpty_eq_false_iff.mpr hnd
  rw [← FieldDispatch.fnTag_old_eq_new hc _ he, and_self]
  cases c with
  | func => exact absurd rfl hc
  | scalarIf0d => exact if_neg (Bool.eq_false_iff.mp he)
  | ufunc | reduce | keep | lib => rfl

/-- for the many-operand classes (ufuncs such as `clip`, hcipy functions such as `field_dot`) the rule is
"leftmost Field", wherever it stands in the argument list -/
theorem fnTag_keeps_grid_left (c : TagClass) (hc : c = .ufunc ∨ c = .lib) (ts : List Tag) (a : Arr) (g : Nat)
    (h : leftGrid ts = some g) (hnd : a.shape ≠ []) :
    fnTag oldPolicy c ts a = .field g ∧ fnTag newPolicy c ts a = .field g := by
  rcases hc with rfl | rfl
  · exact ⟨elementwise_keeps_grid_old ts a g h, elementwise_keeps_grid_new ts a g h hnd⟩
  · simp only [fnTag, h, and_self]

example : leftGrid [.plain, .scalar, .field 3] = some 3 := rfl

/-- `np.where(c, a, b)` is the one modelled operation on which the routes attach *different* kinds
of object: NumPy does not preserve the subclass (bare ndarray under the subclass route), while the
wrapper's `__array_function__` wraps the result on the grid of the leftmost Field argument.
The values are the same (`backends_same_values`).  A reading of `Policy.func` (definitional); accepted
divergence of the clause "results stay attached to the same grid": the harness does not apply its grid
check to `np.where` and counts `.shaped` of such a result as `accepted-divergence:shaped-of-p/f` after
checking that the real styles behave exactly as stated here. -/
theorem where_grid_rule (ts : List Tag) (a : Arr) (g : Nat) (h : leftGrid ts = some g) :
    fnTag oldPolicy (Fn3.cls .where_) ts a = .plain ∧ fnTag newPolicy (Fn3.cls .where_) ts a = .field g := by
  refine ⟨rfl, ?_⟩
  simp only [fnTag, Fn3.cls, newPolicy, h]

/-- evaluated form of `fnTag_keeps_grid` for one-argument kernels -/
theorem app1_keeps_grid (gs : Grids) (lo ln : Nat → Except Err Val) (f : Prim.Fn1) (e : Expr)
    (ae : Arr) (g : Nat)
    (ho : eval oldPolicy gs lo e = .ok (ae, .field g)) (hn : eval newPolicy gs ln e = .ok (ae, .field g))
    (a : Arr) (hk : Prim.apply1 f ae = .ok a) (hnd : a.shape ≠ []) :
    eval oldPolicy gs lo (.app1 f e) = .ok (a, .field g) ∧
    eval newPolicy gs ln (.app1 f e) = .ok (a, .field g) := by
  have hc : Fn1.cls f ≠ .func := by cases f <;> exact TagClass.noConfusion
  have := fnTag_keeps_grid (Fn1.cls f) hc [] a g hnd
  exact ⟨by simp only [eval, ho, hk, Except.map, this.1], by simp only [eval, hn, hk, Except.map, this.2]⟩

/-- satisfiable: `np.cumsum(Field([1, 2], g0))` -/
example :
    eval oldPolicy [] (fun _ => .error .unsupported) (.app1 (.cumsum .last) (.field ⟨[2], .real, [⟨1, 0⟩, ⟨2, 0⟩]⟩ 0))
      = .ok (⟨[2], .real, [⟨1, 0⟩, ⟨3, 0⟩]⟩, .field 0) :=
  (app1_keeps_grid [] _ (fun _ => .error .unsupported) (.cumsum .last) _ _ 0 rfl rfl _ (by decide +kernel) (by decide)).1

/-- **In-place statements write through (subclass route)** — for *every* in-place statement of
the model (`x op= e`, `x[i] = e`, `x[..., m] = e`, `x[i] op= e`, `x[..., m] op= e`,
`np.op(a, b, out=x)`, `x.real = e`, `x.imag = e`, `x.sort()`, `x.fill(e)`): after success, `x` *and
every alias of `x`* read the updated array `Prim.update u old args` (same kind of object, same
grid), and every variable naming another object is unchanged. -/
theorem inplace_writes_through_old (gs : Grids) (so so' : OState) (x : Nat) (u : Prim.Upd) (args : List Expr) (c : Nat)
    (hx : so.vars.lookup x = some c) (hstep : stepO gs so (.update x u args) = .ok so') :
    ∃ xv vs a, so.cells[c]? = some xv ∧ evalArgs oldPolicy gs so.look args = .ok vs ∧
      Prim.update u xv.1 (vs.map Prod.fst) = .ok a ∧
      (∀ h, so.vars.lookup h = some c → so'.look h = .ok (a, xv.2)) ∧
      (∀ y c', so.vars.lookup y = some c' → c' ≠ c → so'.look y = so.look y) := by
  obtain ⟨xv, vs, a, hc, he, hp, hV, hC⟩ := stepO_update_ok hx hstep
  have hlt : c < so.cells.length := (List.getElem?_eq_some_iff.mp hc).1
  refine ⟨xv, vs, a, hc, he, hp, fun h hh => ?_, fun y c' hy hne => ?_⟩
  · simp only [OState.look, hV, hC, hh, List.getElem?_set_self hlt]
  · simp only [OState.look, hV, hC, hy, List.getElem?_set_ne (Ne.symm hne)]

/-- Python's `x = y` is the statement `.alias x y`; written as an assignment of the expression `y` it is
outside the model on both routes (read as a copy it would describe no Python program) -/
theorem assign_of_bare_variable_unsupported (gs : Grids) (so : OState) (sn : NState) (x y : Nat) :
    stepO gs so (.assign x (.var y)) = .error .unsupported ∧ stepN gs sn (.assign x (.var y)) = .error .unsupported :=
  ⟨rfl, rfl⟩

/-- the hypotheses of `inplace_writes_through_old` / `_new` are satisfiable: `x = Field([1, 2], g0); h = x;
x += 1` succeeds on both routes and the alias `h` reads the updated values -/
example :
    let prog : List Stmt := [.assign 0 (.field ⟨[2], .real, [⟨1, 0⟩, ⟨2, 0⟩]⟩ 0), .alias 1 0,
      .update 0 (.iop .add) [.scal ⟨1, 0⟩ .real]]
    ((runO [] {} prog).2.map fun s => s.look 1) = some (.ok (⟨[2], .real, [⟨2, 0⟩, ⟨3, 0⟩]⟩, .field 0)) ∧
    ((runN [] {} prog).2.map fun s => s.look 1) = some (.ok (⟨[2], .real, [⟨2, 0⟩, ⟨3, 0⟩]⟩, .field 0)) := by
  decide +kernel

/-- **In-place statements write through (wrapper route)**: the same for the wrapper store — every
variable whose wrapper shares `x`'s buffer reads the updated array (although `x op= e` binds `x` to
a *new* wrapper), variables on other buffers are unchanged; `x` itself reads the updated array and, if it
was a Field, **still is a Field on its grid** (for `x op= e` the new wrapper takes the grid of the leftmost
Field among `(x, e)`, which is `x`).  That the real wrapper writes into `self.data` on every in-place path
is what the differential run ties (`stepN` does so by definition). -/
theorem inplace_writes_through_new (gs : Grids) (sn sn' : NState) (x : Nat) (u : Prim.Upd) (args : List Expr) (r : Nat × Tag)
    (hx : sn.vars.lookup x = some r) (hstep : stepN gs sn (.update x u args) = .ok sn') :
    ∃ xa vs a, sn.bufs[r.1]? = some xa ∧ evalArgs newPolicy gs sn.look args = .ok vs ∧
      Prim.update u xa (vs.map Prod.fst) = .ok a ∧
      sn'.look x = .ok (a, if Upd.rebinds u then iopTagN r.2 ((vs.map Prod.snd).headD .plain) else r.2) ∧
      (∀ g, r.2 = .field g → sn'.look x = .ok (a, .field g)) ∧
      (∀ h rh, h ≠ x → sn.vars.lookup h = some rh → rh.1 = r.1 → sn'.look h = .ok (a, rh.2)) ∧
      (∀ y ry, sn.vars.lookup y = some ry → ry.1 ≠ r.1 → sn'.look y = sn.look y) := by
  obtain ⟨xa, vs, a, hc, he, hp, hV, hB⟩ := stepN_update_ok hx hstep
  have hlt : r.1 < sn.bufs.length := (List.getElem?_eq_some_iff.mp hc).1
  have hlook : sn'.look x
      = .ok (a, if Upd.rebinds u then iopTagN r.2 ((vs.map Prod.snd).headD .plain) else r.2) := by
    simp only [NState.look, hV, hB, if_pos, List.getElem?_set_self hlt]
  refine ⟨xa, vs, a, hc, he, hp, hlook, fun g hg => ?_, fun h rh hne hh hb => ?_, fun y ry hy hne => ?_⟩
  · rw [hlook, hg]
    cases Upd.rebinds u <;> rfl
  · simp only [NState.look, hV, hB, if_neg hne, hh, hb, List.getElem?_set_self hlt]
  · have hyx : y ≠ x := fun e => hne (by rw [e, hx] at hy; rw [← Option.some.inj hy])
    simp only [NState.look, hV, hB, if_neg hyx, hy, List.getElem?_set_ne (Ne.symm hne)]

/-- **The stores are view-free: an assigned value is independent (subclass route)** — after `y = e`, no
later in-place statement on another variable `x` reaches `y`.  For `e = x.copy()`, `pickle.loads(pickle.dumps(x))`
and every arithmetic expression this is NumPy's behaviour; for view-producing `e` (`x[..., 0:2]`, `x.reshape(…)`,
`x.real`, `x.shaped`) it is *not*: the model copies where NumPy shares memory.  The harness therefore never lets
the model read such a `y` after an update of `x`; that the real styles treat views alike is checked on the real
code only (oracle key `view-read`), and that real copies / pickles share no memory by `_roundtrip_check`. -/
theorem assigned_value_is_independent_old (gs : Grids) (so s1 s2 : OState) (x y : Nat) (e : Expr) (u : Prim.Upd)
    (args : List Expr) (c : Nat)
    (hxy : y ≠ x) (hx : so.vars.lookup x = some c) (hc : c < so.cells.length)
    (h1 : stepO gs so (.assign y e) = .ok s1)
    (h2 : stepO gs s1 (.update x u args) = .ok s2) : s2.look y = s1.look y := by
  obtain ⟨v, rfl⟩ := stepO_assign_ok h1
  have hx1 : (bind so.vars y so.cells.length).lookup x = some c := by
    rw [lookup_bind, if_neg (Ne.symm hxy)]
    exact hx
  obtain ⟨_, _, _, _, _, _, _, hother⟩ := inplace_writes_through_old gs _ s2 x u args c hx1 h2
  exact hother y so.cells.length (by rw [lookup_bind, if_pos rfl]) (Nat.ne_of_gt hc)

/-- the same for the wrapper route: `y = e` puts the value into a new buffer -/
theorem assigned_value_is_independent_new (gs : Grids) (sn s1 s2 : NState) (x y : Nat) (e : Expr) (u : Prim.Upd)
    (args : List Expr) (r : Nat × Tag)
    (hxy : y ≠ x) (hx : sn.vars.lookup x = some r) (hr : r.1 < sn.bufs.length)
    (h1 : stepN gs sn (.assign y e) = .ok s1)
    (h2 : stepN gs s1 (.update x u args) = .ok s2) : s2.look y = s1.look y := by
  obtain ⟨v, rfl⟩ := stepN_assign_ok h1
  have hx1 : (bind sn.vars y (sn.bufs.length, v.2)).lookup x = some r := by
    rw [lookup_bind, if_neg (Ne.symm hxy)]
    exact hx
  obtain ⟨_, _, _, _, _, _, _, _, _, hother⟩ := inplace_writes_through_new gs _ s2 x u args r hx1 h2
  exact hother y (sn.bufs.length, v.2) (by rw [lookup_bind, if_pos rfl]) (Nat.ne_of_gt hr)

/-- satisfiable (both routes): `x = Field([1, 2], g0); y = x.copy(); x += 1` -/
example :
    let prog : List Stmt := [.assign 0 (.field ⟨[2], .real, [⟨1, 0⟩, ⟨2, 0⟩]⟩ 0), .assign 1 (.copy (.var 0)),
      .update 0 (.iop .add) [.scal ⟨1, 0⟩ .real]]
    ((runO [] {} prog).2.map fun s => s.look 1) = some (.ok (⟨[2], .real, [⟨1, 0⟩, ⟨2, 0⟩]⟩, .field 0)) ∧
    ((runN [] {} prog).2.map fun s => s.look 1) = some (.ok (⟨[2], .real, [⟨1, 0⟩, ⟨2, 0⟩]⟩, .field 0)) ∧
    ((runO [] {} prog).2.map fun s => s.look 0) = some (.ok (⟨[2], .real, [⟨2, 0⟩, ⟨3, 0⟩]⟩, .field 0)) ∧
    ((runN [] {} prog).2.map fun s => s.look 0) = some (.ok (⟨[2], .real, [⟨2, 0⟩, ⟨3, 0⟩]⟩, .field 0)) := by
  decide +kernel

/-! ## Backend selection, MFT / NFT switches (`Model/FourierSwitch.lean`)

Tied by the driver ops `select`, `mft`, `nft` (harness: `run_select_tie`, `run_cache_tie`): the real
`_make_func` closures are re-made over recording fake backends, and the attributes of reused real
`MatrixFourierTransform` / `NaiveFourierTransform` objects are read after every call. -/
section Fourier
open HcipyVerif.FourierSwitch HcipyVerif.FourierSwitch.Spec

/-- **Backend selection returns the first working backend** in the order the code tries them
(threads-major: every method with the first number of threads, then every method with the next),
`ValueError` iff none works.  Any list of methods, any availability / failure pattern. -/
theorem select_first_working (cpu : Nat) (avail : Method → Bool) (works : Method → Nat → Bool)
    (methods : List Method) (threads : Option Nat) (big : Bool) :
    select cpu avail works methods threads big =
      match (tryOrder methods (threadAttempts cpu threads big)).find? (fun p => callable avail works p.1 p.2) with
      | some p => .ok p
      | none => .error .value :=
  selectIn_eq_find

/-- what `select_first_working` gives for a successful selection: the backend is in the list, is
importable, did not raise, was called in one of the thread attempts — and it is not `other` -/
theorem select_ok_sound (cpu : Nat) (avail : Method → Bool) (works : Method → Nat → Bool)
    (methods : List Method) (threads : Option Nat) (big : Bool) (m : Method) (t : Nat)
    (h : select cpu avail works methods threads big = .ok (m, t)) :
    m ∈ methods ∧ t ∈ threadAttempts cpu threads big ∧ usable avail m = true ∧ works m t = true ∧ m ≠ .other := by
  obtain ⟨hm, ht, hc⟩ := selectIn_ok h
  obtain ⟨hu, hw⟩ := Bool.and_eq_true_iff.mp hc
  -- `other` is never usable
  exact ⟨hm, ht, hu, hw, fun ho => Bool.false_ne_true ((congrArg (usable avail) ho).symm.trans hu)⟩

example : select 4 (fun _ => false) (fun m t => m == .numpy || t == 1) [.mkl, .scipy, .numpy] none true = .ok (.numpy, 4) := rfl

/-- **Selection is total when `threads` is left at `None`**: the only exception it can raise is the
`ValueError`, and it raises it iff no listed backend works with any attempted number of threads; in
particular one backend that works single-threaded suffices, whatever the size of the input. -/
theorem select_total_when_threads_none (cpu : Nat) (avail : Method → Bool) (works : Method → Nat → Bool)
    (methods : List Method) (big : Bool) :
    (∀ e, select cpu avail works methods none big = .error e ↔
      e = .value ∧ ∀ t ∈ threadAttempts cpu none big, ∀ m ∈ methods, callable avail works m t = false) ∧
    ((∃ m ∈ methods, callable avail works m 1 = true) → ∃ r, select cpu avail works methods none big = .ok r) := by
  refine ⟨fun _ => selectIn_error_iff, fun ⟨m, hm, hc⟩ => selectIn_ok_of_callable hm ?_ hc⟩
  cases big <;> simp [threadAttempts]

/-- with an explicit `threads=t` (after D190): that number of threads only -/
theorem select_explicit_threads (cpu : Nat) (avail : Method → Bool) (works : Method → Nat → Bool)
    (methods : List Method) (t : Nat) (big : Bool) :
    (∃ r, select cpu avail works methods (some t) big = .ok r) ↔ ∃ m ∈ methods, callable avail works m t = true := by
  constructor
  · rintro ⟨⟨m, t'⟩, h⟩
    obtain ⟨hm, ht, hc⟩ := selectIn_ok h
    cases List.mem_singleton.mp ht
    exact ⟨m, hm, hc⟩
  · rintro ⟨m, hm, hc⟩
    exact selectIn_ok_of_callable hm (List.mem_singleton.mpr rfl) hc

/-- **/repo before D190**: every call with an explicit `threads=` raises `UnboundLocalError`, whatever
the backends do — although the repaired code succeeds as soon as one listed backend works with that
number of threads (defect D190; `Old` code — documentation, the tie runs `select`). -/
theorem Old.selectOld_explicit_threads_crashes (cpu : Nat) (avail : Method → Bool) (works : Method → Nat → Bool)
    (methods : List Method) (t : Nat) (big : Bool) :
    selectOld cpu avail works methods (some t) big = .error .unbound ∧
    ((∃ m ∈ methods, callable avail works m t = true) →
      ∃ r, select cpu avail works methods (some t) big = .ok r) :=
  ⟨rfl, (select_explicit_threads cpu avail works methods t big).mpr⟩

/-- **The result does not depend on which backend answered**: if every backend computes the same
transform `dft` (for every number of workers) and the input has a standard bit depth (single, double,
integer), then every successful configuration — any method list, any `threads=`, any pattern of missing
or failing backends — returns `dft x` at the native bit depth of the input. -/
theorem select_value_independent {X Y : Type} (k : Method → Option Nat → X → Y) (dft : X → Y)
    (hk : ∀ m w x, m ≠ .other → k m w x = dft x)
    (cpu : Nat) (avail : Method → Bool) (works : Method → Nat → Bool) (methods : List Method)
    (threads : Option Nat) (big : Bool) (d : DtIn) (hd : d.standard = true) (x : X) (r : Prec × Y)
    (h : fftResult k cpu avail works methods threads big d x = .ok r) : r = (nativePrec d, dft x) := by
  obtain ⟨⟨m, t⟩, hs, rfl⟩ := FieldProg.map_eq_ok h
  show (outPrec m d, k m (workersArg m t) x) = _
  rw [outPrec_of_standard m hd, hk m _ x (select_ok_sound _ _ _ _ _ _ _ _ hs).2.2.2.2]

example : fftResult (fun _ _ (x : Nat) => x + 1) 4 (fun _ => false) (fun _ _ => true) [.mkl, .numpy] (some 2) false .single 5
    = .ok (.single, 6) := rfl

/-- outside the standard depths the `numpy` branch *does* differ (float16 → complex128 instead of
complex64, longdouble → complex128 instead of complex256): the harness checks that the real code shows
exactly this and records it as an accepted divergence (bit depths hcipy does not use). -/
theorem numpy_depth_divergence :
    outPrec .numpy .half ≠ outPrec .scipy .half ∧ outPrec .numpy .longdouble ≠ outPrec .scipy .longdouble ∧
    ∀ d, d.standard = true → ∀ m, outPrec m d = nativePrec d :=
  ⟨by decide, by decide, fun d hd m => outPrec_of_standard m hd⟩

/-- **MFT switches**: for every call script on one `MatrixFourierTransform` object — any mixture of
forward/backward, of complex64/complex128 inputs — and every setting of `precompute_matrices` and
`allocate_intermediate`, every call returns what a fresh object with both switches off returns.
Proof by the invariant `Keyed` (recorded dtype = dtype the matrices were made for). -/
theorem mft_switch_independent {X M B R : Type} (K : MftKern X M B R) (pre alloc : Bool)
    (script : List (Dir × CPrec × X)) :
    mftRun K pre alloc script = script.map fun s => mftFresh K s.1 s.2.1 s.2.2 :=
  mftRunFrom_spec K pre alloc script {} (keyed_empty K)

/-- the same from any reachable (keyed) cache state, one call; the cache stays keyed -/
theorem mft_call_independent {X M B R : Type} (K : MftKern X M B R) (pre alloc : Bool) (c : MftCache M B)
    (hk : Keyed K c) (d : Dir) (p : CPrec) (x : X) :
    (mftCall K pre alloc c d p x).1 = mftFresh K d p x ∧ Keyed K (mftCall K pre alloc c d p x).2 :=
  mftCall_spec K pre alloc c hk d p x

example : Keyed provKern (mftCall provKern true true {} .fwd .c64 (0, .c128)).2 :=
  (mft_call_independent provKern true true {} (keyed_empty _) .fwd .c64 (0, .c128)).2

/-- the same with the invariant as the *check the driver runs after every call* (`k1` in the answer of
`C19 mft`; compared with `M1.dtype == matrices_dtype` read off the real object): from a cache that passes
the check, the call returns what a fresh switch-less object returns, and the cache passes the check again -/
theorem mft_call_independent_checked {X M B R : Type} [BEq M] [LawfulBEq M] (K : MftKern X M B R) (pre alloc : Bool)
    (c : MftCache M B) (hk : keyedB K c = true) (d : Dir) (p : CPrec) (x : X) :
    (mftCall K pre alloc c d p x).1 = mftFresh K d p x ∧ keyedB K (mftCall K pre alloc c d p x).2 = true := by
  obtain ⟨h1, h2⟩ := mft_call_independent K pre alloc c ((keyedB_iff K c).mp hk) d p x
  exact ⟨h1, (keyedB_iff K _).mpr h2⟩

example : keyedB provKern ({} : MftCache CPrec BufProv) = true := rfl

/-- the check is not vacuous: a cache whose recorded dtype does not describe its matrices fails it -/
example : keyedB provKern ({ mats := some (.c64, .c128) } : MftCache CPrec BufProv) = false := rfl

/-- the model *can* fail: with an intermediate that is allocated only when there is none (seeded
defect C19-2), `allocate_intermediate=True` makes the second call of the script complex64 → complex128
read the stale single-precision product of the first call; with the switch off it is correct. -/
theorem mft_bad_cache_counterexample :
    let script : List (Dir × CPrec × (Nat × CPrec)) := [(.fwd, .c64, (0, .c64)), (.fwd, .c128, (1, .c128))]
    (mftRunFrom (mftCallBad provKern false true) {} script).1 ≠ script.map (fun s => mftFresh provKern s.1 s.2.1 s.2.2) ∧
    (mftRunFrom (mftCallBad provKern false false) {} script).1 = script.map (fun s => mftFresh provKern s.1 s.2.1 s.2.2) := by
  decide

/-- **NFT switch**: with `precompute_matrices` on or off, every call of every script returns the
on-the-fly sum cast to the complex dtype of the input — given that the cached matrix applied to a field
*is* that sum (`hd`: the matrix identity, C02's subject; the harness checks it against the defining sum). -/
theorem nft_switch_independent {X A R : Type} (K : NftKern X A R)
    (hd : ∀ d x, K.apply (K.matrix d) x = K.direct d x) (pre : Bool) (script : List (Dir × CPrec × X)) :
    (nftRunFrom K pre {} script).1 = (nftRunFrom K false {} script).1 := by
  rw [nftRunFrom_spec K hd pre script {} (nftKeyed_empty K), nftRunFrom_spec K hd false script {} (nftKeyed_empty K)]

example : ∃ K : NftKern Nat Nat Nat, ∀ d x, K.apply (K.matrix d) x = K.direct d x :=
  ⟨⟨fun _ => 2, fun a x => a * x, fun _ x => 2 * x, fun _ r => r⟩, fun _ _ => rfl⟩

end Fourier

section FourierConfig
open HcipyVerif.Fft HcipyVerif.FourierSwitch HcipyVerif.FourierConfig

section abstract
variable {K C : Type} [Field K] [Field C] {T E : K → C}

/-- **`emulate_fftshifts` changes nothing, `forward`, one axis.**  For both values of the switch
(`Cfg.emu`: `false` = `ifftshift`/`fftshift` around the FFT, `true` = the two phase multiplications) the
modelled `FastFourierTransform.forward` returns the same output sample, for every input, every size
`N ≤ M`, `Mo ≤ M`, every consistent grid.  Rests on `fastForward_eq_sumForward` (Lemmas/FftPipeline.lean;
C01: `fast_forward_eq_sum`): both pipelines evaluate the defining sum, which does not mention the switch. -/
theorem fft_emulate_switch_independent (hT : IsChar T) (hE : IsChar E) (hper : ∀ n : ℤ, T (n : K) = 1)
    (g : Cfg K C) (hN : g.N ≤ g.M) (hMo : g.Mo ≤ g.M) (hcons : g.dT * (g.M : K) * g.δ = 1)
    (e1 e2 : Bool) (f : ℕ → C) (k : ℕ) (hk : k < g.Mo) :
    fastForward T E { g with emu := e1 } f k = fastForward T E { g with emu := e2 } f k := by
  rw [fastForward_eq_sumForward hT hE hper { g with emu := e1 } hN hMo hcons f k hk,
    fastForward_eq_sumForward hT hE hper { g with emu := e2 } hN hMo hcons f k hk]
  rfl

/-- satisfiability of the hypothesis bundle (`N = 2, M = 4, Mo = 3, δ = dT = 1/2`, `Complex.exp`) -/
example : ∃ (T E : ℝ → ℂ) (g : Cfg ℝ ℂ) (k : ℕ), IsChar T ∧ IsChar E ∧ (∀ n : ℤ, T (n : ℝ) = 1) ∧
    g.N ≤ g.M ∧ g.Mo ≤ g.M ∧ g.dT * (g.M : ℝ) * g.δ = 1 ∧ k < g.Mo :=
  ⟨expT, expE, Witness.axis24, 2, expT_isChar, expE_isChar, expT_period, Witness.axis24_valid.1, Witness.axis24_valid.2.1,
    Witness.axis24_valid.2.2.1, by decide⟩

/-- **`emulate_fftshifts` changes nothing, `backward`, one axis** (`wOut = Δ/(2π)` is only the
witness that `M·w` is invertible; it does not occur in the conclusion).  Rests on
`fastBackward_eq_sumBackward` (C01: `fast_backward_eq_sum`). -/
theorem fft_emulate_switch_independent_backward (hT : IsChar T) (hE : IsChar E)
    (hper : ∀ n : ℤ, T (n : K) = 1)
    (g : Cfg K C) (hN : g.N ≤ g.M) (hMo : g.Mo ≤ g.M) (hcons : g.dT * (g.M : K) * g.δ = 1)
    (wOut : C) (hw : wOut * (g.M : C) * g.w = 1)
    (e1 e2 : Bool) (F : ℕ → C) (j : ℕ) (hj : j < g.N) :
    fastBackward T E { g with emu := e1 } F j = fastBackward T E { g with emu := e2 } F j := by
  rw [fastBackward_eq_sumBackward hT hE hper { g with emu := e1 } hN hMo hcons wOut hw F j hj,
    fastBackward_eq_sumBackward hT hE hper { g with emu := e2 } hN hMo hcons wOut hw F j hj]
  rfl

example : ∃ (T E : ℝ → ℂ) (g : Cfg ℝ ℂ) (wOut : ℂ) (j : ℕ), IsChar T ∧ IsChar E ∧
    (∀ n : ℤ, T (n : ℝ) = 1) ∧ g.N ≤ g.M ∧ g.Mo ≤ g.M ∧ g.dT * (g.M : ℝ) * g.δ = 1 ∧
    wOut * (g.M : ℂ) * g.w = 1 ∧ j < g.N :=
  ⟨expT, expE, Witness.axis24, _, 1, expT_isChar, expE_isChar, expT_period, Witness.axis24_valid.1, Witness.axis24_valid.2.1,
    Witness.axis24_valid.2.2.1, Witness.axis24_valid.2.2.2, by decide⟩

/-- the two settings by name: the emulated-shift pipeline (`core false`, phase multipliers) equals
the native-shift pipeline (`core true`: pad → `ifftshift` → DFT → `fftshift` → crop), forward and
backward -/
theorem fft_emulated_eq_native (hT : IsChar T) (hE : IsChar E) (hper : ∀ n : ℤ, T (n : K) = 1)
    (g : Cfg K C) (hN : g.N ≤ g.M) (hMo : g.Mo ≤ g.M) (hcons : g.dT * (g.M : K) * g.δ = 1)
    (wOut : C) (hw : wOut * (g.M : C) * g.w = 1) :
    (∀ f k, k < g.Mo →
      fastForward T E { g with emu := true } f k = fastForward T E { g with emu := false } f k) ∧
    (∀ F j, j < g.N →
      fastBackward T E { g with emu := true } F j = fastBackward T E { g with emu := false } F j) :=
  ⟨fun f k hk => fft_emulate_switch_independent hT hE hper g hN hMo hcons true false f k hk,
    fun F j hj => fft_emulate_switch_independent_backward hT hE hper g hN hMo hcons wOut hw true false F j hj⟩

example : ∃ (T E : ℝ → ℂ) (g : Cfg ℝ ℂ) (wOut : ℂ), IsChar T ∧ IsChar E ∧
    (∀ n : ℤ, T (n : ℝ) = 1) ∧ g.N ≤ g.M ∧ g.Mo ≤ g.M ∧ g.dT * (g.M : ℝ) * g.δ = 1 ∧
    wOut * (g.M : ℂ) * g.w = 1 :=
  ⟨expT, expE, Witness.axis24, _, expT_isChar, expE_isChar, expT_period, Witness.axis24_valid⟩

/-- **`emulate_fftshifts`, the literal 2-D array program** (`fastForward2`/`fastBackward2`: one 2-D
pad / shift / `fftn` / crop, 2-D multiplier arrays; the switch is global, so both axes carry the same
value).  Non-square sizes, per-axis q / fov / shift.  The literal program is the one-axis pipeline along `x`,
then along `y` (`fastForward2_eq_iter`, `fastBackward2_eq_iter`; C01: `fast_forward_2d_separable`,
`fast_backward_2d_separable`), and each axis is independent of the switch. -/
theorem fft_emulate_switch_independent_2d (hT : IsChar T) (hE : IsChar E)
    (hper : ∀ n : ℤ, T (n : K) = 1) (gy gx : Cfg K C)
    (hNy : gy.N ≤ gy.M) (hMoy : gy.Mo ≤ gy.M) (hcy : gy.dT * (gy.M : K) * gy.δ = 1)
    (hNx : gx.N ≤ gx.M) (hMox : gx.Mo ≤ gx.M) (hcx : gx.dT * (gx.M : K) * gx.δ = 1)
    (woy wox : C) (hwy : woy * (gy.M : C) * gy.w = 1) (hwx : wox * (gx.M : C) * gx.w = 1)
    (e1 e2 : Bool) :
    (∀ f ky kx, ky < gy.Mo → kx < gx.Mo →
      fastForward2 T E { gy with emu := e1 } { gx with emu := e1 } f ky kx
        = fastForward2 T E { gy with emu := e2 } { gx with emu := e2 } f ky kx) ∧
    (∀ F jy jx, jy < gy.N → jx < gx.N →
      fastBackward2 T E { gy with emu := e1 } { gx with emu := e1 } F jy jx
        = fastBackward2 T E { gy with emu := e2 } { gx with emu := e2 } F jy jx) := by
  constructor
  · intro f ky kx hky hkx
    rw [fastForward2_eq_iter hT hE { gy with emu := e1 } { gx with emu := e1 } rfl,
      fastForward2_eq_iter hT hE { gy with emu := e2 } { gx with emu := e2 } rfl]
    simp only [fastForward2Iter, fft_emulate_switch_independent hT hE hper gx hNx hMox hcx e1 e2 _ kx hkx,
      fft_emulate_switch_independent hT hE hper gy hNy hMoy hcy e1 e2 _ ky hky]
  · intro F jy jx hjy hjx
    rw [fastBackward2_eq_iter hT hE { gy with emu := e1 } { gx with emu := e1 } rfl,
      fastBackward2_eq_iter hT hE { gy with emu := e2 } { gx with emu := e2 } rfl]
    simp only [fastBackward2Iter, fft_emulate_switch_independent_backward hT hE hper gx hNx hMox hcx wox hwx e1 e2 _ jx hjx,
      fft_emulate_switch_independent_backward hT hE hper gy hNy hMoy hcy woy hwy e1 e2 _ jy hjy]

/-- satisfiability: a non-square pair of axes (`2→4→3` and `3→6→6`) -/
example : ∃ (T E : ℝ → ℂ) (gy gx : Cfg ℝ ℂ) (woy wox : ℂ), IsChar T ∧ IsChar E ∧
    (∀ n : ℤ, T (n : ℝ) = 1) ∧ gy.N ≤ gy.M ∧ gy.Mo ≤ gy.M ∧ gy.dT * (gy.M : ℝ) * gy.δ = 1 ∧
    gx.N ≤ gx.M ∧ gx.Mo ≤ gx.M ∧ gx.dT * (gx.M : ℝ) * gx.δ = 1 ∧
    woy * (gy.M : ℂ) * gy.w = 1 ∧ wox * (gx.M : ℂ) * gx.w = 1 :=
  ⟨expT, expE, Witness.axis24, Witness.axis36, _, _, expT_isChar, expE_isChar, expT_period,
    Witness.axis24_valid.1, Witness.axis24_valid.2.1, Witness.axis24_valid.2.2.1, Witness.axis36_valid.1, Witness.axis36_valid.2.1, Witness.axis36_valid.2.2.1,
    Witness.axis24_valid.2.2.2, Witness.axis36_valid.2.2.2⟩

/-- **`emulate_fftshifts`, the literal 3-D array program** (`fastForward3`/`fastBackward3`), the same statement for three
axes (`fastForward3_eq_iter`, `fastBackward3_eq_iter`, then one axis at a time). -/
theorem fft_emulate_switch_independent_3d (hT : IsChar T) (hE : IsChar E)
    (hper : ∀ n : ℤ, T (n : K) = 1) (gz gy gx : Cfg K C)
    (hNz : gz.N ≤ gz.M) (hMoz : gz.Mo ≤ gz.M) (hcz : gz.dT * (gz.M : K) * gz.δ = 1)
    (hNy : gy.N ≤ gy.M) (hMoy : gy.Mo ≤ gy.M) (hcy : gy.dT * (gy.M : K) * gy.δ = 1)
    (hNx : gx.N ≤ gx.M) (hMox : gx.Mo ≤ gx.M) (hcx : gx.dT * (gx.M : K) * gx.δ = 1)
    (wz wy wx : C) (hwz : wz * (gz.M : C) * gz.w = 1) (hwy : wy * (gy.M : C) * gy.w = 1)
    (hwx : wx * (gx.M : C) * gx.w = 1) (e1 e2 : Bool) :
    (∀ f kz ky kx, kz < gz.Mo → ky < gy.Mo → kx < gx.Mo →
      fastForward3 T E { gz with emu := e1 } { gy with emu := e1 } { gx with emu := e1 } f kz ky kx
        = fastForward3 T E { gz with emu := e2 } { gy with emu := e2 } { gx with emu := e2 } f kz ky kx) ∧
    (∀ F jz jy jx, jz < gz.N → jy < gy.N → jx < gx.N →
      fastBackward3 T E { gz with emu := e1 } { gy with emu := e1 } { gx with emu := e1 } F jz jy jx
        = fastBackward3 T E { gz with emu := e2 } { gy with emu := e2 } { gx with emu := e2 } F jz jy jx) := by
  constructor
  · intro f kz ky kx hkz hky hkx
    rw [fastForward3_eq_iter hT hE { gz with emu := e1 } { gy with emu := e1 } { gx with emu := e1 }
        rfl rfl,
      fastForward3_eq_iter hT hE { gz with emu := e2 } { gy with emu := e2 } { gx with emu := e2 }
        rfl rfl]
    simp only [fastForward3Iter,
      fft_emulate_switch_independent hT hE hper gx hNx hMox hcx e1 e2 _ kx hkx,
      fft_emulate_switch_independent hT hE hper gy hNy hMoy hcy e1 e2 _ ky hky,
      fft_emulate_switch_independent hT hE hper gz hNz hMoz hcz e1 e2 _ kz hkz]
  · intro F jz jy jx hjz hjy hjx
    rw [fastBackward3_eq_iter hT hE { gz with emu := e1 } { gy with emu := e1 } { gx with emu := e1 } rfl rfl,
      fastBackward3_eq_iter hT hE { gz with emu := e2 } { gy with emu := e2 } { gx with emu := e2 } rfl rfl]
    simp only [fastBackward3Iter,
      fft_emulate_switch_independent_backward hT hE hper gx hNx hMox hcx wx hwx e1 e2 _ jx hjx,
      fft_emulate_switch_independent_backward hT hE hper gy hNy hMoy hcy wy hwy e1 e2 _ jy hjy,
      fft_emulate_switch_independent_backward hT hE hper gz hNz hMoz hcz wz hwz e1 e2 _ jz hjz]

/-- satisfiability: three different axes (`2→4→3`, `3→6→6`, `1→2→2`) -/
example : ∃ (T E : ℝ → ℂ) (gz gy gx : Cfg ℝ ℂ) (wz wy wx : ℂ), IsChar T ∧ IsChar E ∧
    (∀ n : ℤ, T (n : ℝ) = 1) ∧ gz.N ≤ gz.M ∧ gz.Mo ≤ gz.M ∧ gz.dT * (gz.M : ℝ) * gz.δ = 1 ∧
    gy.N ≤ gy.M ∧ gy.Mo ≤ gy.M ∧ gy.dT * (gy.M : ℝ) * gy.δ = 1 ∧
    gx.N ≤ gx.M ∧ gx.Mo ≤ gx.M ∧ gx.dT * (gx.M : ℝ) * gx.δ = 1 ∧
    wz * (gz.M : ℂ) * gz.w = 1 ∧ wy * (gy.M : ℂ) * gy.w = 1 ∧ wx * (gx.M : ℂ) * gx.w = 1 :=
  ⟨expT, expE, Witness.axis12, Witness.axis24, Witness.axis36, _, _, _, expT_isChar, expE_isChar, expT_period,
    Witness.axis12_valid.1, Witness.axis12_valid.2.1, Witness.axis12_valid.2.2.1, Witness.axis24_valid.1, Witness.axis24_valid.2.1, Witness.axis24_valid.2.2.1,
    Witness.axis36_valid.1, Witness.axis36_valid.2.1, Witness.axis36_valid.2.2.1,
    Witness.axis12_valid.2.2.2, Witness.axis24_valid.2.2.2, Witness.axis36_valid.2.2.2⟩

/-- **`emulate_fftshifts`, any number of axes** (the iterated pipeline `fastForwardN`, which C01 proves
equal to the literal array program for 2 and 3 axes): setting the switch on every axis of the list to
`e1` or to `e2` gives the same output sample.  Induction over the axes with
`fft_emulate_switch_independent` (i.e. `fastForward_eq_sumForward`) on each. -/
theorem fft_emulate_switch_independent_nd (hT : IsChar T) (hE : IsChar E)
    (hper : ∀ n : ℤ, T (n : K) = 1) (e1 e2 : Bool) (gs : List (Cfg K C))
    (hgs : ∀ g ∈ gs, g.N ≤ g.M ∧ g.Mo ≤ g.M ∧ g.dT * (g.M : K) * g.δ = 1)
    (f : List ℕ → C) (ks : List ℕ) (hks : List.Forall₂ (fun k g => k < g.Mo) ks gs) :
    fastForwardN T E (gs.map fun g => { g with emu := e1 }) f ks
      = fastForwardN T E (gs.map fun g => { g with emu := e2 }) f ks := by
  induction gs generalizing f ks with
  | nil => rfl
  | cons g gs ih =>
    cases hks with
    | cons hk hks' =>
      obtain ⟨hN, hMo, hc⟩ := hgs g List.mem_cons_self
      simp only [List.map_cons, fastForwardN,
        ih (fun g' hg' => hgs g' (List.mem_cons_of_mem _ hg')) _ _ hks']
      exact fft_emulate_switch_independent hT hE hper g hN hMo hc e1 e2 _ _ hk

/-- the same for `backward` on `n` axes (`wOut g` witnesses that `M·w` is invertible on each axis) -/
theorem fft_emulate_switch_independent_nd_backward (hT : IsChar T) (hE : IsChar E)
    (hper : ∀ n : ℤ, T (n : K) = 1) (e1 e2 : Bool) (wOut : Cfg K C → C) (gs : List (Cfg K C))
    (hgs : ∀ g ∈ gs, g.N ≤ g.M ∧ g.Mo ≤ g.M ∧ g.dT * (g.M : K) * g.δ = 1 ∧
      wOut g * (g.M : C) * g.w = 1)
    (F : List ℕ → C) (js : List ℕ) (hjs : List.Forall₂ (fun j g => j < g.N) js gs) :
    fastBackwardN T E (gs.map fun g => { g with emu := e1 }) F js
      = fastBackwardN T E (gs.map fun g => { g with emu := e2 }) F js := by
  induction gs generalizing F js with
  | nil => rfl
  | cons g gs ih =>
    cases hjs with
    | cons hj hjs' =>
      obtain ⟨hN, hMo, hc, hw⟩ := hgs g List.mem_cons_self
      simp only [List.map_cons, fastBackwardN,
        ih (fun g' hg' => hgs g' (List.mem_cons_of_mem _ hg')) _ _ hjs']
      exact fft_emulate_switch_independent_backward hT hE hper g hN hMo hc (wOut g) hw e1 e2 _ _ hj

/-- satisfiability of both `n`-axis bundles: the two axes of the 2-D example, output index `[2, 5]`,
input index `[1, 2]` -/
example : ∃ (T E : ℝ → ℂ) (wOut : Cfg ℝ ℂ → ℂ) (gs : List (Cfg ℝ ℂ)) (ks js : List ℕ),
    IsChar T ∧ IsChar E ∧ (∀ n : ℤ, T (n : ℝ) = 1) ∧
    (∀ g ∈ gs, g.N ≤ g.M ∧ g.Mo ≤ g.M ∧ g.dT * (g.M : ℝ) * g.δ = 1 ∧ wOut g * (g.M : ℂ) * g.w = 1) ∧
    List.Forall₂ (fun k g => k < g.Mo) ks gs ∧ List.Forall₂ (fun j g => j < g.N) js gs :=
  ⟨expT, expE, fun g => 1 / (g.M : ℂ),
    [Witness.axis24, Witness.axis36], [2, 5], [1, 2], expT_isChar, expE_isChar, expT_period,
    List.forall_mem_cons.mpr ⟨Witness.axis24_valid, List.forall_mem_cons.mpr ⟨Witness.axis36_valid, nofun⟩⟩,
    .cons (by decide) (.cons (by decide) .nil), .cons (by decide) (.cons (by decide) .nil)⟩

/-- **The switch model of C19 runs C01's transform**: a fresh `MatrixFourierTransform` object with both
switches off, over the concrete kernel `mftKern` (Model/FourierConfig.lean: `mftM1`/`mftM2`, the two
`gemm`s), *is* C01's `mftForward` / `mftBackward` — by unfolding, for both weight branches. -/
theorem mftKern_fresh (E : K → C) (cj : C → C) (Nx Ny Nu Nv : ℕ) (x y u v : ℕ → K)
    (w wOut : Weights C) (d : Dir) (p : CPrec) (f : ℕ → C) :
    mftFresh (mftKern E cj Nx Ny Nu Nv x y u v w wOut) d p f =
      match d with
      | .fwd => mftForward E Nx Ny Nu Nv x y u v w f
      | .bwd => mftBackward E cj Nx Ny Nu Nv x y u v wOut f := by
  rw [mftFresh_eq]
  cases d
  · cases w <;> rfl
  · cases wOut <;> rfl

/-- **C19's `mft_switch_independent` at C01's kernel**: for every call script on one reused
`MatrixFourierTransform` object (any mixture of forward / backward, complex64 / complex128) and every
setting of `precompute_matrices` (`pre`) and `allocate_intermediate` (`alloc`), call number `i` returns
C01's `mftForward` resp. `mftBackward` of its own input.  Rests on `mft_switch_independent` (this file)
and `mftKern_fresh`. -/
theorem mft_switch_independent_concrete (E : K → C) (cj : C → C) (Nx Ny Nu Nv : ℕ)
    (x y u v : ℕ → K) (w wOut : Weights C) (pre alloc : Bool)
    (script : List (Dir × CPrec × (ℕ → C))) :
    mftRun (mftKern E cj Nx Ny Nu Nv x y u v w wOut) pre alloc script =
      script.map fun s =>
        match s.1 with
        | .fwd => mftForward E Nx Ny Nu Nv x y u v w s.2.2
        | .bwd => mftBackward E cj Nx Ny Nu Nv x y u v wOut s.2.2 := by
  rw [mft_switch_independent]
  exact List.map_congr_left fun s _ => mftKern_fresh E cj Nx Ny Nu Nv x y u v w wOut s.1 s.2.1 s.2.2

/-- **MFT: every switch combination returns the defining sum.**  For every script, every
`(precompute_matrices, allocate_intermediate)`, every weights branch (scalar / array), the `i`-th call of
the reused object returns, at every in-range flat index, C01's defining double sum (`mftSumForward` /
`mftSumBackward`, the executed right-hand sides of C01).  Rests on `mft_switch_independent_concrete` and
on `mftForward_eq_mftSumForward` / `mftBackward_eq_mftSumBackward` (Lemmas/Mft.lean; C01 publishes them
as `mft_eq_sum_2d`, `mft_eq_sum_2d_scalar`, `mft_backward_eq_sum_2d_weights`). -/
theorem mft_branch_independent (hE : IsChar E) (cj : C → C) (hcj : ∀ a, cj (E a) = E (-a))
    (Nx Ny Nu Nv : ℕ) (x y u v : ℕ → K) (w wOut : Weights C) (pre alloc : Bool)
    (script : List (Dir × CPrec × (ℕ → C))) (i : ℕ) (d : Dir) (p : CPrec) (f : ℕ → C)
    (hs : script[i]? = some (d, p, f)) :
    ∃ r, (mftRun (mftKern E cj Nx Ny Nu Nv x y u v w wOut) pre alloc script)[i]? = some r ∧
      match (generalizing := false) d with
      | .fwd => ∀ k < Nv * Nu, r k = mftSumForward E Nx Ny Nu x y u v w f k
      | .bwd => ∀ k < Ny * Nx, r k = mftSumBackward E Nx Nu Nv x y u v wOut f k := by
  rw [mft_switch_independent_concrete, List.getElem?_map, hs]
  refine ⟨_, rfl, ?_⟩
  cases d
  · intro k _
    exact mftForward_eq_mftSumForward hE Nx Ny Nu Nv x y u v w f
  · intro k _
    exact mftBackward_eq_mftSumBackward hE cj hcj Nx Ny Nu Nv x y u v wOut f

/-- satisfiability: `Complex.exp`, complex conjugation, a one-call script -/
example : ∃ (E : ℝ → ℂ) (cj : ℂ → ℂ) (script : List (Dir × CPrec × (ℕ → ℂ))) (i : ℕ) (d : Dir)
    (p : CPrec) (f : ℕ → ℂ), IsChar E ∧ (∀ a, cj (E a) = E (-a)) ∧ script[i]? = some (d, p, f) :=
  ⟨expE, starRingEnd ℂ, [(.bwd, .c64, fun _ => 1)], 0, .bwd, .c64, fun _ => 1, expE_isChar, expE_conj, rfl⟩

/-- hence any two settings of the two MFT switches give the same list of results (no hypothesis: this
is already true before the sums are evaluated) -/
theorem mft_switch_pair_independent (E : K → C) (cj : C → C) (Nx Ny Nu Nv : ℕ)
    (x y u v : ℕ → K) (w wOut : Weights C) (pre1 alloc1 pre2 alloc2 : Bool)
    (script : List (Dir × CPrec × (ℕ → C))) :
    mftRun (mftKern E cj Nx Ny Nu Nv x y u v w wOut) pre1 alloc1 script
      = mftRun (mftKern E cj Nx Ny Nu Nv x y u v w wOut) pre2 alloc2 script := by
  rw [mft_switch_independent, mft_switch_independent]

/-- **The weights branch of the MFT** (`if np.isscalar(weights)`: `alpha = w0` folded into the second
`gemm`, or `field * weights` before the first) is not a configuration switch but the other
data-dependent code path C01 models: on constant weights both branches return the same samples, forward
and backward.  Rests on `mftForward_eq_mftSumForward`, `mftBackward_eq_mftSumBackward`
(Lemmas/Mft.lean; C01: `mft_eq_sum_2d`, `mft_eq_sum_2d_scalar`, `mft_backward_eq_sum_2d_weights`): both branches
evaluate the defining sum, which reads the weights through `Weights.get`. -/
theorem mft_weights_branch_independent (hE : IsChar E) (cj : C → C) (hcj : ∀ a, cj (E a) = E (-a))
    (Nx Ny Nu Nv : ℕ) (x y u v : ℕ → K) (w0 : C) (f : ℕ → C) :
    (∀ iu iv, iu < Nu → iv < Nv →
      mftForward E Nx Ny Nu Nv x y u v (.scalar w0) f (iv * Nu + iu)
        = mftForward E Nx Ny Nu Nv x y u v (.array fun _ => w0) f (iv * Nu + iu)) ∧
    (∀ ix iy, ix < Nx →
      mftBackward E cj Nx Ny Nu Nv x y u v (.scalar w0) f (iy * Nx + ix)
        = mftBackward E cj Nx Ny Nu Nv x y u v (.array fun _ => w0) f (iy * Nx + ix)) := by
  constructor
  · intro iu iv _ _
    rw [mftForward_eq_mftSumForward hE, mftForward_eq_mftSumForward hE]
    rfl
  · intro ix iy _
    rw [mftBackward_eq_mftSumBackward hE cj hcj, mftBackward_eq_mftSumBackward hE cj hcj]
    rfl

example : ∃ (E : ℝ → ℂ) (cj : ℂ → ℂ), IsChar E ∧ ∀ a, cj (E a) = E (-a) :=
  ⟨expE, starRingEnd ℂ, expE_isChar, expE_conj⟩

/-- **`NaiveFourierTransform.precompute_matrices`** as a pair of code paths of C01's transform model:
the list comprehension over output points (`False`) and the precomputed matrix (`True`) return the same
sample, forward and backward, on arbitrary points in any number of dimensions.  Rests on
`nft_forward_fly_eq_sum`, `nft_forward_mat_eq_sum` and the two for `backward` (Lemmas/Nft.lean; C01: `naive_forward_eq_sum`,
`naive_backward_eq_sum`).  (The caching around it: `nft_switch_independent`.) -/
theorem nft_precompute_branch_independent (E : K → C) (n m : ℕ) (us xs : List (ℕ → K))
    (w wOut f F : ℕ → C) (k j : ℕ) :
    nftForwardFly E n us xs w f k = nftForwardMat E n us xs w f k ∧
    nftBackwardFly E m us xs wOut F j = nftBackwardMat E m us xs wOut F j :=
  ⟨(nft_forward_fly_eq_sum E n us xs w f k).trans (nft_forward_mat_eq_sum E n us xs w f k).symm,
    (nft_backward_fly_eq_sum E m us xs wOut F j).trans (nft_backward_mat_eq_sum E m us xs wOut F j).symm⟩

/-- **No Fourier configuration switch changes a modelled result.**  For all values of
`emulate_fftshifts` (`e1`, `e2`) and of `(precompute_matrices, allocate_intermediate)`
(`(pre1, alloc1)`, `(pre2, alloc2)`): `FastFourierTransform.forward` and `.backward` (one axis; 2-D and
`n`-D: `fft_emulate_switch_independent_2d`, `…_nd`) are the same function of the input, and every call
script on a reused `MatrixFourierTransform` returns the same list of results.  Rests on
`fft_emulate_switch_independent`, `fft_emulate_switch_independent_backward`,
`mft_switch_pair_independent`. -/
theorem fourier_config_independent (hT : IsChar T) (hE : IsChar E) (hper : ∀ n : ℤ, T (n : K) = 1)
    (g : Cfg K C) (hN : g.N ≤ g.M) (hMo : g.Mo ≤ g.M) (hcons : g.dT * (g.M : K) * g.δ = 1)
    (wo : C) (hw : wo * (g.M : C) * g.w = 1)
    (cj : C → C) (Nx Ny Nu Nv : ℕ) (x y u v : ℕ → K) (w wOut : Weights C)
    (e1 e2 pre1 alloc1 pre2 alloc2 : Bool) :
    (∀ f k, k < g.Mo →
      fastForward T E { g with emu := e1 } f k = fastForward T E { g with emu := e2 } f k) ∧
    (∀ F j, j < g.N →
      fastBackward T E { g with emu := e1 } F j = fastBackward T E { g with emu := e2 } F j) ∧
    (∀ script, mftRun (mftKern E cj Nx Ny Nu Nv x y u v w wOut) pre1 alloc1 script
      = mftRun (mftKern E cj Nx Ny Nu Nv x y u v w wOut) pre2 alloc2 script) :=
  ⟨fun f k hk => fft_emulate_switch_independent hT hE hper g hN hMo hcons e1 e2 f k hk,
    fun F j hj => fft_emulate_switch_independent_backward hT hE hper g hN hMo hcons wo hw e1 e2 F j hj,
    fun script => mft_switch_pair_independent E cj Nx Ny Nu Nv x y u v w wOut pre1 alloc1 pre2 alloc2 script⟩

example : ∃ (T E : ℝ → ℂ) (g : Cfg ℝ ℂ) (wo : ℂ), IsChar T ∧ IsChar E ∧
    (∀ n : ℤ, T (n : ℝ) = 1) ∧ g.N ≤ g.M ∧ g.Mo ≤ g.M ∧ g.dT * (g.M : ℝ) * g.δ = 1 ∧
    wo * (g.M : ℂ) * g.w = 1 :=
  ⟨expT, expE, Witness.axis24, _, expT_isChar, expE_isChar, expT_period, Witness.axis24_valid⟩

end abstract

/-- **`emulate_fftshifts` on the FastFourierTransform that `plan` describes** (`Model/FftGrid.lean`, the
sizes / cut-outs / output grid the real constructor reports), `T = exp(2πi·)`, `E = exp(i·)`: for every
request the constructor accepts, every weight, the two settings of the switch give the same `forward`
sample.  An instance of `fft_emulate_switch_independent`: the planned configuration is consistent
(`Cfg.ofPlanCast_cons`, Lemmas/FftPlan.lean). -/
theorem fft_emulate_switch_independent_of_plan (a : AxisIn) (hN : 0 < a.N) (hδ : a.delta ≠ 0)
    (hq : 1 ≤ a.q) (hf : a.fov ≤ 1) (w : ℂ) (e1 e2 : Bool) (f : ℕ → ℂ) (k : ℕ)
    (hk : k < (plan a).Mo) :
    fastForward expT expE (Cfg.ofPlanCast (Rat.castHom ℝ) (plan a) w e1) f k
      = fastForward expT expE (Cfg.ofPlanCast (Rat.castHom ℝ) (plan a) w e2) f k := by
  obtain ⟨h1, h2, h3⟩ := Cfg.ofPlanCast_cons (C := ℂ) (Rat.castHom ℝ) a w e1 hN hδ hq hf
  exact fft_emulate_switch_independent expT_isChar expE_isChar expT_period _ h1 h2 h3 e1 e2 f k hk

/-- satisfiability (the D4 request `N = 87, q = 5/2`) -/
example : ∃ a : AxisIn, 0 < a.N ∧ a.delta ≠ 0 ∧ 1 ≤ a.q ∧ a.fov ≤ 1 ∧ 0 < (plan a).Mo :=
  ⟨⟨87, 1 / 4, -3, 5 / 2, 1, 0⟩, by decide +kernel⟩

/-- **Across implementations and switches** (`Complex.exp`, one axis): `FastFourierTransform.forward`
with either setting of `emulate_fftshifts` equals `MatrixFourierTransform.forward` (ndim = 1, where
neither MFT switch has any effect on the code path: `np.dot(M, f)`) on the same coordinates.  Rests on
`implementations_agree` (Lemmas/ZoomNExp.lean; C01: `implementations_agree'`). -/
theorem fft_any_switch_eq_mft (g : Cfg ℝ ℂ) (hN0 : 0 < g.N) (hN : g.N ≤ g.M) (hMo : g.Mo ≤ g.M)
    (hcons : g.dT * (g.M : ℝ) * g.δ = 1) (e : Bool) (f : ℕ → ℂ) (k : ℕ) (hk : k < g.Mo) :
    fastForward expT expE { g with emu := e } f k
      = mftForward1 expE g.N g.x (fun k => 2 * Real.pi * g.a k + g.s) (.scalar g.w) f k :=
  (implementations_agree { g with emu := e } hN0 hN hMo hcons (g.N + g.Mo - 1) le_rfl f k hk).1

example : ∃ (g : Cfg ℝ ℂ) (k : ℕ), 0 < g.N ∧ g.N ≤ g.M ∧ g.Mo ≤ g.M ∧
    g.dT * (g.M : ℝ) * g.δ = 1 ∧ k < g.Mo :=
  ⟨Witness.axis24, 2, by decide, Witness.axis24_valid.1, Witness.axis24_valid.2.1, Witness.axis24_valid.2.2.1, by decide⟩

end FourierConfig

section References
open HcipyVerif.FieldRef

/-- `x[i] = v` writes through: `x` reads `v` at `i`; every variable whose window lies on the same buffer
(alias, view, `asarray`, …) reads `v` exactly at the positions that look at the written cell and its old
value elsewhere; every variable on another buffer reads what it read before (frame).  Any style. -/
theorem write_through (sty : Sty) (s s' : State) (x i : Nat) (v : Int)
    (h : step sty (.write x i v) s = some s') :
    ∃ ox p, lookup s.vars x = some ox ∧ ox.idx[i]? = some p ∧
      s'.vars = s.vars ∧ s'.grids = s.grids ∧
      readVarAt s' x i = some v ∧
      (∀ y oy, lookup s.vars y = some oy → oy.buf = ox.buf → ∀ j,
        (oy.idx[j]? = some p → readVarAt s' y j = some v) ∧
        (oy.idx[j]? ≠ some p → readVarAt s' y j = readVarAt s y j)) ∧
      (∀ y oy, lookup s.vars y = some oy → oy.buf ≠ ox.buf →
        readVar s' y = readVar s y ∧ ∀ j, readVarAt s' y j = readVarAt s y j) := by
  obtain ⟨ox, p, w, hx, hp, hw, rfl⟩ := write_spec h
  refine ⟨ox, p, hx, hp, rfl, rfl, ?_, fun y oy hy hb j => ⟨fun hj => ?_, fun hj => ?_⟩,
    fun y oy hy hb => reads_congr hy fun q => (cell_setCell _ _ _ _ _ q hw).trans (if_neg fun h => hb h.1)⟩
  · rw [readVarAt_setCell hw hx, if_pos ⟨rfl, hp⟩]
  · rw [readVarAt_setCell hw hy, if_pos ⟨hb, hj⟩]
  · rw [readVarAt_setCell hw hy, if_neg fun h => hj h.2]

example : step good (.write 0 1 9) ⟨[[1, 2, 3]], [7], [(0, ⟨0, [0, 1, 2], some 0⟩)]⟩
    = some ⟨[[1, 9, 3]], [7], [(0, ⟨0, [0, 1, 2], some 0⟩)]⟩ := by decide

/-- `x += v` writes through: every position of every variable on the same buffer whose cell lies in
`x`'s window reads `+ v`, every other position (and every variable on another buffer) is unchanged. -/
theorem iadd_through (sty : Sty) (s s' : State) (x : Nat) (v : Int)
    (h : step sty (.iadd x v) s = some s') :
    ∃ ox, lookup s.vars x = some ox ∧ s'.vars = s.vars ∧ s'.grids = s.grids ∧
      (∀ j, readVarAt s' x j = (readVarAt s x j).map (· + v)) ∧
      (∀ y oy, lookup s.vars y = some oy → oy.buf = ox.buf → ∀ j q, oy.idx[j]? = some q →
        readVarAt s' y j = if q ∈ ox.idx then (readVarAt s y j).map (· + v) else readVarAt s y j) ∧
      (∀ y oy, lookup s.vars y = some oy → oy.buf ≠ ox.buf →
        readVar s' y = readVar s y ∧ ∀ j, readVarAt s' y j = readVarAt s y j) := by
  obtain ⟨ox, hx, rfl⟩ := iadd_spec h
  refine ⟨ox, hx, rfl, rfl, fun j => ?_, fun y oy hy hb j q hq => ?_,
    fun y oy hy hb => reads_congr hy fun q => (cell_addCells ..).trans (if_neg fun h => hb h.1)⟩
  · exact (readVarAt_addCells hx j).trans (if_pos ⟨rfl, fun _ => List.mem_of_getElem?⟩)
  · rw [readVarAt_addCells hy j]
    simp only [hb, hq, Option.some.injEq, forall_eq', true_and]

example : step good (.iadd 1 10) ⟨[[1, 2, 3]], [7], [(1, ⟨0, [0, 2], some 0⟩), (0, ⟨0, [0, 1, 2], some 0⟩)]⟩
    = some ⟨[[11, 2, 13]], [7], [(1, ⟨0, [0, 2], some 0⟩), (0, ⟨0, [0, 1, 2], some 0⟩)]⟩ := by decide

/-- After `y = x.copy()` (any style): `y` reads exactly what `x` read, `x` still reads the same, `y`'s
buffer did not exist before (its id is the old `bufs.length`), `y`'s grid object is `x`'s grid object, no
grid object is created, and every other variable keeps its object and its values. -/
theorem copy_fresh_same_values (sty : Sty) (s s' : State) (y x : Nat)
    (h : step sty (.copy y x) s = some s') :
    ∃ ox oy vals, lookup s.vars x = some ox ∧ readVar s x = some vals ∧
      lookup s'.vars y = some oy ∧ readVar s' y = some vals ∧ readVar s' x = some vals ∧
      oy.buf = s.bufs.length ∧ s'.bufs.length = s.bufs.length + 1 ∧
      oy.grid = ox.grid ∧ s'.grids = s.grids ∧
      (∀ z, y ≠ z → lookup s'.vars z = lookup s.vars z ∧
        ∀ w, readVar s z = some w → readVar s' z = some w) := by
  obtain ⟨ox, vals, hx, hrx, rfl⟩ := copy_spec h
  exact ⟨ox, _, vals, hx, hrx, lookup_fresh_self _ _ _ _, readVar_fresh_self _ _ _ _,
    readVar_fresh_of_reads s y _ hrx, rfl, List.length_append, rfl, rfl, fresh_frame s y vals _⟩

example : step good (.copy 1 0) ⟨[[1, 2, 3]], [7], [(0, ⟨0, [0, 1, 2], some 0⟩)]⟩
    = some ⟨[[1, 2, 3], [1, 2, 3]], [7],
        [(1, ⟨1, [0, 1, 2], some 0⟩), (0, ⟨0, [0, 1, 2], some 0⟩)]⟩ := by decide

/-- After `y = pickle.loads(pickle.dumps(x))` (any style): `y` reads exactly what `x` read, `x` still reads
the same, `y`'s buffer is fresh, and — if `x` is a Field — `y`'s grid is a FRESH grid object (id = old
`grids.length`) whose content equals the content of `x`'s grid; a bare array stays bare and no grid is
created.  Every other variable keeps its object and its values. -/
theorem pickle_fresh_buffer_fresh_equal_grid (sty : Sty) (s s' : State) (y x : Nat)
    (h : step sty (.pickle y x) s = some s') :
    ∃ ox oy vals, lookup s.vars x = some ox ∧ readVar s x = some vals ∧
      lookup s'.vars y = some oy ∧ readVar s' y = some vals ∧ readVar s' x = some vals ∧
      oy.buf = s.bufs.length ∧ s'.bufs.length = s.bufs.length + 1 ∧
      (match ox.grid with
        | some g => ∃ c, s.grids[g]? = some c ∧ oy.grid = some s.grids.length ∧
            s'.grids = s.grids ++ [c] ∧ s'.grids[s.grids.length]? = some c
        | none => oy.grid = none ∧ s'.grids = s.grids) ∧
      (∀ z, y ≠ z → lookup s'.vars z = lookup s.vars z ∧
        ∀ w, readVar s z = some w → readVar s' z = some w) := by
  obtain ⟨⟨b, idx, g⟩, vals, hx, hrx, hs'⟩ := pickle_spec h
  cases g with
  | none =>
    cases hs'
    exact ⟨_, _, vals, hx, hrx, lookup_fresh_self _ _ _ _, readVar_fresh_self _ _ _ _,
      readVar_fresh_of_reads s y _ hrx, rfl, List.length_append, ⟨rfl, rfl⟩, fresh_frame s y vals _⟩
  | some g =>
    -- `addGrid` touches neither the variables nor the buffers, so reads are those of `s`
    obtain ⟨c, hc, rfl⟩ := hs'
    exact ⟨_, _, vals, hx, hrx, lookup_fresh_self _ _ _ _, readVar_fresh_self _ _ _ _,
      readVar_fresh_of_reads (addGrid s c) y _ hrx, rfl, List.length_append,
      ⟨c, hc, rfl, rfl, List.getElem?_concat_length⟩, fresh_frame (addGrid s c) y vals _⟩

example : step good (.pickle 1 0) ⟨[[1, 2, 3]], [7], [(0, ⟨0, [0, 1, 2], some 0⟩)]⟩
    = some ⟨[[1, 2, 3], [1, 2, 3]], [7, 7],
        [(1, ⟨1, [0, 1, 2], some 1⟩), (0, ⟨0, [0, 1, 2], some 0⟩)]⟩ := by decide

/-- Core of the independence statements: a variable bound to a fresh buffer is not affected by a later
write through a variable that was readable before. -/
theorem fresh_write_independent (sty : Sty) (s s2 : State) (y x : Nat) (vals : List Int)
    (g : Option Nat) (i : Nat) (v : Int) (hxy : y ≠ x) {w : List Int} (hr : readVar s x = some w)
    (h : step sty (.write x i v) (fresh s y vals g) = some s2) : readVar s2 y = some vals := by
  obtain ⟨ox, p, a, hx, hp, ha, rfl⟩ := write_spec h
  rw [lookup_fresh_ne s y vals g x hxy] at hx
  have hv : values s.bufs ox = some w := (readVar_of_lookup hx).symm.trans hr
  have hlt : ox.buf < s.bufs.length := values_buf_lt hv (List.mem_of_getElem? hp)
  -- `y`'s buffer is the new one, the written buffer an old one
  rw [(reads_congr (lookup_fresh_self s y vals g) fun q =>
    (cell_setCell _ _ _ _ _ q ha).trans (if_neg fun h => Nat.ne_of_gt hlt h.1)).1]
  exact readVar_fresh_self s y vals g

/-- After `y = x.copy()` (`y ≠ x`) and a successful `x[i] = v`, `y` still reads the values `x` had at the
time of the copy, i.e. what `y` read before the write. -/
theorem copy_independent (sty : Sty) (s s2 : State) (y x i : Nat) (v : Int) (hxy : y ≠ x)
    (h : run sty [.copy y x, .write x i v] s = .ok s2) :
    ∃ s1 vals, step sty (.copy y x) s = some s1 ∧ readVar s x = some vals ∧
      readVar s1 y = some vals ∧ readVar s2 y = some vals := by
  obtain ⟨s1, h1, h2⟩ := run_two h
  obtain ⟨ox, vals, hx, hrx, rfl⟩ := copy_spec h1
  exact ⟨_, vals, h1, hrx, readVar_fresh_self _ _ _ _,
    fresh_write_independent sty s s2 y x vals _ i v hxy hrx h2⟩

example : run good [.copy 1 0, .write 0 0 9] ⟨[[1, 2, 3]], [7], [(0, ⟨0, [0, 1, 2], some 0⟩)]⟩
    = .ok ⟨[[9, 2, 3], [1, 2, 3]], [7],
        [(1, ⟨1, [0, 1, 2], some 0⟩), (0, ⟨0, [0, 1, 2], some 0⟩)]⟩ := rfl

/-- After `y = pickle.loads(pickle.dumps(x))` (`y ≠ x`) and a successful `x[i] = v`, `y` still reads the
values `x` had at pickling time. -/
theorem pickle_independent (sty : Sty) (s s2 : State) (y x i : Nat) (v : Int) (hxy : y ≠ x)
    (h : run sty [.pickle y x, .write x i v] s = .ok s2) :
    ∃ s1 vals, step sty (.pickle y x) s = some s1 ∧ readVar s x = some vals ∧
      readVar s1 y = some vals ∧ readVar s2 y = some vals := by
  obtain ⟨s1, h1, h2⟩ := run_two h
  obtain ⟨⟨b, idx, g⟩, vals, hx, hrx, hs1⟩ := pickle_spec h1
  cases g with
  | none =>
    cases hs1
    exact ⟨_, vals, h1, hrx, readVar_fresh_self _ _ _ _,
      fresh_write_independent sty s s2 y x vals _ i v hxy hrx h2⟩
  | some g =>
    obtain ⟨c, hc, rfl⟩ := hs1
    exact ⟨_, vals, h1, hrx, readVar_fresh_self _ _ _ _,
      fresh_write_independent sty (addGrid s c) s2 y x vals _ i v hxy hrx h2⟩

example : run good [.pickle 1 0, .write 0 0 9] ⟨[[1, 2, 3]], [7], [(0, ⟨0, [0, 1, 2], some 0⟩)]⟩
    = .ok ⟨[[9, 2, 3], [1, 2, 3]], [7, 7],
        [(1, ⟨1, [0, 1, 2], some 1⟩), (0, ⟨0, [0, 1, 2], some 0⟩)]⟩ := rfl

/-- Under the intended style, after `y = np.array(x, dtype=x.dtype)` (`y ≠ x`) and a successful
`x[i] = v`, `y` still reads the values `x` had before; `y` is a bare array on a fresh buffer. -/
theorem array_independent (s s2 : State) (y x i : Nat) (v : Int) (hxy : y ≠ x)
    (h : run good [.array y x, .write x i v] s = .ok s2) :
    ∃ s1 vals, step good (.array y x) s = some s1 ∧ readVar s x = some vals ∧
      readVar s1 y = some vals ∧ readVar s2 y = some vals ∧
      lookup s1.vars y = some ⟨s.bufs.length, List.range vals.length, none⟩ := by
  obtain ⟨s1, h1, h2⟩ := run_two h
  obtain ⟨ox, vals, hx, hrx, rfl⟩ := array_spec h1
  exact ⟨_, vals, h1, hrx, readVar_fresh_self _ _ _ _,
    fresh_write_independent good s s2 y x vals _ i v hxy hrx h2, lookup_fresh_self _ _ _ _⟩

example : run good [.array 1 0, .write 0 0 9] ⟨[[1, 2, 3]], [7], [(0, ⟨0, [0, 1, 2], some 0⟩)]⟩
    = .ok ⟨[[9, 2, 3], [1, 2, 3]], [7],
        [(1, ⟨1, [0, 1, 2], none⟩), (0, ⟨0, [0, 1, 2], some 0⟩)]⟩ := rfl

/-- Under the intended style a slice is a VIEW: after `y = x[start : start+step*len : step]` (`y ≠ x`) and a
successful `x[start + k*step] = v` with `k < len`, `y` reads `v` at position `k`. -/
theorem view_shares (s s2 : State) (y x start stp len i k : Nat) (v : Int) (hxy : y ≠ x)
    (hi : i = start + k * stp) (hk : k < len)
    (h : run good [.slice y x start stp len, .write x i v] s = .ok s2) :
    readVarAt s2 y k = some v := by
  obtain ⟨s1, h1, h2⟩ := run_two h
  obtain ⟨ox, idx', hx, hidx, rfl⟩ := slice_spec h1
  obtain ⟨ox', p, w, hx', hp, hw, rfl⟩ := write_spec h2
  -- `x` still names `ox` after `y` is bound
  rw [FieldRef.bind, lookup_cons_ne _ _ _ _ hxy, hx] at hx'
  cases hx'
  have hq : idx'[k]? = some p := by rw [sliceIdx_getElem? hidx hk, ← hi, hp]
  exact (readVarAt_setCell hw (lookup_cons_self y _ _) k).trans (if_pos ⟨rfl, hq⟩)

example : run good [.slice 1 0 1 2 2, .write 0 3 9]
      ⟨[[1, 2, 3, 4, 5]], [7], [(0, ⟨0, [0, 1, 2, 3, 4], some 0⟩)]⟩
    = .ok ⟨[[1, 2, 3, 9, 5]], [7],
        [(1, ⟨0, [1, 3], some 0⟩), (0, ⟨0, [0, 1, 2, 3, 4], some 0⟩)]⟩ := rfl

/-- The script `f = Field([1,2,3,4], Grid(7)); g = f[0:2]; f[0] = 9`: a wrapper whose slices copy loses the
write; the intended style makes the view read `9` at position `0`, the defective one leaves it at `1`. -/
theorem Bad.slice_copy_loses_write :
    (∃ s, run good [.new 0 7 [1, 2, 3, 4], .slice 1 0 0 1 2, .write 0 0 9] {} = .ok s ∧ readVar s 1 = some [9, 2] ∧ readVarAt s 1 0 = some 9) ∧
    (∃ s, run badSlice [.new 0 7 [1, 2, 3, 4], .slice 1 0 0 1 2, .write 0 0 9] {} = .ok s ∧ readVar s 1 = some [1, 2] ∧ readVarAt s 1 0 = some 1) :=
  ⟨⟨_, rfl, by decide, by decide⟩, ⟨_, rfl, by decide, by decide⟩⟩

/-- The script `f = Field([1,2], Grid(7)); a = np.array(f, dtype=f.dtype); f[0] = 9` (seeded regression C19-8): a wrapper whose
`np.array(f, dtype=f.dtype)` hands out the wrapped buffer follows later writes: the
intended style leaves the array at `[1,2]`, the defective one makes it read `[9,2]`. -/
theorem Bad.array_share_follows_write :
    (∃ s, run good [.new 0 7 [1, 2], .array 1 0, .write 0 0 9] {} = .ok s ∧ readVar s 1 = some [1, 2]) ∧
    (∃ s, run badArray [.new 0 7 [1, 2], .array 1 0, .write 0 0 9] {} = .ok s ∧ readVar s 1 = some [9, 2]) :=
  ⟨⟨_, rfl, by decide⟩, ⟨_, rfl, by decide⟩⟩

/-- `array_independent` fails for the defective wrapper (its conclusion, not only its proof). -/
theorem Bad.array_independent_fails_badArray :
    ∃ s s2 y x i v, y ≠ x ∧ run badArray [.array y x, .write x i v] s = .ok s2 ∧
      readVar s2 y ≠ readVar s x :=
  ⟨⟨[[1, 2]], [7], [(0, ⟨0, [0, 1], some 0⟩)]⟩, ⟨[[9, 2]], [7],
    [(1, ⟨0, [0, 1], none⟩), (0, ⟨0, [0, 1], some 0⟩)]⟩, 1, 0, 0, 9, by decide, rfl, by decide⟩

end References

/-! ## The dispatch table of the running code (`Gen/FieldDispatch.lean`, regenerated on every run — tie T2)

`harness/props/c19.py:regenerate` probes every NumPy ufunc (operand kinds, `out=`, `where=`, `reduce` /
`accumulate` / `outer`, multi-output), the reductions with `axis` / `keepdims`, the index kinds of
`__getitem__` / `__setitem__` and the public `ndarray` attributes on an `OldStyleField` and a `NewStyleField`
of the running hcipy and writes what came back into `Gen.FieldDispatch.table` / `.attributes`.  The theorems
below are proof obligations *over that regenerated table*: an operation that the wrapper does not handle, or
re-wraps differently from the policies the two interpreters execute, makes them fail at build time — whether
or not a random program happens to use it.  The driver runs the same checks (`C19 dispatch`). -/
section Dispatch
open HcipyVerif.FieldDispatch

/-- **every probed operation is handled as the model's wrapping policies say, under both routes**: the kind of
object the running `OldStyleField` / `NewStyleField` handed back equals `predict oldPolicy` / `predict
newPolicy` — the rules `fnTag`, `Policy.ufunc`, `Policy.reduce`, `Policy.func`, `getitemTag` that `runO` /
`runN` execute.  (A finite table, regenerated from the running code: one evaluation of `entryOk`, the check the
driver runs, over it.  The other statements about the table follow from this one and from what `predict` says of
any entry.) -/
theorem dispatch_table_handled_as_model :
    ∀ e ∈ Gen.FieldDispatch.table, e.old = predict oldPolicy e ∧ e.new = predict newPolicy e :=
  fun e he => (entryOk_iff e).mp
    (List.all_eq_true.mp (by decide +kernel : Gen.FieldDispatch.table.all entryOk = true) e he)

/-- for *any* entry that is handled as the model says — not only the probed ones: the policies attach
the grid of the leftmost Field operand to every elementwise result (unbounded: any operand list) -/
theorem elementwise_entry_keeps_grid (e : Entry) (h : elementwise e = true) :
    keepsGrid (predict oldPolicy e) = true ∧ keepsGrid (predict newPolicy e) = true := by
  obtain ⟨name, kind, args, zeroD, o, n⟩ := e
  simp only [elementwise, Bool.and_eq_true, Bool.or_eq_true, beq_iff_eq, Bool.not_eq_true'] at h
  obtain ⟨⟨hk, hg⟩, rfl⟩ := h
  -- either kind of entry shows the tag of the ufunc rule, alone or in a tuple
  have key (P : Policy) (hP : P.ufunc args (probeArr false) = .field 0) :
      keepsGrid (predict P ⟨name, kind, args, false, o, n⟩) = true := by
    rcases hk with rfl | rfl <;> simp only [predict, fnTag, hP] <;> rfl
  exact ⟨key _ (elementwise_keeps_grid_old args _ 0 hg),
    key _ (elementwise_keeps_grid_new args _ 0 hg (List.cons_ne_nil _ _))⟩

example : elementwise ⟨"add(a,f)", .fn .ufunc, [.plain, .field 0], false, .field, .field⟩ = true := by decide

/-- **every elementwise operation of the table returns a result attached to the same grid, under both
styles** (ufuncs incl. `out=`, `where=`, `accumulate`, `outer`, multi-output; a Field operand in any position;
non-0-d result) -/
theorem dispatch_elementwise_same_grid :
    ∀ e ∈ Gen.FieldDispatch.table, elementwise e = true → keepsGrid e.old = true ∧ keepsGrid e.new = true := by
  intro e he hel
  obtain ⟨ho, hn⟩ := dispatch_table_handled_as_model e he
  rw [ho, hn]
  exact elementwise_entry_keeps_grid e hel

/-- **the two styles differ only where the model says they do**: on 0-d results (scalar vs 0-d Field) and on
NumPy functions that drop subclasses (`np.where`, `np.copy`); every other probed operation returns the same kind
of object under both styles -/
theorem dispatch_styles_differ_only_where_stated :
    ∀ e ∈ Gen.FieldDispatch.table, e.old = e.new ∨ e.zeroD = true ∨ e.kind = .fn .func := by
  intro e he
  obtain ⟨ho, hn⟩ := dispatch_table_handled_as_model e he
  rw [ho, hn]
  exact predict_old_eq_new e

/-- **no operation is missing on the wrapper**: no probed entry raises under either style, `__setitem__` writes
for every index kind, and every public `ndarray` attribute of an old-style Field exists on a new-style Field
except the listed layout / raw-bytes / file / device attributes (`knownMissing`) -/
theorem dispatch_nothing_missing :
    (∀ e ∈ Gen.FieldDispatch.table, e.old ≠ .raised ∧ e.new ≠ .raised ∧ (e.kind = .setitem → e.old = .wrote ∧ e.new = .wrote)) ∧
    (∀ a ∈ Gen.FieldDispatch.attributes, attrOk a = true) := by
  refine ⟨fun e he => ?_, by decide +kernel⟩
  obtain ⟨ho, hn⟩ := dispatch_table_handled_as_model e he
  rw [ho, hn]
  exact ⟨predict_ne_raised _ e, predict_ne_raised _ e, fun hk => ⟨predict_setitem _ hk, predict_setitem _ hk⟩⟩

end Dispatch

end HcipyVerif.C19
