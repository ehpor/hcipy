import HcipyVerif.Lemmas.ListFacts
import HcipyVerif.Model.Multiplex

/-!
# `multiplex_for_tensor_fields`: layout of the tensor components in the raveled array
-/

namespace HcipyVerif.Fft

/-- a valid tensor multi-index: one entry per tensor axis, each below its extent -/
def TensorIdx : List Nat → List Nat → Prop
  | [], [] => True
  | t :: ts, i :: is => i < t ∧ TensorIdx ts is
  | _, _ => False

theorem tensorRavel_lt : ∀ (ts idx : List Nat), TensorIdx ts idx → tensorRavel ts idx < tensorSize ts
  | [], [], _ => by simp [tensorRavel, tensorSize]
  | [], _ :: _, h => by simp [TensorIdx] at h
  | _ :: _, [], h => by simp [TensorIdx] at h
  | t :: ts, i :: is, h => ListFacts.flat_lt h.1 (tensorRavel_lt ts is h.2)

/-- block `t` of the raveled output is `func` of block `t` of the raveled input -/
theorem multiplexTensor_block {C : Type} (func : (ℕ → C) → ℕ → C) (ts : List ℕ) (hts : ts ≠ [])
    (n m : ℕ) (X : ℕ → C) (t k : ℕ) (hk : k < m) :
    multiplexTensor func ts n m X (t * m + k) = func (fun j => X (t * n + j)) k := by
  have hne : ts.isEmpty = false := by cases ts <;> simp_all
  simp only [multiplexTensor, hne, Bool.false_eq_true, if_false, ListFacts.flat_div hk, Nat.mul_add_mod_of_lt hk]

theorem multiplexTensor_scalar {C : Type} (func : (ℕ → C) → ℕ → C) (n m : ℕ) (X : ℕ → C) :
    multiplexTensor func [] n m X = func X := rfl

end HcipyVerif.Fft
