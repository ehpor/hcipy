import HcipyVerif.Lemmas.FraunhoferSelect
import HcipyVerif.Lemmas.FraunhoferClassify
import HcipyVerif.Model.FraunhoferPipe

/-!
# C03 — bridges from the executable ℚ model (`Model/Fraunhofer.lean`, `Model/FraunhoferPipe.lean`) to the
hypotheses of the ℝ/ℂ theorems

* `fullAt_of_classify`, `nativeAt_of_classify` — the classification (`Lemmas/FraunhoferClassify.lean`) implies the
  predicates `FullAt`/`NativeAt` that the theorems about `lensPropagator` assume, for the real-number casts of the
  rational grids;
* `axisCfg_eq_lensAxisCfg`, `mftLens_fwd`, `mftLens_bwd` — the objects in the theorems are the functions the driver
  runs (`lensAxisCfg`, `lensMftForward`, `lensMftBackward`), at `unit = 2π`, `T = expT`; `lensForward_fft`, … — the
  executed pipeline is `norm · fwd` / `norm⁻¹ · bwd` of the FFT or MFT model;
* `integral_term_eq_turns` — one term of the scaled integral as amplitude and phase in turns (for `impulseResponse`).
-/

namespace HcipyVerif.Fraunhofer
open HcipyVerif.Fft HcipyVerif.FourierLink

/-- the real-number axis of a rational one -/
def axisR (n : ℕ) (δ z : ℚ) : RegAxis := ⟨n, (δ : ℝ), (z : ℝ)⟩

theorem nativeAxis_cast {n Mo M : ℕ} {δ z Δ Z lf : ℚ} (h : n ≤ M ∧ Mo ≤ M ∧ (M : ℚ) * (δ * Δ) = lf) :
    NativeAxis (axisR n δ z) (axisR Mo Δ Z) ((lf : ℚ) : ℝ) M := by
  refine ⟨h.1, h.2.1, ?_⟩
  show (M : ℝ) * (((δ : ℚ) : ℝ) * ((Δ : ℚ) : ℝ)) = ((lf : ℚ) : ℝ)
  exact_mod_cast h.2.2

/-- the coordinates of the real axis are the casts of the model's coordinates (`RegGrid.point`) -/
theorem axisR_x (n : ℕ) (δ z : ℚ) (j : ℕ) : (axisR n δ z).x j = ((z + δ * (j : ℚ) : ℚ) : ℝ) := by
  unfold RegAxis.x axisR
  push_cast
  ring

theorem lamf_cast (s : Setup) : ((lamf s : ℚ) : ℝ) = (s.lam : ℝ) * (s.f : ℝ) := by
  unfold lamf; push_cast; rfl

theorem lamf_cast_pos {s : Setup} (h : 0 < lamf s) : 0 < (s.lam : ℝ) * (s.f : ℝ) :=
  lamf_cast s ▸ Rat.cast_pos.mpr h

theorem lamf_cast_ne_zero {s : Setup} (h : lamf s ≠ 0) : (s.lam : ℝ) * (s.f : ℝ) ≠ 0 :=
  lamf_cast s ▸ Rat.cast_ne_zero.mpr h

/-- **`classify = full` ⇒ `FullAt`**: the hypothesis of `fraunhofer_power_sel` / `fraunhofer_inverse_sel` for the
grids and `λ f` of the executable model (which the harness compares with the running code). -/
theorem fullAt_of_classify {s : Setup} {focal : RegGrid} {δx δy Δx Δy zx zy Zx Zy : ℚ} {Nx Ny Mox Moy : ℕ}
    {Ms : List ℕ} (hp : s.pupil = ⟨[δx, δy], [Nx, Ny], [zx, zy]⟩) (hf : focal = ⟨[Δx, Δy], [Mox, Moy], [Zx, Zy]⟩)
    (h : classify s focal = (.full, Ms)) (hlf : lamf s ≠ 0) :
    FullAt (axisR Ny δy zy) (axisR Nx δx zx) (axisR Moy Δy Zy) (axisR Mox Δx Zx) ((s.lam : ℝ) * (s.f : ℝ)) := by
  obtain ⟨_, ⟨hNx, hx, _⟩, ⟨hNy, hy, _⟩, _, _⟩ := classify_full_2d hp hf h
  rw [← lamf_cast]
  exact ⟨by exact_mod_cast hlf, nativeAxis_cast ⟨hNy, le_rfl, hy⟩, nativeAxis_cast ⟨hNx, le_rfl, hx⟩⟩

/-- **`classify ≠ other` ⇒ `NativeAt`**: the `numFft` of the executable selection (`lensMethod`) is the `numFft` of
the selection in the theorems (`lensChoice`). -/
theorem nativeAt_of_classify {s : Setup} {focal : RegGrid} {δx δy Δx Δy zx zy Zx Zy : ℚ} {Nx Ny Mox Moy : ℕ}
    (hp : s.pupil = ⟨[δx, δy], [Nx, Ny], [zx, zy]⟩) (hf : focal = ⟨[Δx, Δy], [Mox, Moy], [Zx, Zy]⟩)
    (h : (classify s focal).1 ≠ .other) (hlf : lamf s ≠ 0) :
    NativeAt (axisR Ny δy zy) (axisR Nx δx zx) (axisR Moy Δy Zy) (axisR Mox Δx Zx) ((lamf s : ℚ) : ℝ) := by
  obtain ⟨Mx, My, _, hx, hy⟩ := classify_native_2d hp hf h
  exact ⟨by exact_mod_cast hlf, My, Mx, nativeAxis_cast hy, nativeAxis_cast hx⟩

theorem axisCfg_eq_lensAxisCfg (p F : RegAxis) (lf : ℝ) (M : ℕ) (emu : Bool) :
    axisCfg p F lf M emu = lensAxisCfg (2 * Real.pi) p.n p.δ p.z F.n F.δ F.z lf M ((p.δ : ℝ) : ℂ) emu := by rfl

theorem regAxis_x_eq (a : RegAxis) : a.x = regCoord a.z a.δ := rfl

theorem mftLens_fwd (py px Fy Fx : RegAxis) (lf : ℝ) (E : Fin py.n × Fin px.n → ℂ) (k : Fin Fy.n × Fin Fx.n) :
    (mftLens py px Fy Fx lf).fwd E k
      = lensMftForward expT px.n py.n Fx.n Fy.n (regCoord px.z px.δ) (regCoord py.z py.δ) (regCoord Fx.z Fx.δ)
          (regCoord Fy.z Fy.δ) lf (.scalar ((py.δ * px.δ : ℝ) : ℂ)) (flat2 E) (k.1 * Fx.n + k.2) := by rfl

theorem mftLens_bwd (py px Fy Fx : RegAxis) (lf : ℝ) (G : Fin Fy.n × Fin Fx.n → ℂ) (j : Fin py.n × Fin px.n) :
    (mftLens py px Fy Fx lf).bwd G j
      = lensMftBackward expT (starRingEnd ℂ) px.n py.n Fx.n Fy.n (regCoord px.z px.δ) (regCoord py.z py.δ)
          (regCoord Fx.z Fx.δ) (regCoord Fy.z Fy.δ) lf (.scalar (((1 / lf) ^ 2 * (Fy.δ * Fx.δ) : ℝ) : ℂ))
          (flat2 G) (j.1 * px.n + j.2) := by rfl

/-! ## the executed pipeline (`lensForward`/`lensBackward`, Model/FraunhoferPipe.lean) at ℝ/ℂ

The driver runs `lensForward`/`lensBackward` at `K = Rat`, `C = PSum`, `T = E = PSum.turns`, `unit = 1`; here the same
functions at `K = ℝ`, `C = ℂ`, `T = expT`, `E = expE`, `unit = 2π`: on each method the executed pipeline is
`norm · T.fwd` / `norm⁻¹ · T.bwd` of the FFT or MFT model `T` (`lens_transform` in `Lemmas/FraunhoferObj.lean` puts the
cases together). -/

/-- a real regular axis as the polymorphic axis the pipeline takes -/
@[reducible] def axOf (a : RegAxis) : Ax ℝ := ⟨a.n, a.δ, a.z⟩

theorem lensForward_fft (py px Fy Fx : RegAxis) (lf : ℝ) (My Mx : ℕ) (emu : Bool)
    (oky : AxisOK (axisCfg py Fy lf My emu)) (okx : AxisOK (axisCfg px Fx lf Mx emu)) (norm : ℂ)
    (E : Fin py.n × Fin px.n → ℂ) (k : Fin Fy.n × Fin Fx.n) :
    lensForward expT expE (2 * Real.pi) Complex.ofReal norm .fft emu (axOf py) (axOf px) (axOf Fy) (axOf Fx) lf My Mx
        (ext2 E) k.1 k.2
      = norm * (fftTransform2 (axisCfg py Fy lf My emu) (axisCfg px Fx lf Mx emu) oky okx rfl).fwd E k := by
  rw [mul_comm norm]; rfl

theorem lensBackward_fft (py px Fy Fx : RegAxis) (lf : ℝ) (My Mx : ℕ) (emu : Bool)
    (oky : AxisOK (axisCfg py Fy lf My emu)) (okx : AxisOK (axisCfg px Fx lf Mx emu)) (norm : ℂ)
    (G : Fin Fy.n × Fin Fx.n → ℂ) (j : Fin py.n × Fin px.n) :
    lensBackward expT expE (starRingEnd ℂ) (2 * Real.pi) Complex.ofReal (fun r => |r|) norm .fft emu (axOf py) (axOf px)
        (axOf Fy) (axOf Fx) lf My Mx (ext2 G) j.1 j.2
      = norm⁻¹ * (fftTransform2 (axisCfg py Fy lf My emu) (axisCfg px Fx lf Mx emu) oky okx rfl).bwd G j := by
  rw [mul_comm norm⁻¹]; rfl

theorem lensForward_mft (py px Fy Fx : RegAxis) (lf : ℝ) (My Mx : ℕ) (emu : Bool) (norm : ℂ)
    (E : Fin py.n × Fin px.n → ℂ) (k : Fin Fy.n × Fin Fx.n) :
    lensForward expT expE (2 * Real.pi) Complex.ofReal norm .mft emu (axOf py) (axOf px) (axOf Fy) (axOf Fx) lf My Mx
        (ext2 E) k.1 k.2
      = norm * (mftLens py px Fy Fx lf).fwd E k := by
  rw [mul_comm norm]; rfl

theorem lensBackward_mft (py px Fy Fx : RegAxis) (lf : ℝ) (My Mx : ℕ) (emu : Bool) (norm : ℂ)
    (hy : 0 < Fy.δ) (hx : 0 < Fx.δ) (G : Fin Fy.n × Fin Fx.n → ℂ) (j : Fin py.n × Fin px.n) :
    lensBackward expT expE (starRingEnd ℂ) (2 * Real.pi) Complex.ofReal (fun r => |r|) norm .mft emu (axOf py) (axOf px)
        (axOf Fy) (axOf Fx) lf My Mx (ext2 G) j.1 j.2
      = norm⁻¹ * (mftLens py px Fy Fx lf).bwd G j := by
  have hw : (1 / lf) * (1 / lf) * (|Fy.δ| * |Fx.δ|) = (1 / lf) ^ 2 * (Fy.δ * Fx.δ) := by
    rw [abs_of_pos hy, abs_of_pos hx]; ring
  rw [mul_comm norm⁻¹]
  unfold lensBackward
  simp only [hw]
  rfl

section character
open Complex

theorem expT_frac (q : ℚ) : expT ((frac q : ℚ) : ℝ) = expT ((q : ℚ) : ℝ) := expT_fracPart q

theorem expT_neg_quarter : expT (-(1 / 4)) = -I := by
  unfold expT
  rw [← Complex.exp_neg_pi_div_two_mul_I]
  congr 1
  push_cast
  ring

/-- One term of the scaled Fourier integral as amplitude `W/(λf)` and phase `-1/4 - D/(λf)` in turns; the `-1/4` is
the `1/i`.  (Also at `λ f = 0`, where both sides are `0`.) -/
theorem integral_term_eq_turns (lam f W D : ℝ) :
    1 / (I * (lam : ℂ) * (f : ℂ)) * ((W : ℂ) * cexp (-(2 * (Real.pi : ℂ) * I * (D : ℂ)) / ((lam : ℂ) * (f : ℂ))))
      = ((W / (lam * f) : ℝ) : ℂ) * expT (-(1 / 4) + -D / (lam * f)) := by
  rw [expT_isChar.add, expT_neg_quarter, mul_assoc I, one_div, mul_inv, Complex.inv_I]
  unfold expT
  rw [show 2 * (Real.pi : ℂ) * ((-D / (lam * f) : ℝ) : ℂ) * I
    = -(2 * (Real.pi : ℂ) * I * (D : ℂ)) / ((lam : ℂ) * (f : ℂ)) by push_cast; ring]
  push_cast
  ring

end character

end HcipyVerif.Fraunhofer
