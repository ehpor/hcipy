import HcipyVerif.Lemmas.ZernikeReal
import Mathlib.Analysis.SpecialFunctions.Integrals.Basic

/-! Coefficient integration `pint01` is the interval integral over `[0, 1]`; orthogonality of `cos mθ`, `sin mθ` on
`[0, 2π]`; the azimuthal factor and the mode as real functions. -/

namespace HcipyVerif.Zernike
open intervalIntegral Real

theorem continuous_pevalR (p : Poly) : Continuous (pevalR p) := by
  induction p with
  | nil => exact continuous_const
  | cons a p ih =>
    show Continuous fun x => (a : ℝ) + x * pevalR p x
    exact continuous_const.add (continuous_id.mul ih)

/-- coefficient integration with the exponent offset `k` made explicit -/
def pintFrom (k : Nat) (p : Poly) : Rat :=
  ((p.zipIdx k).map fun (a, i) => a / ((i : Rat) + 1)).foldr (· + ·) 0

theorem pint01_eq_pintFrom (p : Poly) : pint01 p = pintFrom 0 p := rfl

theorem integral_pow_mul_pevalR (p : Poly) : ∀ k : Nat,
    ∫ x in (0:ℝ)..1, x ^ k * pevalR p x = (pintFrom k p : ℝ) := by
  induction p with
  | nil => intro k; simp [pintFrom]
  | cons a p ih =>
    intro k
    have hsplit : ∀ x : ℝ, x ^ k * pevalR (a :: p) x = (a : ℝ) * x ^ k + x ^ (k + 1) * pevalR p x := by
      intro x; rw [pevalR_cons]; ring
    simp_rw [hsplit]
    rw [integral_add, integral_const_mul, integral_pow, ih (k + 1)]
    · have : pintFrom k (a :: p) = a / ((k : Rat) + 1) + pintFrom (k + 1) p := by
        simp [pintFrom, List.zipIdx_cons]
      rw [this]; push_cast; simp; ring
    · exact (continuous_const.mul (continuous_pow k)).intervalIntegrable _ _
    · exact ((continuous_pow (k + 1)).mul (continuous_pevalR p)).intervalIntegrable _ _

theorem integral_pevalR (p : Poly) : ∫ x in (0:ℝ)..1, pevalR p x = (pint01 p : ℝ) := by
  have := integral_pow_mul_pevalR p 0
  simpa [pint01_eq_pintFrom] using this

theorem integral_cos_int_add (k : ℤ) (c : ℝ) :
    ∫ θ in (0:ℝ)..(2 * π), cos ((k : ℝ) * θ + c) = if k = 0 then 2 * π * cos c else 0 := by
  by_cases hk : k = 0
  · subst hk; simp
  · rw [if_neg hk, integral_comp_mul_add (fun x => cos x) (by exact_mod_cast hk), integral_cos, mul_zero, zero_add,
      add_comm, sin_add_int_mul_two_pi, sub_self, smul_zero]

/-- Cosines and sines of integer frequencies on `[0, 2π]` in one statement: a sine is a cosine with phase `-π/2`. -/
theorem integral_cos_mul_cos_phase (a b : ℤ) (φ ψ : ℝ) :
    ∫ θ in (0:ℝ)..(2 * π), cos ((a : ℝ) * θ + φ) * cos ((b : ℝ) * θ + ψ)
      = ((if a - b = 0 then 2 * π * cos (φ - ψ) else 0) + (if a + b = 0 then 2 * π * cos (φ + ψ) else 0)) / 2 := by
  have h : ∀ θ : ℝ, cos ((a : ℝ) * θ + φ) * cos ((b : ℝ) * θ + ψ)
      = (cos (((a - b : ℤ) : ℝ) * θ + (φ - ψ)) + cos (((a + b : ℤ) : ℝ) * θ + (φ + ψ))) / 2 := by
    intro θ
    have e1 : ((a - b : ℤ) : ℝ) * θ + (φ - ψ) = (a * θ + φ) - (b * θ + ψ) := by push_cast; ring
    have e2 : ((a + b : ℤ) : ℝ) * θ + (φ + ψ) = (a * θ + φ) + (b * θ + ψ) := by push_cast; ring
    rw [e1, e2, cos_sub, cos_add (a * θ + φ)]; ring
  have ii : ∀ (k : ℤ) (c : ℝ), IntervalIntegrable (fun θ : ℝ => cos ((k : ℝ) * θ + c)) MeasureTheory.volume 0 (2 * π) :=
    fun k c => (continuous_cos.comp ((continuous_const.mul continuous_id).add continuous_const)).intervalIntegrable _ _
  simp_rw [h]
  rw [integral_div, integral_add (ii _ _) (ii _ _), integral_cos_int_add, integral_cos_int_add]

/-- `zernike_azimuthal(m, θ)` over the reals -/
noncomputable def azimR (m : ℤ) (θ : ℝ) : ℝ :=
  if m = 0 then 1 else if 0 < m then √2 * cos ((m : ℝ) * θ) else √2 * sin (((-m : ℤ) : ℝ) * θ)

/-- amplitude and phase, with the signed order as frequency: `sin(-mθ) = cos(mθ + π/2)` -/
theorem azimR_eq_cos (m : ℤ) (θ : ℝ) :
    azimR m θ = (if m = 0 then 1 else √2) * cos ((m : ℝ) * θ + if m < 0 then π / 2 else 0) := by
  unfold azimR
  rcases lt_trichotomy m 0 with h | h | h
  · rw [if_neg h.ne, if_neg h.not_gt, if_neg h.ne, if_pos h, cos_add_pi_div_two, Int.cast_neg, neg_mul, sin_neg]
  · subst h; simp
  · rw [if_neg h.ne', if_pos h, if_neg h.ne', if_neg h.not_gt, add_zero]

theorem integral_azimR_mul (m m' : ℤ) :
    ∫ θ in (0:ℝ)..(2 * π), azimR m θ * azimR m' θ = if m = m' then 2 * π else 0 := by
  have h2 : (√2 : ℝ) * √2 = 2 := Real.mul_self_sqrt (by norm_num)
  simp_rw [azimR_eq_cos, mul_mul_mul_comm _ (cos _)]
  rw [integral_const_mul, integral_cos_mul_cos_phase]
  by_cases hm : m = m'
  · subst hm
    by_cases h0 : m = 0
    · subst h0; simp
    · simp only [if_neg h0, sub_self, cos_zero, if_neg (show ¬ m + m = 0 by omega), h2]
      ring
  · rw [if_neg hm, if_neg (sub_ne_zero.mpr hm), zero_add]
    by_cases hs : m + m' = 0
    · -- opposite orders: a cosine against the sine of the same frequency, the phases add up to `π/2`
      have : (m < 0 ∧ ¬ m' < 0) ∨ (¬ m < 0 ∧ m' < 0) := by omega
      rcases this with ⟨h, h'⟩ | ⟨h, h'⟩ <;> simp [h, h', hs]
    · rw [if_neg hs]; simp

theorem continuous_azimR (m : ℤ) : Continuous (azimR m) := by
  unfold azimR
  split
  · exact continuous_const
  · split
    · exact continuous_const.mul (continuous_cos.comp (continuous_const.mul continuous_id))
    · exact continuous_const.mul (continuous_sin.comp (continuous_const.mul continuous_id))

theorem continuous_radialR (n m : Nat) : Continuous (radialR n m) := by
  unfold radialR
  exact continuous_finsetSum _ fun k _ => continuous_const.mul (continuous_pow _)

/-- `zernike(n, m)` at the normalised polar point `(ρ, θ)`, without cut-off -/
noncomputable def zernikeR (n : Nat) (m : ℤ) (ρ θ : ℝ) : ℝ :=
  √((n : ℝ) + 1) * radialR n m.natAbs ρ * azimR m θ

end HcipyVerif.Zernike
