import Mathlib.Analysis.SpecialFunctions.Trigonometric.Basic
import HcipyVerif.Lemmas.NearFieldExec
import HcipyVerif.Lemmas.ScalarHom

/-!
# C04 — the Gaussian-rational run of the pipeline denotes the complex pipeline of the theorems

The driver op `filt` runs `filterP` / `filterPBackward` (`Model/NearField.lean`) at the scalar type `GRat` with the
kernels `gKerF`, `gKerB` (powers of `i`).  Here:

* `filterN_map` — the pipeline commutes with every map of scalars preserving `0`, `+`, `·`;
* `GRat.toC` (the complex number a Gaussian rational denotes) is such a map, and maps `GRat.conj` to `conj`;
* `toC_gKerF`, `toC_gKerB` — for the sizes 1, 2, 4 the driver's kernels are `exp(∓2πi n/M)`;
* `PSum.ev` — the complex number a formal phase sum (`Fft.PSum`, the scalar type of the driver op `filtp`) denotes —
  preserves `0`, `+`, `·` (`PSum.ev_add`, `PSum.ev_mul`: induction over the list representation), maps `psumConj` to `conj`,
  `psumScalar.kerF M n`, `psumScalar.kerB M n` to `exp(∓2πi n/M)` for *every* `M`, and `psumOfGRat g` to `GRat.toC g`.
-/

set_option linter.unnecessarySeqFocus false

open Complex ComplexConjugate

namespace HcipyVerif.NearField

open HcipyVerif.Fft (expT expE expT_isChar expE_isChar expT_period expT_fracPart expT_conj expE_conj PSum Term fracPart)

theorem filterN_map {C C' : Type} [Zero C] [Add C] [Mul C] [Zero C'] [Add C'] [Mul C'] {φ : C → C'} (h : ScalarHom φ)
    (My Mx : ℕ) (kFy kFx kBy kBx : ℤ → C) (sc : C) (sy sx ny nx : ℕ) (D x : ℕ → ℕ → C) (ky kx : ℕ) :
    φ (filterN My Mx kFy kFx kBy kBx sc sy sx ny nx D x ky kx)
      = filterN My Mx (fun n => φ (kFy n)) (fun n => φ (kFx n)) (fun n => φ (kBy n)) (fun n => φ (kBx n)) (φ sc)
          sy sx ny nx (fun a b => φ (D a b)) (fun a b => φ (x a b)) ky kx := by
  -- the pipeline is built from `·`, sums, `if … else 0`
  simp only [filterN, cropAt, Fft.dft2, padAt, h.mul, h.sumRange, apply_ite φ, h.zero]

/-- The complex number a Gaussian rational denotes. -/
noncomputable def GRat.toC (a : GRat) : ℂ := ⟨(a.re : ℝ), (a.im : ℝ)⟩

theorem GRat.toC_mk (a b : ℚ) : GRat.toC ⟨a, b⟩ = ((a : ℝ) : ℂ) + ((b : ℝ) : ℂ) * I :=
  Complex.mk_eq_add_mul_I _ _

theorem GRat.toC_hom : ScalarHom GRat.toC where
  zero := by apply Complex.ext <;> simp [GRat.toC] <;> rfl
  add a b := by
    apply Complex.ext
    · show (((a.re + b.re : ℚ)) : ℝ) = _
      simp [GRat.toC]
    · show (((a.im + b.im : ℚ)) : ℝ) = _
      simp [GRat.toC]
  mul a b := by
    apply Complex.ext
    · show (((a.re * b.re - a.im * b.im : ℚ)) : ℝ) = _
      simp [GRat.toC]
    · show (((a.re * b.im + a.im * b.re : ℚ)) : ℝ) = _
      simp [GRat.toC]

theorem GRat.toC_conj (a : GRat) : GRat.toC (GRat.conj a) = conj (GRat.toC a) := by
  apply Complex.ext
  · rfl
  · show (((-a.im : ℚ)) : ℝ) = _
    simp [GRat.toC]

theorem expT_quarter : expT (1 / 4) = I := by
  unfold expT
  have h : (2 * (Real.pi : ℂ) * ((1 / 4 : ℝ) : ℂ) * I) = ((Real.pi / 2 : ℝ) : ℂ) * I := by
    push_cast
    ring
  rw [h, Complex.exp_mul_I, ← Complex.ofReal_cos, ← Complex.ofReal_sin, Real.cos_pi_div_two, Real.sin_pi_div_two]
  simp

theorem expT_quarter_mul (n : ℕ) : expT ((n : ℝ) / 4) = I ^ n := by
  induction n with
  | zero => rw [Nat.cast_zero, zero_div, expT_isChar.zero, pow_zero]
  | succ n ih => rw [Nat.cast_succ, add_div, expT_isChar.add, ih, expT_quarter, pow_succ]

theorem toC_gPowI (k : ℤ) : GRat.toC (gPowI k) = expT ((k : ℝ) / 4) := by
  -- `k = 4·(k / 4) + r` with `r < 4`: whole turns drop out, and `gPowI` lists `1, i, -1, -i = i ^ r`
  obtain ⟨r, hr4, hr⟩ : ∃ r : ℕ, r < 4 ∧ k % 4 = r := ⟨(k % 4).toNat, by omega, by omega⟩
  have hk : (k : ℝ) / 4 = ((k / 4 : ℤ) : ℝ) + (r : ℝ) / 4 := by
    have h : (k : ℝ) = (r : ℝ) + 4 * ((k / 4 : ℤ) : ℝ) := by
      exact_mod_cast (hr ▸ Int.emod_add_mul_ediv k 4).symm
    rw [h]
    ring
  rw [hk, expT_isChar.add, expT_period, one_mul, expT_quarter_mul]
  unfold gPowI
  rw [hr, Int.toNat_natCast]
  rcases r with _ | _ | _ | _ | r
  · simp [GRat.toC_mk]
  · simp [GRat.toC_mk]
  · simp [GRat.toC_mk]
  · simp [GRat.toC_mk, pow_succ]
  · omega

theorem toC_gKerB {M : ℕ} (hM : M = 1 ∨ M = 2 ∨ M = 4) (n : ℤ) : GRat.toC (gKerB M n) = kB M n := by
  unfold gKerB kB
  rw [toC_gPowI]
  congr 1
  rcases hM with rfl | rfl | rfl <;> norm_num <;> ring

/-- The forward kernel is the inverse kernel at `-n`. -/
theorem toC_gKerF {M : ℕ} (hM : M = 1 ∨ M = 2 ∨ M = 4) (n : ℤ) : GRat.toC (gKerF M n) = kF M n := by
  unfold gKerF kF
  rw [← neg_mul, ← neg_div, ← Int.cast_neg]
  exact toC_gKerB hM (-n)

theorem toC_scale (N : ℕ) : GRat.toC ⟨1 / ((N : ℕ) : ℚ), 0⟩ = ((N : ℕ) : ℂ)⁻¹ := by
  have h : ((N : ℕ) : ℂ)⁻¹ = ((((N : ℝ))⁻¹ : ℝ) : ℂ) := by push_cast; rfl
  rw [h]
  apply Complex.ext
  · simp [GRat.toC]
  · simp [GRat.toC]

/-- the complex number a term `c·exp(i(2πt + r))` denotes -/
noncomputable def evT (x : Term) : ℂ := ((x.c : ℚ) : ℂ) * (expT ((x.t : ℚ) : ℝ) * expE ((x.r : ℚ) : ℝ))

noncomputable def evL (l : List Term) : ℂ := (l.map evT).sum

/-- the complex number a formal phase sum denotes -/
noncomputable def PSum.ev (a : PSum) : ℂ := evL a.terms

theorem evL_nil : evL [] = 0 := rfl
theorem evL_cons (x : Term) (l : List Term) : evL (x :: l) = evT x + evL l := by
  unfold evL
  rw [List.map_cons, List.sum_cons]

theorem evL_append (l₁ l₂ : List Term) : evL (l₁ ++ l₂) = evL l₁ + evL l₂ := by
  unfold evL
  rw [List.map_append, List.sum_append]

theorem expT_frac (t : ℚ) : expT ((frac t : ℚ) : ℝ) = expT ((t : ℚ) : ℝ) := expT_fracPart t

theorem expT_eq_cexp (t : ℚ) : expT ((t : ℚ) : ℝ) = cexp (((2 * Real.pi * ((t : ℚ) : ℝ) : ℝ) : ℂ) * I) := by
  unfold expT
  congr 1
  push_cast
  ring

theorem evT_of_c_zero {x : Term} (h : x.c = 0) : evT x = 0 := by
  unfold evT
  rw [h]
  simp

theorem evT_add_c {x y : Term} (hp : y.t = x.t ∧ y.r = x.r) : evT { y with c := y.c + x.c } = evT y + evT x := by
  unfold evT
  simp only
  rw [hp.1, hp.2]
  push_cast
  ring

theorem evL_addTerm (l : List Term) (x : Term) : evL (PSum.addTerm l x) = evL l + evT x := by
  fun_induction PSum.addTerm l x with
  | case1 l hc => rw [evT_of_c_zero hc, add_zero]
  | case2 hc => rw [evL_cons, evL_nil, add_zero, zero_add]
  | case3 hc y ys hp hs => rw [evL_cons, add_right_comm, ← evT_add_c hp, evT_of_c_zero hs, zero_add]
  | case4 hc y ys hp hs => rw [evL_cons, evL_cons, evT_add_c hp, add_right_comm]
  | case5 hc y ys hp ih => rw [evL_cons, evL_cons, ih, add_assoc]

theorem evL_foldl (l a : List Term) : evL (l.foldl PSum.addTerm a) = evL a + evL l := by
  induction l generalizing a with
  | nil => rw [List.foldl_nil, evL_nil, add_zero]
  | cons x xs ih => rw [List.foldl_cons, ih, evL_addTerm, evL_cons, add_assoc]

theorem PSum.ev_zero : PSum.ev 0 = 0 := rfl

theorem PSum.ev_add (a b : PSum) : PSum.ev (a + b) = PSum.ev a + PSum.ev b := by
  show evL (b.terms.foldl PSum.addTerm a.terms) = _
  rw [evL_foldl]
  rfl

theorem evT_mulTerm (x y : Term) : evT (PSum.mulTerm x y) = evT x * evT y := by
  unfold evT PSum.mulTerm
  simp only
  rw [expT_fracPart]
  push_cast
  rw [expT_isChar.add, expE_isChar.add]
  ring

theorem evL_map_mulTerm (x : Term) (l : List Term) : evL (l.map fun y => PSum.mulTerm x y) = evT x * evL l := by
  induction l with
  | nil => rw [List.map_nil, evL_nil, mul_zero]
  | cons y ys ih => rw [List.map_cons, evL_cons, evL_cons, ih, evT_mulTerm, mul_add]

theorem PSum.ev_mul (a b : PSum) : PSum.ev (a * b) = PSum.ev a * PSum.ev b := by
  show evL ((a.terms.flatMap fun x => b.terms.map fun y => PSum.mulTerm x y).foldl PSum.addTerm []) = _
  rw [evL_foldl, evL_nil, zero_add]
  unfold PSum.ev
  induction a.terms with
  | nil => rw [List.flatMap_nil, evL_nil, zero_mul]
  | cons x xs ih => rw [List.flatMap_cons, evL_append, ih, evL_map_mulTerm, evL_cons, add_mul]

theorem PSum.ev_hom : ScalarHom PSum.ev := ⟨⟨PSum.ev_zero, PSum.ev_add⟩, PSum.ev_mul⟩

theorem PSum.ev_turns (t : ℚ) : PSum.ev (PSum.turns t) = expT ((t : ℚ) : ℝ) := by
  show evL [⟨1, fracPart t, 0⟩] = _
  rw [evL_cons, evL_nil, add_zero]
  unfold evT
  simp only
  rw [expT_fracPart]
  simp [expE_isChar.zero]

theorem PSum.ev_ofRat (c : ℚ) : PSum.ev (PSum.ofRat c) = ((c : ℚ) : ℂ) := by
  unfold PSum.ofRat
  split_ifs with h
  · rw [h]
    simp [PSum.ev, evL]
  · show evL [⟨c, 0, 0⟩] = _
    rw [evL_cons, evL_nil, add_zero]
    unfold evT
    simp [expE_isChar.zero, expT_isChar.zero]

theorem ev_psumOfGRat (g : GRat) : PSum.ev (psumOfGRat g) = GRat.toC g := by
  unfold psumOfGRat
  rw [PSum.ev_add, PSum.ev_mul, PSum.ev_ofRat, PSum.ev_ofRat, PSum.ev_turns]
  have h : (((1 / 4 : ℚ)) : ℝ) = 1 / 4 := by norm_num
  rw [h, expT_quarter]
  apply Complex.ext <;> simp [GRat.toC]

theorem ev_psumConj (a : PSum) : PSum.ev (psumConj a) = conj (PSum.ev a) := by
  unfold PSum.ev psumConj
  induction a.terms with
  | nil => simp [evL]
  | cons x xs ih =>
    rw [List.map_cons, evL_cons, evL_cons, ih, map_add]
    congr 1
    unfold evT
    simp only
    rw [expT_fracPart, map_mul, map_mul, expT_conj, expE_conj]
    push_cast
    simp

theorem ev_pKerF (M : ℕ) (n : ℤ) : PSum.ev (psumScalar.kerF M n) = kF M n := by
  unfold Scalar.kerF kF
  show PSum.ev (PSum.turns _) = _
  rw [PSum.ev_turns]
  congr 1
  push_cast
  rfl

theorem ev_pKerB (M : ℕ) (n : ℤ) : PSum.ev (psumScalar.kerB M n) = kB M n := by
  unfold Scalar.kerB kB
  show PSum.ev (PSum.turns _) = _
  rw [PSum.ev_turns]
  congr 1
  push_cast
  rfl

theorem ev_scale (N : ℕ) : PSum.ev (PSum.ofRat (1 / ((N : ℕ) : ℚ))) = ((N : ℕ) : ℂ)⁻¹ := by
  rw [PSum.ev_ofRat]
  push_cast
  rw [one_div]

end HcipyVerif.NearField
