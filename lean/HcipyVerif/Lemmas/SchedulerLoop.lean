import HcipyVerif.Lemmas.Scheduler

/-! C20, one call of `evolve_until`: the equations of `loop`, the relation `Runs` (what a run can do;
every statement about a run is proved by induction on it), the queue invariants `InvQ` (reached by
every history) and `Inv` (nothing queued before the clock), and what a run conserves, leaves behind
and does to the clock. -/

namespace HcipyVerif.Scheduler

variable {K : Rat → Entry → List (Rat × Nat)} {kids : Entry → List (Rat × Nat)} {T : Rat} {fuel : Nat}
  {s : Sys} {e : Entry} {rest : List Entry} {r : Run}

/-- callbacks only schedule at or after their own scheduled time -/
def WF (kids : Entry → List (Rat × Nat)) : Prop := ∀ e, ∀ c ∈ kids e, e.time ≤ c.1

/-- the state in which the callback of the head entry `e` runs: `e` popped, the stretch up to its
time bridged -/
def popped (s : Sys) (e : Entry) (rest : List Entry) : Sys :=
  (advance { s with queue := rest } (e.time - s.t)).1

theorem popped_queue (s : Sys) (e : Entry) (rest : List Entry) : (popped s e rest).queue = rest :=
  advance_queue _ _

theorem popped_ctr (s : Sys) (e : Entry) (rest : List Entry) : (popped s e rest).ctr = s.ctr :=
  advance_ctr _ _

theorem popped_le_of_le (rest : List Entry) {B : Rat} (h1 : s.t ≤ B) (h2 : e.time ≤ B) :
    (popped s e rest).t ≤ B :=
  advance_le_of_le { s with queue := rest } e.time B h1 h2

/-- the state the loop continues from after the callback of `e` has run -/
def next (kids : Entry → List (Rat × Nat)) (s : Sys) (e : Entry) (rest : List Entry) : Sys :=
  addAll (popped s e rest) (kids e)

theorem next_t (kids : Entry → List (Rat × Nat)) (s : Sys) (e : Entry) (rest : List Entry) :
    (next kids s e rest).t = (popped s e rest).t :=
  addAll_t _ _

theorem next_ctr (kids : Entry → List (Rat × Nat)) (s : Sys) (e : Entry) (rest : List Entry) :
    (next kids s e rest).ctr = s.ctr + (kids e).length := by
  rw [next, addAll_ctr, popped_ctr]

theorem next_queue_perm (kids : Entry → List (Rat × Nat)) (s : Sys) (e : Entry) (rest : List Entry) :
    (next kids s e rest).queue.Perm (rest ++ mkEntries s.ctr (kids e)) := by
  have := addAll_queue_perm (popped s e rest) (kids e)
  rwa [popped_queue, popped_ctr] at this

theorem next_congr {K K' : Entry → List (Rat × Nat)} (h : K e = K' e) :
    next K s e rest = next K' s e rest := by
  rw [next, next, h]

theorem loop_zero (kids : Entry → List (Rat × Nat)) (T : Rat) (s : Sys) :
    loop kids T 0 s = ⟨.outOfFuel, s, []⟩ := rfl

theorem loop_cons (hq : s.queue = e :: rest) (ht : e.time < T) :
    loop kids T (fuel + 1) s =
      { loop kids T fuel (next kids s e rest) with
        trace := (advance s (e.time - s.t)).2 ++ Event.fire e (popped s e rest).t ::
          (loop kids T fuel (next kids s e rest)).trace } := by
  simp only [loop, hq, ht, if_true, next, popped, advance_events]

theorem loop_stop (h : ∀ e ∈ s.queue.head?, T ≤ e.time) :
    loop kids T (fuel + 1) s = ⟨.ok, (advance s (T - s.t)).1, (advance s (T - s.t)).2⟩ := by
  match hq : s.queue with
  | [] => simp only [loop, hq]
  | e :: rest =>
    have : ¬ e.time < T := not_lt.mpr (h e (by rw [hq]; rfl))
    simp only [loop, hq, this, if_false]

/-- `Runs K T fuel s r`: with `fuel` passes left, the loop of `evolve_until(T)` takes `s` to the run `r`.
One pass can do three things: find the fuel used up, find nothing due before `T` and bridge to `T`, or
pop the head `e`, bridge to its time and call its callback, which — seeing the clock `clk` — schedules
`K clk e`.  This is the graph of `loopC`; `loop kids` is the case of a `K` that ignores the clock
(`loop_runs`), and a callback that raises is one that schedules nothing, after which the fuel is used
up (`loopXC_raised_runs`).  What is proved by induction on `Runs` without looking at `K` therefore
holds of every loop of the model, whatever the callbacks do. -/
inductive Runs (K : Rat → Entry → List (Rat × Nat)) (T : Rat) : Nat → Sys → Run → Prop
  | zero (s : Sys) : Runs K T 0 s ⟨.outOfFuel, s, []⟩
  | stop (fuel : Nat) (s : Sys) (h : ∀ e ∈ s.queue.head?, T ≤ e.time) :
      Runs K T (fuel + 1) s ⟨.ok, (advance s (T - s.t)).1, (advance s (T - s.t)).2⟩
  | step {fuel : Nat} {s : Sys} {e : Entry} {rest : List Entry} {r : Run} (hq : s.queue = e :: rest)
      (ht : e.time < T) (h : Runs K T fuel (next (K (popped s e rest).t) s e rest) r) :
      Runs K T (fuel + 1) s
        ⟨r.status, r.s, (advance s (e.time - s.t)).2 ++ Event.fire e (popped s e rest).t :: r.trace⟩

theorem loopC_runs (K : Rat → Entry → List (Rat × Nat)) (T : Rat) (fuel : Nat) (s : Sys) :
    Runs K T fuel s (loopC K T fuel s) := by
  fun_induction loopC K T fuel s with
  | case1 s => exact .zero s
  | case2 _ s _ rest hq ht _ _ ih => exact advance_events s rest _ ▸ .step hq ht ih
  | case3 fuel s _ _ hq ht => exact .stop fuel s (by rw [hq]; intro x hx; cases hx; exact not_lt.mp ht)
  | case4 fuel s hq => exact .stop fuel s (by rw [hq]; nofun)

/-- entry-only callbacks that agree with `K` wherever the run consulted it give the same run -/
theorem Runs.eq_loop (h : Runs K T fuel s r)
    (hk : ∀ e clk, Event.fire e clk ∈ r.trace → kids e = K clk e) : loop kids T fuel s = r := by
  induction h with
  | zero s => rfl
  | stop fuel s hstop => exact loop_stop hstop
  | @step fuel s e rest r hq ht _ ih =>
    have he : kids e = K (popped s e rest).t e := hk e _ (List.mem_append_right _ (List.mem_cons_self ..))
    rw [loop_cons hq ht, next_congr he,
      ih fun e' clk' hm => hk e' clk' (List.mem_append_right _ (List.mem_cons_of_mem _ hm))]

theorem loop_runs (kids : Entry → List (Rat × Nat)) (T : Rat) (fuel : Nat) (s : Sys) :
    Runs (fun _ => kids) T fuel s (loop kids T fuel s) :=
  ((loopC_runs (fun _ => kids) T fuel s).eq_loop fun _ _ _ => rfl) ▸ loopC_runs _ T fuel s

theorem Runs.unique {r' : Run} (h : Runs K T fuel s r) (h' : Runs K T fuel s r') : r = r' := by
  induction h generalizing r' with
  | zero s => cases h'; rfl
  | stop fuel s hstop =>
    cases h' with
    | stop => rfl
    | step hq ht _ => exact absurd (hstop _ (by rw [hq]; rfl)) (not_le.mpr ht)
  | @step fuel s e rest r hq ht _ ih =>
    cases h' with
    | stop _ _ hstop => exact absurd (hstop _ (by rw [hq]; rfl)) (not_le.mpr ht)
    | step hq' ht' h'' =>
      cases hq.symm.trans hq'
      rw [ih h'']

theorem fired_fire (s : Sys) (dt : Rat) (e : Entry) (clk : Rat) (tr : List Event) :
    fired ((advance s dt).2 ++ Event.fire e clk :: tr) = e :: fired tr := by
  rw [fired_append, advance_fired]; rfl

theorem mem_fire_cons {s : Sys} {dt : Rat} {e e' : Entry} {clk clk' : Rat} {tr : List Event}
    (h : Event.fire e' clk' ∈ (advance s dt).2 ++ Event.fire e clk :: tr) :
    (e' = e ∧ clk' = clk) ∨ Event.fire e' clk' ∈ tr := by
  rcases List.mem_append.mp h with h | h
  · exact absurd h (not_fire_mem_advance _ _ _ _)
  · rcases List.mem_cons.mp h with h | h
    · injection h with h1 h2; exact Or.inl ⟨h1, h2⟩
    · exact Or.inr h

theorem Runs.status (h : Runs K T fuel s r) : r.status = .ok ∨ r.status = .outOfFuel := by
  induction h with
  | zero => exact .inr rfl
  | stop => exact .inl rfl
  | step _ _ _ ih => exact ih

theorem Runs.not_backwards (h : Runs K T fuel s r) : r.status ≠ .backwards := by
  rcases h.status with h' | h' <;> rw [h'] <;> nofun

theorem evolveUntil_backwards (h : T < s.t) :
    evolveUntil kids fuel s T = ⟨.backwards, s, []⟩ :=
  if_pos h

theorem evolveUntil_forward (h : s.t ≤ T) : evolveUntil kids fuel s T = loop kids T fuel s :=
  if_neg (not_lt.mpr h)

theorem Runs.perm (h : Runs (fun _ => kids) T fuel s r) :
    (fired r.trace ++ r.s.queue).Perm (s.queue ++ spawned kids s.ctr (fired r.trace)) := by
  induction h with
  | zero => simp only [fired, spawned, List.nil_append, List.append_nil]; exact List.Perm.refl _
  | stop =>
    simp only [advance_fired, advance_queue, spawned, List.nil_append, List.append_nil]
    exact List.Perm.refl _
  | @step _ s e rest _ hq _ _ ih =>
    simp only [fired_fire, spawned, List.cons_append, hq]
    refine List.Perm.cons e (ih.trans ?_)
    rw [next_ctr, ← List.append_assoc]
    exact (next_queue_perm kids s e rest).append_right _

theorem Runs.ctr (h : Runs (fun _ => kids) T fuel s r) :
    r.s.ctr = s.ctr + nKids kids (fired r.trace) := by
  induction h with
  | zero => rfl
  | stop => simp only [advance_fired, advance_ctr]; rfl
  | step _ _ _ ih =>
    simp only [fired_fire, nKids_cons]
    rw [ih, next_ctr, Nat.add_assoc]

theorem Runs.fire_lag (h : Runs K T fuel s r) :
    ∀ e clk, Event.fire e clk ∈ r.trace → e.time - clk ≤ eps ∧ e.time < T := by
  induction h with
  | zero => intro _ _ h; cases h
  | stop _ s => exact fun e clk h => absurd h (not_fire_mem_advance _ _ _ _)
  | @step _ s e rest _ _ ht _ ih =>
    intro e' clk h
    rcases mem_fire_cons h with ⟨rfl, rfl⟩ | h
    · exact ⟨sub_le_comm.mp (advance_ge_sub_eps { s with queue := rest } e'.time), ht⟩
    · exact ih e' clk h

theorem Runs.fired_lt_horizon (h : Runs K T fuel s r) : ∀ f ∈ fired r.trace, f.time < T := fun f hf =>
  let ⟨clk, hc⟩ := mem_fired.mp hf
  (h.fire_lag f clk hc).2

/-- The queue invariant that needs no assumption on the scheduled times: sorted by `(time, counter)`
and every counter below the next one.  (`Inv` adds "nothing is queued before the clock".) -/
structure InvQ (s : Sys) : Prop where
  sorted : Sorted s.queue
  ctr : ∀ q ∈ s.queue, q.ctr < s.ctr

theorem invQ_init : InvQ init := ⟨sorted_nil, List.forall_mem_nil _⟩

theorem invQ_addCallback (h : InvQ s) (time : Rat) (id : Nat) : InvQ (addCallback s time id) :=
  ⟨sorted_insert h.sorted fun q hq => Nat.ne_of_lt (h.ctr q hq),
    forall_mem_insert.mpr ⟨Nat.lt_succ_self _, fun q hq => Nat.lt_succ_of_lt (h.ctr q hq)⟩⟩

theorem invQ_addAll (h : InvQ s) (l : List (Rat × Nat)) : InvQ (addAll s l) := by
  induction l generalizing s with
  | nil => exact h
  | cons c cs ih => obtain ⟨a, b⟩ := c; exact ih (invQ_addCallback h a b)

theorem InvQ.advance (h : InvQ s) (dt : Rat) : InvQ (advance s dt).1 :=
  ⟨by rw [advance_queue]; exact h.sorted, by rw [advance_queue, advance_ctr]; exact h.ctr⟩

theorem InvQ.pop (hi : InvQ s) (hq : s.queue = e :: rest) :
    (∀ q ∈ rest, e.lt q) ∧ e.ctr < s.ctr ∧ InvQ (popped s e rest) := by
  have hs := hi.sorted
  rw [hq, sorted_cons] at hs
  have hc : ∀ q ∈ e :: rest, q.ctr < s.ctr := hq ▸ hi.ctr
  refine ⟨hs.1, hc e (List.mem_cons_self ..), ?_, ?_⟩
  · rw [popped_queue]; exact hs.2
  · rw [popped_queue, popped_ctr]; exact fun q h => hc q (List.mem_cons_of_mem _ h)

theorem next_invQ (hi : InvQ s) (hq : s.queue = e :: rest) : InvQ (next kids s e rest) :=
  invQ_addAll (hi.pop hq).2.2 _

theorem Runs.invQ (h : Runs K T fuel s r) (hi : InvQ s) : InvQ r.s := by
  induction h with
  | zero => exact hi
  | stop => exact hi.advance _
  | step hq _ _ ih => exact ih (next_invQ hi hq)

theorem Runs.queue_ge (h : Runs K T fuel s r) (hi : InvQ s) (hok : r.status = .ok) :
    ∀ q ∈ r.s.queue, T ≤ q.time := by
  induction h with
  | zero => cases hok
  | stop _ s hstop => rw [advance_queue]; exact hi.sorted.le_of_head hstop
  | step hq _ _ ih => exact ih (next_invQ hi hq) hok

/-- nothing is lost: what was queued is executed if due before the horizon, still queued if not -/
theorem Runs.queued_fired_or_pending (h : Runs (fun _ => kids) T fuel s r) (hi : InvQ s)
    (hok : r.status = .ok) :
    ∀ q ∈ s.queue, (q.time < T → q ∈ fired r.trace) ∧ (T ≤ q.time → q ∈ r.s.queue) := by
  -- `q` is executed or still queued (conservation); which of the two is decided by the horizon
  intro q hq
  have hm := List.mem_append.mp (h.perm.mem_iff.mpr (List.mem_append_left _ hq))
  exact ⟨fun hlt => hm.resolve_right fun h' => absurd (h.queue_ge hi hok q h') (not_le.mpr hlt),
    fun hge => hm.resolve_left fun h' => absurd (h.fired_lt_horizon q h') (not_lt.mpr hge)⟩

/-- `x` has left the queue of `s`: it is not queued and its counter has been handed out -/
def Gone (x : Entry) (s : Sys) : Prop := x ∉ s.queue ∧ x.ctr < s.ctr

theorem gone_next (hi : InvQ s) (hq : s.queue = e :: rest) {x : Entry} (hx : x = e ∨ Gone x s) :
    Gone x (next kids s e rest) := by
  obtain ⟨hlt, hc, -⟩ := hi.pop hq
  have h2 : x.ctr < s.ctr := by rcases hx with rfl | hx; exacts [hc, hx.2]
  refine ⟨fun hm => ?_, by rw [next_ctr]; exact Nat.lt_add_right _ h2⟩
  rcases mem_addAll hm with h' | ⟨h', -⟩
  · rw [popped_queue] at h'
    rcases hx with rfl | hx
    · exact Entry.lt_irrefl x (hlt x h')
    · exact hx.1 (hq ▸ List.mem_cons_of_mem _ h')
  · rw [popped_ctr] at h'; exact absurd h' (not_le.mpr h2)

/-- **No repetition**, whatever the callbacks schedule: what a run executes and what it leaves queued are
without repetition and carry counters handed out so far, and an entry that had left the queue before does
not come back. -/
theorem Runs.fresh (h : Runs K T fuel s r) (hi : InvQ s) :
    (fired r.trace ++ r.s.queue).Nodup ∧ (∀ x ∈ fired r.trace ++ r.s.queue, x.ctr < r.s.ctr) ∧
      ∀ x, Gone x s → x ∉ fired r.trace ++ r.s.queue ∧ x.ctr < r.s.ctr := by
  induction h with
  | zero => exact ⟨hi.sorted.nodup, hi.ctr, fun _ h => h⟩
  | stop =>
    simp only [advance_fired, advance_queue, advance_ctr, List.nil_append]
    exact ⟨hi.sorted.nodup, hi.ctr, fun _ h => h⟩
  | @step _ s e rest _ hq _ _ ih =>
    obtain ⟨hnd, hc, hold⟩ := ih (next_invQ hi hq)
    obtain ⟨he1, he2⟩ := hold e (gone_next hi hq (.inl rfl))
    rw [fired_fire, List.cons_append]
    refine ⟨List.nodup_cons.mpr ⟨he1, hnd⟩, List.forall_mem_cons.mpr ⟨he2, hc⟩, fun x hx => ?_⟩
    obtain ⟨hx1, hx2⟩ := hold x (gone_next hi hq (.inr hx))
    exact ⟨fun hm => (List.mem_cons.mp hm).elim (fun hxe => hx.1 (hxe ▸ hq ▸ List.mem_cons_self ..)) hx1, hx2⟩

theorem Runs.fired_nodup (h : Runs K T fuel s r) (hi : InvQ s) : (fired r.trace).Nodup :=
  (List.nodup_append.mp (h.fresh hi).1).1

theorem Runs.fired_not_queued (h : Runs K T fuel s r) (hi : InvQ s) : ∀ x ∈ fired r.trace, x ∉ r.s.queue :=
  fun x hx hq => (List.nodup_append.mp (h.fresh hi).1).2.2 x hx x hq rfl

theorem exactly_once_or_queued {F Q : List Entry} {T : Rat} (hnd : (F ++ Q).Nodup)
    (hQ : ∀ q ∈ Q, T ≤ q.time) {c : Entry} (hc : c ∈ F ++ Q) :
    (c.time < T → F.count c = 1 ∧ c ∉ Q) ∧ (c ∈ Q → T ≤ c.time ∧ F.count c = 0) ∧
      F.count c + Q.count c = 1 := by
  have hsum : F.count c + Q.count c = 1 := by rw [← List.count_append, hnd.count, if_pos hc]
  refine ⟨fun hlt => ?_, fun hq => ?_, hsum⟩
  · have hnq : c ∉ Q := fun h => absurd (hQ c h) (not_le.mpr hlt)
    rw [List.count_eq_zero.mpr hnq] at hsum
    exact ⟨hsum, hnq⟩
  · have := List.count_pos_iff.mpr hq
    exact ⟨hQ c hq, by omega⟩

theorem exactly_once_of_nodup {F Q : List Entry} {T : Rat} (hnd : (F ++ Q).Nodup)
    (hF : ∀ f ∈ F, f.time < T) (hQ : ∀ q ∈ Q, T ≤ q.time) {c : Entry} (hc : c ∈ F ++ Q) :
    (c.time < T → F.count c = 1 ∧ c ∉ Q) ∧ (T ≤ c.time → c ∈ Q ∧ F.count c = 0) := by
  obtain ⟨h1, h2, -⟩ := exactly_once_or_queued hnd hQ hc
  refine ⟨h1, fun hge => ?_⟩
  have hq : c ∈ Q := (List.mem_append.mp hc).resolve_left fun hf => absurd (hF c hf) (not_lt.mpr hge)
  exact ⟨hq, (h2 hq).2⟩

/-- State invariant: sorted queue, counters below the next counter, nothing scheduled in the past. -/
structure Inv (s : Sys) : Prop where
  sorted : Sorted s.queue
  ctr : ∀ q ∈ s.queue, q.ctr < s.ctr
  future : ∀ q ∈ s.queue, s.t ≤ q.time

theorem Inv.toQ (h : Inv s) : InvQ s := ⟨h.sorted, h.ctr⟩

theorem InvQ.toInv (h : InvQ s) (hf : ∀ q ∈ s.queue, s.t ≤ q.time) : Inv s := ⟨h.sorted, h.ctr, hf⟩

theorem inv_init : Inv init := invQ_init.toInv (List.forall_mem_nil _)

theorem inv_addCallback (h : Inv s) (time : Rat) (id : Nat) (ht : s.t ≤ time) :
    Inv (addCallback s time id) :=
  (invQ_addCallback h.toQ time id).toInv (forall_mem_insert.mpr ⟨ht, h.future⟩)

theorem inv_addAll (h : Inv s) (l : List (Rat × Nat)) (ht : ∀ c ∈ l, s.t ≤ c.1) : Inv (addAll s l) := by
  refine (invQ_addAll h.toQ l).toInv fun q hq => ?_
  rw [addAll_t]
  rcases mem_addAll hq with hq | ⟨-, hq⟩
  · exact h.future q hq
  · exact ht (q.time, q.id) hq

theorem nodup_queue_spawned {kids : Entry → List (Rat × Nat)} {s : Sys} (hi : Inv s) (l : List Entry) :
    (s.queue ++ spawned kids s.ctr l).Nodup := by
  refine List.nodup_append.mpr ⟨hi.sorted.nodup, ?_, ?_⟩
  · apply nodup_of_ctr_nodup; rw [spawned_ctr]; exact List.nodup_range'
  · rintro a ha b hb rfl
    exact absurd (mem_spawned hb).2 (not_le.mpr (hi.ctr a ha))

theorem Inv.advance (h : Inv s) {τ : Rat} (hτ : s.t ≤ τ) (hq : ∀ q ∈ s.queue, τ ≤ q.time) :
    Inv (advance s (τ - s.t)).1 :=
  (h.toQ.advance _).toInv fun q hm => (advance_lag s τ hτ).1.trans (hq q (by rwa [advance_queue] at hm))

theorem next_inv (hk : WF kids) (hi : Inv s) (hq : s.queue = e :: rest) :
    Inv (next kids s e rest) ∧ (popped s e rest).t ≤ e.time := by
  have het : s.t ≤ e.time := hi.future e (hq ▸ List.mem_cons_self ..)
  obtain ⟨hlt, -, hp⟩ := hi.toQ.pop hq
  have hle : (popped s e rest).t ≤ e.time := (advance_lag { s with queue := rest } e.time het).1
  refine ⟨inv_addAll (hp.toInv fun q hm => hle.trans ?_) _ fun c hc => hle.trans (hk e c hc), hle⟩
  rw [popped_queue] at hm
  exact Entry.time_le_of_lt (hlt q hm)

theorem Runs.inv (h : Runs (fun _ => kids) T fuel s r) (hk : WF kids) (hi : Inv s) (hT : s.t ≤ T) :
    Inv r.s := by
  induction h with
  | zero => exact hi
  | stop _ s hstop => exact hi.advance hT (hi.sorted.le_of_head hstop)
  | step hq ht _ ih =>
    obtain ⟨hi', h1⟩ := next_inv hk hi hq
    exact ih hi' (by rw [next_t]; exact h1.trans (le_of_lt ht))

theorem Runs.fire_clock_le (h : Runs (fun _ => kids) T fuel s r) (hk : WF kids) (hi : Inv s) :
    ∀ e clk, Event.fire e clk ∈ r.trace → clk ≤ e.time := by
  induction h with
  | zero => intro _ _ h; cases h
  | stop _ s => exact fun e clk h => absurd h (not_fire_mem_advance _ _ _ _)
  | step hq _ _ ih =>
    intro e' clk h
    obtain ⟨hi', h1⟩ := next_inv hk hi hq
    rcases mem_fire_cons h with ⟨rfl, rfl⟩ | h
    · exact h1
    · exact ih hi' e' clk h

/-- `b` is strictly below everything that is or can still get into the queue of `s` -/
def Below (b : Entry) (s : Sys) : Prop := (∀ q ∈ s.queue, b.lt q) ∧ b.ctr < s.ctr

theorem below_next {b : Entry} (hk : WF kids) (hb1 : ∀ q ∈ rest, b.lt q) (hb2 : b.ctr < s.ctr)
    (hb3 : b.time ≤ e.time) : Below b (next kids s e rest) := by
  refine ⟨fun q hq' => ?_, by rw [next_ctr]; exact Nat.lt_add_right _ hb2⟩
  rcases mem_addAll hq' with h | ⟨h1, h2⟩
  · rw [popped_queue] at h; exact hb1 q h
  · rw [popped_ctr] at h1
    exact Entry.lt_of_le_of_ctr (hb3.trans (hk e (q.time, q.id) h2)) (lt_of_lt_of_le hb2 h1)

/-- **Order.**  The executed callbacks ran in strict `(time, counter)` order, above every entry that lies
below the start state (so they extend any sorted list of such entries: everything executed by earlier
calls, for the order across calls). -/
theorem Runs.sorted (h : Runs (fun _ => kids) T fuel s r) (hk : WF kids) (hi : InvQ s) :
    Sorted (fired r.trace) ∧ ∀ b, Below b s → ∀ f ∈ fired r.trace, b.lt f := by
  induction h with
  | zero => exact ⟨sorted_nil, fun _ _ => List.forall_mem_nil _⟩
  | stop => rw [advance_fired]; exact ⟨sorted_nil, fun _ _ => List.forall_mem_nil _⟩
  | @step _ s e rest _ hq _ _ ih =>
    obtain ⟨hlt, hc, -⟩ := hi.pop hq
    obtain ⟨h1, h2⟩ := ih (next_invQ hi hq)
    rw [fired_fire]
    -- `e` is below the rest of the queue and, by `WF`, below whatever gets scheduled from now on
    refine ⟨sorted_cons.mpr ⟨h2 e (below_next hk hlt hc (le_refl _)), h1⟩, fun b hb => ?_⟩
    have hbe : b.lt e := hb.1 e (hq ▸ List.mem_cons_self ..)
    exact List.forall_mem_cons.mpr ⟨hbe, h2 b (below_next hk
      (fun q h => hb.1 q (hq ▸ List.mem_cons_of_mem _ h)) hb.2 (Entry.time_le_of_lt hbe))⟩

theorem Runs.clock_end (h : Runs K T fuel s r) (hT : s.t ≤ T) :
    r.s.t ≤ T ∧ (r.status = .ok → T - r.s.t ≤ eps) := by
  induction h with
  | zero => exact ⟨hT, nofun⟩
  | stop _ s => exact ⟨(advance_lag s T hT).1, fun _ => (advance_lag s T hT).2⟩
  | @step _ s e rest _ _ ht _ ih =>
    exact ih (by rw [next_t]; exact popped_le_of_le rest hT (le_of_lt ht))

/-- the clock ends at `T` when the last stretch, from the clock the last callback saw, exceeds the
threshold, and rests where that callback saw it otherwise -/
theorem Runs.final_clock (h : Runs K T fuel s r) (hok : r.status = .ok) :
    r.s.t = if eps < T - lastFireClock s.t r.trace then T else lastFireClock s.t r.trace := by
  induction h with
  | zero => cases hok
  | stop _ s => simp only [lastFireClock_advance]; exact advance_to_t s T
  | @step _ s e rest _ _ _ _ ih =>
    simp only [lastFireClock_append_fire]
    rw [← next_t (K (popped s e rest).t)]; exact ih hok

theorem loop_idle (kids : Entry → List (Rat × Nat)) (T : Rat) (fuel : Nat) (s : Sys)
    (hq : ∀ q ∈ s.queue, T ≤ q.time) (ht : T - s.t ≤ eps) :
    loop kids T (fuel + 1) s = ⟨.ok, s, []⟩ := by
  have hadv : advance s (T - s.t) = (s, []) := if_neg (not_lt.mpr ht)
  rw [loop_stop fun e he => hq e (List.mem_of_mem_head? he), hadv]

theorem Runs.fired_length (h : Runs K T fuel s r) :
    (r.status = .ok → (fired r.trace).length < fuel) ∧
      (r.status = .outOfFuel → (fired r.trace).length = fuel) := by
  induction h with
  | zero => exact ⟨nofun, fun _ => rfl⟩
  | stop => rw [advance_fired]; exact ⟨fun _ => Nat.succ_pos _, nofun⟩
  | step _ _ _ ih =>
    simp only [fired_fire, List.length_cons]
    exact ⟨fun h => Nat.succ_lt_succ (ih.1 h), fun h => congrArg (· + 1) (ih.2 h)⟩

/-- the callback behaviour "re-insert yourself for the very same instant" -/
def selfNow : Entry → List (Rat × Nat) := fun e => [(e.time, e.id)]

theorem selfNow_diverges (T : Rat) (fuel : Nat) (s : Sys) (e : Entry) (hq : s.queue = [e])
    (ht : e.time < T) : (loop selfNow T fuel s).status = .outOfFuel ∧
      (fired (loop selfNow T fuel s).trace).length = fuel := by
  induction fuel generalizing s e with
  | zero => exact ⟨rfl, rfl⟩
  | succ fuel ih =>
    have hn : (next selfNow s e []).queue = [⟨e.time, s.ctr, e.id⟩] := by
      simp only [next, selfNow, addAll, addCallback, popped_queue, popped_ctr, insert]
    obtain ⟨h1, h2⟩ := ih (next selfNow s e []) ⟨e.time, s.ctr, e.id⟩ hn ht
    rw [loop_cons hq ht]
    exact ⟨h1, by simp only [fired_fire, List.length_cons, h2]⟩

end HcipyVerif.Scheduler
