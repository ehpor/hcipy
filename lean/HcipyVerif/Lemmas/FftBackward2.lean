import HcipyVerif.Lemmas.FftPipeline2
import HcipyVerif.Model.FftIndex2b

/-!
# Two axes, backward: separability and the 2-D backward sum
-/

namespace HcipyVerif.Fft
open Finset

variable {K C : Type} [Field K] [Field C] {T E : K → C}

/-- **Separability of `backward`**: the literal 2-D pipeline is the 1-D pipeline along `x`
followed by the 1-D pipeline along `y`. -/
theorem fastBackward2_eq_iter (hT : IsChar T) (hE : IsChar E) (gy gx : Cfg K C)
    (hemu : gy.emu = gx.emu) (F : ℕ → ℕ → C) (jy jx : ℕ) :
    fastBackward2 T E gy gx F jy jx = fastBackward2Iter T E gy gx F jy jx := by
  unfold fastBackward2Iter
  rw [fastBackward_eq_run, fastBackward_eq_run, hemu, ← Pipe.run2_eq_iter]
  simp only [fastBackward2, Pipe.run2, Cfg.bwd, inMult2_eq hT hE gy gx hemu,
    outMult2_eq hT hE gy gx hemu, mul_inv]

/-- **`FastFourierTransform.backward` on a 2-D grid = the 2-D backward sum** with the output weight
`woy·wox = Δy·Δx/(2π)²`. -/
theorem fastBackward2_eq_sum (hT : IsChar T) (hE : IsChar E) (hper : ∀ n : ℤ, T (n : K) = 1)
    (gy gx : Cfg K C) (hemu : gy.emu = gx.emu)
    (hNy : gy.N ≤ gy.M) (hMoy : gy.Mo ≤ gy.M) (hcy : gy.dT * (gy.M : K) * gy.δ = 1)
    (hNx : gx.N ≤ gx.M) (hMox : gx.Mo ≤ gx.M) (hcx : gx.dT * (gx.M : K) * gx.δ = 1)
    (woy wox : C) (hwy : woy * (gy.M : C) * gy.w = 1) (hwx : wox * (gx.M : C) * gx.w = 1)
    (F : ℕ → ℕ → C) (jy jx : ℕ) (hjy : jy < gy.N) (hjx : jx < gx.N) :
    fastBackward2 T E gy gx F jy jx
      = ∑ ky ∈ range gy.Mo, ∑ kx ∈ range gx.Mo, F ky kx * (woy * wox) *
          (T (gx.a kx * gx.x jx + gy.a ky * gy.x jy) * E (gx.s * gx.x jx + gy.s * gy.x jy)) := by
  rw [fastBackward2_eq_iter hT hE gy gx hemu, fastBackward2Iter]
  simp only [fastBackward_eq_sumBackward hT hE hper gy hNy hMoy hcy woy hwy _ jy hjy,
    fastBackward_eq_sumBackward hT hE hper gx hNx hMox hcx wox hwx _ jx hjx, sumBackward,
    sumRange_eq, Finset.sum_mul]
  refine Finset.sum_congr rfl fun ky _ => Finset.sum_congr rfl fun kx _ => ?_
  rw [hT.add, hE.add]; ring

end HcipyVerif.Fft
