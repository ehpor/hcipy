import HcipyVerif.Model.FftIndex

/-!
# MatrixFourierTransform — executable model, core Lean only

Follows `MatrixFourierTransform._compute_matrices`, `forward`, `backward`
(`hcipy/fourier/matrix_fourier_transform.py`) line by line, including the transposes of the
hand-coded BLAS calls.  Polymorphic in the coordinates `K` and the values `C`; `exp` enters through
the character `E : K → C`, `E r = exp(i·r)`; complex conjugation is the parameter `cj : C → C`
(executable: `PSum.conj`, phase negation; proofs: any map with `cj (E a) = E (-a)`, in particular
`starRingEnd ℂ`).

Conventions (ndim = 2): input separated coordinates `x` (`Nx` samples), `y` (`Ny`), output `u`
(`Nu`), `v` (`Nv`).  `shape_input = (Ny, Nx)`, a flat field has index `iy*Nx + ix` (x fastest),
`shape_output = (Nv, Nu)`, flat output index `iv*Nu + iu`.
-/
set_option linter.unusedVariables false

namespace HcipyVerif.Fft

/-- `weights_input` / `weights_output` after the "all the same → scalar" reduction of
`_compute_matrices`: either a scalar or a flat array. -/
inductive Weights (C : Type) where
  | scalar (w0 : C)
  | array (w : Nat → C)

section
variable {K C : Type} [Mul K] [Neg K] [Zero C] [One C] [Add C] [Mul C]

/-- a matrix is a function of (row, column) -/
abbrev Mat (C : Type) := Nat → Nat → C

/-- `a.T` -/
def Mat.tr (a : Mat C) : Mat C := fun i j => a j i
/-- `a.conj().T` (BLAS `trans = 2`) -/
def Mat.ctr (cj : C → C) (a : Mat C) : Mat C := fun i j => cj (a j i)

/-- `field.reshape((nrows, ncols))`, C order -/
def reshape2 (ncols : Nat) (f : Nat → C) : Mat C := fun i j => f (i * ncols + j)
/-- `a.reshape(-1)` for a C-ordered `(·, ncols)` array -/
def flatten2 (ncols : Nat) (a : Mat C) : Nat → C := fun k => a (k / ncols) (k % ncols)

/-- BLAS `gemm(alpha, a, b)` = `alpha · a @ b` with inner dimension `n` -/
def gemm (alpha : C) (n : Nat) (a b : Mat C) : Mat C :=
  fun i j => alpha * sumRange n fun k => a i k * b k j

variable (E : K → C)

/-- `M1 = exp(-1j * np.outer(v, y))`, shape `(Nv, Ny)` -/
def mftM1 (v y : Nat → K) : Mat C := fun iv iy => E (-(v iv * y iy))
/-- `M2 = exp(-1j * np.outer(x, u))`, shape `(Nx, Nu)` -/
def mftM2 (x u : Nat → K) : Mat C := fun ix iu => E (-(x ix * u iu))
/-- ndim = 1: `M = exp(-1j * np.outer(output_grid.x, input_grid.x))`, shape `(Nu, Nx)` -/
def mftM (u x : Nat → K) : Mat C := fun iu ix => E (-(u iu * x ix))

/-- the `if np.isscalar(weights)` branch: the reshaped operand `f` and `alpha` -/
def mftOperand (ncols : Nat) (w : Weights C) (field : Nat → C) : Mat C × C :=
  match w with
  | .scalar w0 => (reshape2 ncols field, w0)
  | .array wa => (reshape2 ncols (fun i => field i * wa i), 1)

/-- `MatrixFourierTransform.forward`, ndim = 2.
```
gemm(1, M2.T, f.T, c=intermediate_array.T, overwrite_c=True)
res = gemm(alpha, intermediate_array.T, M1.T).T.reshape(-1)
``` -/
def mftForward (Nx Ny Nu Nv : Nat) (x y u v : Nat → K) (w : Weights C) (field : Nat → C) :
    Nat → C :=
  let M1 : Mat C := mftM1 E v y
  let M2 : Mat C := mftM2 E x u
  let (f, alpha) := mftOperand Nx w field
  let intermediateT : Mat C := gemm 1 Nx M2.tr f.tr
  flatten2 Nu (gemm alpha Ny intermediateT M1.tr).tr

/-- `MatrixFourierTransform.backward`, ndim = 2; `wOut` is `weights_output`
(= `output_grid.weights / (2π)^2`, passed in as given numbers).
```
gemm(1, f.T, M1.T, trans_b=2, c=intermediate_array.T, overwrite_c=True)
res = gemm(alpha, M2.T, intermediate_array.T, trans_a=2).T.reshape(-1)
``` -/
def mftBackward (cj : C → C) (Nx Ny Nu Nv : Nat) (x y u v : Nat → K) (wOut : Weights C)
    (field : Nat → C) : Nat → C :=
  let M1 : Mat C := mftM1 E v y
  let M2 : Mat C := mftM2 E x u
  let (f, alpha) := mftOperand Nu wOut field
  let intermediateT : Mat C := gemm 1 Nv f.tr (Mat.ctr cj M1.tr)
  flatten2 Nx (gemm alpha Nu (Mat.ctr cj M2.tr) intermediateT).tr

/-- the flat weights array as seen by `field * weights` (NumPy broadcasting of a scalar) -/
def Weights.get (w : Weights C) (i : Nat) : C :=
  match w with
  | .scalar w0 => w0
  | .array wa => wa i

/-- `forward`, ndim = 1: `f = field * weights_input; res = np.dot(M, f)` -/
def mftForward1 (Nx : Nat) (x u : Nat → K) (w : Weights C) (field : Nat → C) : Nat → C :=
  let M : Mat C := mftM E u x
  let f : Nat → C := fun i => field i * w.get i
  fun iu => sumRange Nx fun ix => M iu ix * f ix

/-- `backward`, ndim = 1: `f = field * weights_output; res = np.dot(M.conj().T, f)` -/
def mftBackward1 (cj : C → C) (Nu : Nat) (x u : Nat → K) (wOut : Weights C) (field : Nat → C) :
    Nat → C :=
  let M : Mat C := mftM E u x
  let f : Nat → C := fun i => field i * wOut.get i
  fun ix => sumRange Nu fun iu => Mat.ctr cj M ix iu * f iu

/-- the defining sum, forward, ndim = 2:
`Σ_iy Σ_ix f[iy*Nx+ix]·w[iy*Nx+ix]·exp(-i(u·x + v·y))` at flat output index `k = iv*Nu + iu` -/
def mftSumForward [Add K] (Nx Ny Nu : Nat) (x y u v : Nat → K) (w : Weights C) (field : Nat → C)
    (k : Nat) : C :=
  sumRange Ny fun iy => sumRange Nx fun ix =>
    field (iy * Nx + ix) * w.get (iy * Nx + ix) * E (-(u (k % Nu) * x ix + v (k / Nu) * y iy))

/-- the defining sum, backward, ndim = 2, at flat input index `k = iy*Nx + ix` -/
def mftSumBackward [Add K] (Nx Nu Nv : Nat) (x y u v : Nat → K) (wOut : Weights C)
    (field : Nat → C) (k : Nat) : C :=
  sumRange Nv fun iv => sumRange Nu fun iu =>
    field (iv * Nu + iu) * wOut.get (iv * Nu + iu) * E (u iu * x (k % Nx) + v iv * y (k / Nx))

end

/-- complex conjugation on formal phase sums: negate every phase -/
def PSum.conj (a : PSum) : PSum :=
  ⟨a.terms.map fun x => ⟨x.c, fracPart (-x.t), -x.r⟩⟩

/-! ## The executable instances (`K = Rat`, `C = PSum`, `E = PSum.rad`) -/

/-- weights from a list of rationals: a single entry is the scalar branch -/
def Weights.ofRats (l : List Rat) : Weights PSum :=
  match l with
  | [w0] => .scalar (PSum.ofRat w0)
  | _ => .array fun i => PSum.ofRat (l.getD i 0)

def coordOf (l : List Rat) (i : Nat) : Rat := l.getD i 0

/-- `forward` of the unit impulse at flat index `j`, all `Nv*Nu` output samples -/
def mftForwardImpulse (x y u v : List Rat) (w : List Rat) (j : Nat) : List PSum :=
  (List.range (v.length * u.length)).map
    (mftForward PSum.rad x.length y.length u.length v.length (coordOf x) (coordOf y) (coordOf u)
      (coordOf v) (Weights.ofRats w) (PSum.impulse j))

/-- `backward` of the unit impulse at flat index `j`, all `Ny*Nx` output samples -/
def mftBackwardImpulse (x y u v : List Rat) (wOut : List Rat) (j : Nat) : List PSum :=
  (List.range (y.length * x.length)).map
    (mftBackward PSum.rad PSum.conj x.length y.length u.length v.length (coordOf x) (coordOf y)
      (coordOf u) (coordOf v) (Weights.ofRats wOut) (PSum.impulse j))

/-- right-hand side of `mft_forward_eq_sum_2d_get` for the unit impulse -/
def mftSumForwardImpulse (x y u v : List Rat) (w : List Rat) (j : Nat) : List PSum :=
  (List.range (v.length * u.length)).map
    (mftSumForward PSum.rad x.length y.length u.length (coordOf x) (coordOf y) (coordOf u)
      (coordOf v) (Weights.ofRats w) (PSum.impulse j))

/-- right-hand side of `mft_backward_eq_sum_2d_get` for the unit impulse -/
def mftSumBackwardImpulse (x y u v : List Rat) (wOut : List Rat) (j : Nat) : List PSum :=
  (List.range (y.length * x.length)).map
    (mftSumBackward PSum.rad x.length u.length v.length (coordOf x) (coordOf y) (coordOf u)
      (coordOf v) (Weights.ofRats wOut) (PSum.impulse j))

def mftForward1Impulse (x u : List Rat) (w : List Rat) (j : Nat) : List PSum :=
  (List.range u.length).map
    (mftForward1 PSum.rad x.length (coordOf x) (coordOf u) (Weights.ofRats w) (PSum.impulse j))

def mftBackward1Impulse (x u : List Rat) (wOut : List Rat) (j : Nat) : List PSum :=
  (List.range x.length).map
    (mftBackward1 PSum.rad PSum.conj u.length (coordOf x) (coordOf u) (Weights.ofRats wOut)
      (PSum.impulse j))

end HcipyVerif.Fft
