import HcipyVerif.Lemmas.SchedulerHist

/-! C20, callbacks that read the clock (`loopC`, `stepOpC`, `runOpsC`) and their replay through
`loop` / `stepOp` / `runOps` with the table of what each executed callback scheduled. -/

namespace HcipyVerif.Scheduler

theorem evolveUntilC_backwards {kidsC : Rat → Entry → List (Rat × Nat)} {fuel : Nat} {s : Sys} {T : Rat}
    (h : T < s.t) : evolveUntilC kidsC fuel s T = ⟨.backwards, s, []⟩ :=
  if_pos h

theorem evolveUntilC_forward {kidsC : Rat → Entry → List (Rat × Nat)} {fuel : Nat} {s : Sys} {T : Rat}
    (h : s.t ≤ T) : evolveUntilC kidsC fuel s T = loopC kidsC T fuel s :=
  if_neg (not_lt.mpr h)

theorem tableKids_fireTable (kidsC : Rat → Entry → List (Rat × Nat)) (tr : List Event)
    (hnd : (fired tr).Nodup) :
    ∀ e clk, Event.fire e clk ∈ tr → tableKids (fireTable kidsC tr) e = kidsC clk e := by
  fun_induction fireTable kidsC tr with
  | case1 => intro e clk hm; cases hm
  | case2 _ tr ih => exact fun e clk hm => ih hnd e clk ((List.mem_cons.mp hm).resolve_left nofun)
  | case3 e' c' tr ih =>
    intro e clk hm
    obtain ⟨h1, h2⟩ := List.nodup_cons.mp hnd
    rcases List.mem_cons.mp hm with h | hm
    · cases h; simp [tableKids]
    · have hne : e' ≠ e := fun hh => h1 (hh ▸ mem_fired_of_fire hm)
      have := ih h2 e clk hm
      simp only [tableKids] at this ⊢
      simp [hne, this]

theorem tableKids_append (a b : List (Entry × List (Rat × Nat))) (e : Entry) :
    tableKids (a ++ b) e = if e ∈ a.map (·.1) then tableKids a e else tableKids b e := by
  unfold tableKids
  rw [List.find?_append]
  cases h : a.find? (fun p => decide (p.1 = e)) with
  | none =>
    have : e ∉ a.map (·.1) := fun hm => by
      obtain ⟨p, hp, rfl⟩ := List.mem_map.mp hm
      simpa using List.find?_eq_none.mp h p hp
    rw [if_neg this]; rfl
  | some p =>
    have : e ∈ a.map (·.1) := List.mem_map.mpr ⟨p, List.mem_of_find?_eq_some h, by simpa using List.find?_some h⟩
    rw [if_pos this]; rfl

/-- `pre`: the driver accumulates one table over a history, so the rows of this run come after those
of earlier calls. -/
theorem loopC_eq_loop_table' (kidsC : Rat → Entry → List (Rat × Nat)) (T : Rat) (fuel : Nat) (s : Sys)
    (hi : InvQ s) (pre : List (Entry × List (Rat × Nat)))
    (hpre : ∀ p ∈ pre, p.1 ∉ fired (loopC kidsC T fuel s).trace) :
    loop (tableKids (pre ++ fireTable kidsC (loopC kidsC T fuel s).trace)) T fuel s =
      loopC kidsC T fuel s :=
  (loopC_runs kidsC T fuel s).eq_loop fun e clk hm => by
    rw [tableKids_append, if_neg fun he => by
      obtain ⟨p, hp, rfl⟩ := List.mem_map.mp he
      exact hpre p hp (mem_fired_of_fire hm)]
    exact tableKids_fireTable kidsC _ ((loopC_runs kidsC T fuel s).fired_nodup hi) e clk hm

theorem fireTable_keys (kidsC : Rat → Entry → List (Rat × Nat)) (tr : List Event) :
    (fireTable kidsC tr).map (·.1) = fired tr := by
  fun_induction fireTable kidsC tr <;> simp [fired, *]

/-- a call consults the callbacks only at the entries it executes -/
theorem stepOp_congr_fired (K K' : Entry → List (Rat × Nat)) (fuel : Nat) (h : Hist) (T : Rat)
    (hk : ∀ x ∈ fired (evolveUntil K' fuel h.s T).trace, K x = K' x) :
    stepOp K fuel h (.evolve T) = stepOp K' fuel h (.evolve T) := by
  have hr : evolveUntil K fuel h.s T = evolveUntil K' fuel h.s T := by
    rcases lt_or_ge T h.s.t with hT | hT
    · simp only [evolveUntil_backwards hT]
    · simp only [evolveUntil_forward hT] at hk ⊢
      exact (loop_runs K' T fuel h.s).eq_loop fun e _ hm => hk e (mem_fired_of_fire hm)
  simp only [stepOp, hr]
  rw [spawned_congr _ _ hk]

/-- rows of entries that had left the queue before the call (`pre`) are not consulted: such an entry is
not executed again -/
theorem evolveUntilC_eq_table' (kidsC : Rat → Entry → List (Rat × Nat)) (fuel : Nat) (s : Sys) (T : Rat)
    (hi : InvQ s) (pre : List (Entry × List (Rat × Nat))) (hpre : ∀ p ∈ pre, Gone p.1 s) :
    evolveUntil (tableKids (pre ++ fireTable kidsC (evolveUntilC kidsC fuel s T).trace)) fuel s T =
      evolveUntilC kidsC fuel s T := by
  rcases lt_or_ge T s.t with hT | hT
  · rw [evolveUntilC_backwards hT, evolveUntil_backwards hT]
  · simp only [evolveUntilC_forward hT, evolveUntil_forward hT]
    exact loopC_eq_loop_table' kidsC T fuel s hi pre fun p hp hm =>
      (((loopC_runs kidsC T fuel s).fresh hi).2.2 p.1 (hpre p hp)).1 (List.mem_append_left _ hm)

/-- the invariant of a history with clock-reading callbacks: the queue invariant, and every entry
with a row in the table has been executed — it is not queued and its counter is used up -/
structure InvC (hc : HistC) : Prop where
  q : InvQ hc.h.s
  old : ∀ p ∈ hc.tbl, Gone p.1 hc.h.s

theorem invC_init : InvC hinitC := ⟨invQ_init, by simp [hinitC]⟩

theorem invC_step (kidsC : Rat → Entry → List (Rat × Nat)) (fuel : Nat) (hc : HistC) (hi : InvC hc)
    (op : Op) : InvC (stepOpC kidsC fuel hc op) := by
  cases op with
  | add time id =>
    refine ⟨invQ_addCallback hi.q time id, fun p hp => ⟨fun hm => ?_, Nat.lt_succ_of_lt (hi.old p hp).2⟩⟩
    rcases mem_insert.mp hm with h | h
    · exact absurd (h ▸ (hi.old p hp).2) (Nat.lt_irrefl _)
    · exact (hi.old p hp).1 h
  | evolve T =>
    -- the step is `stepOp K` for `K` the new table read as callbacks, and its run is the `kidsC` run
    have hrun := evolveUntilC_eq_table' kidsC fuel hc.h.s T hi.q hc.tbl hi.old
    rcases lt_or_ge T hc.h.s.t with hT | hT
    · simp only [stepOpC, stepOp_backwards _ fuel hc.h T hT, evolveUntilC_backwards hT, fireTable,
        List.append_nil]
      exact hi
    · simp only [stepOpC, stepOp_forward _ fuel hc.h T hT]
      rw [evolveUntil_forward hT] at hrun
      obtain ⟨-, hlt, hold⟩ := (loop_runs _ T fuel _).fresh hi.q
      refine ⟨(loop_runs _ T fuel _).invQ hi.q, fun p hp => ?_⟩
      rcases List.mem_append.mp hp with hp | hp
      · exact (hold p.1 (hi.old p hp)).imp_left fun h hm => h (List.mem_append_right _ hm)
      · -- a row of this call: its entry has just been executed
        have hf := List.mem_map_of_mem (f := (·.1)) hp
        rw [fireTable_keys, ← hrun] at hf
        exact ⟨(loop_runs _ T fuel _).fired_not_queued hi.q p.1 hf, hlt p.1 (List.mem_append_left _ hf)⟩

/-- the call consults the table only at the entries it executes, and these have their rows: rows
appended later (`ext`) do not matter -/
theorem stepOpC_h_eq {kidsC : Rat → Entry → List (Rat × Nat)} {fuel : Nat} {hc : HistC} (hi : InvC hc)
    (op : Op) (ext : List (Entry × List (Rat × Nat))) :
    stepOp (tableKids ((stepOpC kidsC fuel hc op).tbl ++ ext)) fuel hc.h op = (stepOpC kidsC fuel hc op).h := by
  cases op with
  | add t id => rfl
  | evolve T =>
    refine stepOp_congr_fired _ _ fuel hc.h T fun x hx => (tableKids_append _ ext x).trans (if_pos ?_)
    -- what the replayed call executes is what the `kidsC` run executes, and these are the keys of the new rows
    rw [evolveUntilC_eq_table' kidsC fuel hc.h.s T hi.q hc.tbl hi.old] at hx
    simp only [stepOpC, List.map_append, fireTable_keys]
    exact List.mem_append_right _ hx

theorem runOpsC_snoc (kidsC : Rat → Entry → List (Rat × Nat)) (fuel : Nat) (hc : HistC) (ops : List Op) (op : Op) :
    runOpsC kidsC fuel hc (ops ++ [op]) = stepOpC kidsC fuel (runOpsC kidsC fuel hc ops) op :=
  List.foldl_append

/-- rows appended after the history (`ext`) do not matter -/
theorem runOpsC_eq_runOps' (kidsC : Rat → Entry → List (Rat × Nat)) (fuel : Nat) {hc : HistC} (hi : InvC hc)
    (ops : List Op) :
    InvC (runOpsC kidsC fuel hc ops) ∧
      ∀ ext, runOps (tableKids ((runOpsC kidsC fuel hc ops).tbl ++ ext)) fuel hc.h ops =
        (runOpsC kidsC fuel hc ops).h := by
  induction ops using List.reverseRecOn with
  | nil => exact ⟨hi, fun _ => rfl⟩
  | append_singleton ops op ih =>
    rw [runOpsC_snoc]
    refine ⟨invC_step kidsC fuel _ ih.1 op, fun ext => ?_⟩
    rw [runOps_snoc, ← stepOpC_h_eq ih.1 op ext]
    congr 1
    -- the rows of this call come after those of the calls before
    cases op with
    | add t id => exact ih.2 ext
    | evolve T => exact (List.append_assoc ..).symm ▸ ih.2 _

/-- the docstring idiom: re-insert a quarter after the *clock* -/
def everyQuarterOfClock : Rat → Entry → List (Rat × Nat) := fun clk e => [(clk + 1/4, e.id)]

/-- ... and its entry-only reading: a quarter after the callback's own time -/
def everyQuarter : Entry → List (Rat × Nat) := fun e => [(e.time + 1/4, e.id)]

/-- two callbacks half a threshold apart: the second runs with the clock resting at the first's time -/
def twoClose : Sys := addCallback (addCallback init 1 0) (1 + eps / 2) 1

end HcipyVerif.Scheduler
