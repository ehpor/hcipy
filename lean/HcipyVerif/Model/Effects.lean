/-!
# C06 — a store-effect IR for what one `forward`/`backward` call does to Python objects

A call receives one wavefront object (object `0`, whose electric field lives in buffer `0`) and may
* deep-copy a wavefront (`wf = wavefront.copy()`),
* build a new `Wavefront` around an *existing* array (`Wavefront(wavefront.electric_field, …)`: the
  new object shares the buffer — `Wavefront.electric_field`'s setter uses `astype(copy=False)`),
* build a new wavefront from a computed array (`Wavefront(Field(U_new, grid), …)`),
* bind a second name to an object (`wf = wavefront`),
* update an array in place (`wf.electric_field *= a`, `np.subtract(a, b, out=c)`, `x[:] = …`),
* replace the array of a wavefront (`wf.electric_field = field_dot(J, wf.electric_field)`),
* read an attribute into a local (`wavelength = wavefront.wavelength`), overwrite an attribute with a
  constant (`wavefront.wavelength = 1`) or with a saved local (`wavefront.wavelength = wavelength`),
and finally returns one of its local names.

`Instr`/`Prog` is that vocabulary, `exec` its semantics on an explicit store, `safe` a static
checker.  `safe_sound` (Properties/C06.lean) says a safe program leaves the input object and its
buffer exactly as they were, for every input value and every interpretation `sem` of the array
operations; `repeatable` follows.  Element-internal state (instance caches, cached mirror surfaces)
is *not* part of this model — it is C05's subject and is exercised behaviourally by the C06 harness.
Core Lean only.
-/
namespace HcipyVerif.Effects

abbrev Var := Nat

inductive Attr where
  | wavelength | stokes | grid
  deriving DecidableEq, Repr

/-- A wavefront object: which buffer holds its field, and its other attributes (abstract values). -/
structure Obj where
  buf : Nat
  wavelength : Int
  stokes : Int
  grid : Int
  deriving DecidableEq, Repr

def Obj.get (o : Obj) : Attr → Int
  | .wavelength => o.wavelength
  | .stokes => o.stokes
  | .grid => o.grid

def Obj.set (o : Obj) (a : Attr) (v : Int) : Obj :=
  match a with
  | .wavelength => { o with wavelength := v }
  | .stokes => { o with stokes := v }
  | .grid => { o with grid := v }

inductive Instr where
  /-- `d = s.copy()` : new object, new buffer with the same contents -/
  | copy (d s : Var)
  /-- `d = Wavefront(s.electric_field, …)` : new object sharing `s`'s buffer -/
  | wrap (d s : Var)
  /-- `d = Wavefront(Field(op(args…)), …)` : new object, new buffer; attributes taken from `like` -/
  | newFrom (d : Var) (op : Nat) (args : List Var) (like : Var)
  /-- `d = s` -/
  | bind (d s : Var)
  /-- `t.electric_field <op>= args…` / `np.op(args…, out=t.electric_field)` -/
  | inplace (op : Nat) (t : Var) (args : List Var)
  /-- `t.electric_field = op(args…)` : `t`'s object now points to a new buffer -/
  | setFieldNew (t : Var) (op : Nat) (args : List Var)
  /-- `slot = s.a` -/
  | saveAttr (slot : Nat) (s : Var) (a : Attr)
  /-- `t.a = c` -/
  | setAttrConst (t : Var) (a : Attr) (c : Int)
  /-- `t.a = slot` -/
  | setAttrSlot (t : Var) (a : Attr) (slot : Nat)
  /-- `t.a <op>= …` : in-place update of the *object attached as attribute `a`* (`grid.scale(m)`,
      `input_stokes_vector *= …`); nothing happens to the field arrays -/
  | inplaceAttr (op : Nat) (t : Var) (a : Attr)
  /-- `t.a = t.a.copy()` : a fresh object with the same contents (`grid.scaled(m)` starts with this) -/
  | copyAttr (t : Var) (a : Attr)
  deriving Repr

structure Prog where
  body : List Instr
  ret : Var
  deriving Repr

/-- Value of the wavefront handed to the call. -/
structure InVal where
  field : Int
  wavelength : Int
  stokes : Int
  grid : Int
  deriving DecidableEq, Repr

def InVal.get (v : InVal) : Attr → Int
  | .wavelength => v.wavelength
  | .stokes => v.stokes
  | .grid => v.grid

def InVal.obj (v : InVal) : Obj := ⟨0, v.wavelength, v.stokes, v.grid⟩

/-- What a call is *seen* to do with the wavefront object it was given (for the behavioural tie; the
harness records the same events on the running code with an instrumented `Wavefront`). -/
inductive Touch where
  /-- `.copy()` called on the input object itself -/
  | copyInput
  /-- a new `Wavefront` constructed around the very array of the input -/
  | wrapInput
  /-- an attribute of the input object assigned -/
  | write (a : Attr)
  deriving DecidableEq, Repr

/-- The store. Functions rather than arrays: "unchanged at 0" is then a one-line fact. -/
structure St where
  env : Var → Nat
  objs : Nat → Obj
  bufs : Nat → Int
  slots : Nat → Int
  nObj : Nat
  nBuf : Nat
  /-- attribute writes on the input object, most recent first (for the behavioural tie) -/
  writes : List Attr
  /-- everything done to the input object, most recent first: copies of it, wavefronts wrapped around
      its array, attribute writes (for the behavioural tie) -/
  touches : List Touch

def upd {α} (f : Nat → α) (k : Nat) (v : α) : Nat → α := fun i => if i = k then v else f i

/-- Every local name initially refers to the input (so reading an unassigned name is harmless
for the checker: it is treated as the input itself). -/
def init (v : InVal) : St :=
  { env := fun _ => 0, objs := fun _ => v.obj, bufs := fun _ => v.field, slots := fun _ => 0,
    nObj := 1, nBuf := 1, writes := [], touches := [] }

def bufOf (c : St) (x : Var) : Nat := (c.objs (c.env x)).buf
def contents (c : St) (x : Var) : Int := c.bufs (bufOf c x)

/-- One instruction; `sem op args` is the (arbitrary, pure) meaning of array operation `op`. -/
def step (sem : Nat → List Int → Int) (c : St) : Instr → St
  | .copy d s =>
    { c with env := upd c.env d c.nObj,
             objs := upd c.objs c.nObj { c.objs (c.env s) with buf := c.nBuf },
             bufs := upd c.bufs c.nBuf (contents c s),
             nObj := c.nObj + 1, nBuf := c.nBuf + 1,
             touches := if c.env s = 0 then .copyInput :: c.touches else c.touches }
  | .wrap d s =>
    { c with env := upd c.env d c.nObj,
             objs := upd c.objs c.nObj (c.objs (c.env s)),
             nObj := c.nObj + 1,
             touches := if bufOf c s = 0 then .wrapInput :: c.touches else c.touches }
  | .newFrom d op args like =>
    { c with env := upd c.env d c.nObj,
             objs := upd c.objs c.nObj { c.objs (c.env like) with buf := c.nBuf },
             bufs := upd c.bufs c.nBuf (sem op (args.map (contents c))),
             nObj := c.nObj + 1, nBuf := c.nBuf + 1 }
  | .bind d s => { c with env := upd c.env d (c.env s) }
  | .inplace op t args =>
    { c with bufs := upd c.bufs (bufOf c t) (sem op (contents c t :: args.map (contents c))) }
  | .setFieldNew t op args =>
    { c with objs := upd c.objs (c.env t) { c.objs (c.env t) with buf := c.nBuf },
             bufs := upd c.bufs c.nBuf (sem op (args.map (contents c))),
             nBuf := c.nBuf + 1 }
  | .saveAttr slot s a => { c with slots := upd c.slots slot ((c.objs (c.env s)).get a) }
  | .setAttrConst t a v =>
    { c with objs := upd c.objs (c.env t) ((c.objs (c.env t)).set a v),
             writes := if c.env t = 0 then a :: c.writes else c.writes,
             touches := if c.env t = 0 then .write a :: c.touches else c.touches }
  | .setAttrSlot t a slot =>
    { c with objs := upd c.objs (c.env t) ((c.objs (c.env t)).set a (c.slots slot)),
             writes := if c.env t = 0 then a :: c.writes else c.writes,
             touches := if c.env t = 0 then .write a :: c.touches else c.touches }
  | .inplaceAttr _ _ _ => c
  | .copyAttr _ _ => c

def exec (sem : Nat → List Int → Int) (c : St) (p : List Instr) : St := p.foldl (step sem) c

/-- Outcome of a call as the caller can observe it. -/
structure Outcome where
  /-- contents and attributes of the returned wavefront -/
  result : Int × Obj
  /-- the input wavefront afterwards: field contents and object -/
  inputField : Int
  inputObj : Obj
  retIsInput : Bool
  retSharesBuf : Bool
  writes : List Attr
  /-- copies of / wrappers around / attribute writes on the input object, in program order -/
  touches : List Touch
  /-- number of wavefront objects the call created -/
  created : Nat

def call (sem : Nat → List Int → Int) (p : Prog) (v : InVal) : Outcome :=
  let c := exec sem (init v) p.body
  { result := (contents c p.ret, { c.objs (c.env p.ret) with buf := 0 }),
    inputField := c.bufs 0, inputObj := c.objs 0,
    retIsInput := c.env p.ret == 0, retSharesBuf := bufOf c p.ret == 0,
    writes := c.writes.reverse, touches := c.touches.reverse, created := c.nObj - 1 }

/-! ## The static checker -/

/-- Abstract state. `isIn x` : name `x` refers to the input object (exact: programs are straight
line). `shares x` : `x`'s object may use the input's buffer. `dirty` : attributes of the input that
have been overwritten and not yet restored. `slots s = some a` : local `s` holds the input's
original attribute `a`. -/
structure Abs where
  isIn : Var → Bool
  shares : Var → Bool
  dirty : List Attr
  slots : Nat → Option Attr

def Abs.init : Abs :=
  { isIn := fun _ => true, shares := fun _ => true, dirty := [], slots := fun _ => none }

def checkStep (A : Abs) : Instr → Option Abs
  | .copy d _ => some { A with isIn := upd A.isIn d false, shares := upd A.shares d false }
  | .wrap d s => some { A with isIn := upd A.isIn d false, shares := upd A.shares d (A.shares s) }
  | .newFrom d _ _ _ => some { A with isIn := upd A.isIn d false, shares := upd A.shares d false }
  | .bind d s => some { A with isIn := upd A.isIn d (A.isIn s), shares := upd A.shares d (A.shares s) }
  | .inplace _ t _ => if A.shares t then none else some A
  | .setFieldNew t _ _ => if A.isIn t then none else some { A with shares := upd A.shares t false }
  | .saveAttr slot s a =>
    some { A with slots := upd A.slots slot (if A.isIn s && !(A.dirty.contains a) then some a else none) }
  | .setAttrConst t a _ => some (if A.isIn t then { A with dirty := a :: A.dirty } else A)
  | .setAttrSlot t a slot =>
    some (if A.isIn t then
            (if A.slots slot = some a then { A with dirty := A.dirty.filter (· ≠ a) }
             else { A with dirty := a :: A.dirty })
          else A)
  | .inplaceAttr _ _ _ => some A
  | .copyAttr _ _ => some A

def check : List Instr → Abs → Option Abs
  | [], A => some A
  | i :: p, A => match checkStep A i with
    | some A' => check p A'
    | none => none

/-- A program is safe when no in-place update can reach the input's buffer, the input's field is
never re-pointed, and every attribute of the input that was overwritten has been restored from a
local that holds its original value by the time the call returns. -/
def safe (p : Prog) : Bool :=
  match check p.body Abs.init with
  | some A => A.dirty.isEmpty
  | none => false


/-! ## The objects attached to a wavefront: grid and Stokes vector as heap objects

The grid (`wavefront.electric_field.grid`, with its cached weights) and the Stokes vector are mutable
Python objects of their own; several wavefronts may point to the same one.  Field arrays, grid
objects and Stokes vectors never overlap, so the store is the product of three heaps with the same
shape — *wavefront object → pointer → contents* — and the meaning of an instruction on the heap of
attribute `a` is again a list of instructions of the same language (`viewInstr`):

* `wavefront.copy()` (`copy.deepcopy`) copies the Stokes vector (a `copy` on that heap) but **not the
  grid**: the field is an `ndarray` subclass, `ndarray.__deepcopy__` copies the data and
  `Field.__array_finalize__` hands the *same* grid object to the copy (a `wrap` on the grid heap);
* `Wavefront(s.electric_field, …, s.input_stokes_vector)` and `Wavefront(Field(new, like.grid), …)`
  point to the **same grid object** as `s` / `like` (a `wrap` on the grid heap) and to a **copy** of
  the Stokes vector (`np.array(input_stokes_vector)` in `Wavefront.__init__`: a `copy` on that heap);
* `t.a <op>= …` (`inplaceAttr`) is an in-place update on the heap of `a`; `t.a = t.a.copy()`
  (`copyAttr`) and `t.a = <new object>` (`setAttrConst`) re-point `t` to a fresh cell;
* saving / restoring the pointer itself (`saveAttr`/`setAttrSlot` on `a`) is not supported on the heap
  of `a` (no shipped element does it): the program then has no view and is not accepted.

`safeAttr a p` runs the *same* checker on the view, so `safe_sound` applies verbatim:
`safe_sound_attr` (Properties/C06.lean): the contents of the grid / Stokes vector the caller passed
in are what they were. -/

def viewInstr (a : Attr) : Instr → Option (List Instr)
  | .copy d s => some [if a = .grid then .wrap d s else .copy d s]
  | .wrap d s => some [if a = .grid then .wrap d s else .copy d s]
  | .newFrom d _ _ like => some [if a = .grid then .wrap d like else .copy d like]
  | .bind d s => some [.bind d s]
  | .inplace _ _ _ => some []
  | .setFieldNew _ _ _ => some []
  | .saveAttr _ _ b => if b = a then none else some []
  | .setAttrConst t b _ => if b = a then some [.setFieldNew t 0 []] else some []
  | .setAttrSlot _ b _ => if b = a then none else some []
  | .inplaceAttr op t b => if b = a then some [.inplace op t []] else some []
  | .copyAttr t b => if b = a then some [.setFieldNew t 0 [t]] else some []

/-- the view of an instruction list (`none` as soon as one instruction has no view) -/
def viewList (a : Attr) : List Instr → Option (List Instr)
  | [] => some []
  | i :: l => match viewInstr a i, viewList a l with
    | some x, some y => some (x ++ y)
    | _, _ => none

def viewProg (a : Attr) (p : Prog) : Option Prog :=
  match viewList a p.body with
  | some l => some ⟨l, p.ret⟩
  | none => none

/-- the checker's verdict on what `p` does to the objects attached as attribute `a` -/
def safeAttr (a : Attr) (p : Prog) : Bool :=
  match viewProg a p with
  | some q => safe q
  | none => false

/-- field arrays, grid objects and Stokes vectors -/
def safeAll (p : Prog) : Bool := safe p && safeAttr .grid p && safeAttr .stokes p

/-- Contents, after the call, of the object that was attached to the input as attribute `a` and held
`g` before (`none`: the program has no view). -/
def attrContentsAfter (sem : Nat → List Int → Int) (a : Attr) (p : Prog) (v : InVal) (g : Int) : Option Int :=
  match viewProg a p with
  | some q => some (call sem q { v with field := g }).inputField
  | none => none

/-- does the returned wavefront point to the very object attached to the input as attribute `a`? -/
def retSharesAttr (sem : Nat → List Int → Int) (a : Attr) (p : Prog) (v : InVal) : Option Bool :=
  match viewProg a p with
  | some q => some (call sem q v).retSharesBuf
  | none => none

/-! ## Programs with a loop (multi-scale coronagraphs: one round per scale; layered atmosphere: one per element)

`L.unroll n` is the program with `n` rounds of the loop body.  The checker is run on the programs with
zero and one round (`LoopProg.baseAll`, decidable); that the state the checker reaches after one
round is reproduced by another round (`LoopProg.Fix`) is a decidable test on the part of the state the body can
write (`Lemmas/Effects.lean: LoopProg.fixAllOk`, `fixAll_of_fixAllOk`), evaluated over the shipped table in
Lemmas/EffectLoops.lean, and `Lemmas/Effects.lean: loop_safeAll` concludes that every unrolling is accepted on all three heaps. -/

def rounds (n : Nat) (body : List Instr) : List Instr := (List.replicate n body).flatten

structure LoopProg where
  pre : List Instr
  body : List Instr
  post : List Instr
  ret : Var

def LoopProg.unroll (L : LoopProg) (n : Nat) : Prog := ⟨L.pre ++ rounds n L.body ++ L.post, L.ret⟩

def LoopProg.view (a : Attr) (L : LoopProg) : Option LoopProg :=
  match viewList a L.pre, viewList a L.body, viewList a L.post with
  | some p, some b, some q => some ⟨p, b, q, L.ret⟩
  | _, _, _ => none

/-- the checker's abstract state after instruction list `p` (from the initial state) -/
def stateAfter (p : List Instr) : Abs :=
  match check p Abs.init with
  | some A => A
  | none => Abs.init

/-- the checker's state after one round is reproduced by another round -/
def LoopProg.Fix (L : LoopProg) : Prop :=
  check L.body (stateAfter (L.pre ++ L.body)) = some (stateAfter (L.pre ++ L.body))

/-- … on the field heap and on every heap on which the program has a view -/
def LoopProg.FixAll (L : LoopProg) : Prop := L.Fix ∧ ∀ a L', L.view a = some L' → L'.Fix

/-- decidable part: zero rounds and one round are accepted -/
def LoopProg.base (L : LoopProg) : Bool := safe (L.unroll 0) && safe (L.unroll 1)

/-- … on all three heaps -/
def LoopProg.baseAll (L : LoopProg) : Bool :=
  L.base && [Attr.grid, Attr.stokes].all fun a => match L.view a with
    | some L' => L'.base
    | none => false

/-! # Element-internal cells

What a call may keep *inside the element* between calls.  Two kinds of storage:

* **memo cells** — `cell c` holds a list of `(tag, value)` entries, newest first: values together
  with the key they were computed for (`self._surface` with `_actuators_for_cached_surface`;
  `_achromatic_screen` for the current centre; `InstanceData`s under their (grid, wavelength) keys in
  `_instance_data_cache`; MFT matrices under their dtype).  A cell keeps at most `cap c` entries
  (1 for a single cached value, `max_in_cache = 11` for the instance cache; which entry is evicted
  when the cache is full is C05's subject, histories replayed against the code stay below the cap).
  `memoFill c e` stores `(current key of c, e)` in front, replacing an entry with the same key;
  `memoRead r c fb` yields the value stored under the current key of `c` (a *hit*, `cellHit`) and
  the fallback `fb` (recomputation) when there is none (a *miss*).
* **scratch buffers** — `scratch b` (the `internal_array` of an FFT object, the
  `intermediate_array` of an MFT): overwritten with input data on every call.

A program declares, per memo cell, which *atoms* (element parameters, the input's grid, the input's
wavelength) form its key and the expression `spec c` the cell is a memo of.  `safeInternal` accepts
a program iff every fill and every fallback of `c` is literally `spec c`, `spec c` mentions nothing
but the key atoms of `c` (in particular never the input's field values or a local), cells are never
updated in place or read without comparing the key, and every scratch read is preceded by a write in
the same call.  `history_independent` (Properties/C06.lean): for accepted programs the result of
any call after any history of calls and parameter changes is the result a fresh element gives. -/

inductive Atom where
  | param (i : Nat)
  | grid
  | wavelength
  deriving DecidableEq, Repr

inductive IExpr where
  | atom (a : Atom)
  /-- the field values of the wavefront passed in -/
  | field
  /-- a local of this call -/
  | loc (r : Nat)
  | op1 (f : Nat) (a : IExpr)
  | op2 (f : Nat) (a b : IExpr)
  deriving DecidableEq, Repr

inductive IInstr where
  | letE (r : Nat) (e : IExpr)
  | memoFill (c : Nat) (e : IExpr)
  | memoRead (r : Nat) (c : Nat) (fallback : IExpr)
  /-- `cell.value <op>= e` : in-place update of what is stored, tag untouched (never accepted) -/
  | cellUpdate (c : Nat) (e : IExpr)
  /-- read whatever is stored, whatever key it was stored for (never accepted) -/
  | rawRead (r : Nat) (c : Nat)
  | scratchWrite (b : Nat) (e : IExpr)
  | scratchRead (r : Nat) (b : Nat)
  deriving DecidableEq, Repr

structure IProg where
  keyAtoms : Nat → List Atom
  spec : Nat → IExpr
  body : List IInstr
  ret : IExpr
  /-- number of entries cell `c` keeps -/
  cap : Nat → Nat := fun _ => 1

abbrev Entries := List (List Int × Int)

/-- the value stored under `tag`, if any -/
def lookup (tag : List Int) : Entries → Option Int
  | [] => none
  | (t, v) :: rest => if t = tag then some v else lookup tag rest

/-- store `(tag, v)` in front, dropping an older entry with the same tag, keep at most `cap`. -/
def insertEntry (cap : Nat) (tag : List Int) (v : Int) (l : Entries) : Entries :=
  ((tag, v) :: l.filter (fun e => e.1 ≠ tag)).take cap

/-- Interpretation of the opaque operations. -/
structure ISem where
  s1 : Nat → Int → Int
  s2 : Nat → Int → Int → Int

/-- The element between calls. -/
structure EState where
  params : Nat → Int
  cells : Nat → Entries
  scratch : Nat → Int

def EState.fresh (params : Nat → Int) : EState :=
  { params := params, cells := fun _ => [], scratch := fun _ => 0 }

def atomEnv (params : Nat → Int) (v : InVal) : Atom → Int
  | .param i => params i
  | .grid => v.grid
  | .wavelength => v.wavelength

def evalI (S : ISem) (ρ : Atom → Int) (fld : Int) (loc : Nat → Int) : IExpr → Int
  | .atom a => ρ a
  | .field => fld
  | .loc r => loc r
  | .op1 f a => S.s1 f (evalI S ρ fld loc a)
  | .op2 f a b => S.s2 f (evalI S ρ fld loc a) (evalI S ρ fld loc b)

/-- Running state of one call. -/
structure IRun where
  cells : Nat → Entries
  scratch : Nat → Int
  loc : Nat → Int

def stepI (S : ISem) (p : IProg) (ρ : Atom → Int) (fld : Int) (c : IRun) : IInstr → IRun
  | .letE r e => { c with loc := upd c.loc r (evalI S ρ fld c.loc e) }
  | .memoFill k e =>
    { c with cells := upd c.cells k (insertEntry (p.cap k) ((p.keyAtoms k).map ρ) (evalI S ρ fld c.loc e) (c.cells k)) }
  | .memoRead r k fb =>
    match lookup ((p.keyAtoms k).map ρ) (c.cells k) with
    | some val => { c with loc := upd c.loc r val }
    | none => { c with loc := upd c.loc r (evalI S ρ fld c.loc fb) }
  | .cellUpdate k e =>
    match c.cells k with
    | (tag, _) :: rest => { c with cells := upd c.cells k ((tag, evalI S ρ fld c.loc e) :: rest) }
    | [] => c
  | .rawRead r k =>
    match c.cells k with
    | (_, val) :: _ => { c with loc := upd c.loc r val }
    | [] => { c with loc := upd c.loc r 0 }
  | .scratchWrite b e => { c with scratch := upd c.scratch b (evalI S ρ fld c.loc e) }
  | .scratchRead r b => { c with loc := upd c.loc r (c.scratch b) }

def execI (S : ISem) (p : IProg) (ρ : Atom → Int) (fld : Int) (c : IRun) (body : List IInstr) : IRun :=
  body.foldl (stepI S p ρ fld) c

/-- One `forward`/`backward` on an element in state `E`: the result and the element afterwards. -/
def callI (S : ISem) (p : IProg) (E : EState) (v : InVal) : Int × EState :=
  let ρ := atomEnv E.params v
  let c := execI S p ρ v.field ⟨E.cells, E.scratch, fun _ => 0⟩ p.body
  (evalI S ρ v.field c.loc p.ret, { E with cells := c.cells, scratch := c.scratch })

/-- **Hit or miss**: does cell `c` of the element in state `E` hold a value for the key of a call with
input `v`?  (What the harness observes on the code as "nothing recomputed" / "`make_instance` ran",
"`linear_combination` ran".) -/
def cellHit (p : IProg) (E : EState) (v : InVal) (c : Nat) : Bool :=
  (lookup ((p.keyAtoms c).map (atomEnv E.params v)) (E.cells c)).isSome

/-- What can happen to an element between two observations. -/
inductive Event where
  | call (v : InVal)
  | setParam (i : Nat) (x : Int)

def applyEvent (S : ISem) (p : IProg) (E : EState) : Event → EState
  | .call v => (callI S p E v).2
  | .setParam i x => { E with params := upd E.params i x }

def runHistory (S : ISem) (p : IProg) (E : EState) (h : List Event) : EState := h.foldl (applyEvent S p) E

/-- `e` mentions only atoms from `allowed`: no field values, no locals. -/
def closedOver (allowed : List Atom) : IExpr → Bool
  | .atom a => allowed.contains a
  | .field => false
  | .loc _ => false
  | .op1 _ a => closedOver allowed a
  | .op2 _ a b => closedOver allowed a && closedOver allowed b

/-- Checker: walks the body carrying the scratch buffers written so far in this call. -/
def checkI (p : IProg) : List IInstr → List Nat → Bool
  | [], _ => true
  | .letE _ _ :: rest, w => checkI p rest w
  | .memoFill c e :: rest, w => (e == p.spec c) && closedOver (p.keyAtoms c) (p.spec c) && checkI p rest w
  | .memoRead _ c fb :: rest, w => (fb == p.spec c) && closedOver (p.keyAtoms c) (p.spec c) && checkI p rest w
  | .cellUpdate _ _ :: _, _ => false
  | .rawRead _ _ :: _, _ => false
  | .scratchWrite b _ :: rest, w => checkI p rest (b :: w)
  | .scratchRead _ b :: rest, w => w.contains b && checkI p rest w

def safeInternal (p : IProg) : Bool := checkI p p.body []

/-- Memo cells and scratch buffers a program touches (what the harness compares with the attributes
it sees change on the real element). -/
def memoCells (p : IProg) : List Nat :=
  (p.body.filterMap fun i => match i with
    | .memoFill c _ => some c | .cellUpdate c _ => some c | _ => none).eraseDups

def scratchCells (p : IProg) : List Nat :=
  (p.body.filterMap fun i => match i with
    | .scratchWrite b _ => some b | _ => none).eraseDups

end HcipyVerif.Effects
