import HcipyVerif.Model.Jones
import HcipyVerif.Lemmas.JonesAttr
import HcipyVerif.Gen.Stokes
import Mathlib.Data.Complex.Basic
import Mathlib.Tactic.Ring
import Mathlib.Tactic.Linarith
import Mathlib.Tactic.LinearCombination
import Mathlib.Tactic.IntervalCases

/-!
# The Jones model of `Model/Jones.lean` (C08, C07) over `ℝ`

The projection equations of the pair arithmetic (simp set `jones_expand`); the bridge `Cx.toComplex : Cx ℝ → ℂ`, through which
identities between matrix entries are checked in `ℂ` (`Cx ℝ` and `J2 ℝ` carry notation classes only, no ring structure); how an
element acts on Stokes vectors (`jonesStokes_mul`, the Mueller matrix `mulVec_muellerDef`, Minkowski form, the cone of physical Stokes vectors); unitary matrices in
real components (`IsUnitary8`).
-/
set_option linter.unusedSectionVars false

namespace HcipyVerif.Jones

section proj
variable {K : Type} [Add K] [Sub K] [Mul K] [Neg K]

theorem Cx.add_re (a b : Cx K) : (a + b).re = a.re + b.re := rfl
theorem Cx.add_im (a b : Cx K) : (a + b).im = a.im + b.im := rfl
theorem Cx.sub_re (a b : Cx K) : (a - b).re = a.re - b.re := rfl
theorem Cx.sub_im (a b : Cx K) : (a - b).im = a.im - b.im := rfl
theorem Cx.mul_re (a b : Cx K) : (a * b).re = a.re * b.re - a.im * b.im := rfl
theorem Cx.mul_im (a b : Cx K) : (a * b).im = a.re * b.im + a.im * b.re := rfl
theorem Cx.neg_re (a : Cx K) : (-a).re = -a.re := rfl
theorem Cx.neg_im (a : Cx K) : (-a).im = -a.im := rfl
theorem Cx.conj_re (a : Cx K) : a.conj.re = a.re := rfl
theorem Cx.conj_im (a : Cx K) : a.conj.im = -a.im := rfl
theorem Cx.smul_re (k : K) (a : Cx K) : (Cx.smul k a).re = k * a.re := rfl
theorem Cx.smul_im (k : K) (a : Cx K) : (Cx.smul k a).im = k * a.im := rfl
theorem Cx.mk_re (x y : K) : (Cx.mk x y).re = x := rfl
theorem Cx.mk_im (x y : K) : (Cx.mk x y).im = y := rfl

theorem J2.mul_a11 (a b : J2 K) : (a * b).a11 = a.a11 * b.a11 + a.a12 * b.a21 := rfl
theorem J2.mul_a12 (a b : J2 K) : (a * b).a12 = a.a11 * b.a12 + a.a12 * b.a22 := rfl
theorem J2.mul_a21 (a b : J2 K) : (a * b).a21 = a.a21 * b.a11 + a.a22 * b.a21 := rfl
theorem J2.mul_a22 (a b : J2 K) : (a * b).a22 = a.a21 * b.a12 + a.a22 * b.a22 := rfl
theorem J2.add_a11 (a b : J2 K) : (a + b).a11 = a.a11 + b.a11 := rfl
theorem J2.add_a12 (a b : J2 K) : (a + b).a12 = a.a12 + b.a12 := rfl
theorem J2.add_a21 (a b : J2 K) : (a + b).a21 = a.a21 + b.a21 := rfl
theorem J2.add_a22 (a b : J2 K) : (a + b).a22 = a.a22 + b.a22 := rfl
theorem J2.adj_a11 (a : J2 K) : a.adj.a11 = a.a11.conj := rfl
theorem J2.adj_a12 (a : J2 K) : a.adj.a12 = a.a21.conj := rfl
theorem J2.adj_a21 (a : J2 K) : a.adj.a21 = a.a12.conj := rfl
theorem J2.adj_a22 (a : J2 K) : a.adj.a22 = a.a22.conj := rfl
theorem J2.apply_x (a : J2 K) (e : V2 K) : (a.apply e).x = a.a11 * e.x + a.a12 * e.y := rfl
theorem J2.apply_y (a : J2 K) (e : V2 K) : (a.apply e).y = a.a21 * e.x + a.a22 * e.y := rfl
theorem J2.scale_a11 (a : J2 K) (e : Cx K) : (a.scale e).a11 = a.a11 * e := rfl
theorem J2.scale_a12 (a : J2 K) (e : Cx K) : (a.scale e).a12 = a.a12 * e := rfl
theorem J2.scale_a21 (a : J2 K) (e : Cx K) : (a.scale e).a21 = a.a21 * e := rfl
theorem J2.scale_a22 (a : J2 K) (e : Cx K) : (a.scale e).a22 = a.a22 * e := rfl
theorem J2.det_def (a : J2 K) : a.det = a.a11 * a.a22 - a.a12 * a.a21 := rfl
theorem J2.mk_a11 (p q r s : Cx K) : (J2.mk p q r s).a11 = p := rfl
theorem J2.mk_a12 (p q r s : Cx K) : (J2.mk p q r s).a12 = q := rfl
theorem J2.mk_a21 (p q r s : Cx K) : (J2.mk p q r s).a21 = r := rfl
theorem J2.mk_a22 (p q r s : Cx K) : (J2.mk p q r s).a22 = s := rfl
end proj

attribute [jones_expand] Cx.add_re Cx.add_im Cx.sub_re Cx.sub_im Cx.mul_re Cx.mul_im Cx.neg_re Cx.neg_im Cx.conj_re Cx.conj_im
  Cx.smul_re Cx.smul_im Cx.normSq J2.mul_a11 J2.mul_a12 J2.mul_a21 J2.mul_a22 J2.add_a11 J2.add_a12 J2.add_a21 J2.add_a22
  J2.adj_a11 J2.adj_a12 J2.adj_a21 J2.adj_a22 J2.apply_x J2.apply_y J2.scale_a11 J2.scale_a12 J2.scale_a21 J2.scale_a22
  J2.det_def jonesStokes vecStokes scalarStokes cohOfVec stokesOfCoh coh2 S4.half

theorem Cx.ext {K : Type} {a b : Cx K} (hre : a.re = b.re) (him : a.im = b.im) : a = b := by
  cases a; cases b; simp only [Cx.mk.injEq]; exact ⟨hre, him⟩

theorem J2.ext {K : Type} {a b : J2 K} (h11 : a.a11 = b.a11) (h12 : a.a12 = b.a12) (h21 : a.a21 = b.a21)
    (h22 : a.a22 = b.a22) : a = b := by
  cases a; cases b; simp only [J2.mk.injEq]; exact ⟨h11, h12, h21, h22⟩

theorem S4.ext {K : Type} {s t : S4 K} (hi : s.i = t.i) (hq : s.q = t.q) (hu : s.u = t.u) (hv : s.v = t.v) :
    s = t := by
  cases s; cases t; simp only [S4.mk.injEq]; exact ⟨hi, hq, hu, hv⟩

def Cx.toComplex (a : Cx ℝ) : ℂ := ⟨a.re, a.im⟩

theorem Cx.toComplex_add (a b : Cx ℝ) : (a + b).toComplex = a.toComplex + b.toComplex := Complex.ext rfl rfl

theorem Cx.toComplex_sub (a b : Cx ℝ) : (a - b).toComplex = a.toComplex - b.toComplex := Complex.ext rfl rfl

theorem Cx.toComplex_mul (a b : Cx ℝ) : (a * b).toComplex = a.toComplex * b.toComplex := Complex.ext rfl rfl

theorem Cx.toComplex_neg (a : Cx ℝ) : (-a).toComplex = -a.toComplex := Complex.ext rfl rfl

theorem Cx.toComplex_conj (a : Cx ℝ) : a.conj.toComplex = (starRingEnd ℂ) a.toComplex := Complex.ext rfl rfl

theorem Cx.toComplex_smul (k : ℝ) (a : Cx ℝ) : (Cx.smul k a).toComplex = (k : ℂ) * a.toComplex := by
  apply Complex.ext <;> simp [Cx.toComplex, Cx.smul_re, Cx.smul_im]

theorem Cx.toComplex_ofReal (r : ℝ) : Cx.toComplex ⟨r, 0⟩ = (r : ℂ) := rfl

theorem Cx.toComplex_normSq (a : Cx ℝ) : a.normSq = Complex.normSq a.toComplex :=
  (Complex.normSq_apply a.toComplex).symm

theorem Cx.toComplex_injective : Function.Injective Cx.toComplex := fun _ _ h =>
  Cx.ext (congrArg Complex.re h) (congrArg Complex.im h)

theorem Cx.normSq_mul (a b : Cx ℝ) : (a * b).normSq = a.normSq * b.normSq := by
  simp only [Cx.normSq, Cx.mul_re, Cx.mul_im]; ring

theorem Cx.normSq_conj (a : Cx ℝ) : a.conj.normSq = a.normSq := by
  simp only [Cx.normSq, Cx.conj_re, Cx.conj_im]; ring

theorem Cx.normSq_nonneg (a : Cx ℝ) : 0 ≤ a.normSq := add_nonneg (mul_self_nonneg _) (mul_self_nonneg _)

theorem Cx.zero_mul (a : Cx ℝ) : (⟨0, 0⟩ : Cx ℝ) * a = ⟨0, 0⟩ := by
  apply Cx.ext <;> simp only [Cx.mul_re, Cx.mul_im] <;> ring

theorem Cx.mul_zero (a : Cx ℝ) : a * (⟨0, 0⟩ : Cx ℝ) = ⟨0, 0⟩ := by
  apply Cx.ext <;> simp only [Cx.mul_re, Cx.mul_im] <;> ring

theorem Cx.one_mul (a : Cx ℝ) : (⟨1, 0⟩ : Cx ℝ) * a = a := by
  apply Cx.ext <;> simp only [Cx.mul_re, Cx.mul_im] <;> ring

theorem Cx.add_zero (a : Cx ℝ) : a + (⟨0, 0⟩ : Cx ℝ) = a := by
  apply Cx.ext <;> simp only [Cx.add_re, Cx.add_im] <;> ring

theorem Cx.zero_add (a : Cx ℝ) : (⟨0, 0⟩ : Cx ℝ) + a = a := by
  apply Cx.ext <;> simp only [Cx.add_re, Cx.add_im] <;> ring

theorem J2.mul_assoc (a b c : J2 ℝ) : a * b * c = a * (b * c) := by
  apply J2.ext <;> apply Cx.toComplex_injective <;>
    simp only [J2.mul_a11, J2.mul_a12, J2.mul_a21, J2.mul_a22, Cx.toComplex_add, Cx.toComplex_mul] <;> ring

theorem J2.adj_mul (a b : J2 ℝ) : (a * b).adj = b.adj * a.adj := by
  apply J2.ext <;> apply Cx.toComplex_injective <;>
    simp only [J2.mul_a11, J2.mul_a12, J2.mul_a21, J2.mul_a22, J2.adj_a11, J2.adj_a12, J2.adj_a21, J2.adj_a22,
      Cx.toComplex_add, Cx.toComplex_mul, Cx.toComplex_conj, map_add, map_mul] <;> ring

theorem J2.det_mul (a b : J2 ℝ) : (a * b).det = a.det * b.det := by
  apply Cx.toComplex_injective
  simp only [J2.det_def, J2.mul_a11, J2.mul_a12, J2.mul_a21, J2.mul_a22, Cx.toComplex_add, Cx.toComplex_sub,
    Cx.toComplex_mul]
  ring

theorem J2.det_adj (a : J2 ℝ) : a.adj.det = a.det.conj := by
  apply Cx.toComplex_injective
  simp only [J2.det_def, J2.adj_a11, J2.adj_a12, J2.adj_a21, J2.adj_a22, Cx.toComplex_sub, Cx.toComplex_mul,
    Cx.toComplex_conj, map_sub, map_mul]
  ring

theorem J2.one_mul (a : J2 ℝ) : (⟨⟨1, 0⟩, ⟨0, 0⟩, ⟨0, 0⟩, ⟨1, 0⟩⟩ : J2 ℝ) * a = a := by
  apply J2.ext <;>
    simp only [J2.mul_a11, J2.mul_a12, J2.mul_a21, J2.mul_a22, Cx.one_mul, Cx.zero_mul, Cx.add_zero, Cx.zero_add]

theorem J2.one_apply (e : V2 ℝ) : (⟨⟨1, 0⟩, ⟨0, 0⟩, ⟨0, 0⟩, ⟨1, 0⟩⟩ : J2 ℝ).apply e = e := by
  simp only [J2.apply, Cx.one_mul, Cx.zero_mul, Cx.add_zero, Cx.zero_add]

theorem J2.apply_apply (a b : J2 ℝ) (e : V2 ℝ) : a.apply (b.apply e) = (a * b).apply e := by
  simp only [J2.apply, J2.mul_a11, J2.mul_a12, J2.mul_a21, J2.mul_a22, V2.mk.injEq]
  constructor <;> apply Cx.toComplex_injective <;> simp only [Cx.toComplex_add, Cx.toComplex_mul] <;> ring

theorem J2.adj_adj (a : J2 ℝ) : a.adj.adj = a := by simp only [J2.adj, Cx.conj, neg_neg]

theorem coh2_adj (s : S4 ℝ) : (coh2 s).adj = coh2 s := by simp only [coh2, J2.adj, Cx.conj, neg_neg, neg_zero]

theorem coh2_half_stokesOfCoh (h : J2 ℝ) (hh : h.adj = h) : coh2 (stokesOfCoh h).half = h := by
  obtain ⟨⟨a, b⟩, ⟨c, d⟩, ⟨e, f⟩, ⟨g, k⟩⟩ := h
  simp only [J2.adj, Cx.conj, J2.mk.injEq, Cx.mk.injEq] at hh
  obtain ⟨⟨-, hb⟩, ⟨hec, hfd⟩, -, -, hk⟩ := hh
  simp only [coh2, stokesOfCoh, S4.half, J2.mk.injEq, Cx.mk.injEq]
  exact ⟨⟨by ring, by linarith⟩, ⟨by ring, by ring⟩, ⟨by linarith, by linarith⟩, by ring, by linarith⟩

theorem coh2_jonesStokes (e : J2 ℝ) (s : S4 ℝ) : coh2 (jonesStokes e s) = e * coh2 s * e.adj :=
  coh2_half_stokesOfCoh _ (by rw [J2.adj_mul, J2.adj_mul, J2.adj_adj, coh2_adj, J2.mul_assoc])

/-- An element `J` acts on a Jones-matrix wavefront `E` through the wavefront's Stokes vector alone. -/
theorem jonesStokes_mul (j e : J2 ℝ) (s : S4 ℝ) : jonesStokes (j * e) s = jonesStokes j (jonesStokes e s) := by
  show (stokesOfCoh (j * e * coh2 s * (j * e).adj)).half = (stokesOfCoh (j * coh2 (jonesStokes e s) * j.adj)).half
  rw [coh2_jonesStokes]
  simp only [J2.adj_mul, J2.mul_assoc]

/-- **Mueller route = Jones route** on the executed definitions: `Re (U (J ⊗ J̄) Uᴴ)/2` acts on a Stokes vector as
`S ↦ Stokes (J C(S) Jᴴ)`. -/
theorem mulVec_muellerDef (j : J2 ℝ) (s : S4 ℝ) : mulVec (muellerDef j) s = jonesStokes j s := by
  -- `ring` compares atoms up to unfolding, which is slower on the projections `j.a11.re`, … than on variables
  obtain ⟨⟨xr, xi⟩, ⟨yr, yi⟩, ⟨zr, zi⟩, ⟨wr, wi⟩⟩ := j
  obtain ⟨a, b, c, d⟩ := s
  -- the zero entries of `_U_matrix` leave four of the sixteen products in each entry; then four identities of real polynomials
  simp only [mulVec, muellerDef, sum4, uMat, Cx.conj, neg_zero, neg_neg, Cx.zero_mul, Cx.mul_zero, Cx.one_mul, Cx.add_zero,
    Cx.zero_add]
  simp only [kronConj, J2.get, Nat.reduceDiv, Nat.reduceMod, jones_expand, mul_zero, zero_mul, mul_one, one_mul, sub_zero,
    add_zero, zero_add, zero_sub, mul_neg, neg_mul, neg_neg]
  congr 1 <;> ring

theorem mulVec_ext {m m' : ℕ → ℕ → ℝ} (h : ∀ s, mulVec m s = mulVec m' s) {r k : ℕ} (hr : r < 4) (hk : k < 4) :
    m r k = m' r k := by
  have e0 := h ⟨1, 0, 0, 0⟩
  have e1 := h ⟨0, 1, 0, 0⟩
  have e2 := h ⟨0, 0, 1, 0⟩
  have e3 := h ⟨0, 0, 0, 1⟩
  simp only [mulVec, mul_one, mul_zero, add_zero, zero_add, S4.mk.injEq] at e0 e1 e2 e3
  interval_cases r <;> interval_cases k <;> simp only [e0, e1, e2, e3]

theorem mulVec_first_row {m : ℕ → ℕ → ℝ} (h : ∀ s, (mulVec m s).i = s.i) :
    m 0 0 = 1 ∧ m 0 1 = 0 ∧ m 0 2 = 0 ∧ m 0 3 = 0 := by
  have e0 := h ⟨1, 0, 0, 0⟩
  have e1 := h ⟨0, 1, 0, 0⟩
  have e2 := h ⟨0, 0, 1, 0⟩
  have e3 := h ⟨0, 0, 0, 1⟩
  simp only [mulVec, mul_one, mul_zero, add_zero, zero_add] at e0 e1 e2 e3
  exact ⟨e0, e1, e2, e3⟩

/-- `det C(S) = I² − Q² − U² − V²` and `det (E C(S) Eᴴ) = |det E|² det C(S)`. -/
theorem jonesStokes_minkowski (e : J2 ℝ) (s : S4 ℝ) :
    (jonesStokes e s).i ^ 2 - (jonesStokes e s).q ^ 2 - (jonesStokes e s).u ^ 2 - (jonesStokes e s).v ^ 2
      = e.det.normSq * (s.i ^ 2 - s.q ^ 2 - s.u ^ 2 - s.v ^ 2) := by
  have det_coh2 : ∀ t : S4 ℝ, (coh2 t).det.re = t.i ^ 2 - t.q ^ 2 - t.u ^ 2 - t.v ^ 2 := fun t => by
    simp only [coh2, J2.det_def, Cx.sub_re, Cx.mul_re]; ring
  have him : (coh2 s).det.im = 0 := by simp only [coh2, J2.det_def, Cx.sub_im, Cx.mul_im]; ring
  rw [← det_coh2, ← det_coh2, coh2_jonesStokes, J2.det_mul, J2.det_mul, J2.det_adj]
  simp only [Cx.mul_re, Cx.mul_im, Cx.conj_re, Cx.conj_im, Cx.normSq, him]
  ring

theorem jonesStokes_cone (e : J2 ℝ) (s : S4 ℝ) (hphys : s.q ^ 2 + s.u ^ 2 + s.v ^ 2 ≤ s.i ^ 2) :
    (jonesStokes e s).q ^ 2 + (jonesStokes e s).u ^ 2 + (jonesStokes e s).v ^ 2 ≤ (jonesStokes e s).i ^ 2 := by
  have hm := jonesStokes_minkowski e s
  have h0 := mul_nonneg e.det.normSq_nonneg (sub_nonneg.mpr hphys)
  linarith

/-- The intensity polynomial identified from `Wavefront.I` (regenerated from the running hcipy, see `Properties/C08.lean`) is the
intensity of `J C(S) Jᴴ`; C08 states it in its own terms (`stokesI_eq`), C07 uses it for scalar transmissions on Jones-matrix pixels. -/
theorem stokesI_eq_jonesStokes (j : J2 ℝ) (a b c d : ℝ) :
    Gen.Stokes.stokesI j.a11.re j.a11.im j.a12.re j.a12.im j.a21.re j.a21.im j.a22.re j.a22.im a b c d
      = (jonesStokes j ⟨a, b, c, d⟩).i := by
  unfold Gen.Stokes.stokesI; simp only [jones_expand]; ring

theorem vecStokes_eq_jonesStokes (e : V2 ℝ) : vecStokes e = jonesStokes ⟨e.x, ⟨0, 0⟩, e.y, ⟨0, 0⟩⟩ ⟨1, 1, 0, 0⟩ := by
  simp only [jones_expand]; congr 1 <;> ring

theorem vecStokes_apply (j : J2 ℝ) (e : V2 ℝ) : vecStokes (j.apply e) = jonesStokes j (vecStokes e) := by
  have h : (⟨(j.apply e).x, ⟨0, 0⟩, (j.apply e).y, ⟨0, 0⟩⟩ : J2 ℝ) = j * ⟨e.x, ⟨0, 0⟩, e.y, ⟨0, 0⟩⟩ := by
    apply J2.ext <;>
      simp only [J2.mul_a11, J2.mul_a12, J2.mul_a21, J2.mul_a22, J2.apply_x, J2.apply_y, Cx.mul_zero, Cx.add_zero]
  rw [vecStokes_eq_jonesStokes, h, jonesStokes_mul, ← vecStokes_eq_jonesStokes]

theorem jonesStokes_scalar (t : Cx ℝ) (s : S4 ℝ) :
    jonesStokes ⟨t, ⟨0, 0⟩, ⟨0, 0⟩, t⟩ s = ⟨t.normSq * s.i, t.normSq * s.q, t.normSq * s.u, t.normSq * s.v⟩ := by
  simp only [jones_expand]; congr 1 <;> ring

theorem J2.scale_eq_mul (j : J2 ℝ) (t : Cx ℝ) :
    j.scale t = j * ⟨t, ⟨0, 0⟩, ⟨0, 0⟩, t⟩ ∧ j.scale t = ⟨t, ⟨0, 0⟩, ⟨0, 0⟩, t⟩ * j := by
  constructor <;> apply J2.ext <;> apply Cx.ext <;>
    simp only [J2.mul_a11, J2.mul_a12, J2.mul_a21, J2.mul_a22, J2.scale_a11, J2.scale_a12, J2.scale_a21, J2.scale_a22,
      Cx.add_re, Cx.add_im, Cx.mul_re, Cx.mul_im] <;> ring

theorem jonesStokes_scale (e : J2 ℝ) (t : Cx ℝ) (s : S4 ℝ) :
    jonesStokes (e.scale t) s = ⟨t.normSq * (jonesStokes e s).i, t.normSq * (jonesStokes e s).q,
      t.normSq * (jonesStokes e s).u, t.normSq * (jonesStokes e s).v⟩ := by
  rw [(J2.scale_eq_mul e t).2, jonesStokes_mul, jonesStokes_scalar]

theorem vecStokes_scale (e : V2 ℝ) (t : Cx ℝ) :
    vecStokes ⟨e.x * t, e.y * t⟩ = ⟨t.normSq * (vecStokes e).i, t.normSq * (vecStokes e).q,
      t.normSq * (vecStokes e).u, t.normSq * (vecStokes e).v⟩ := by
  simp only [jones_expand]; congr 1 <;> ring

/-- Two vectors of the closed forward cone `0 ≤ a`, `b² + c² + d² ≤ a²` (the physical Stokes vectors) have a non-negative
product. -/
theorem cone_dot_nonneg {a b c d i q u v : ℝ} (ha : 0 ≤ a) (hi : 0 ≤ i)
    (h1 : b ^ 2 + c ^ 2 + d ^ 2 ≤ a ^ 2) (h2 : q ^ 2 + u ^ 2 + v ^ 2 ≤ i ^ 2) :
    0 ≤ a * i + b * q + c * u + d * v := by
  have h0 : 0 ≤ q ^ 2 + u ^ 2 + v ^ 2 := add_nonneg (add_nonneg (sq_nonneg q) (sq_nonneg u)) (sq_nonneg v)
  have hm := mul_le_mul h1 h2 h0 (sq_nonneg a)
  -- Cauchy–Schwarz by Lagrange's identity: `(b² + c² + d²)(q² + u² + v²) − (bq + cu + dv)²` is the sum of these three squares,
  -- and the product of the two norms is at most `a² i²` by `hm`
  have h : (b * q + c * u + d * v) ^ 2 ≤ (a * i) ^ 2 := by
    linarith [sq_nonneg (b * u - c * q), sq_nonneg (b * v - d * q), sq_nonneg (c * v - d * u)]
  linarith [(abs_le_of_sq_le_sq' h (mul_nonneg ha hi)).1]

theorem vecStokes_i (e : V2 ℝ) : (vecStokes e).i = e.x.normSq + e.y.normSq := by
  simp only [jones_expand]; ring

theorem vecStokes_pure (e : V2 ℝ) :
    (vecStokes e).q ^ 2 + (vecStokes e).u ^ 2 + (vecStokes e).v ^ 2 = (vecStokes e).i ^ 2 := by
  simp only [jones_expand]; ring

theorem vecStokes_i_nonneg (e : V2 ℝ) : 0 ≤ (vecStokes e).i :=
  vecStokes_i e ▸ add_nonneg e.x.normSq_nonneg e.y.normSq_nonneg

/-- `2 I = tr (J C(S) Jᴴ)` row by row: each row `(p, q)` of `J` contributes the product of `S` with the Stokes vector of the
pure state `(p̄, q̄)`. -/
theorem jonesStokes_i (j : J2 ℝ) (s : S4 ℝ) :
    2 * (jonesStokes j s).i
      = (s.i * (vecStokes ⟨j.a11.conj, j.a12.conj⟩).i + s.q * (vecStokes ⟨j.a11.conj, j.a12.conj⟩).q
          + s.u * (vecStokes ⟨j.a11.conj, j.a12.conj⟩).u + s.v * (vecStokes ⟨j.a11.conj, j.a12.conj⟩).v)
        + (s.i * (vecStokes ⟨j.a21.conj, j.a22.conj⟩).i + s.q * (vecStokes ⟨j.a21.conj, j.a22.conj⟩).q
          + s.u * (vecStokes ⟨j.a21.conj, j.a22.conj⟩).u + s.v * (vecStokes ⟨j.a21.conj, j.a22.conj⟩).v) := by
  simp only [jones_expand]; ring

theorem jonesStokes_i_nonneg (e : J2 ℝ) (sv : S4 ℝ) (ha : 0 ≤ sv.i)
    (hphys : sv.q ^ 2 + sv.u ^ 2 + sv.v ^ 2 ≤ sv.i ^ 2) : 0 ≤ (jonesStokes e sv).i := by
  have h1 := cone_dot_nonneg ha (vecStokes_i_nonneg ⟨e.a11.conj, e.a12.conj⟩) hphys (vecStokes_pure _).le
  have h2 := cone_dot_nonneg ha (vecStokes_i_nonneg ⟨e.a21.conj, e.a22.conj⟩) hphys (vecStokes_pure _).le
  linarith [jonesStokes_i e sv]

/-- **Malus' law for partially polarised light**: behind the polariser `v vᵀ`, `v = (c, s)`, the intensity is `|v|² · vᵀ C(S) v / 2`. -/
theorem polarizer_stokes_i (c s : ℝ) (t : S4 ℝ) :
    (jonesStokes (polarizer c s) t).i = (c ^ 2 + s ^ 2) / 2 * ((c ^ 2 + s ^ 2) * t.i + (c ^ 2 - s ^ 2) * t.q + 2 * c * s * t.u) := by
  simp only [polarizer, jones_expand]; ring

/-- `polarizer (-s) c` is `P(θ + π/2)`, the other port of a polarising beam splitter. -/
theorem polarizer_split (c s : ℝ) (h : c ^ 2 + s ^ 2 = 1) (t : S4 ℝ) :
    (jonesStokes (polarizer c s) t).i + (jonesStokes (polarizer (-s) c) t).i = t.i := by
  rw [polarizer_stokes_i, polarizer_stokes_i]
  linear_combination ((c ^ 2 + s ^ 2 + 1) * t.i) * h

theorem polarizer_ports_split (c s : ℝ) (h : c ^ 2 + s ^ 2 = 1) (e : J2 ℝ) (sv : S4 ℝ) :
    (jonesStokes (polarizer c s * e) sv).i + (jonesStokes (polarizer (-s) c * e) sv).i
      = (jonesStokes e sv).i := by
  rw [jonesStokes_mul, jonesStokes_mul, polarizer_split c s h]

/-- **Retarders on the same axis compose by multiplying their phasors.**  With the projector `P = [[c², cs x̄], [cs x, s²]]` on the fast
axis (`P² = P` by `c² + s² = 1`, `x x̄ = 1`) the retarder is `p P + p̄ (1 − P)`. -/
theorem retarder_mul {c s : ℝ} (h : c ^ 2 + s ^ 2 = 1) {x : Cx ℝ} (hx : x.normSq = 1) (p q : Cx ℝ) :
    retarder c s p x * retarder c s q x = retarder c s (p * q) x := by
  have hC : (c : ℂ) ^ 2 + (s : ℂ) ^ 2 = 1 := by exact_mod_cast h
  have hX : x.toComplex * (starRingEnd ℂ) x.toComplex = 1 := by
    rw [Complex.mul_conj, ← Cx.toComplex_normSq, hx, Complex.ofReal_one]
  apply J2.ext <;> apply Cx.toComplex_injective <;>
    simp only [retarder, J2.mul_a11, J2.mul_a12, J2.mul_a21, J2.mul_a22, Cx.toComplex_add, Cx.toComplex_sub,
      Cx.toComplex_mul, Cx.toComplex_smul, Cx.toComplex_conj, map_mul] <;> push_cast
  · linear_combination
      (↑c ^ 2 * ↑s ^ 2 * (p.toComplex - (starRingEnd ℂ) p.toComplex) * (q.toComplex - (starRingEnd ℂ) q.toComplex)) * hX
      + (↑c ^ 2 * p.toComplex * q.toComplex + ↑s ^ 2 * (starRingEnd ℂ) p.toComplex * (starRingEnd ℂ) q.toComplex) * hC
  · linear_combination (↑c * ↑s * (starRingEnd ℂ) x.toComplex
      * (p.toComplex * q.toComplex - (starRingEnd ℂ) p.toComplex * (starRingEnd ℂ) q.toComplex)) * hC
  · linear_combination (↑c * ↑s * x.toComplex
      * (p.toComplex * q.toComplex - (starRingEnd ℂ) p.toComplex * (starRingEnd ℂ) q.toComplex)) * hC
  · linear_combination
      (↑c ^ 2 * ↑s ^ 2 * (p.toComplex - (starRingEnd ℂ) p.toComplex) * (q.toComplex - (starRingEnd ℂ) q.toComplex)) * hX
      + (↑s ^ 2 * p.toComplex * q.toComplex + ↑c ^ 2 * (starRingEnd ℂ) p.toComplex * (starRingEnd ℂ) q.toComplex) * hC

/-- The executed retarder in real components (no hypothesis): `p P + p̄ (1 − P)` has the real part of `p` on the diagonal, times
`c² + s²`, and everything else carries the imaginary part of `p`. -/
theorem retarder_mk (c s pr pi xr xi : ℝ) :
    retarder c s ⟨pr, pi⟩ ⟨xr, xi⟩
      = ⟨⟨(c ^ 2 + s ^ 2) * pr, (c * c - s * s) * pi⟩, ⟨2 * (c * s) * pi * xi, 2 * (c * s) * pi * xr⟩,
         ⟨-(2 * (c * s) * pi * xi), 2 * (c * s) * pi * xr⟩, ⟨(c ^ 2 + s ^ 2) * pr, (s * s - c * c) * pi⟩⟩ := by
  apply J2.ext <;> apply Cx.ext <;> simp only [retarder, jones_expand] <;> ring

/-- A real phasor (`p = p̄`) makes the retarder the scalar matrix `r`, whatever the axis. -/
theorem retarder_real {c s : ℝ} (h : c ^ 2 + s ^ 2 = 1) (r : ℝ) (x : Cx ℝ) :
    retarder c s ⟨r, 0⟩ x = ⟨⟨r, 0⟩, ⟨0, 0⟩, ⟨0, 0⟩, ⟨r, 0⟩⟩ := by
  rw [retarder_mk, h]
  simp only [one_mul, mul_zero, zero_mul, neg_zero]

end HcipyVerif.Jones

namespace HcipyVerif.C08

/-- `Jᴴ J = 1` for `J = [[x, y], [z, w]]` as four real polynomial equations (decidable over `ℚ`). -/
def IsUnitary8 (xr xi yr yi zr zi wr wi : ℝ) : Prop :=
  xr * xr + xi * xi + zr * zr + zi * zi = 1 ∧ yr * yr + yi * yi + wr * wr + wi * wi = 1 ∧
  xr * yr + xi * yi + zr * wr + zi * wi = 0 ∧ xr * yi - xi * yr + zr * wi - zi * wr = 0

open HcipyVerif.Jones in
theorem IsUnitary8.adj_mul_self {j : J2 ℝ}
    (h : IsUnitary8 j.a11.re j.a11.im j.a12.re j.a12.im j.a21.re j.a21.im j.a22.re j.a22.im) :
    j.adj * j = ⟨⟨1, 0⟩, ⟨0, 0⟩, ⟨0, 0⟩, ⟨1, 0⟩⟩ := by
  obtain ⟨h1, h2, h3, h4⟩ := h
  apply J2.ext <;> apply Cx.ext <;>
    simp only [J2.mul_a11, J2.mul_a12, J2.mul_a21, J2.mul_a22, J2.adj_a11, J2.adj_a12, J2.adj_a21, J2.adj_a22,
      Cx.add_re, Cx.add_im, Cx.mul_re, Cx.mul_im, Cx.conj_re, Cx.conj_im]
  · linear_combination h1
  · ring
  · linear_combination h3
  · linear_combination h4
  · linear_combination h3
  · linear_combination -h4
  · linear_combination h2
  · ring

open HcipyVerif.Jones in
theorem IsUnitary8.jonesStokes_i {j : J2 ℝ}
    (h : IsUnitary8 j.a11.re j.a11.im j.a12.re j.a12.im j.a21.re j.a21.im j.a22.re j.a22.im) (s : S4 ℝ) :
    (jonesStokes j s).i = s.i := by
  obtain ⟨h1, h2, h3, h4⟩ := h
  simp only [jones_expand]
  linear_combination ((s.i + s.q) / 2) * h1 + ((s.i - s.q) / 2) * h2 + s.u * h3 - s.v * h4

theorem unitary_conserves_intensity (j11 j12 j21 j22 e1 e2 : ℂ)
    (h11 : (starRingEnd ℂ) j11 * j11 + (starRingEnd ℂ) j21 * j21 = 1)
    (h12 : (starRingEnd ℂ) j11 * j12 + (starRingEnd ℂ) j21 * j22 = 0)
    (h21 : (starRingEnd ℂ) j12 * j11 + (starRingEnd ℂ) j22 * j21 = 0)
    (h22 : (starRingEnd ℂ) j12 * j12 + (starRingEnd ℂ) j22 * j22 = 1) :
    (starRingEnd ℂ) (j11 * e1 + j12 * e2) * (j11 * e1 + j12 * e2)
      + (starRingEnd ℂ) (j21 * e1 + j22 * e2) * (j21 * e1 + j22 * e2)
      = (starRingEnd ℂ) e1 * e1 + (starRingEnd ℂ) e2 * e2 := by
  simp only [map_add, map_mul]
  linear_combination ((starRingEnd ℂ) e1 * e1) * h11 + ((starRingEnd ℂ) e1 * e2) * h12
    + ((starRingEnd ℂ) e2 * e1) * h21 + ((starRingEnd ℂ) e2 * e2) * h22

theorem unitary8_of_complex (j11 j12 j21 j22 : ℂ)
    (h11 : (starRingEnd ℂ) j11 * j11 + (starRingEnd ℂ) j21 * j21 = 1)
    (h12 : (starRingEnd ℂ) j11 * j12 + (starRingEnd ℂ) j21 * j22 = 0)
    (h22 : (starRingEnd ℂ) j12 * j12 + (starRingEnd ℂ) j22 * j22 = 1) :
    IsUnitary8 j11.re j11.im j12.re j12.im j21.re j21.im j22.re j22.im := by
  have a := congrArg Complex.re h11
  have b := congrArg Complex.re h22
  have c := congrArg Complex.re h12
  have d := congrArg Complex.im h12
  simp only [Complex.add_re, Complex.mul_re, Complex.conj_re, Complex.conj_im, Complex.one_re, Complex.zero_re,
    Complex.add_im, Complex.mul_im, Complex.zero_im] at a b c d
  refine ⟨by linarith, by linarith, by linarith, by linarith⟩

end HcipyVerif.C08
