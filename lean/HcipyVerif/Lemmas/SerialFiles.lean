import HcipyVerif.Model.Serial

/-! Trees and their decoders, the ASDF layer, formats, the FITS paths, dtypes, files and chains of files:
what needs no index arithmetic.  Core Lean only. -/

namespace HcipyVerif.Serial

-- keys are literals wherever these occur
attribute [simp] Tree.get lookup Tree.set setKey Tree.erase eraseKey

theorem prod_append (a b : List Nat) : prod (a ++ b) = prod a * prod b := by
  fun_induction prod a <;> simp [prod, *, Nat.mul_assoc]

theorem prod_singleton (n : Nat) : prod [n] = n := by simp [prod]

theorem prod_append_pair (ts : List Nat) (n m : Nat) : prod (ts ++ [n, m]) = prod (ts ++ [n]) * m := by
  rw [show ts ++ [n, m] = (ts ++ [n]) ++ [m] from (List.append_assoc ts [n] [m]).symm, prod_append,
    prod_singleton]

theorem prod_reverse (a : List Nat) : prod a.reverse = prod a := by
  induction a with
  | nil => rfl
  | cons n a ih => simp [prod, prod_append, ih, Nat.mul_comm]

theorem mapM_map_ok {α : Type} (enc : α → Tree) (dec : Tree → Except Err α)
    (h : ∀ x, dec (enc x) = .ok x) (l : List α) : (l.map enc).mapM dec = .ok l := by
  induction l with
  | nil => rfl
  | cons x l ih => simp [-List.mapM_map, List.mapM_cons, h, ih, bind, Except.bind, pure, Except.pure]

theorem asDim_int (k : Nat) : asDim (.num (.int k)) = .ok k := by simp [asDim]

-- before `List.mapM_map`, which would fuse decoder and encoder
@[simp high] theorem mapM_asNum (l : List PyNum) : (l.map Tree.num).mapM asNum = .ok l :=
  mapM_map_ok Tree.num asNum (fun _ => rfl) l

@[simp high] theorem mapM_asDim (l : List Nat) :
    (l.map fun (k : Nat) => Tree.num (.int k)).mapM asDim = .ok l :=
  mapM_map_ok _ _ asDim_int l

@[simp high] theorem mapM_asArr (l : List Arr) : (l.map Tree.arr).mapM asArr = .ok l :=
  mapM_map_ok Tree.arr asArr (fun _ => rfl) l

theorem coerce_of_homogeneous (l : List PyNum) (h : Homogeneous l) : coerce l = l := by
  unfold coerce
  split
  · rfl
  · rename_i hn
    rcases h with h | h
    · simp_all
    · clear hn
      induction l with
      | nil => rfl
      | cons x l ih =>
        simp only [List.all_cons, Bool.and_eq_true] at h
        cases x with
        | int i => simp [PyNum.isInt] at h
        | float q => simp [PyNum.toFloat, ih h.2]

theorem Grid.fromDict_toDict (g : Grid) (hc : Coords.fromDict g.coords.toDict = .ok g.coords) :
    Grid.fromDict g.toDict = if knownSystem g.system then .ok g else .error .key := by
  simp [Grid.toDict, Grid.fromDict, Grid.fromDictWith, bind, Except.bind, hc]

theorem Coords.shape_length (c : Coords) (h : c.isSeparated = true) : c.shape.length = c.ndim := by
  cases c <;> simp_all [Coords.shape, Coords.dims, Coords.ndim, Coords.isSeparated]

theorem Coords.size_eq (c : Coords) (h : c.isSeparated = true) : c.size = prod c.shape := by
  cases c <;> simp_all [Coords.size, Coords.isSeparated]

theorem pyDropLast_append (ts gs : List Nat) (n : Nat) (h : gs.length = n) (hn : 0 < n) :
    pyDropLast (ts ++ gs) n = ts := by
  subst h
  simp [pyDropLast, Nat.ne_of_gt hn]

/-- `s[:-0]` is empty -/
theorem pyDropLast_zero (s : List Nat) : pyDropLast s 0 = [] := by simp [pyDropLast]

theorem ModeBasis.toDict_of_grid (b : ModeBasis) (g : Grid) (hg : b.grid = some g) :
    ∃ t, b.toDict = .ok t := by
  unfold ModeBasis.toDict
  rw [hg]
  exact ⟨_, rfl⟩

theorem normGridTree_toDict (g : Grid) : normGridTree g.toDict = g.pyWeights.toDict := by
  obtain ⟨s, c, w⟩ := g
  simp [normGridTree, Grid.toDict, Grid.pyWeights]

theorem AsdfFaithful.grid_load {lib : AsdfLib} (hl : AsdfFaithful lib) (g : Grid) :
    Grid.fromDict (lib.load g.toDict) = Grid.fromDict g.pyWeights.toDict :=
  (hl.grid g).trans (congrArg Grid.fromDict (normGridTree_toDict g))

theorem normObjTree_field (f : Field) :
    normObjTree f.toDict = ({ f with grid := f.grid.pyWeights } : Field).toDict := by
  obtain ⟨v, g⟩ := f
  simp [normObjTree, Field.toDict, normGridTree_toDict]

theorem pyScalar_of_not_npScalar (t : Tree) (h : t.isNpScalar = false) : pyScalar t = t := by
  unfold pyScalar
  split
  · simp [Tree.isNpScalar] at h
  · rfl

theorem pyScalar_idem (t : Tree) : pyScalar (pyScalar t) = pyScalar t := by
  fun_cases pyScalar t <;> simp [pyScalar, *]

theorem pyWeights_idem (g : Grid) : g.pyWeights.pyWeights = g.pyWeights := by
  simp [Grid.pyWeights, pyScalar_idem]

/-- excluded: `ext` a proper end of `suf`, which `stem` might complete -/
theorem endsWith_append_eq (stem ext suf : List Char)
    (h : endsWith ext suf = true ∨ endsWith suf ext = false) :
    endsWith (stem ++ ext) suf = endsWith ext suf := by
  unfold endsWith at *
  rw [List.isSuffixOf_iff_suffix, Bool.eq_false_iff, Ne, List.isSuffixOf_iff_suffix] at h
  rw [Bool.eq_iff_iff, List.isSuffixOf_iff_suffix, List.isSuffixOf_iff_suffix]
  refine ⟨fun h1 => ?_, fun h1 => h1.trans (List.suffix_append stem ext)⟩
  rcases List.suffix_or_suffix_of_suffix h1 (List.suffix_append stem ext) with h2 | h2
  · exact h2
  · exact h.elim id fun hn => (hn h2).elim

/-- guessing on `stem ++ ext` is guessing on `ext`: one evaluation of the hypothesis per extension -/
theorem guessFormat_append (stem ext : List Char) (k : Option Fmt)
    (h : (∀ suf ∈ [sAsdf, sFits, sFitsGz, sPkl, sPickle],
      endsWith ext suf = true ∨ endsWith suf ext = false) ∧ guessFormat ext = k) :
    guessFormat (stem ++ ext) = k := by
  obtain ⟨h, rfl⟩ := h
  simp only [List.forall_mem_cons] at h
  obtain ⟨h1, h2, h3, h4, h5, -⟩ := h
  simp only [guessFormat, endsWith_append_eq stem ext _ h1, endsWith_append_eq stem ext _ h2,
    endsWith_append_eq stem ext _ h3, endsWith_append_eq stem ext _ h4, endsWith_append_eq stem ext _ h5]

theorem prod_append_shape (ts : List Nat) (c : Coords) (h : c.isSeparated = true) :
    prod (ts ++ c.shape) = prod (ts ++ [c.size]) := by
  rw [prod_append, prod_append, prod_singleton, Coords.size_eq c h]

theorem writeFieldFits_eq (f : Field) (ts : List Nat)
    (hshape : f.values.shape = ts ++ [f.grid.coords.size]) :
    writeFieldFits f =
      if f.grid.coords.isSeparated then
        if fitsDtypeOk f.values.dtype then
          .ok ⟨some ⟨f.values.dtype, ts ++ f.grid.coords.shape, f.values.data⟩, f.toDict.erase .values⟩
        else .error .key
      else .ok ⟨none, f.toDict⟩ := by
  unfold writeFieldFits
  cases hsep : f.grid.coords.isSeparated with
  | false => rfl
  | true =>
    simp only [if_true, Arr.reshape, hshape, List.dropLast_concat, prod_append_shape ts _ hsep, bind,
      Except.bind]

theorem writeBasisFits_eq (b : ModeBasis) (g : Grid) (t : Tree) (hg : b.grid = some g)
    (ht : b.toDict = .ok t) (ts : List Nat) (m : Nat)
    (hshape : b.denseArr.shape = ts ++ [g.coords.size, m]) :
    writeBasisFits b =
      if g.coords.size ≠ 0 && g.coords.isSeparated then
        if fitsDtypeOk b.denseArr.dtype then
          if g.coords.isRegular then
            .ok ⟨some ⟨b.denseArr.dtype, m :: (ts ++ g.coords.shape),
              transposeFlat (prod (ts ++ [g.coords.size])) m b.denseArr.data⟩, t.erase .tm⟩
          else .error .value
        else .error .key
      else .ok ⟨none, t⟩ := by
  unfold writeBasisFits
  rw [ht, hg]
  change (if (g.coords.size ≠ 0 && g.coords.isSeparated) = true then _ else _) = _
  cases hc : (g.coords.size ≠ 0 && g.coords.isSeparated) with
  | false => rfl
  | true =>
    have hsh : ts ++ [g.coords.size, m] = (ts ++ [g.coords.size]) ++ [m] :=
      (List.append_assoc ts [g.coords.size] [m]).symm
    have hprod : prod (m :: (ts ++ g.coords.shape)) = prod (m :: (ts ++ [g.coords.size])) :=
      congrArg (m * ·) (prod_append_shape ts g.coords (Bool.and_eq_true _ _ ▸ hc).2)
    simp only [bind, Except.bind, if_true, Arr.moveLastToFront, hshape, hsh, List.getLastD_concat,
      List.dropLast_concat, Arr.reshape, hprod]
    cases fitsDtypeOk b.denseArr.dtype <;> cases g.coords.isRegular <;> rfl

theorem writeBasisFits_ok (b : ModeBasis) (g : Grid) (t : Tree) (hg : b.grid = some g)
    (ht : b.toDict = .ok t) (ts : List Nat) (m : Nat)
    (hshape : b.denseArr.shape = ts ++ [g.coords.size, m]) (file : FitsFile)
    (hw : writeBasisFits b = .ok file) :
    file = ⟨none, t⟩ ∨
    file = ⟨some ⟨b.denseArr.dtype, m :: (ts ++ g.coords.shape),
        transposeFlat (prod (ts ++ [g.coords.size])) m b.denseArr.data⟩, t.erase .tm⟩ ∧
      g.coords.isSeparated = true := by
  rw [writeBasisFits_eq b g t hg ht ts m hshape] at hw
  split at hw
  · rename_i hc
    split at hw
    · split at hw
      · cases hw
        exact .inr ⟨rfl, (Bool.and_eq_true _ _ ▸ hc).2⟩
      · cases hw
    · cases hw
  · cases hw
    exact .inl rfl

theorem readBasisFits_image (g : Grid) (hgd : Grid.fromDict g.toDict = .ok g)
    (hsep : g.coords.isSeparated = true) (hnd : 0 < g.coords.ndim) (A : Arr) (ts : List Nat) (m : Nat)
    (hA : A.shape = ts ++ [g.coords.size, m]) (img : List Rat)
    (hd : transposeFlat m (prod (ts ++ [g.coords.size])) img = A.data) (tmT : Tree) (sp : Bool) :
    readBasisFits ⟨some ⟨A.dtype, m :: (ts ++ g.coords.shape), img⟩,
        (Tree.dict [(.grid, g.toDict), (.tm, tmT), (.isSparse, .bool sp)]).erase .tm⟩ =
      (if sp then ModeBasis.toSparse true else .ok) ⟨.dense A, some g⟩ := by
  obtain ⟨dt, sh, d⟩ := A
  subst hA hd
  have ht : pyDropLast (m :: (ts ++ g.coords.shape)) g.coords.ndim = m :: ts :=
    pyDropLast_append (m :: ts) g.coords.shape g.coords.ndim (Coords.shape_length g.coords hsep) hnd
  have hprod : prod (m :: (ts ++ [g.coords.size])) = prod (m :: (ts ++ g.coords.shape)) :=
    congrArg (m * ·) (prod_append_shape ts g.coords hsep).symm
  cases sp <;>
  simp [readBasisFits, hgd, bind, Except.bind, Arr.reshape, ht, hprod, ModeBasis.fromDict,
    Arr.moveFirstToLast, Except.map, ModeBasis.toDense]

theorem fitsCard_error (d : DType) (e : Err) (h : fitsCard d = .error e) : e = .key := by
  unfold fitsCard at h
  split at h <;> cases h
  rfl

theorem readDType_error_iff (r : Route) (d : DType) (e : Err) :
    readDType r d = .error e ↔
      (r = .fitsImageField ∨ r = .fitsImageBasis) ∧ fitsCard d = .error e := by
  cases r <;> simp only [readDType, fitsImageDType, bind, Except.bind, Except.map]
  case fitsImageField => cases fitsCard d <;> simp
  case fitsImageBasis => cases fitsCard d <;> simp
  all_goals simp

theorem fitsImageDType_ok (d d' : DType) (h : fitsImageDType d = .ok d') :
    d'.kind = d.kind ∧ d'.size = d.size := by
  unfold fitsImageDType at h
  generalize fitsCard d = x at h
  cases x with
  | error e => cases h
  | ok c =>
    cases h
    split
    · exact ⟨rfl, rfl⟩
    · split <;> exact ⟨rfl, rfl⟩

theorem of_bind_eq {α β : Type} {w : Except Err α} {f : α → Except Err β} {y : Except Err β}
    (h : w.bind f = y) {a : α} (hw : w = .ok a) : f a = y := by
  subst hw
  exact h

theorem bind_eq_ok {α β : Type} {w : Except Err α} {f : α → Except Err β} {y : β}
    (h : w.bind f = .ok y) : ∃ a, w = .ok a ∧ f a = .ok y := by
  cases w with
  | error e => cases h
  | ok a => exact ⟨a, rfl, h⟩

theorem ok_of_toBool {α : Type} {w : Except Err α} (h : w.toBool = true) : ∃ a, w = .ok a := by
  cases w with
  | error e => cases h
  | ok a => exact ⟨a, rfl⟩

/-- the last step of every `write_*` -/
def storeAs {P : Type} (wa : Except Err AsdfFile) (wf : Except Err FitsFile) (p : P) :
    Fmt → Except Err (Stored P)
  | .asdf => wa.map .asdf
  | .fits => wf.map .fits
  | .pickle => .ok (.pickle p)

/-- every reader and writer resolves the name, then dispatches: the two steps are `formatOf` -/
theorem bind_dispatch {β : Type} (name : List Char) (fmt : Option String) (f : Fmt → Except Err β) :
    (resolveName name fmt >>= fun s => dispatch s >>= f) = (formatOf name fmt).bind f := by
  unfold formatOf
  cases resolveName name fmt <;> rfl

/-- only for a write that succeeds: `to_dict()` runs between the halves of `formatOf` and may refuse
first -/
theorem writeBasisFile_ok {lib : AsdfLib} {name : List Char} {fmt : Option String} {b : ModeBasis}
    {C : Stored ModeBasis → Prop}
    (h : ∀ st, (resolveName name fmt >>= fun s =>
      dispatch s >>= storeAs (writeBasisAsdf lib b) (writeBasisFits b) b) = .ok st → C st)
    (st : Stored ModeBasis) (hw : writeBasisFile lib name fmt b = .ok st) : C st := by
  unfold writeBasisFile at hw
  cases ht : b.toDict with
  | error e =>
    rw [ht] at hw
    cases hr : resolveName name fmt <;> rw [hr] at hw <;> cases hw
  | ok t =>
    rw [ht] at hw
    exact h st hw

/-- the hypotheses of this lemma and the next are in the shape every `write*File` / `read*File` unfolds to -/
theorem format_of_stored {P : Type} {wa : Except Err AsdfFile} {wf : Except Err FitsFile} {p : P}
    {name : List Char} {fmt : Option String} (st : Stored P)
    (hw : (resolveName name fmt >>= fun s => dispatch s >>= storeAs wa wf p) = .ok st) :
    formatOf name fmt = .ok st.fmt := by
  rw [bind_dispatch] at hw
  obtain ⟨k, hk, hw⟩ := bind_eq_ok hw
  rw [hk]
  cases k with
  | asdf => cases wa <;> cases hw; rfl
  | fits => cases wf <;> cases hw; rfl
  | pickle => cases hw; rfl

/-- a file round trip is the round trip of its format.  `M`: what the reader does once the format is
known (its own `match`); `Q` speaks of what it returns.  Leave `st` and `hw` to a goal `∀ st, … → …`:
`M` is found by unification only while `st` is bound -/
theorem read_storeAs {P X : Type} {wa : Except Err AsdfFile} {wf : Except Err FitsFile} {p : P}
    (M : Fmt → Stored P → Except Err X) (Q : Fmt → Except Err X → Prop)
    (hA : ∀ file, wa = .ok file → Q .asdf (M .asdf (.asdf file)))
    (hF : ∀ file, wf = .ok file → Q .fits (M .fits (.fits file)))
    (hP : Q .pickle (M .pickle (.pickle p))) {name : List Char} {fmt : Option String} (st : Stored P)
    (hw : (resolveName name fmt >>= fun s => dispatch s >>= storeAs wa wf p) = .ok st) :
    ∃ k, formatOf name fmt = .ok k ∧
      Q k (resolveName name fmt >>= fun s => dispatch s >>= fun k => M k st) := by
  rw [bind_dispatch] at hw ⊢
  obtain ⟨k, hk, hw⟩ := bind_eq_ok hw
  rw [hk]
  refine ⟨k, rfl, ?_⟩
  cases k with
  | asdf =>
    cases wa with
    | error e => cases hw
    | ok file => cases hw; exact hA file rfl
  | fits =>
    cases wf with
    | error e => cases hw
    | ok file => cases hw; exact hF file rfl
  | pickle => cases hw; exact hP

/-- a chain whose hop is a write `w` followed by a read `rd`, in the form the `do` blocks of `gridChain`,
`fieldChain`, `basisChain` unfold to -/
theorem chain_invariant {H X C : Type} (chain : List H → X → Except Err X) (w : H → X → Except Err C)
    (rd : H → C → Except Err X) (hnil : ∀ x, chain [] x = .ok x)
    (hcons : ∀ h r x, chain (h :: r) x = (w h x).bind fun c => (rd h c).bind (chain r))
    (Inv : X → Prop) (hhop : ∀ h x c y, Inv x → w h x = .ok c → rd h c = .ok y → Inv y) :
    ∀ hops x y, Inv x → chain hops x = .ok y → Inv y
  | [], x, y, hx, hc => by
    rw [hnil] at hc
    cases hc
    exact hx
  | h :: r, x, y, hx, hc => by
    rw [hcons] at hc
    obtain ⟨c, hw, hc⟩ := bind_eq_ok hc
    obtain ⟨x', hr, hc⟩ := bind_eq_ok hc
    exact chain_invariant chain w rd hnil hcons Inv hhop r x' y (hhop h x c x' hx hw hr) hc

/-- `N`: the ASDF layer's effect on weights; `P`: what a hop needs of its input -/
theorem chain_orbit {H X C : Type} (chain : List H → X → Except Err X) (w : H → X → Except Err C)
    (rd : H → C → Except Err X) (hnil : ∀ x, chain [] x = .ok x)
    (hcons : ∀ h r x, chain (h :: r) x = (w h x).bind fun c => (rd h c).bind (chain r))
    (N : X → X) (hN : ∀ x, N (N x) = N x) (P : X → Prop) (hPN : ∀ x, P x → P (N x))
    (hhop : ∀ h x c y, P x → w h x = .ok c → rd h c = .ok y → y = x ∨ y = N x)
    (hops : List H) (x y : X) (hx : P x) (hc : chain hops x = .ok y) : y = x ∨ y = N x := by
  refine chain_invariant chain w rd hnil hcons (fun z => z = x ∨ z = N x) ?_ hops x y (.inl rfl) hc
  rintro h z c y' (rfl | rfl) hw hr
  · exact hhop h z c y' hx hw hr
  · exact .inr ((hhop h _ c y' (hPN x hx) hw hr).elim id fun e => e.trans (hN x))

end HcipyVerif.Serial
