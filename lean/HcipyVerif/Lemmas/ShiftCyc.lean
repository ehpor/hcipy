import HcipyVerif.Lemmas.Shift
import HcipyVerif.Lemmas.ScalarHom
import HcipyVerif.Lemmas.FftIndex
import Mathlib.Algebra.BigOperators.Intervals
import Mathlib.Data.Rat.Floor
import Mathlib.Tactic.FieldSimp

/-! The exact character of the driver op `synth` (C15): evaluation of the sparse group ring `ℚ[ℤ/M]` (`Shift.Cyc`) at an
`M`-th root of unity of a field of characteristic 0 respects `0`, `+`, `*`; the printed dense coefficient list evaluates to
the same value; `synth` commutes with such a map. -/
namespace HcipyVerif.Shift
variable {G : Type} [Field G] {M : Nat}

/-- evaluation of a formal sum at `X = ζ` -/
def Cyc.eval (ζ : G) (a : Cyc M) : G := (a.terms.map fun t => (t.2 : G) * ζ ^ t.1).sum

theorem Cyc.eval_mul [CharZero G] (ζ : G) (hζ : ζ ^ M = 1) (a b : Cyc M) : (a * b).eval ζ = a.eval ζ * b.eval ζ := by
  show ((a.terms.flatMap fun s => b.terms.map fun t => ((s.1 + t.1) % M, s.2 * t.2)).map _).sum = _
  unfold Cyc.eval
  induction a.terms with
  | nil => simp
  | cons s as ih =>
    simp only [List.flatMap_cons, List.map_append, List.sum_append, ih, List.map_cons, List.sum_cons, add_mul]
    congr 1
    rw [List.map_map, AddPres.list_sum ⟨mul_zero _, mul_add _⟩, List.map_map]
    congr 1
    apply List.map_congr_left
    intro t _
    simp only [Function.comp, ← pow_eq_pow_mod _ hζ, Rat.cast_mul, pow_add]
    ring

theorem Cyc.eval_hom [CharZero G] (ζ : G) (hζ : ζ ^ M = 1) : ScalarHom (Cyc.eval (M := M) ζ) :=
  ⟨⟨rfl, fun a b => by
    show ((a.terms ++ b.terms).map _).sum = _
    rw [List.map_append, List.sum_append]; rfl⟩, Cyc.eval_mul ζ hζ⟩

theorem Cyc.eval_mono (ζ : G) (hζ : ζ ^ M = 1) (e : Nat) : (Cyc.mono e : Cyc M).eval ζ = ζ ^ e := by
  simp [Cyc.eval, Cyc.mono, ← pow_eq_pow_mod _ hζ]

theorem Cyc.eval_ofComplex (ζ : G) (re im : Rat) :
    (Cyc.ofComplex re im : Cyc M).eval ζ = (re : G) + (im : G) * ζ ^ (M / 4) := by
  simp [Cyc.eval, Cyc.ofComplex]

theorem Cyc.eval_dense [CharZero G] (ζ : G) (hζ : ζ ^ M = 1) (hM : 0 < M) (a : Cyc M) :
    ((List.range M).map fun r => (a.coeff r : G) * ζ ^ r).sum = a.eval ζ := by
  -- the sum of a list mapped over `range M` is, as a term, the `Finset` sum over `range M`
  show ∑ r ∈ Finset.range M, (a.coeff r : G) * ζ ^ r = a.eval ζ
  unfold Cyc.coeff Cyc.eval
  have hc : ∀ l : List (Nat × Rat), l.foldl (fun acc t => acc + t.2) 0 = (l.map (·.2)).sum := fun l => by
    rw [List.sum_eq_foldl, List.foldl_map]
  simp only [hc]
  induction a.terms with
  | nil => simp
  | cons t ts ih =>
    have key : ∀ r, (((List.filter (fun t => t.1 % M == r) (t :: ts)).map (·.2)).sum : Rat)
        = (if t.1 % M = r then t.2 else 0) + ((List.filter (fun t => t.1 % M == r) ts).map (·.2)).sum := by
      intro r
      by_cases h : t.1 % M = r <;> simp [h]
    simp only [key, Rat.cast_add, add_mul, Finset.sum_add_distrib, ih, List.map_cons, List.sum_cons]
    congr 1
    have : ∀ r ∈ Finset.range M, (((if t.1 % M = r then t.2 else 0 : Rat) : G)) * ζ ^ r
        = if t.1 % M = r then (t.2 : G) * ζ ^ (t.1 % M) else 0 := by
      intro r _
      by_cases h : t.1 % M = r <;> simp [h]
    rw [Finset.sum_congr rfl this, Finset.sum_ite_eq]
    simp [Nat.mod_lt _ hM, ← pow_eq_pow_mod _ hζ]

theorem synth_map {F K : Type} [Add K] [Mul K] [Add F] [Mul F] [Zero F] {φ : F → G} (hφ : ScalarHom φ)
    (χ : K → F) (kx ky : List K) (C : List F) (x y : K) :
    φ (synth χ kx ky C x y) = synth (fun q => φ (χ q)) kx ky (C.map φ) x y := by
  rw [synth_eq_sum, synth_eq_sum, hφ.list_sum, List.map_zipWith, List.zipWith_map_left]
  simp only [hφ.mul]

theorem synth_congr {F K : Type} [Add K] [Mul K] [Add F] [Mul F] [Zero F] (χ χ' : K → F) (kx ky : List K) (C : List F) (x y : K)
    (h : ∀ a ∈ kx, ∀ b ∈ ky, χ (a * x + b * y) = χ' (a * x + b * y)) :
    synth χ kx ky C x y = synth χ' kx ky C x y := by
  rw [synth_eq_sum, synth_eq_sum]
  exact congrArg List.sum (zipWith_congr_mem _ _ C _ fun c p hp => by rw [h _ (mem_gridPts hp).1 _ (mem_gridPts hp).2])

section character
variable (E : ℚ → G) (hE : ∀ a b, E (a + b) = E a * E b) (h1 : E 1 = 1)
include hE h1

theorem isChar : Fft.IsChar E := ⟨hE, by simpa [h1] using (hE 1 0).symm⟩

theorem char_int (d : ℤ) : E d = 1 := by
  have hc := isChar E hE h1
  have hn : ∀ k : ℕ, E k = 1 := fun k => by rw [← mul_one (k : ℚ), hc.nat_mul, h1, one_pow]
  cases d with
  | ofNat k => exact hn k
  | negSucc k => rw [Int.cast_negSucc, ← hc.inv, hn, inv_one]

theorem cycExp_agrees (hM : 0 < M) (q : ℚ) (hq : ∃ n : ℤ, q * M = n) : E (1 / M) ^ cycExp M q = E q := by
  obtain ⟨n, hn⟩ := hq
  have hMq : (M : ℚ) ≠ 0 := Nat.cast_ne_zero.2 hM.ne'
  -- the exponent is `n - M·⌊n/M⌋`, so the phase `exponent/M` differs from `q = n/M` by an integer
  have hk : (((n % (M : ℤ)).toNat : ℕ) : ℤ) = n - M * (n / M) := by
    rw [Int.toNat_of_nonneg (Int.emod_nonneg _ (Int.natCast_ne_zero.2 hM.ne')), Int.emod_def]
  have hkq : (((n % (M : ℤ)).toNat : ℕ) : ℚ) = q * M - M * ((n / (M : ℤ) : ℤ) : ℚ) := by
    rw [hn]; exact_mod_cast hk
  have e : (((n % (M : ℤ)).toNat : ℕ) : ℚ) * (1 / M) = ((-(n / (M : ℤ)) : ℤ) : ℚ) + q := by
    rw [hkq]; push_cast; field_simp; ring
  rw [cycExp, hn, Rat.floor_intCast, ← (isChar E hE h1).nat_mul, e, hE, char_int E hE h1, one_mul]

end character

end HcipyVerif.Shift
