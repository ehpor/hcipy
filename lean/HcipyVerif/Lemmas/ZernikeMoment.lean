import HcipyVerif.Lemmas.ZernikeRadialReal
import HcipyVerif.Lemmas.ZernikeIntegral
import HcipyVerif.Lemmas.ZernikeMomentAlg
import HcipyVerif.Lemmas.ZernikeIndex

/-! Radial orthonormality `∫₀¹ R_n^m R_{n'}^m r dr = δ_{nn'} / (2(n+1))` for every order.
`R_n^m` (`n = m + 2K`) has degree `n` and only the powers `r^m, r^(m+2), …`, so it suffices that `R_n^m` is orthogonal to the
monomials `r^(m+2j)`, `j < K`, and has the right product with its own leading term `j = K`: the moments of the factorial
formula, integrated term by term (`integral_radialR_mul_pow`), are those of `Lemmas/ZernikeMomentAlg.lean`
(`radialMoment_spec`).  The statement on the coefficient lists of the recursion (`pint01_radialPoly_mul`) follows from the
one about `radialR`; then the modes on the disc. -/

namespace HcipyVerif.Zernike
open Finset intervalIntegral

theorem radialR_eq (n m : Nat) (x : ℝ) :
    radialR n m x = ∑ i ∈ range ((n - m) / 2 + 1), ((defCoeff n m i : Rat) : ℝ) * x ^ (n - 2 * i) := by
  simp_rw [defCoeff_cast]; rfl

theorem integral_radialR_mul_pow (n m e : Nat) :
    ∫ x in (0:ℝ)..1, radialR n m x * x ^ e = (radialMoment n m e : ℝ) := by
  simp_rw [radialR_eq, Finset.sum_mul, mul_assoc, ← pow_add]
  rw [integral_finsetSum (f := fun i x => ((defCoeff n m i : Rat) : ℝ) * x ^ (n - 2 * i + e)) fun i _ =>
    (continuous_const.mul (continuous_pow _)).intervalIntegrable _ _]
  unfold radialMoment
  rw [Rat.cast_sum]
  refine Finset.sum_congr rfl fun i _ => ?_
  rw [integral_const_mul, integral_pow]
  push_cast
  ring

theorem integral_radialR_mul_radialR (n n' m : Nat) :
    ∫ x in (0:ℝ)..1, radialR n m x * radialR n' m x * x =
      ∑ j ∈ range ((n' - m) / 2 + 1), ((defCoeff n' m j : Rat) : ℝ) * (radialMoment n m (n' - 2 * j + 1) : ℝ) := by
  have h : ∀ x : ℝ, radialR n m x * radialR n' m x * x =
      ∑ j ∈ range ((n' - m) / 2 + 1), ((defCoeff n' m j : Rat) : ℝ) * (radialR n m x * x ^ (n' - 2 * j + 1)) := by
    intro x
    rw [radialR_eq n' m, Finset.mul_sum, Finset.sum_mul]
    exact Finset.sum_congr rfl fun j _ => by ring
  simp_rw [h]
  rw [integral_finsetSum (f := fun j x => ((defCoeff n' m j : Rat) : ℝ) * (radialR n m x * x ^ (n' - 2 * j + 1)))
    fun j _ => (continuous_const.mul ((continuous_radialR n m).mul (continuous_pow _))).intervalIntegrable _ _]
  exact Finset.sum_congr rfl fun j _ => by rw [integral_const_mul, integral_radialR_mul_pow]

theorem integral_radialR_mul (n n' m : Nat) (hm : m ≤ n) (hm' : m ≤ n')
    (hpar : (n - m) % 2 = 0) (hpar' : (n' - m) % 2 = 0) :
    ∫ r in (0:ℝ)..1, radialR n m r * radialR n' m r * r = if n = n' then 1 / (2 * ((n : ℝ) + 1)) else 0 := by
  wlog hle : n' ≤ n generalizing n n'
  · have h := this n' n hm' hm hpar' hpar (by omega)
    have hne : n ≠ n' := by omega
    rw [if_neg hne.symm] at h
    rw [if_neg hne]
    exact (integral_congr fun r _ => by rw [mul_comm (radialR n m r)]).trans h
  obtain ⟨hlow, htop⟩ := radialMoment_spec n m hm hpar
  rw [integral_radialR_mul_radialR]
  -- the powers `r^(n'-2j)` of `R_{n'}^m`, times the weight `r`
  have hzero : ∀ j, 2 * j ≤ n' - m → n' - 2 * j < n → radialMoment n m (n' - 2 * j + 1) = 0 := by
    intro j hj hlt
    have e : n' - 2 * j = m + 2 * ((n' - m) / 2 - j) := by omega
    rw [e]
    exact hlow _ (by omega)
  -- every term below the leading one of `R_{n'}^m` vanishes; the leading one meets the top moment iff `n' = n`
  rw [Finset.sum_range_succ', Finset.sum_eq_zero, zero_add]
  · split_ifs with hnn
    · subst hnn
      have := congrArg (Rat.cast : Rat → ℝ) htop
      push_cast at this ⊢
      exact this
    · rw [hzero 0 (by omega) (by omega), Rat.cast_zero, mul_zero]
  · intro j hj
    have hj := Finset.mem_range.mp hj
    rw [hzero (j + 1) (by omega) (by omega), Rat.cast_zero, mul_zero]

theorem pint01_radialPoly_mul (n n' m : Nat) (hm : m ≤ n) (hm' : m ≤ n')
    (hpar : (n - m) % 2 = 0) (hpar' : (n' - m) % 2 = 0) :
    pint01 (pshift 1 (pmul (radialPoly n m) (radialPoly n' m))) = if n = n' then 1 / (2 * ((n : Rat) + 1)) else 0 := by
  have h : ((pint01 (pshift 1 (pmul (radialPoly n m) (radialPoly n' m))) : Rat) : ℝ) =
      ∫ r in (0:ℝ)..1, radialR n m r * radialR n' m r * r := by
    rw [← integral_pevalR]
    congr 1; funext r
    rw [pevalR_pshift, pevalR_pmul, pevalR_radialPoly_eq_radialR n m hm hpar, pevalR_radialPoly_eq_radialR n' m hm' hpar']
    ring
  rw [integral_radialR_mul n n' m hm hm' hpar hpar'] at h
  refine Rat.cast_injective (α := ℝ) (h.trans ?_)
  split <;> simp

section Disc
open Real

theorem zernikeR_orthonormal (n n' : Nat) (m m' : ℤ) (hv : valid n m = true) (hv' : valid n' m' = true) :
    ∫ r in (0:ℝ)..1, ∫ θ in (0:ℝ)..(2 * π), zernikeR n m r θ * zernikeR n' m' r θ * r
      = if n = n' ∧ m = m' then π else 0 := by
  obtain ⟨hv1, hv2⟩ := valid_iff.mp hv
  obtain ⟨hv1', hv2'⟩ := valid_iff.mp hv'
  have inner : ∀ r : ℝ, ∫ θ in (0:ℝ)..(2 * π), zernikeR n m r θ * zernikeR n' m' r θ * r
      = (√((n : ℝ) + 1) * √((n' : ℝ) + 1) * (radialR n m.natAbs r * radialR n' m'.natAbs r * r)) *
          (if m = m' then 2 * π else 0) := by
    intro r
    rw [← integral_azimR_mul m m', ← integral_const_mul]
    congr 1; funext θ
    unfold zernikeR; ring
  simp_rw [inner]
  rw [integral_mul_const, integral_const_mul]
  by_cases hm : m = m'
  · subst hm
    rw [if_pos rfl, integral_radialR_mul n n' m.natAbs hv1 hv1' hv2 hv2']
    by_cases hnn : n = n'
    · subst hnn
      rw [if_pos rfl, if_pos ⟨rfl, rfl⟩]
      have hpos : (0:ℝ) ≤ (n : ℝ) + 1 := by positivity
      rw [Real.mul_self_sqrt hpos]
      field_simp
    · rw [if_neg hnn, if_neg (fun h => hnn h.1)]; ring
  · rw [if_neg hm, if_neg (fun h => hm h.2)]; ring

end Disc

end HcipyVerif.Zernike
