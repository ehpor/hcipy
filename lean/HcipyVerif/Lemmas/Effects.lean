import HcipyVerif.Model.Effects

/-!
The C06 effect checkers are sound: `check` keeps `Inv` (buffer sharing over-approximated, object identity exact, the
input changed only in the attributes listed as dirty), `checkI` keeps `MemoInv` (a memo entry is its cell's
specification at its key), and a loop accepted with zero and one round that is at a fixpoint after one is accepted
with any number of rounds.
-/

namespace HcipyVerif.Effects

theorem upd_same {α} (f : Nat → α) (k : Nat) (v : α) : upd f k v k = v := by simp [upd]
theorem upd_ne {α} (f : Nat → α) {k i : Nat} (v : α) (h : i ≠ k) : upd f k v i = f i := by simp [upd, h]
theorem upd_rename {α} (f : Nat → α) (d s : Nat) : upd f d (f s) = fun x => f (if x = d then s else x) :=
  funext fun _ => (apply_ite f _ _ _).symm

theorem Obj.get_set_same (o : Obj) (a : Attr) (v : Int) : (o.set a v).get a = v := by
  cases a <;> rfl
theorem Obj.get_set_ne (o : Obj) {a b : Attr} (v : Int) (h : b ≠ a) : (o.set a v).get b = o.get b := by
  cases a <;> cases b <;> first | rfl | exact absurd rfl h
theorem Obj.buf_set (o : Obj) (a : Attr) (v : Int) : (o.set a v).buf = o.buf := by
  cases a <;> rfl
theorem InVal.obj_get (v : InVal) (a : Attr) : v.obj.get a = v.get a := by cases a <;> rfl

theorem Obj.ext_get {o o' : Obj} (hb : o.buf = o'.buf) (h : ∀ a, o.get a = o'.get a) : o = o' := by
  cases o; cases o'
  have h1 := h .wavelength; have h2 := h .stokes; have h3 := h .grid
  simp only [Obj.get] at h1 h2 h3
  simp_all

structure Inv (v : InVal) (A : Abs) (c : St) : Prop where
  nObj : 1 ≤ c.nObj
  nBuf : 1 ≤ c.nBuf
  envLt : ∀ x, c.env x < c.nObj
  isIn : ∀ x, A.isIn x = true ↔ c.env x = 0
  shares : ∀ x, (c.objs (c.env x)).buf = 0 → A.shares x = true
  buf0 : c.bufs 0 = v.field
  obj0buf : (c.objs 0).buf = 0
  obj0 : ∀ a, a ∉ A.dirty → (c.objs 0).get a = v.get a
  slots : ∀ s a, A.slots s = some a → c.slots s = v.get a

theorem inv_init (v : InVal) : Inv v Abs.init (init v) :=
  ⟨Nat.le_refl 1, Nat.le_refl 1, fun _ => Nat.one_pos, fun _ => ⟨fun _ => rfl, fun _ => rfl⟩, fun _ _ => rfl, rfl, rfl,
    fun a _ => v.obj_get a, nofun⟩

theorem Inv.alloc {v : InVal} {A : Abs} {c : St} (h : Inv v A c) (d : Var) {o : Obj} {sh : Bool}
    (ho : o.buf = 0 → sh = true) {n : Nat} (hn : c.nBuf ≤ n) {B : Nat → Int} (hB : B 0 = c.bufs 0) (tc : List Touch) :
    Inv v { A with isIn := upd A.isIn d false, shares := upd A.shares d sh }
      { c with env := upd c.env d c.nObj, objs := upd c.objs c.nObj o, bufs := B, nObj := c.nObj + 1, nBuf := n,
               touches := tc } := by
  have hn0 : 0 ≠ c.nObj := Nat.ne_of_lt h.nObj
  have hfresh : ∀ x, c.env x ≠ c.nObj := fun x => Nat.ne_of_lt (h.envLt x)
  refine { h with
    nObj := Nat.le_succ_of_le h.nObj, nBuf := Nat.le_trans h.nBuf hn, envLt := fun x => ?_, isIn := fun x => ?_,
    shares := fun x => ?_, buf0 := hB.trans h.buf0, obj0buf := ?_, obj0 := fun a ha => ?_ }
  all_goals simp only [upd]
  · split
    · omega
    · exact Nat.lt_succ_of_lt (h.envLt x)
  · split
    · simp [hn0.symm]
    · exact h.isIn x
  · split
    · rw [if_pos rfl]; exact ho
    · rw [if_neg (hfresh x)]; exact h.shares x
  · rw [if_neg hn0]; exact h.obj0buf
  · rw [if_neg hn0]; exact h.obj0 a ha

/-- `t.a = val`.  `r` : the checker knows that `val` is the input's original `a`, and then takes `a` off the dirty list
(`setAttrSlot` from a slot that holds it; never for `setAttrConst`). -/
theorem Inv.setAttr {v : InVal} {A : Abs} {c : St} (h : Inv v A c) (t : Var) (a : Attr) (val : Int) (r : Prop) [Decidable r]
    (hr : r → val = v.get a) (w : List Attr) (tc : List Touch) :
    Inv v (if A.isIn t = true then
            (if r then { A with dirty := A.dirty.filter (· ≠ a) } else { A with dirty := a :: A.dirty })
          else A)
      { c with objs := upd c.objs (c.env t) ((c.objs (c.env t)).set a val), writes := w, touches := tc } := by
  generalize hO : upd c.objs (c.env t) ((c.objs (c.env t)).set a val) = O
  have hbuf : ∀ i, (O i).buf = (c.objs i).buf := fun i => by
    subst hO; unfold upd; split
    · subst_vars; exact Obj.buf_set _ a val
    · rfl
  -- buffers stay where they are, so only the attributes of object 0 are at stake
  have frame : ∀ D, (∀ a' ∉ D, (O 0).get a' = v.get a') →
      Inv v { A with dirty := D } { c with objs := O, writes := w, touches := tc } := fun D h0 =>
    { h with shares := fun x hx => h.shares x ((hbuf _).symm.trans hx), obj0buf := (hbuf 0).trans h.obj0buf, obj0 := h0 }
  subst hO
  by_cases hin : A.isIn t = true
  · have he : c.env t = 0 := (h.isIn t).mp hin
    rw [if_pos hin]
    split
    · refine frame _ fun a' ha' => ?_
      rw [he, upd_same]
      by_cases haa : a' = a
      · subst haa; rw [Obj.get_set_same]; exact hr ‹_›
      · rw [Obj.get_set_ne _ _ haa]
        exact h.obj0 a' fun hmem => ha' (List.mem_filter.mpr ⟨hmem, by simpa using haa⟩)
    · refine frame _ fun a' ha' => ?_
      rw [he, upd_same, Obj.get_set_ne _ _ (List.ne_of_not_mem_cons ha')]
      exact h.obj0 a' (List.not_mem_of_not_mem_cons ha')
  · rw [if_neg hin]
    exact frame _ fun a' ha' => by rw [upd_ne _ _ fun he => hin ((h.isIn t).mpr he.symm)]; exact h.obj0 a' ha'

theorem step_inv (sem : Nat → List Int → Int) (v : InVal) (A A' : Abs) (c : St) (i : Instr)
    (h : Inv v A c) (hc : checkStep A i = some A') : Inv v A' (step sem c i) := by
  have hb0 : 0 ≠ c.nBuf := Nat.ne_of_lt h.nBuf
  cases i with
  | copy d s | newFrom d op args like =>
    cases hc
    exact h.alloc d (fun hb => absurd hb hb0.symm) (Nat.le_succ _) (upd_ne _ _ hb0) _
  | wrap d s =>
    cases hc
    exact h.alloc d (h.shares s) (Nat.le_refl _) rfl _
  | bind d s =>
    cases hc
    -- the conjuncts about a name `x` are the old ones about `x` with `d` renamed to `s`
    simp only [step, upd_rename]
    exact { h with envLt := fun _ => h.envLt _, isIn := fun _ => h.isIn _, shares := fun _ => h.shares _ }
  | inplace op t args =>
    obtain ⟨hs, ⟨⟩⟩ := Option.ite_none_left_eq_some.mp hc
    have hbt : 0 ≠ bufOf c t := fun hb => hs (h.shares t hb.symm)
    exact { h with buf0 := (upd_ne _ _ hbt).trans h.buf0 }
  | setFieldNew t op args =>
    obtain ⟨hs, ⟨⟩⟩ := Option.ite_none_left_eq_some.mp hc
    have het : 0 ≠ c.env t := fun he => hs ((h.isIn t).mpr he.symm)
    refine { h with
      nBuf := Nat.le_succ_of_le h.nBuf, shares := fun x => ?_, buf0 := (upd_ne _ _ hb0).trans h.buf0,
      obj0buf := (congrArg Obj.buf (upd_ne _ _ het)).trans h.obj0buf, obj0 := fun a ha => ?_ }
    · simp only [step, upd]
      -- whoever names `t`'s object, `t` or an alias, now sees the new buffer
      by_cases he : c.env x = c.env t
      · rw [if_pos he]; exact fun hb => absurd hb hb0.symm
      · rw [if_neg he, if_neg fun hx => he (congrArg c.env hx)]; exact h.shares x
    · exact (congrArg (Obj.get · a) (upd_ne _ _ het)).trans (h.obj0 a ha)
  | saveAttr slot s a =>
    cases hc
    refine { h with slots := fun s' a' hs' => ?_ }
    simp only [step, upd] at hs' ⊢
    split at hs'
    · -- the slot just written: it holds the input's attribute `a`, which was clean
      obtain ⟨hcond, ⟨⟩⟩ := Option.ite_none_right_eq_some.mp hs'
      simp only [Bool.and_eq_true, Bool.not_eq_true', List.contains_eq_mem, decide_eq_false_iff_not] at hcond
      rw [if_pos ‹_›, (h.isIn s).mp hcond.1]
      exact h.obj0 a hcond.2
    · rw [if_neg ‹_›]; exact h.slots s' a' hs'
  | setAttrConst t a val => cases hc; exact h.setAttr t a val False nofun _ _
  | setAttrSlot t a slot => cases hc; exact h.setAttr t a _ (A.slots slot = some a) (h.slots slot a) _ _
  | inplaceAttr op t a | copyAttr t a => cases hc; exact h

theorem exec_inv (sem : Nat → List Int → Int) (v : InVal) (p : List Instr) :
    ∀ (A A' : Abs) (c : St), Inv v A c → check p A = some A' → Inv v A' (exec sem c p) := by
  intro A A'
  fun_induction check p A <;> intro c h hc
  case case1 => cases hc; exact h
  case case2 hs ih => exact ih _ (step_inv sem v _ _ c _ h hs) hc
  case case3 => cases hc

theorem evalI_congr (S : ISem) (allowed : List Atom) (e : IExpr) (h : closedOver allowed e = true)
    (ρ ρ' : Atom → Int) (hρ : ∀ a ∈ allowed, ρ a = ρ' a) (f f' : Int) (l l' : Nat → Int) :
    evalI S ρ f l e = evalI S ρ' f' l' e := by
  induction e with
  | atom a =>
    simp only [closedOver, List.contains_eq_mem, decide_eq_true_eq] at h
    simp [evalI, hρ a h]
  | field | loc r => simp [closedOver] at h
  | op1 g a ih =>
    simp only [closedOver] at h
    simp [evalI, ih h]
  | op2 g a b iha ihb =>
    simp only [closedOver, Bool.and_eq_true] at h
    simp [evalI, iha h.1, ihb h.2]

/-- Every entry of every memo cell holds the cell's specification evaluated at some environment that
has the entry's tag as key. -/
def MemoInv (S : ISem) (p : IProg) (cells : Nat → Entries) : Prop :=
  ∀ c tag val, (tag, val) ∈ cells c →
    ∃ ρ' : Atom → Int, (p.keyAtoms c).map ρ' = tag ∧ val = evalI S ρ' 0 (fun _ => 0) (p.spec c)

theorem memoInv_fresh (S : ISem) (p : IProg) : MemoInv S p (fun _ => []) := by
  intro c tag val h; simp at h

theorem lookup_some_mem {tag : List Int} {l : Entries} {v : Int} (h : lookup tag l = some v) : (tag, v) ∈ l := by
  fun_induction lookup tag l
  case case1 => cases h
  case case2 => cases h; exact List.mem_cons_self
  case case3 ih => exact List.mem_cons_of_mem _ (ih h)

theorem lookup_cons_self (tag : List Int) (v : Int) (l : Entries) : lookup tag ((tag, v) :: l) = some v := by
  simp [lookup]

theorem mem_insertEntry {cap : Nat} {tag : List Int} {v : Int} {l : Entries} {e : List Int × Int}
    (h : e ∈ insertEntry cap tag v l) : e = (tag, v) ∨ e ∈ l := by
  have h1 := List.mem_of_mem_take h
  simp only [List.mem_cons, List.mem_filter] at h1
  rcases h1 with h1 | h1
  · exact Or.inl h1
  · exact Or.inr h1.1

/-- Under the invariant a keyed read yields the specification at the *current* key, hit or miss. -/
theorem stepI_memoRead (S : ISem) (p : IProg) (ρ : Atom → Int) (fld : Int) (c : IRun) (r k : Nat)
    (hinv : MemoInv S p c.cells) (hcl : closedOver (p.keyAtoms k) (p.spec k) = true) :
    stepI S p ρ fld c (.memoRead r k (p.spec k))
      = { c with loc := upd c.loc r (evalI S ρ fld c.loc (p.spec k)) } := by
  simp only [stepI]
  cases hc : lookup ((p.keyAtoms k).map ρ) (c.cells k) with
  | none => rfl
  | some val =>
    simp only
    obtain ⟨ρ', hmap, hval⟩ := hinv k _ val (lookup_some_mem hc)
    have hagree : ∀ a ∈ p.keyAtoms k, ρ' a = ρ a := List.map_inj_left.mp hmap
    rw [hval, evalI_congr S (p.keyAtoms k) (p.spec k) hcl ρ' ρ hagree 0 fld (fun _ => 0) c.loc]

theorem stepI_memoFill_inv (S : ISem) (p : IProg) (ρ : Atom → Int) (fld : Int) (c : IRun) (k : Nat)
    (hcl : closedOver (p.keyAtoms k) (p.spec k) = true) (hc : MemoInv S p c.cells) :
    MemoInv S p (stepI S p ρ fld c (.memoFill k (p.spec k))).cells := by
  intro k' tag val hcell
  simp only [stepI, upd] at hcell
  split at hcell
  · subst_vars
    rcases mem_insertEntry hcell with hnew | hold
    · cases hnew
      exact ⟨ρ, rfl, evalI_congr S _ _ hcl ρ ρ (fun _ _ => rfl) fld 0 c.loc (fun _ => 0)⟩
    · exact hc k' tag val hold
  · exact hc k' tag val hcell

/-- Two runs that agree on the locals and on the scratch buffers written so far (`w`) end with equal locals. -/
theorem sim (S : ISem) (p : IProg) (ρ : Atom → Int) (fld : Int) (body : List IInstr) :
    ∀ (w : List Nat) (c1 c2 : IRun), checkI p body w = true →
      c1.loc = c2.loc → (∀ b ∈ w, c1.scratch b = c2.scratch b) →
      MemoInv S p c1.cells → MemoInv S p c2.cells →
      (execI S p ρ fld c1 body).loc = (execI S p ρ fld c2 body).loc ∧
      MemoInv S p (execI S p ρ fld c1 body).cells ∧ MemoInv S p (execI S p ρ fld c2 body).cells := by
  induction body with
  | nil => intro w c1 c2 _ hl _ h1 h2; exact ⟨hl, h1, h2⟩
  | cons i rest ih =>
    intro w c1 c2 hck hl hs h1 h2
    simp only [execI, List.foldl_cons] at ih ⊢
    cases i with
    | letE r e => exact ih w _ _ hck (by simp only [stepI, hl]) hs h1 h2
    | memoFill k e =>
      simp only [checkI, Bool.and_eq_true, beq_iff_eq] at hck
      obtain ⟨⟨rfl, hcl⟩, hrest⟩ := hck
      exact ih w _ _ hrest hl hs (stepI_memoFill_inv S p ρ fld c1 k hcl h1) (stepI_memoFill_inv S p ρ fld c2 k hcl h2)
    | memoRead r k fb =>
      simp only [checkI, Bool.and_eq_true, beq_iff_eq] at hck
      obtain ⟨⟨rfl, hcl⟩, hrest⟩ := hck
      rw [stepI_memoRead S p ρ fld c1 r k h1 hcl, stepI_memoRead S p ρ fld c2 r k h2 hcl]
      exact ih w _ _ hrest (by simp only [hl]) hs h1 h2
    | cellUpdate k e | rawRead r k => cases hck
    | scratchWrite b e =>
      refine ih (b :: w) _ _ hck hl (fun b' hb' => ?_) h1 h2
      simp only [stepI, upd]
      split
      · rw [hl]
      · exact hs b' ((List.mem_cons.mp hb').resolve_left ‹_›)
    | scratchRead r b =>
      simp only [checkI, Bool.and_eq_true, List.contains_eq_mem, decide_eq_true_eq] at hck
      exact ih w _ _ hck.2 (by simp only [stepI, hl, hs b hck.1]) hs h1 h2

theorem callI_inv (S : ISem) (p : IProg) (hs : safeInternal p = true) (E : EState) (v : InVal)
    (h : MemoInv S p E.cells) : MemoInv S p (callI S p E v).2.cells := by
  have := sim S p (atomEnv E.params v) v.field p.body [] ⟨E.cells, E.scratch, fun _ => 0⟩
    ⟨E.cells, E.scratch, fun _ => 0⟩ hs rfl (fun _ _ => rfl) h h
  exact this.2.1

theorem callI_params (S : ISem) (p : IProg) (E : EState) (v : InVal) : (callI S p E v).2.params = E.params := rfl

theorem runHistory_calls_params (S : ISem) (p : IProg) (vs : List InVal) :
    ∀ E : EState, (runHistory S p E (vs.map Event.call)).params = E.params := by
  induction vs with
  | nil => intro E; rfl
  | cons w rest ih => intro E; exact (ih _).trans (callI_params S p E w)

theorem runHistory_inv (S : ISem) (p : IProg) (hs : safeInternal p = true) (h : List Event) :
    ∀ E : EState, MemoInv S p E.cells → MemoInv S p (runHistory S p E h).cells := by
  induction h with
  | nil => intro E hE; exact hE
  | cons e rest ih =>
    intro E hE
    simp only [runHistory, List.foldl_cons]
    apply ih
    cases e with
    | call v => exact callI_inv S p hs E v hE
    | setParam i x => exact hE

theorem callI_result_eq (S : ISem) (p : IProg) (hs : safeInternal p = true) (E1 E2 : EState) (v : InVal)
    (hp : E1.params = E2.params) (h1 : MemoInv S p E1.cells) (h2 : MemoInv S p E2.cells) :
    (callI S p E1 v).1 = (callI S p E2 v).1 := by
  have := sim S p (atomEnv E1.params v) v.field p.body [] ⟨E1.cells, E1.scratch, fun _ => 0⟩
    ⟨E2.cells, E2.scratch, fun _ => 0⟩ hs rfl (fun _ h => by simp at h) h1 h2
  simp only [callI, ← hp]
  rw [this.1]

theorem check_append (p q : List Instr) (A : Abs) :
    check (p ++ q) A = (check p A).bind (check q) := by
  fun_induction check p A
  case case1 => rfl
  case case2 hs ih => rw [List.cons_append, check, hs]; exact ih
  case case3 hs => rw [List.cons_append, check, hs]; rfl

theorem rounds_succ (n : Nat) (b : List Instr) : rounds (n + 1) b = b ++ rounds n b := by
  simp [rounds, List.replicate_succ]

theorem check_rounds (body : List Instr) (A : Abs) (h : check body A = some A) :
    ∀ n, check (rounds n body) A = some A := by
  intro n
  induction n with
  | zero => rfl
  | succ n ih => rw [rounds_succ, check_append, h]; exact ih

theorem check_unroll_succ (L : LoopProg) (hf : L.Fix) (k : Nat) :
    check (L.unroll (k + 1)).body Abs.init = check (L.unroll 1).body Abs.init := by
  have split : ∀ k, check (L.unroll (k + 1)).body Abs.init
      = (check (L.pre ++ L.body) Abs.init).bind (check (rounds k L.body ++ L.post)) := fun k => by
    simp only [LoopProg.unroll, rounds_succ]
    rw [← List.append_assoc L.pre, List.append_assoc, check_append]
  rw [split k, split 0]
  cases hA : check (L.pre ++ L.body) Abs.init with
  | none => rfl
  | some A =>
    have hfA : check L.body A = some A := by simpa only [LoopProg.Fix, stateAfter, hA] using hf
    simp only [Option.bind_some, check_append, check_rounds L.body A hfA]

theorem loop_safe (L : LoopProg) (h0 : safe (L.unroll 0) = true) (h1 : safe (L.unroll 1) = true) (hf : L.Fix) :
    ∀ n, safe (L.unroll n) = true
  | 0 => h0
  | k + 1 => by rw [safe, check_unroll_succ L hf k]; exact h1

theorem viewList_append {a : Attr} {p q x y : List Instr} (hp : viewList a p = some x) (hq : viewList a q = some y) :
    viewList a (p ++ q) = some (x ++ y) := by
  fun_induction viewList a p generalizing x with
  | case1 => cases hp; exact hq
  | case2 i l xi xl hl hi ih => cases hp; simp only [List.cons_append, viewList, hi, ih hl, List.append_assoc]
  | case3 => cases hp

theorem viewList_rounds {a : Attr} {b vb : List Instr} (h : viewList a b = some vb) :
    ∀ n, viewList a (rounds n b) = some (rounds n vb)
  | 0 => rfl
  | n + 1 => by rw [rounds_succ, rounds_succ, viewList_append h (viewList_rounds h n)]

theorem viewProg_unroll (a : Attr) (L L' : LoopProg) (h : L.view a = some L') (n : Nat) :
    viewProg a (L.unroll n) = some (L'.unroll n) := by
  unfold LoopProg.view at h
  split at h
  · rename_i vp vb vq hp hb hq
    cases h
    simp only [viewProg, LoopProg.unroll, viewList_append (viewList_append hp (viewList_rounds hb n)) hq]
  · cases h

theorem loop_safeAttr (a : Attr) (L : LoopProg) (hf : L.FixAll)
    (hb : (match L.view a with | some L' => L'.base | none => false) = true) (n : Nat) :
    safeAttr a (L.unroll n) = true := by
  cases hv : L.view a with
  | none => simp [hv] at hb
  | some L' =>
    simp only [hv, LoopProg.base, Bool.and_eq_true] at hb
    simp only [safeAttr, viewProg_unroll a L L' hv n]
    exact loop_safe L' hb.1 hb.2 (hf.2 a L' hv) n

theorem loop_safeAll (L : LoopProg) (hb : L.baseAll = true) (hf : L.FixAll) (n : Nat) :
    safeAll (L.unroll n) = true := by
  simp only [LoopProg.baseAll, List.all_cons, List.all_nil, Bool.and_true, Bool.and_eq_true, LoopProg.base] at hb
  obtain ⟨⟨h0, h1⟩, hg, hs⟩ := hb
  simp only [safeAll, Bool.and_eq_true]
  exact ⟨⟨loop_safe L h0 h1 hf.1 n, loop_safeAttr .grid L hf hg n⟩, loop_safeAttr .stokes L hf hs n⟩

/-! ### `LoopProg.Fix` by evaluation

The checker's state holds functions, so `LoopProg.Fix` is not decidable as it stands; but a round changes the
state only below the body's write bound (`check_agreeFrom`), and below it `fixOk` compares the two states entry by
entry. -/

/-- One more than the largest name or slot whose entry in the checker's state `i` can change. -/
def Instr.writeBound : Instr → Nat
  | .copy d _ | .wrap d _ | .newFrom d _ _ _ | .bind d _ => d + 1
  | .setFieldNew t _ _ => t + 1
  | .saveAttr slot _ _ => slot + 1
  | _ => 0

def writeBound : List Instr → Nat
  | [] => 0
  | i :: p => max i.writeBound (writeBound p)

def Abs.entry (A : Abs) (x : Nat) : Bool × Bool × Option Attr := (A.isIn x, A.shares x, A.slots x)

def Abs.AgreeFrom (n : Nat) (A B : Abs) : Prop := ∀ x, n ≤ x → B.entry x = A.entry x

theorem checkStep_agreeFrom {A B : Abs} {i : Instr} (h : checkStep A i = some B) :
    A.AgreeFrom i.writeBound B := by
  intro x hx
  cases i with
  | copy d s | wrap d s | newFrom d _ _ _ | bind d s | saveAttr d s a =>
    cases h; simp only [Abs.entry, upd_ne _ _ (Nat.ne_of_gt hx)]
  | inplace _ t _ => obtain ⟨-, ⟨⟩⟩ := Option.ite_none_left_eq_some.mp h; rfl
  | setFieldNew t _ _ =>
    obtain ⟨-, ⟨⟩⟩ := Option.ite_none_left_eq_some.mp h
    simp only [Abs.entry, upd_ne _ _ (Nat.ne_of_gt hx)]
  | setAttrConst t a _ => cases h; split <;> rfl
  | setAttrSlot t a slot => cases h; split <;> (try split) <;> rfl
  | inplaceAttr | copyAttr => cases h; rfl

theorem check_agreeFrom {p : List Instr} {A B : Abs} (h : check p A = some B) :
    A.AgreeFrom (writeBound p) B := by
  fun_induction check p A
  case case1 => cases h; exact fun _ _ => rfl
  case case2 hs ih =>
    intro x hx
    simp only [writeBound, Nat.max_le] at hx
    exact (ih h x hx.2).trans (checkStep_agreeFrom hs x hx.1)
  case case3 => cases h

def Abs.eqBelow (n : Nat) (A B : Abs) : Bool :=
  B.dirty == A.dirty &&
    (List.range n).all fun x => B.isIn x == A.isIn x && B.shares x == A.shares x && B.slots x == A.slots x

theorem Abs.eq_of_eqBelow {n : Nat} {A B : Abs} (hb : A.eqBelow n B = true) (hf : A.AgreeFrom n B) : B = A := by
  simp only [Abs.eqBelow, Bool.and_eq_true, beq_iff_eq, List.all_eq_true, List.mem_range] at hb
  have hall : ∀ x, B.entry x = A.entry x := fun x =>
    if hx : x < n then Prod.ext (hb.2 x hx).1.1 (Prod.ext (hb.2 x hx).1.2 (hb.2 x hx).2)
    else hf x (Nat.le_of_not_lt hx)
  obtain ⟨i, s, d, sl⟩ := A
  obtain ⟨i', s', d', sl'⟩ := B
  obtain rfl : d' = d := hb.1
  obtain rfl : i' = i := funext fun x => congrArg (·.1) (hall x)
  obtain rfl : s' = s := funext fun x => congrArg (·.2.1) (hall x)
  obtain rfl : sl' = sl := funext fun x => congrArg (·.2.2) (hall x)
  rfl

def LoopProg.fixOk (L : LoopProg) : Bool :=
  match check L.body (stateAfter (L.pre ++ L.body)) with
  | some B => (stateAfter (L.pre ++ L.body)).eqBelow (writeBound L.body) B
  | none => false

theorem LoopProg.fix_of_fixOk {L : LoopProg} (h : L.fixOk = true) : L.Fix := by
  unfold LoopProg.fixOk at h
  unfold LoopProg.Fix
  cases hc : check L.body (stateAfter (L.pre ++ L.body)) with
  | none => simp [hc] at h
  | some B => rw [hc] at h; rw [Abs.eq_of_eqBelow h (check_agreeFrom hc)]

def LoopProg.fixAllOk (L : LoopProg) : Bool :=
  L.fixOk && [Attr.wavelength, .stokes, .grid].all fun a => match L.view a with
    | some L' => L'.fixOk
    | none => true

theorem LoopProg.fixAll_of_fixAllOk {L : LoopProg} (h : L.fixAllOk = true) : L.FixAll := by
  simp only [LoopProg.fixAllOk, Bool.and_eq_true, List.all_eq_true] at h
  refine ⟨fix_of_fixOk h.1, fun a L' hv => fix_of_fixOk ?_⟩
  simpa only [hv] using h.2 a (by cases a <;> decide)

end HcipyVerif.Effects
