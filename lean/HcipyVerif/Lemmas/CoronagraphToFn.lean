import HcipyVerif.Model.Coronagraph
import Mathlib.Algebra.BigOperators.Fin
import Mathlib.Data.Matrix.Mul

/-!
# The model's vectors as functions

`toFn` reads a `Vector K n` as `Fin n → K` and `toFn2` a vector of rows as a `Matrix`, so that the model's `dot` and
`matVec` are Mathlib's `dotProduct` and `mulVec`, and an occulting stage is `B *ᵥ (F *ᵥ x * mask)`. The other modules of
the area (Gram–Schmidt, `rejectF`, the multi-scale sums, linearity in the raw masks) start from here, independently of one another.
-/
namespace HcipyVerif.Coronagraph
open Matrix

section
variable {K : Type} {m n : ℕ}

def toFn (v : Vector K n) : Fin n → K := fun i => v[i]

theorem toFn_injective : Function.Injective (toFn (K := K) (n := n)) :=
  fun _ _ h => Vector.ext fun i hi => congrFun h ⟨i, hi⟩

@[simp] theorem toFn_ofFn (f : Fin n → K) : toFn (Vector.ofFn f) = f := by
  funext i; simp [toFn]

def toFn2 (M : Vector (Vector K n) m) : Matrix (Fin m) (Fin n) K := fun r => toFn M[r]

theorem toFn2_ofFn (g : Fin m → Vector K n) :
    toFn2 (Vector.ofFn g) = of fun r => toFn (g r) := by
  funext r i
  simp only [toFn2, toFn, of_apply, Fin.getElem_fin, Vector.getElem_ofFn]

end

section Ring
variable {K : Type} [CommRing K] {d m n : ℕ}

def ip (u v : Fin n → K) : K := ∑ i, u i * v i

theorem foldl_eq_sum (n : ℕ) (g : Fin n → K) :
    Fin.foldl n (fun acc i => acc + g i) 0 = ∑ i, g i := by
  rw [Fin.sum_univ_def, List.sum_eq_foldl, List.foldl_map, Fin.foldl_eq_finRange_foldl]

theorem dot_eq_ip (u v : Vector K n) : dot u v = ip (toFn u) (toFn v) :=
  foldl_eq_sum n fun i => toFn u i * toFn v i

theorem toFn_zeroVec : toFn (zeroVec K n) = 0 := by
  unfold zeroVec; rw [toFn_ofFn]; rfl

theorem toFn_onesVec : toFn (onesVec K n) = 1 := by
  unfold onesVec; rw [toFn_ofFn]; rfl

theorem toFn_matVec (M : Vector (Vector K n) m) (v : Vector K n) :
    toFn (matVec M v) = toFn2 M *ᵥ toFn v := by
  unfold matVec
  rw [toFn_ofFn]
  funext r
  exact dot_eq_ip _ _

theorem toFn_occultedBackward (cj : K → K) (F : Vector (Vector K n) m) (B : Vector (Vector K m) n)
    (mask : Vector K m) (y : Vector K n) :
    toFn (occultedBackward cj F B mask y) = toFn2 B *ᵥ (toFn2 F *ᵥ toFn y * cj ∘ toFn mask) := by
  show toFn (matVec B (Vector.ofFn (toFn (matVec F y) * cj ∘ toFn mask))) = _
  rw [toFn_matVec, toFn_ofFn, toFn_matVec]

theorem toFn_occultedForward (F : Vector (Vector K n) m) (B : Vector (Vector K m) n) (mask : Vector K m)
    (x : Vector K n) :
    toFn (occultedForward F B mask x) = toFn2 B *ᵥ (toFn2 F *ᵥ toFn x * toFn mask) :=
  toFn_occultedBackward id F B mask x

theorem toFn_msTerm (l : MSLevel K d n) (M : Vector K d) (E : Vector K n) :
    toFn (msTerm l M E) = toFn2 l.B *ᵥ (toFn2 l.F *ᵥ toFn E * toFn M) :=
  toFn_occultedForward l.F l.B M E

theorem toFn_idealForward (m : Vector K d) (F : Vector (Vector K n) d) (B : Vector (Vector K d) n) (E : Vector K n) :
    toFn (idealForward m F B E) = toFn2 B *ᵥ (toFn2 F *ᵥ toFn E * toFn m) :=
  toFn_occultedForward F B m E

theorem subCorrections_cons (acc : Vector K d) (R : Vector (Vector K d) d) (Rs : List (Vector (Vector K d) d))
    (M : Vector K d) (Ms : List (Vector K d)) :
    subCorrections acc (R :: Rs) (M :: Ms) =
      subCorrections (Vector.ofFn (toFn acc - toFn2 R *ᵥ toFn M)) Rs Ms := by
  rw [← toFn_matVec]; rfl

theorem toFn_msSum_cons (l : MSLevel K d n) (ls : List (MSLevel K d n)) (M : Vector K d) (Ms : List (Vector K d))
    (E : Vector K n) : toFn (msSum (l :: ls) (M :: Ms) E) = toFn (msTerm l M E) + toFn (msSum ls Ms E) :=
  toFn_ofFn _

end Ring

end HcipyVerif.Coronagraph
