import HcipyVerif.Model.Mirror
import Mathlib.Tactic.Ring
import Mathlib.Algebra.BigOperators.Group.List.Basic

/-! `len(range(...))` and the clamping of `slice.indices`; sums over indicator vectors (segments of a
segmented mirror). -/

namespace HcipyVerif.ModeBasis

/-- `k < ⌈d / st⌉ ↔ k·st < d` for a positive step -/
theorem ceil_lt (k : Nat) (d st : Int) (hst : 0 < st) :
    (k : Int) < (d + st - 1) / st ↔ (k : Int) * st < d := by
  rw [Int.lt_iff_add_one_le, Int.le_ediv_iff_mul_le hst, add_mul, one_mul]
  omega

theorem lt_rangeLen_of_pos (s e st : Int) (hst : 0 < st) (k : Nat) :
    k < rangeLen s e st ↔ s + k * st < e := by
  unfold rangeLen
  rw [if_pos hst]
  split
  · rw [Int.lt_toNat, ceil_lt k (e - s) st hst]
    omega
  · have : 0 ≤ (k : Int) * st := Int.mul_nonneg (Int.natCast_nonneg k) hst.le
    omega

theorem rangeLen_neg (s e st : Int) (hst : st < 0) : rangeLen s e st = rangeLen (-s) (-e) (-st) := by
  unfold rangeLen
  rw [if_neg (by omega), if_pos (by omega : -st > 0)]
  simp only [neg_lt_neg_iff]
  congr 3
  ring

/-- `PySlice_AdjustIndices` on one bound: the result lies in `[lower, upper]` -/
theorem clamp_mem {n lower upper : Int} (hl : lower ≤ 0) (hu : n - 1 ≤ upper) (hlu : lower ≤ upper)
    (x : Int) :
    lower ≤ (if x < 0 then (if x + n < lower then lower else x + n) else (if x > upper then upper else x)) ∧
    (if x < 0 then (if x + n < lower then lower else x + n) else (if x > upper then upper else x)) ≤ upper := by
  split_ifs <;> omega

theorem sliceIndices_some (n : Nat) (a b c : Option Int) (s e st : Int)
    (h : sliceIndices n a b c = some (s, e, st)) :
    st = c.getD 1 ∧ st ≠ 0 ∧ (0 < st → (0 ≤ s ∧ s ≤ n) ∧ (0 ≤ e ∧ e ≤ n)) ∧
      (st < 0 → (-1 ≤ s ∧ s ≤ n - 1) ∧ (-1 ≤ e ∧ e ≤ n - 1)) := by
  unfold sliceIndices at h
  by_cases h0 : c.getD 1 = 0
  · simp [h0] at h
  · simp only [h0, if_false, Option.some.injEq, Prod.mk.injEq] at h
    obtain ⟨rfl, rfl, rfl⟩ := h
    have hn : (0 : Int) ≤ n := Int.natCast_nonneg n
    have hn' : (-1 : Int) ≤ n - 1 := by omega
    refine ⟨rfl, h0, fun hp => ?_, fun hneg => ?_⟩
    · simp only [if_neg (not_lt_of_gt hp)]
      constructor
      · cases a with
        | none => exact ⟨le_refl 0, hn⟩
        | some x => exact clamp_mem (le_refl 0) (by omega) hn x
      · cases b with
        | none => exact ⟨hn, le_refl _⟩
        | some x => exact clamp_mem (le_refl 0) (by omega) hn x
    · simp only [if_pos hneg]
      constructor
      · cases a with
        | none => exact ⟨hn', le_refl _⟩
        | some x => exact clamp_mem (by omega) (le_refl _) hn' x
      · cases b with
        | none => exact ⟨le_refl _, hn'⟩
        | some x => exact clamp_mem (by omega) (le_refl _) hn' x

end HcipyVerif.ModeBasis

namespace HcipyVerif.Mirror
variable {K : Type} [Field K]

theorem sum_zipWith_mul_ind (s c : List K) (hs : ∀ a ∈ s, a * a = a) :
    (List.zipWith (· * ·) (List.zipWith (· * ·) s c) s).sum = (List.zipWith (· * ·) s c).sum :=
  congrArg List.sum <| List.ext_getElem (by simp) fun i _ _ => by
    simp only [List.getElem_zipWith]
    rw [mul_right_comm, hs _ (List.getElem_mem _)]

theorem map_sq_ind (s : List K) (hs : ∀ a ∈ s, a * a = a) : (s.map fun a => a * a) = s :=
  (List.map_congr_left hs).trans (List.map_id s)

theorem applyPhaseConj_applyPhase (e : List (PVal K)) (d : List K) (h : e.length = d.length) :
    applyPhaseConj (applyPhase e d) d = e :=
  List.ext_getElem (by simp [applyPhase, applyPhaseConj, h]) fun i _ _ => by
    simp [applyPhase, applyPhaseConj]

theorem power_zipWith_amp (nsq : K → K) (g : PVal K → K → K) (e : List (PVal K)) (d : List K)
    (h : e.length = d.length) :
    power nsq (List.zipWith (fun x t => ⟨x.amp, g x t⟩) e d) = power nsq e :=
  congrArg List.sum <| List.ext_getElem (by simp [h]) fun i _ _ => by simp

end HcipyVerif.Mirror
