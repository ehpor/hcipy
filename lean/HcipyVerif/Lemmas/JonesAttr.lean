import Lean.Meta.Tactic.Simp.RegisterCommand

/-- Expands the Stokes layer of `Model/Jones.lean` (`jonesStokes`, `vecStokes`, `coh2`, …) and the pair arithmetic of `Cx` and `J2`
into real components, leaving an identity between real polynomials.  Tagged in `Lemmas/Jones.lean`. -/
register_simp_attr jones_expand
