import HcipyVerif.Model.PhaseOptics
import HcipyVerif.Lemmas.Jones
import HcipyVerif.Lemmas.PassiveOptics
import HcipyVerif.Lemmas.PhaseOptics
import HcipyVerif.Lemmas.PhaseOpticsAnalytic
import HcipyVerif.Lemmas.NearFieldGRat
import HcipyVerif.Lemmas.NearFieldAbstract
import HcipyVerif.Gen.PhaseCoef
import HcipyVerif.Gen.Stokes
import Mathlib.Analysis.Complex.Norm
import Mathlib.Tactic.NormNum
import Mathlib.Analysis.Real.Sqrt
import Mathlib.Algebra.BigOperators.Ring.Finset
import Mathlib.Tactic.Ring
import Mathlib.Algebra.Order.Field.Rat

/-!
# C07 — passive optics never create power; phase-only optics conserve it exactly

`HcipyVerif.Gen.PhaseCoef` is **regenerated from the running hcipy on every check** (tie T2): for each
phase-only element family it holds the rational coefficient κ of the multiplier
`exp(i · κ · unit · parameter)` that `forward` (`…Fwd`) and `backward` (`…Bwd`) apply to every pixel.
The theorems are stated for an arbitrary unimodular character `χ` (instantiated by `t ↦ exp(i t)`).

The passive half and the total-power / backward clauses are stated about the executable model
`Model/PassiveOptics.lean` (`maskFwd`, `maskBwd`, `power`, `fibreAmp`, `fibreBack`, `knifeRow`) that driver ops `mask`, `fibre`,
`knife`, `knifet` run on the numbers the code sees; the generic inequalities they instantiate live in `Lemmas/PhaseOptics.lean`.
-/

namespace HcipyVerif.C07
open HcipyVerif.PhaseOptics HcipyVerif.Gen.PhaseCoef
open HcipyVerif.Passive HcipyVerif.Jones

/-- Jones-matrix (partially polarised) wavefront: the intensity hcipy reports (the *generated* `stokesI` polynomial of the running
code, see C08) evaluated on the entries the executable `maskJ` produces (driver op `maskpol`: every entry times the scalar
multiplier `u`) is the intensity before the element when `|u| = 1`. -/
theorem phase_only_pixel_power_tensor (u : Cx ℝ) (e : J2 ℝ) (a b cc d w : ℝ) (hu : u.normSq = 1) :
    Gen.Stokes.stokesI (maskJ u e).a11.re (maskJ u e).a11.im (maskJ u e).a12.re (maskJ u e).a12.im
        (maskJ u e).a21.re (maskJ u e).a21.im (maskJ u e).a22.re (maskJ u e).a22.im a b cc d * w
      = Gen.Stokes.stokesI e.a11.re e.a11.im e.a12.re e.a12.im e.a21.re e.a21.im e.a22.re e.a22.im a b cc d * w := by
  rw [stokesI_eq_jonesStokes, stokesI_eq_jonesStokes]
  exact congrArg (·.i * w) (mask_unimodular_stokes hu e ⟨a, b, cc, d⟩ ⟨u, u⟩).1

theorem phase_model_pixel_power (t E : ℕ → Cx ℝ) (w : ℕ → ℝ) (i : ℕ) (ht : (t i).normSq = 1) :
    (maskFwd t E i).normSq * w i = (E i).normSq * w i ∧ (maskBwd t E i).normSq * w i = (E i).normSq * w i := by
  simp only [maskFwd, maskBwd, Cx.normSq_mul, Cx.normSq_conj, ht, mul_one, and_self]

theorem phase_model_total_power (t E : ℕ → Cx ℝ) (w : ℕ → ℝ) (n : ℕ) (ht : ∀ i < n, (t i).normSq = 1) :
    power (maskFwd t E) w n = power E w n := by
  rw [power_eq_sum, power_eq_sum]
  exact Finset.sum_congr rfl fun i hi => (phase_model_pixel_power t E w i (ht i (Finset.mem_range.mp hi))).1

theorem phase_model_inverse (t E : ℕ → Cx ℝ) (i : ℕ) (ht : (t i).normSq = 1) :
    maskBwd t (maskFwd t E) i = E i ∧ maskFwd t (maskBwd t E) i = E i := by
  simp only [Cx.normSq] at ht
  constructor <;>
  · apply Cx.ext <;>
    simp only [maskFwd, maskBwd, Cx.mul_re, Cx.mul_im, Cx.conj_re, Cx.conj_im]
    · linear_combination (E i).re * ht
    · linear_combination (E i).im * ht

/-- κ of the running code, per family and direction (from the generated file). -/
def genCoef (f : Family) (d : Dir) (n : Rat) : Rat :=
  match f, d with
  | .phaseApodizer, .fwd => phaseApodizerFwd | .phaseApodizer, .bwd => phaseApodizerBwd
  | .surfaceApodizer, .fwd => surfaceApodizerFwdN0 + surfaceApodizerFwdN1 * n
  | .surfaceApodizer, .bwd => surfaceApodizerBwdN0 + surfaceApodizerBwdN1 * n
  | .deformableMirror, .fwd => deformableMirrorFwd | .deformableMirror, .bwd => deformableMirrorBwd
  | .segmentedMirror, .fwd => segmentedMirrorFwd | .segmentedMirror, .bwd => segmentedMirrorBwd
  | .tipTiltMirror, .fwd => tipTiltMirrorFwd | .tipTiltMirror, .bwd => tipTiltMirrorBwd
  | .microLensArray, .fwd => microLensArrayFwd | .microLensArray, .bwd => microLensArrayBwd
  | .atmosphericLayer, .fwd => atmosphericLayerFwd | .atmosphericLayer, .bwd => atmosphericLayerBwd
  | .thinLens, .fwd => thinLensFwdN0 + thinLensFwdN1 * n | .thinLens, .bwd => thinLensBwdN0 + thinLensBwdN1 * n
  | .tiltElement, .fwd => tiltElementFwdN0 + tiltElementFwdN1 * n
  | .tiltElement, .bwd => tiltElementBwdN0 + tiltElementBwdN1 * n
  | .thinPrism, .fwd => thinPrismFwdN0 + thinPrismFwdN1 * n | .thinPrism, .bwd => thinPrismBwdN0 + thinPrismBwdN1 * n
  | .prism, .fwd => prismFwdN0 + prismFwdN1 * n | .prism, .bwd => prismBwdN0 + prismBwdN1 * n
  | .phaseGrating, .fwd => phaseGratingFwd | .phaseGrating, .bwd => phaseGratingBwd
  | .unimodularApodizer, .fwd => unimodularApodizerFwd | .unimodularApodizer, .bwd => unimodularApodizerBwd
  | .multiLayerAtmosphere, .fwd => multiLayerAtmosphereFwd | .multiLayerAtmosphere, .bwd => multiLayerAtmosphereBwd

/-- The identified exponents are the model's formulas: `1·φ`, `(n−1)·k·sag`, `2·k·surface`,
`(2−1)·k·opd`, `phase_for(1)/λ`. -/
theorem gen_coef_eq_model (f : Family) (d : Dir) (n : ℚ) : genCoef f d n = coef f d n := by
  dsimp only [genCoef, phaseApodizerFwd, phaseApodizerBwd, surfaceApodizerFwdN0, surfaceApodizerFwdN1,
    surfaceApodizerBwdN0, surfaceApodizerBwdN1, deformableMirrorFwd, deformableMirrorBwd, segmentedMirrorFwd,
    segmentedMirrorBwd, tipTiltMirrorFwd, tipTiltMirrorBwd, microLensArrayFwd, microLensArrayBwd,
    thinLensFwdN0, thinLensFwdN1, thinLensBwdN0, thinLensBwdN1, tiltElementFwdN0, tiltElementFwdN1, tiltElementBwdN0,
    tiltElementBwdN1, thinPrismFwdN0, thinPrismFwdN1, thinPrismBwdN0, thinPrismBwdN1, prismFwdN0, prismFwdN1, prismBwdN0, prismBwdN1,
    phaseGratingFwd, phaseGratingBwd, unimodularApodizerFwd, unimodularApodizerBwd, multiLayerAtmosphereFwd, multiLayerAtmosphereBwd,
    atmosphericLayerFwd, atmosphericLayerBwd]
  cases f <;> cases d <;> dsimp only [coef, coefFwd] <;> ring

/-- In every family the backward exponent identified on the running code is minus the forward one, and both are the
coefficients the executable model returns (driver op `coef`), whose backward value is therefore minus its forward value too. -/
theorem gen_backward_coef_eq_neg_forward (f : Family) (n : ℚ) :
    genCoef f .bwd n = -genCoef f .fwd n ∧ coef f .bwd n = -coef f .fwd n ∧ genCoef f .bwd n = coef f .bwd n := by
  have hc : coef f .bwd n = -coef f .fwd n := rfl
  exact ⟨by rw [gen_coef_eq_model, gen_coef_eq_model, hc], hc, gen_coef_eq_model f .bwd n⟩

/-- For every family of the running code (multipliers `χ(κ·u·pᵢ)` with the κ identified on the code), on the executable pixelwise
product `maskFwd` (driver op `mask`, compared with every family's `forward` / `backward`): `backward ∘ forward = id` and
`forward ∘ backward = id` on every pixel, for every parameter value `p`, unit `u` (`2π/λ`, `1/λ`, `1`) and refractive index `n`. -/
theorem family_backward_inverts_forward (c : UChar) (f : Family) (n : ℚ) (u : ℝ) (p : ℕ → ℝ) (tf tb E : ℕ → Cx ℝ)
    (hf : ∀ i, (tf i).toComplex = c.χ ((genCoef f .fwd n : ℝ) * u * p i))
    (hb : ∀ i, (tb i).toComplex = c.χ ((genCoef f .bwd n : ℝ) * u * p i)) (i : ℕ) :
    maskFwd tb (maskFwd tf E) i = E i ∧ maskFwd tf (maskFwd tb E) i = E i := by
  obtain rfl := c.conj_of_eq hf hb (gen_backward_coef_eq_neg_forward f n).1
  exact phase_model_inverse tf E i (c.normSq_of_eq (hf i))

/-- The multiplier of the running code (κ from the generated table) **is** the model's multiplier
`χ(coef f d n · u · p)` — this is where κ matters: a wrong coefficient in the code changes `genCoef` and breaks
`gen_coef_eq_model` — and, being a value of the unimodular character, conserves the power of the pixel. -/
theorem family_multiplier_eq_model (c : UChar) (f : Family) (d : Dir) (n : ℚ) (E : ℂ) (u p w : ℝ) :
    c.χ ((genCoef f d n : ℝ) * u * p) = c.χ ((coef f d n : ℝ) * u * p) ∧
    Complex.normSq (E * c.χ ((genCoef f d n : ℝ) * u * p)) * w = Complex.normSq E * w := by
  rw [gen_coef_eq_model]
  exact ⟨rfl, phase_only_pixel_power c E _ w⟩

/-- The model of the weights / divisor agrees with the real-number statement (`|·|` of the product),
and the unrepaired divisor `sqrt (M₁ M₂)` does not exist for magnifications of opposite sign. -/
theorem magnifier_old_counterexample : magDivisorSqOld 2 (-1) = none ∧ magDivisorSq 2 (-1) = 2 ∧ magWeightFactor 2 (-1) = 2 := by
  refine ⟨?_, ?_, ?_⟩ <;> norm_num [magDivisorSqOld, magDivisorSq, magWeightFactor, absRat]

theorem absRat_eq_abs (q : ℚ) : absRat q = |q| := NearField.ratAbs_eq_abs q

theorem magWeightFactor_eq_divisorSq (m1 m2 : ℚ) : magWeightFactor m1 m2 = magDivisorSq m1 m2 := rfl

theorem magDivisorSq_cast (m1 m2 : ℚ) : ((magDivisorSq m1 m2 : ℚ) : ℝ) = |(m1 : ℝ) * (m2 : ℝ)| := by
  unfold magDivisorSq
  rw [absRat_eq_abs]; push_cast; rfl

/-- Per-pixel power is conserved by the *executable* magnifier model (what driver op `magnify`
evaluates and the harness compares with `Magnifier.forward`): field divided by `sqrt (magDivisorSq m₁ m₂)`, weight
multiplied by `magWeightFactor m₁ m₂`, for all non-zero rational magnifications of either sign. -/
theorem magnifier_model_power (m1 m2 : ℚ) (h1 : m1 ≠ 0) (h2 : m2 ≠ 0) (E : ℂ) (w : ℝ) :
    Complex.normSq (E / ((Real.sqrt ((magDivisorSq m1 m2 : ℚ) : ℝ) : ℝ) : ℂ)) * (w * ((magWeightFactor m1 m2 : ℚ) : ℝ))
      = Complex.normSq E * w := by
  obtain ⟨hpos, hs⟩ := magnifier_divisor_ok (m1 : ℝ) m2 (Rat.cast_ne_zero.mpr h1) (Rat.cast_ne_zero.mpr h2)
  rw [magWeightFactor_eq_divisorSq, magDivisorSq_cast]
  exact magnifier_pixel_power E w _ _ hpos hs

/-- The hypotheses are satisfiable by magnifications of opposite sign. -/
example : (2 : ℚ) ≠ 0 ∧ (-1 / 2 : ℚ) ≠ 0 := by norm_num

/-- A linear polariser `[[c², cs], [cs, s²]]` (`c² + s² = 1`) never increases the intensity of a
Jones vector (it is an orthogonal projector). -/
theorem polarizer_passive (c s : ℝ) (h : c ^ 2 + s ^ 2 = 1) (e : Jones.V2 ℝ) :
    ((Jones.polarizer c s).apply e).x.normSq + ((Jones.polarizer c s).apply e).y.normSq
      ≤ e.x.normSq + e.y.normSq := by
  -- the two ports `P(θ)`, `P(θ+π/2)` share the intensity; the other port's is non-negative
  have hs := polarizer_split c s h (vecStokes e)
  rw [← vecStokes_apply, ← vecStokes_apply] at hs
  rw [← vecStokes_i, ← vecStokes_i]
  exact (le_add_of_nonneg_right (vecStokes_i_nonneg _)).trans_eq hs

theorem mask_model_passive (t E : ℕ → Cx ℝ) (w : ℕ → ℝ) (n : ℕ) (ht : ∀ i < n, (t i).normSq ≤ 1)
    (hw : ∀ i < n, 0 ≤ w i) :
    power (maskFwd t E) w n ≤ power E w n ∧ power (maskBwd t E) w n ≤ power E w n := by
  rw [power_eq_sum, power_eq_sum, power_eq_sum]
  constructor <;>
  · apply Finset.sum_le_sum
    intro i hi
    have hi' := Finset.mem_range.mp hi
    simp only [maskFwd, maskBwd, Cx.normSq_mul, Cx.normSq_conj]
    exact mul_le_mul_of_nonneg_right (mul_le_of_le_one_right (E i).normSq_nonneg (ht i hi')) (hw i hi')

theorem polarizer_passive_tensor (c s : ℝ) (h : c ^ 2 + s ^ 2 = 1) (e : J2 ℝ) (sv : S4 ℝ) (ha : 0 ≤ sv.i)
    (hphys : sv.q ^ 2 + sv.u ^ 2 + sv.v ^ 2 ≤ sv.i ^ 2) :
    (jonesStokes (polarizer c s * e) sv).i ≤ (jonesStokes e sv).i := by
  exact (le_add_of_nonneg_right (jonesStokes_i_nonneg (polarizer (-s) c * e) sv ha hphys)).trans_eq
    (polarizer_ports_split c s h e sv)

/-- **Executable fibre model** (`Passive.fibreAmp`, driver op `fibre`): the coupled power is at most the
input power times the mode norm `Σ|m|²w` (which the code normalises to 1; the driver reports it). -/
theorem fibre_model_passive (E m : ℕ → Cx ℝ) (w : ℕ → ℝ) (n : ℕ) (hw : ∀ i < n, 0 ≤ w i) :
    (fibreAmp E m w n).normSq ≤ power E w n * power m w n := by
  simp only [power_eq_sum, Cx.toComplex_normSq, fibreAmp_toComplex]
  exact fibre_cauchy_schwarz (Finset.range n) _ _ w fun i hi => hw i (Finset.mem_range.mp hi)

/-- `backward` re-expands the amplitude on the mode: its power is `|a|²·Σ|m|²w`. -/
theorem fibre_model_backward_power (a : Cx ℝ) (m : ℕ → Cx ℝ) (w : ℕ → ℝ) (n : ℕ) :
    power (fibreBack a m) w n = a.normSq * power m w n := by
  rw [power_eq_sum, power_eq_sum, Finset.mul_sum]
  apply Finset.sum_congr rfl
  intro i _
  simp only [fibreBack, Cx.normSq_mul]; ring

/-- **Executable knife-edge model** (`Passive.knifeRow`, driver op `knife`), any internal length `M > 0`, any
cut-out `start + N ≤ M`, any focal mask with `|mask| ≤ 1` (the code's is 0, ½ or 1), pre-apodizer and Lyot stop
with modulus ≤ 1: the row leaves with at most the energy it came with. -/
theorem knife_model_passive (N M start : ℕ) (hM : 0 < M) (h : start + N ≤ M) (mask apod lyot x : ℕ → ℂ)
    (hmask : ∀ q < M, ‖mask q‖ ≤ 1) (hap : ∀ j < N, ‖apod j‖ ≤ 1) (hly : ∀ j < N, ‖lyot j‖ ≤ 1) :
    ∑ j ∈ Finset.range N, ‖lyot j * knifeRow N M start (NearField.kF M) (NearField.kB M) ((M : ℂ)⁻¹) mask (fun i => x i * apod i) j‖ ^ 2
      ≤ ∑ j ∈ Finset.range N, ‖x j‖ ^ 2 := by
  rw [Finset.sum_range, Finset.sum_range]
  simp only [knifeRow_eq_filter N M start hM h]
  -- Lyot stop, then the Fourier filter, then the pre-apodizer: none of them adds energy
  exact (Finset.sum_le_sum fun j _ => NearField.norm_sq_mul_le (hly j.1 j.2) _).trans
    ((NearField.power_nonincreasing_dft1 M hM (cut_injective N M start h) (fun q => hmask q.1 q.2) _).trans
      (Finset.sum_le_sum fun j _ => by rw [mul_comm]; exact NearField.norm_sq_mul_le (hap j.1 j.2) _))

/-- The kernels the driver runs at `Rat` (Gaussian integers, `M ∣ 4`) are these DFT kernels. -/
theorem knife_exec_kernels (M : ℕ) (hM : M = 1 ∨ M = 2 ∨ M = 4) (n : ℤ) :
    (gaussKerF M n : Cx ℝ).toComplex = NearField.kF M n ∧ (gaussKerB M n : Cx ℝ).toComplex = NearField.kB M n :=
  ⟨(iPow_toComplex _).trans (NearField.toC_gKerF hM n), (iPow_toComplex _).trans (NearField.toC_gKerB hM n)⟩

/-- **Phase-only families on the executable model.**  Let the forward / backward multipliers of a family be the values of the
character at `coef f d n · u · p_i` (`coef`: driver op `coef`, compared with the multiplier the code applies; `maskFwd`, `power`:
driver op `mask`, compared with the element's `forward` / `backward` and `Wavefront.total_power`).  Then both directions conserve
the total power `Σ|E_i|² w_i` for any weights, `backward ∘ forward = id` on every pixel, and the backward multiplier is the
conjugate of the forward one (so `Apodizer.backward`'s `conj` is the same map). -/
theorem family_model_roundtrip (c : UChar) (f : Family) (n : ℚ) (u : ℝ) (p : ℕ → ℝ) (tf tb E : ℕ → Cx ℝ) (w : ℕ → ℝ) (N : ℕ)
    (hf : ∀ i, (tf i).toComplex = c.χ ((coef f .fwd n : ℝ) * u * p i))
    (hb : ∀ i, (tb i).toComplex = c.χ ((coef f .bwd n : ℝ) * u * p i)) :
    power (maskFwd tf E) w N = power E w N ∧ power (maskFwd tb E) w N = power E w N ∧
    (∀ i, maskFwd tb (maskFwd tf E) i = E i) ∧ ∀ i, tb i = (tf i).conj := by
  obtain rfl := c.conj_of_eq hf hb rfl
  exact ⟨phase_model_total_power tf E w N fun i _ => c.normSq_of_eq (hf i),
    phase_model_total_power _ E w N fun i _ => c.normSq_of_eq (hb i),
    fun i => (phase_model_inverse tf E i (c.normSq_of_eq (hf i))).1, fun _ => rfl⟩

/-- The hypotheses of `family_model_roundtrip` are satisfiable for every family (take the real and imaginary part). -/
example (c : UChar) (f : Family) (d : Dir) (n : ℚ) (u : ℝ) (p : ℕ → ℝ) :
    ∃ t : ℕ → Cx ℝ, ∀ i, (t i).toComplex = c.χ ((coef f d n : ℝ) * u * p i) :=
  ⟨fun i => ⟨(c.χ ((coef f d n : ℝ) * u * p i)).re, (c.χ ((coef f d n : ℝ) * u * p i)).im⟩, fun _ => rfl⟩

/-- `Magnifier.backward` multiplies by the number `forward` divided by (the square root of the executable `magDivisorSq`,
which is positive for non-zero magnifications): `backward ∘ forward = id` on the field. -/
theorem magnifier_model_backward_inverse (m1 m2 : ℚ) (h1 : m1 ≠ 0) (h2 : m2 ≠ 0) (E : ℂ) :
    E / ((Real.sqrt ((magDivisorSq m1 m2 : ℚ) : ℝ) : ℝ) : ℂ) * ((Real.sqrt ((magDivisorSq m1 m2 : ℚ) : ℝ) : ℝ) : ℂ) = E := by
  obtain ⟨hpos, -⟩ := magnifier_divisor_ok (m1 : ℝ) m2 (Rat.cast_ne_zero.mpr h1) (Rat.cast_ne_zero.mpr h2)
  rw [magDivisorSq_cast]
  exact (magnifier_backward_inverse E _ 0 1 (Real.sqrt_pos.mpr hpos).ne' one_ne_zero).1

/-- With the mode normalised as the code does (`Σ|m|²w = 1`; the harness checks the model's `mnorm` output is 1 on the code's
mode) the fibre couples at most the input power, and `backward` returns exactly the coupled power. -/
theorem fibre_model_passive_normalised (E m : ℕ → Cx ℝ) (w : ℕ → ℝ) (n : ℕ) (hw : ∀ i < n, 0 ≤ w i) (hnorm : power m w n = 1) :
    (fibreAmp E m w n).normSq ≤ power E w n ∧
    power (fibreBack (fibreAmp E m w n) m) w n = (fibreAmp E m w n).normSq := by
  have h := fibre_model_passive E m w n hw
  rw [hnorm, mul_one] at h
  refine ⟨h, ?_⟩
  rw [fibre_model_backward_power, hnorm, mul_one]

/-- `hnorm` is satisfiable (one pixel, unit weight, unit mode). -/
example : power (fun _ => (⟨1, 0⟩ : Cx ℝ)) (fun _ => (1 : ℝ)) 1 = 1 := by
  simp [power, Fft.sumRange, Cx.normSq]

/-- **Scalar transmissions on polarised light** (`Passive.maskJ`, `maskV`, driver op `maskpol`, compared per pixel with
`Apodizer` / every phase-only family acting on Jones-matrix and Jones-vector wavefronts): the whole Stokes vector of the pixel
scales by `|t|²` — whatever the input Stokes vector. -/
theorem mask_model_polarised_stokes (t : Cx ℝ) (e : J2 ℝ) (s : S4 ℝ) (v : V2 ℝ) :
    (jonesStokes (maskJ t e) s).i = t.normSq * (jonesStokes e s).i ∧ (jonesStokes (maskJ t e) s).q = t.normSq * (jonesStokes e s).q ∧
    (jonesStokes (maskJ t e) s).u = t.normSq * (jonesStokes e s).u ∧ (jonesStokes (maskJ t e) s).v = t.normSq * (jonesStokes e s).v ∧
    (vecStokes (maskV t v)).i = t.normSq * (vecStokes v).i ∧ (vecStokes (maskV t v)).q = t.normSq * (vecStokes v).q ∧
    (vecStokes (maskV t v)).u = t.normSq * (vecStokes v).u ∧ (vecStokes (maskV t v)).v = t.normSq * (vecStokes v).v := by
  have hj := jonesStokes_scale e t s
  have hv := vecStokes_scale v t
  exact ⟨congrArg S4.i hj, congrArg S4.q hj, congrArg S4.u hj, congrArg S4.v hj,
    congrArg S4.i hv, congrArg S4.q hv, congrArg S4.u hv, congrArg S4.v hv⟩

/-- Phase-only elements (`|t| = 1`) leave the intensity — and the whole Stokes vector — of every partially / fully polarised pixel
unchanged; masks with `|t| ≤ 1` never increase the intensity (for a physical input Stokes vector, where the intensity is ≥ 0). -/
theorem mask_model_polarised_passive (t : Cx ℝ) (e : J2 ℝ) (s : S4 ℝ) (v : V2 ℝ) (ha : 0 ≤ s.i)
    (hphys : s.q ^ 2 + s.u ^ 2 + s.v ^ 2 ≤ s.i ^ 2) :
    (t.normSq = 1 → jonesStokes (maskJ t e) s = jonesStokes e s ∧ vecStokes (maskV t v) = vecStokes v) ∧
    (t.normSq ≤ 1 → (jonesStokes (maskJ t e) s).i ≤ (jonesStokes e s).i ∧ (vecStokes (maskV t v)).i ≤ (vecStokes v).i) := by
  refine ⟨fun ht => mask_unimodular_stokes ht e s v, fun ht => ?_⟩
  unfold maskJ maskV
  rw [jonesStokes_scale, vecStokes_scale]
  exact ⟨mul_le_of_le_one_left (jonesStokes_i_nonneg e s ha hphys) ht, mul_le_of_le_one_left (vecStokes_i_nonneg v) ht⟩

/-- The hypotheses are satisfiable: unpolarised input, a half-transparent pixel. -/
example : (0 : ℝ) ≤ (⟨1, 0, 0, 0⟩ : S4 ℝ).i ∧ (⟨1, 0, 0, 0⟩ : S4 ℝ).q ^ 2 + (⟨1, 0, 0, 0⟩ : S4 ℝ).u ^ 2 + (⟨1, 0, 0, 0⟩ : S4 ℝ).v ^ 2 ≤ (⟨1, 0, 0, 0⟩ : S4 ℝ).i ^ 2
    ∧ (⟨1 / 2, 0⟩ : Cx ℝ).normSq ≤ 1 := by
  norm_num [Cx.normSq]

/-- The whole 2-D field: the coronagraph transforms the `R` rows (columns for the `±y` directions) independently, each with its
own slice of the pre-apodizer, of the Lyot stop and of the field, so the total energy `Σ_r Σ_j |·|²` (total power on the regular
pupil grid, uniform weights) is not increased.  `backward` is the same pipeline with `conj lyot` in front and `conj apod` behind,
hence also covered (the hypotheses only bound moduli). -/
theorem knife_model_passive_rows (R N M start : ℕ) (hM : 0 < M) (h : start + N ≤ M) (mask : ℕ → ℂ)
    (apod lyot x : ℕ → ℕ → ℂ) (hmask : ∀ q < M, ‖mask q‖ ≤ 1)
    (hap : ∀ r < R, ∀ j < N, ‖apod r j‖ ≤ 1) (hly : ∀ r < R, ∀ j < N, ‖lyot r j‖ ≤ 1) :
    ∑ r ∈ Finset.range R, ∑ j ∈ Finset.range N,
        ‖lyot r j * knifeRow N M start (NearField.kF M) (NearField.kB M) ((M : ℂ)⁻¹) mask (fun i => x r i * apod r i) j‖ ^ 2
      ≤ ∑ r ∈ Finset.range R, ∑ j ∈ Finset.range N, ‖x r j‖ ^ 2 := by
  apply Finset.sum_le_sum
  intro r hr
  have hr' := Finset.mem_range.mp hr
  exact knife_model_passive N M start hM h mask (apod r) (lyot r) (x r) hmask (hap r hr') (hly r hr')

/-- Conjugation does not change the modulus: the backward direction satisfies the same hypotheses. -/
example (z : ℂ) (h : ‖z‖ ≤ 1) : ‖(starRingEnd ℂ) z‖ ≤ 1 := by rwa [Complex.norm_conj]

/-- **Total power of polarised wavefronts** (`Passive.powerJ`, `powerV` = `Wavefront.total_power` of Jones-matrix / Jones-vector
wavefronts, driver op `powerpol`): per-pixel scalar transmissions with `|t_i| = 1` conserve it, with `|t_i| ≤ 1` never increase it,
for arbitrary non-negative cell areas and any physical input Stokes vector. -/
theorem mask_model_polarised_total (t : ℕ → Cx ℝ) (e : ℕ → J2 ℝ) (v : ℕ → V2 ℝ) (s : S4 ℝ) (w : ℕ → ℝ) (n : ℕ)
    (ha : 0 ≤ s.i) (hphys : s.q ^ 2 + s.u ^ 2 + s.v ^ 2 ≤ s.i ^ 2) (hw : ∀ i < n, 0 ≤ w i) :
    ((∀ i < n, (t i).normSq = 1) →
      powerJ (fun i => maskJ (t i) (e i)) s w n = powerJ e s w n ∧ powerV (fun i => maskV (t i) (v i)) w n = powerV v w n) ∧
    ((∀ i < n, (t i).normSq ≤ 1) →
      powerJ (fun i => maskJ (t i) (e i)) s w n ≤ powerJ e s w n ∧ powerV (fun i => maskV (t i) (v i)) w n ≤ powerV v w n) := by
  unfold powerJ powerV
  simp only [Fft.sumRange_eq]
  have pix := fun i => mask_model_polarised_passive (t i) (e i) s (v i) ha hphys
  constructor
  · intro ht
    exact ⟨Finset.sum_congr rfl fun i hi => by rw [((pix i).1 (ht i (Finset.mem_range.mp hi))).1],
      Finset.sum_congr rfl fun i hi => by rw [((pix i).1 (ht i (Finset.mem_range.mp hi))).2]⟩
  · intro ht
    exact ⟨Finset.sum_le_sum fun i hi =>
        mul_le_mul_of_nonneg_right ((pix i).2 (ht i (Finset.mem_range.mp hi))).1 (hw i (Finset.mem_range.mp hi)),
      Finset.sum_le_sum fun i hi =>
        mul_le_mul_of_nonneg_right ((pix i).2 (ht i (Finset.mem_range.mp hi))).2 (hw i (Finset.mem_range.mp hi))⟩

/-- **Phase-only families on polarised light, on the executed definitions** (`maskJ`, `maskV`: driver op `maskpol`; `powerJ`, `powerV`:
op `powerpol`; `coef`: op `coef`).  A pixel multiplier that is a value of the character at `coef f d n · u · p` leaves the whole
Stokes vector of a Jones-matrix pixel (any input Stokes vector) and of a Jones-vector pixel unchanged; with one such multiplier per
pixel the total power `Σ I_i w_i` is unchanged for **any** cell areas `w` (explicit, per point, of either sign). -/
theorem family_model_polarised (c : UChar) (f : Family) (d : Dir) (n : ℚ) (u : ℝ) (p : ℕ → ℝ) (t : ℕ → Cx ℝ)
    (ht : ∀ i, (t i).toComplex = c.χ ((coef f d n : ℝ) * u * p i)) (e : ℕ → J2 ℝ) (v : ℕ → V2 ℝ) (s : S4 ℝ) (w : ℕ → ℝ) (N : ℕ) :
    (∀ i, jonesStokes (maskJ (t i) (e i)) s = jonesStokes (e i) s ∧ vecStokes (maskV (t i) (v i)) = vecStokes (v i)) ∧
    powerJ (fun i => maskJ (t i) (e i)) s w N = powerJ e s w N ∧ powerV (fun i => maskV (t i) (v i)) w N = powerV v w N := by
  have pix := fun i => mask_unimodular_stokes (c.normSq_of_eq (ht i)) (e i) s (v i)
  refine ⟨pix, ?_, ?_⟩
  · unfold powerJ; simp only [(pix _).1]
  · unfold powerV; simp only [(pix _).2]

/-- **Magnifier on grids with explicit cell areas** (`magWeights`, `magWeightsBack`: driver op `magweights`, compared with the weights
of the grid `Magnifier.forward` / `backward` return for scalar, all-ones and per-point input weights, also when the same
`Magnifier` object has seen a grid with the same coordinates and other weights before).  With the field divided by
`sqrt (magDivisorSq)` and the weights of the *returned* grid, the power of every pixel, hence the total power over any number of
pixels, is what came in, whatever the input weights; and `backward` returns the input weights. -/
theorem magnifier_model_weights_power (m1 m2 : ℚ) (h1 : m1 ≠ 0) (h2 : m2 ≠ 0) (E : ℕ → ℂ) (w : ℕ → ℚ) (N : ℕ) :
    (∀ i, Complex.normSq (E i / ((Real.sqrt ((magDivisorSq m1 m2 : ℚ) : ℝ) : ℝ) : ℂ)) * ((magWeights m1 m2 w i : ℚ) : ℝ)
        = Complex.normSq (E i) * (w i : ℝ)) ∧
    ∑ i ∈ Finset.range N, Complex.normSq (E i / ((Real.sqrt ((magDivisorSq m1 m2 : ℚ) : ℝ) : ℝ) : ℂ)) * ((magWeights m1 m2 w i : ℚ) : ℝ)
      = ∑ i ∈ Finset.range N, Complex.normSq (E i) * (w i : ℝ) ∧
    ∀ i, magWeightsBack m1 m2 (magWeights m1 m2 w) i = w i := by
  have pix := fun i => magnifier_model_power m1 m2 h1 h2 (E i) (w i)
  have hne : magWeightFactor m1 m2 ≠ 0 := by
    unfold magWeightFactor; rw [absRat_eq_abs]; exact abs_ne_zero.mpr (mul_ne_zero h1 h2)
  simp only [magWeightsBack, magWeights, Rat.cast_mul]
  exact ⟨pix, Finset.sum_congr rfl fun i _ => pix i, fun i => mul_div_cancel_right₀ _ hne⟩

/-- The hypotheses are satisfiable (anamorphic magnification of mixed sign). -/
example : (3 / 2 : ℚ) ≠ 0 ∧ (-2 : ℚ) ≠ 0 := by norm_num

/-- **The knife-edge coronagraph exactly, for every internal length** (`Passive.knifeRowP`, driver op `knifep`: `knifeRow` run at the
formal phase sums, compared row by row with `KnifeEdgeLyotCoronagraph.forward` / `backward` for internal lengths that do not divide 4
as well).  The complex number its output denotes is the complex pipeline of `knife_model_passive` with the DFT kernels of C01/C02,
applied to the numbers the inputs denote … -/
theorem knifep_denotes_complex_row (N M start : ℕ) (mask apod lyot x : ℕ → Cx Rat) (j : ℕ) :
    NearField.PSum.ev (knifeRowP N M start mask apod lyot x j)
      = cxC (lyot j) * knifeRow N M start (NearField.kF M) (NearField.kB M) ((M : ℂ)⁻¹) (fun q => cxC (mask q))
          (fun i => cxC (x i) * cxC (apod i)) j := by
  unfold knifeRowP cxToPSum cxC
  rw [NearField.PSum.ev_mul, knifeRow_map NearField.PSum.ev_hom,
    NearField.ev_scale, funext (NearField.ev_pKerF M), funext (NearField.ev_pKerB M)]
  simp only [NearField.PSum.ev_mul, NearField.ev_psumOfGRat]

/-- … hence what op `knifep` computes never carries more energy than the row that came in: any `M > 0`, any cut-out, focal mask,
pre-apodizer and Lyot stop of modulus ≤ 1 (`backward`: the same with conjugated apodizer / stop in swapped roles). -/
theorem knifep_passive (N M start : ℕ) (hM : 0 < M) (h : start + N ≤ M) (mask apod lyot x : ℕ → Cx Rat)
    (hmask : ∀ q < M, ‖cxC (mask q)‖ ≤ 1) (hap : ∀ j < N, ‖cxC (apod j)‖ ≤ 1) (hly : ∀ j < N, ‖cxC (lyot j)‖ ≤ 1) :
    ∑ j ∈ Finset.range N, ‖NearField.PSum.ev (knifeRowP N M start mask apod lyot x j)‖ ^ 2
      ≤ ∑ j ∈ Finset.range N, ‖cxC (x j)‖ ^ 2 := by
  simp only [knifep_denotes_complex_row]
  exact knife_model_passive N M start hM h (fun q => cxC (mask q)) (fun j => cxC (apod j)) (fun j => cxC (lyot j))
    (fun j => cxC (x j)) hmask hap hly

/-- The hypotheses are satisfiable with an internal length that does not divide 4 (`M = 9`, the code's mask values 0, ½, 1). -/
example : (0 : ℕ) < 9 ∧ 3 + 3 ≤ 9 ∧ ‖cxC ⟨1 / 2, 0⟩‖ ≤ 1 ∧ ‖cxC ⟨0, 0⟩‖ ≤ 1 ∧ ‖cxC ⟨1, 0⟩‖ ≤ 1 := by
  have e : ∀ a : ℚ, cxC ⟨a, 0⟩ = ((a : ℝ) : ℂ) := fun a => by
    unfold cxC NearField.GRat.toC; apply Complex.ext <;> simp
  refine ⟨by norm_num, by norm_num, ?_, ?_, ?_⟩ <;> rw [e] <;> rw [Complex.norm_real] <;> norm_num

/-! ### Lazily materialised grid weights — the order of observation does not matter (seed C07-10) -/

/-- **Reading the weights before or after `CartesianGrid.scale` makes no difference** (`LazyW.read`, `LazyW.scale`, `LazyW.seen`: driver
op `lazyw`, compared with the weights of the grid `Magnifier.forward` / `backward` return for grids whose `_weights` slot is empty
(with and without automatic weights), a scalar or per point, read before the call or not).  For every state of the slot: scaling
after a read is scaling; the result is materialised (a later read changes nothing, whatever the automatic weights of the scaled
coordinates are); and every point shows the weight a reader would have seen before, times the Jacobian. -/
theorem lazy_scale_order_independent (auto : Option ℚ) (j : ℚ) (s : LazyW) :
    (s.read auto).scale auto j = s.scale auto j ∧
    (∀ auto', (s.scale auto j).read auto' = s.scale auto j) ∧
    ∀ auto' i, (s.scale auto j).seen auto' i = s.seen auto i * j := by
  cases s with
  | unset => simp [LazyW.read, LazyW.scale, LazyW.seen]
  | scalar w => simp [LazyW.read, LazyW.scale, LazyW.seen]
  | points ws =>
    refine ⟨by simp [LazyW.read, LazyW.scale], by simp [LazyW.read, LazyW.scale], ?_⟩
    intro auto' i
    simp only [LazyW.read, LazyW.scale, LazyW.seen, List.getD_eq_getElem?_getD, List.getElem?_map]
    cases ws[i]? <;> simp

/-- **The magnifier on a grid with a lazy weight slot**: whether or not somebody read the weights of the input grid first (`rd`), a
reader of the returned grid sees `magWeights` of what a reader of the input grid would have seen — the very function of
`magnifier_model_weights_power`; so, with the field divided by `sqrt (magDivisorSq)`, every pixel carries the power it carried. -/
theorem lazy_magnifier_pixel_power (auto auto' : Option ℚ) (m1 m2 : ℚ) (h1 : m1 ≠ 0) (h2 : m2 ≠ 0) (s : LazyW) (rd : Bool)
    (E : ℕ → ℂ) (i : ℕ) :
    ((if rd then s.read auto else s).scale auto (magWeightFactor m1 m2)).seen auto' i = magWeights m1 m2 (s.seen auto) i ∧
    Complex.normSq (E i / ((Real.sqrt ((magDivisorSq m1 m2 : ℚ) : ℝ) : ℝ) : ℂ))
        * (((((if rd then s.read auto else s).scale auto (magWeightFactor m1 m2)).seen auto' i : ℚ)) : ℝ)
      = Complex.normSq (E i) * ((s.seen auto i : ℚ) : ℝ) := by
  obtain ⟨hread, -, hseen⟩ := lazy_scale_order_independent auto (magWeightFactor m1 m2) s
  have hs : (if rd then s.read auto else s).scale auto (magWeightFactor m1 m2) = s.scale auto (magWeightFactor m1 m2) := by
    cases rd
    exacts [rfl, hread]
  rw [hs, hseen]
  exact ⟨rfl, (magnifier_model_weights_power m1 m2 h1 h2 E (s.seen auto) 0).1 i⟩

/-- The hypotheses are satisfiable. -/
example : (2 : ℚ) ≠ 0 ∧ (-3 / 2 : ℚ) ≠ 0 := by norm_num

/-- "Rescale only what has been materialised" (`LazyW.scaleOld`, the seeded variant) is the same function whenever the coordinates
have automatic weights (regular / separated grids: the empty slot is refilled from the scaled coordinates) … -/
theorem lazy_scaleOld_agrees_with_automatic_weights (a j : ℚ) (s : LazyW) (i : ℕ) :
    (s.scaleOld j).seen (some (a * j)) i = (s.scale (some a) j).seen (some (a * j)) i := by
  cases s <;> simp [LazyW.scaleOld, LazyW.scale, LazyW.read, LazyW.seen]

/-- … and wrong for a grid without automatic weights that nobody has read yet, while right after a read: order dependence. -/
theorem lazy_scaleOld_counterexample :
    (LazyW.unset.scaleOld 4).seen none 0 ≠ LazyW.unset.seen none 0 * 4 ∧
    ((LazyW.unset.read none).scaleOld 4).seen none 0 = LazyW.unset.seen none 0 * 4 := by
  constructor <;> simp [LazyW.scaleOld, LazyW.read, LazyW.seen]

end HcipyVerif.C07
