import Mathlib.Tactic.LinearCombination
import Mathlib.Tactic.FieldSimp
import HcipyVerif.Lemmas.FftIndex

/-!
# The FastFourierTransform pipeline equals the defining sum (one axis)

`fastForward_eq_sumForward`, `fastBackward_eq_sumBackward`: for every configuration
(`emulate_fftshifts` on or off), all sizes `N ≤ M`, `Mo ≤ M`, `0 < M`, all grid parameters with
the consistency `dT·M·δ = 1` (i.e. `Δ·M·δ = 2π`), all characters `T` (1-periodic), `E`.
-/
set_option linter.unusedSectionVars false

namespace HcipyVerif.Fft
open Finset

/-- What `FastFourierTransform.forward` and `.backward` have in common on one axis: multiply by an
array (`mIn`), zero-pad the window of `N` samples into the internal array of `M`, (`ifftshift`,)
`fft`/`ifft` with kernel `ker`, (`fftshift`,) cut out the window of `Mo`, multiply by an array
(`mOut`) and a constant (`c`: the `1/M` of `ifft`). -/
structure Pipe (C : Type) where
  N : ℕ
  M : ℕ
  Mo : ℕ
  ker : ℤ → C
  mIn : ℕ → C
  mOut : ℕ → C
  c : C

def Pipe.run {C : Type} [CommRing C] (b : Bool) (p : Pipe C) (f : ℕ → C) (k : ℕ) : C :=
  p.c * core b p.N p.M p.Mo p.ker (fun j => f j * p.mIn j) k * p.mOut k

/-- A pipeline with a periodic kernel evaluates a kernel sum. -/
theorem Pipe.run_eq_sum {C : Type} [CommRing C] (b : Bool) (p : Pipe C) (c : PChar C p.M)
    (hχ : p.ker = c.χ) (hM : 0 < p.M) (hN : p.N ≤ p.M) (hMo : p.Mo ≤ p.M) (f : ℕ → C) (k : ℕ)
    (hk : k < p.Mo) :
    p.run b f k = ∑ j ∈ range p.N,
      f j * (p.c * (p.mIn j * p.ker (coreIdx b p.N p.M j * coreIdx b p.Mo p.M k) * p.mOut k)) := by
  rw [Pipe.run, hχ, core_eq_sum c b p.N p.Mo hM hN hMo _ k hk, Finset.mul_sum, Finset.sum_mul]
  exact Finset.sum_congr rfl fun j _ => by ring

variable {K C : Type} [Field K] [Field C] {T E : K → C}

/-- the forward DFT kernel `n ↦ T(-(n/M))` is an `M`-periodic character -/
def kerFChar (hT : IsChar T) (hper : ∀ n : ℤ, T (n : K) = 1) (g : Cfg K C) (hM : (g.M : K) ≠ 0) :
    PChar C g.M where
  χ := g.kerF T
  add a b := by
    unfold Cfg.kerF
    rw [← hT.add]; congr 1; push_cast; ring
  period n := by
    unfold Cfg.kerF
    have : -(((((g.M : ℕ) : ℤ) * n : ℤ) : K) / (g.M : K)) = ((-n : ℤ) : K) := by
      push_cast; field_simp
    rw [this, hper]

theorem kerB_eq_inv (hT : IsChar T) (g : Cfg K C) (n : ℤ) : g.kerB T n = (g.kerF T n)⁻¹ := by
  unfold Cfg.kerB Cfg.kerF; rw [hT.inv, neg_neg]

/-- `forward` as a pipeline -/
def Cfg.fwd (T E : K → C) (g : Cfg K C) : Pipe C :=
  ⟨g.N, g.M, g.Mo, g.kerF T, g.inMult T E, g.outMult T E, 1⟩

/-- `backward` as a pipeline: the windows exchanged, the multipliers inverted and exchanged -/
def Cfg.bwd (T E : K → C) (g : Cfg K C) : Pipe C :=
  ⟨g.Mo, g.M, g.N, g.kerB T, fun k => (g.outMult T E k)⁻¹, fun j => (g.inMult T E j)⁻¹, (g.M : C)⁻¹⟩

theorem fastForward_eq_run (g : Cfg K C) : fastForward T E g = (g.fwd T E).run (!g.emu) :=
  funext fun f => funext fun k => by rw [Pipe.run, Cfg.fwd, one_mul]; rfl

theorem fastBackward_eq_run (g : Cfg K C) : fastBackward T E g = (g.bwd T E).run (!g.emu) := rfl

theorem natCast_M_ne_zero (g : Cfg K C) (hcons : g.dT * (g.M : K) * g.δ = 1) : (g.M : K) ≠ 0 := by
  intro h
  rw [h] at hcons
  simp at hcons

theorem M_pos (g : Cfg K C) (hcons : g.dT * (g.M : K) * g.δ = 1) : 0 < g.M :=
  Nat.pos_of_ne_zero fun h => natCast_M_ne_zero g hcons (by rw [h, Nat.cast_zero])

theorem a_centre (g : Cfg K C) : g.a (g.Mo / 2) = 0 := by
  unfold Cfg.a; ring

theorem div_M (g : Cfg K C) (hcons : g.dT * (g.M : K) * g.δ = 1) (n : K) :
    n / (g.M : K) = n * (g.dT * g.δ) := by
  have hM := natCast_M_ne_zero g hcons
  field_simp
  linear_combination (-n) * hcons

/-- the output multiplier without the emulated shift: the piston cancels -/
theorem centre_ratio (hT : IsChar T) (hE : IsChar E) (g : Cfg K C) (k : ℕ) :
    g.centrePhase T E k * (g.centrePhase T E (g.Mo / 2))⁻¹ = T (-(g.centre * g.a k)) := by
  unfold Cfg.centrePhase
  rw [a_centre, mul_zero, neg_zero, hT.zero, one_mul]
  have := hE.ne_zero (-(g.centre * g.s))
  field_simp

/-- The phase identity behind both configurations: the product of all multipliers and the DFT
kernel at `(j, k)` is the Fourier kernel `T(-(a_k·x_j))·E(-(s·x_j))` times the weight. -/
theorem forward_phase (hT : IsChar T) (hE : IsChar E) (g : Cfg K C) (hN : g.N ≤ g.M) (hMo : g.Mo ≤ g.M) (hcons : g.dT * (g.M : K) * g.δ = 1)
    (j k : ℕ) :
    g.inMult T E j * g.kerF T (coreIdx (!g.emu) g.N g.M j * coreIdx (!g.emu) g.Mo g.M k) *
      g.outMult T E k
    = g.w * (T (-(g.a k * g.x j)) * E (-(g.s * g.x j))) := by
  have hNh : g.N / 2 ≤ g.M / 2 := Nat.div_le_div_right hN
  have hMoh : g.Mo / 2 ≤ g.M / 2 := Nat.div_le_div_right hMo
  unfold Cfg.outMult Cfg.inMult
  rw [centre_ratio hT hE]
  unfold Cfg.emuIn Cfg.emuOut Cfg.kerF coreIdx
  rw [div_M g hcons]
  by_cases he : g.emu = true
  · simp only [he, if_true, Bool.not_true, Bool.false_eq_true, if_false]
    have key : T (-(g.a k * g.x j)) =
        T (g.fShift * g.aInt (j + padStart g.N g.M)) * T (-(g.fShift * g.aInt 0)) *
        T (-(((((j + padStart g.N g.M : ℕ) : ℤ) * ((k + padStart g.Mo g.M : ℕ) : ℤ) : ℤ) : K) * (g.dT * g.δ))) *
        T (-(g.centre * g.a k)) * T (g.fShift * g.aInt (k + padStart g.Mo g.M)) := by
      rw [← hT.add, ← hT.add, ← hT.add, ← hT.add]
      congr 1
      unfold Cfg.a Cfg.x Cfg.fShift Cfg.aInt Cfg.centre padStart
      generalize g.N / 2 = nh at hNh ⊢
      generalize g.Mo / 2 = oh at hMoh ⊢
      generalize g.M / 2 = mh at hNh hMoh ⊢
      push_cast [Nat.cast_add, Nat.cast_sub hNh, Nat.cast_sub hMoh]
      ring
    rw [key]; ring
  · simp only [he, if_false, Bool.false_eq_true, Bool.not_false, if_true]
    have key : T (-(g.a k * g.x j)) =
        T (-((((((j : ℤ) - (g.N / 2 : ℕ)) * ((k : ℤ) - (g.Mo / 2 : ℕ)) : ℤ)) : K) * (g.dT * g.δ))) *
        T (-(g.centre * g.a k)) := by
      rw [← hT.add]
      congr 1
      unfold Cfg.a Cfg.x Cfg.centre
      generalize g.N / 2 = nh
      generalize g.Mo / 2 = oh
      push_cast
      ring
    rw [key]; ring

/-- **`FastFourierTransform.forward` evaluates the defining sum** (one axis, both
configurations of `emulate_fftshifts`). -/
theorem fastForward_eq_sumForward (hT : IsChar T) (hE : IsChar E) (hper : ∀ n : ℤ, T (n : K) = 1)
    (g : Cfg K C) (hN : g.N ≤ g.M) (hMo : g.Mo ≤ g.M) (hcons : g.dT * (g.M : K) * g.δ = 1)
    (f : ℕ → C) (k : ℕ) (hk : k < g.Mo) :
    fastForward T E g f k = sumForward T E g f k := by
  rw [fastForward_eq_run, (g.fwd T E).run_eq_sum _ (kerFChar hT hper g (natCast_M_ne_zero g hcons))
    rfl (M_pos g hcons) hN hMo f k hk, sumForward, sumRange_eq]
  refine Finset.sum_congr rfl fun j _ => ?_
  rw [mul_assoc (f j)]
  exact congrArg _ ((one_mul _).trans (forward_phase hT hE g hN hMo hcons j k))

/-- the backward phase identity: everything the forward multiplied is divided out again -/
theorem backward_phase (hT : IsChar T) (hE : IsChar E) (g : Cfg K C) (hN : g.N ≤ g.M) (hMo : g.Mo ≤ g.M) (hcons : g.dT * (g.M : K) * g.δ = 1)
    (j k : ℕ) :
    (g.outMult T E k)⁻¹ *
      (g.kerF T (coreIdx (!g.emu) g.Mo g.M k * coreIdx (!g.emu) g.N g.M j))⁻¹ *
      (g.inMult T E j)⁻¹
    = (g.w)⁻¹ * (T (g.a k * g.x j) * E (g.s * g.x j)) := by
  have hrhs : T (g.a k * g.x j) * E (g.s * g.x j)
      = (T (-(g.a k * g.x j)) * E (-(g.s * g.x j)))⁻¹ := by
    rw [mul_inv, hT.inv, hE.inv, neg_neg, neg_neg]
  rw [hrhs, ← mul_inv g.w, ← forward_phase hT hE g hN hMo hcons j k, mul_inv, mul_inv,
    mul_comm (coreIdx _ g.Mo g.M k)]
  ring

/-- **`FastFourierTransform.backward` evaluates the defining backward sum** with the weight
`wOut = Δ/(2π)`: the hypothesis `wOut·M·w = 1` is `Δ/(2π)·M·δ = 1`. -/
theorem fastBackward_eq_sumBackward (hT : IsChar T) (hE : IsChar E) (hper : ∀ n : ℤ, T (n : K) = 1)
    (g : Cfg K C) (hN : g.N ≤ g.M) (hMo : g.Mo ≤ g.M) (hcons : g.dT * (g.M : K) * g.δ = 1)
    (wOut : C) (hw : wOut * (g.M : C) * g.w = 1)
    (F : ℕ → C) (j : ℕ) (hj : j < g.N) :
    fastBackward T E g F j = sumBackward T E g wOut F j := by
  have hwOut : wOut = ((g.M : C))⁻¹ * (g.w)⁻¹ := by
    rw [← mul_inv]; exact eq_inv_of_mul_eq_one_left (by rw [← hw]; ring)
  rw [fastBackward_eq_run, (g.bwd T E).run_eq_sum _
    (kerFChar hT hper g (natCast_M_ne_zero g hcons)).inv (funext (kerB_eq_inv hT g))
    (M_pos g hcons) hMo hN F j hj, sumBackward, sumRange_eq]
  refine Finset.sum_congr rfl fun k _ => ?_
  simp only [Cfg.bwd, kerB_eq_inv hT, hwOut]
  linear_combination ((g.M : C)⁻¹ * F k) * backward_phase hT hE g hN hMo hcons j k

end HcipyVerif.Fft
