import HcipyVerif.Lemmas.PhaseOptics
import Mathlib.Analysis.Complex.Exponential
import Mathlib.Analysis.Complex.Norm
import Mathlib.Analysis.Real.Sqrt

/-! The facts behind C07 that need `Complex.exp`, the norm of `ℂ` or `Real.sqrt`: the character the code uses, the magnifier's
divisor, Cauchy–Schwarz for the fibre. -/

namespace HcipyVerif.C07

/-- The character the code uses: `t ↦ exp(i t)` (so no axiom is hidden in `UChar`). -/
noncomputable def expChar : UChar where
  χ := fun t => Complex.exp (t * Complex.I)
  add := by intro a b; rw [← Complex.exp_add]; congr 1; push_cast; ring
  zero := by simp
  conj := by
    intro a
    rw [← Complex.exp_conj]
    congr 1
    simp [Complex.conj_ofReal]

/-- The divisor used by the (repaired) code satisfies the hypotheses of `magnifier_pixel_power`. -/
theorem magnifier_divisor_ok (m1 m2 : ℝ) (h1 : m1 ≠ 0) (h2 : m2 ≠ 0) :
    0 < |m1 * m2| ∧ Real.sqrt |m1 * m2| * Real.sqrt |m1 * m2| = |m1 * m2| :=
  ⟨abs_pos.mpr (mul_ne_zero h1 h2), Real.mul_self_sqrt (abs_nonneg _)⟩

theorem fibre_cauchy_schwarz {ι : Type} (s : Finset ι) (E m : ι → ℂ) (w : ι → ℝ) (hw : ∀ i ∈ s, 0 ≤ w i) :
    Complex.normSq (∑ i ∈ s, (starRingEnd ℂ) (E i) * (w i : ℂ) * m i)
      ≤ (∑ i ∈ s, Complex.normSq (E i) * w i) * (∑ i ∈ s, Complex.normSq (m i) * w i) := by
  rw [Complex.normSq_eq_norm_sq]
  -- triangle inequality, then Cauchy–Schwarz as `(Σ r)² ≤ (Σ f) (Σ g)` for `r² ≤ f g`: no square root of the weights is taken
  refine (pow_le_pow_left₀ (norm_nonneg _) (norm_sum_le _ _) 2).trans
    (Finset.sum_sq_le_sum_mul_sum_of_sq_le_mul s (fun i hi => mul_nonneg (Complex.normSq_nonneg _) (hw i hi))
      (fun i hi => mul_nonneg (Complex.normSq_nonneg _) (hw i hi)) fun i hi => le_of_eq ?_)
  rw [Complex.norm_mul, Complex.norm_mul, Complex.norm_conj, Complex.norm_real, Real.norm_of_nonneg (hw i hi),
    Complex.normSq_eq_norm_sq, Complex.normSq_eq_norm_sq]
  ring

/-- **Single-mode fibre injection**: the coupled amplitude is `a = Σ conj(E_i) w_i m_i` with a mode
normalised to `Σ |m_i|² w_i = 1` (`w_i ≥ 0`); its power `|a|²` (output cell area 1) is at most the
input power `Σ |E_i|² w_i`. -/
theorem fibre_passive {ι : Type} (s : Finset ι) (E m : ι → ℂ) (w : ι → ℝ) (hw : ∀ i ∈ s, 0 ≤ w i)
    (hnorm : ∑ i ∈ s, Complex.normSq (m i) * w i = 1) :
    Complex.normSq (∑ i ∈ s, (starRingEnd ℂ) (E i) * (w i : ℂ) * m i) ≤ ∑ i ∈ s, Complex.normSq (E i) * w i := by
  have h := fibre_cauchy_schwarz s E m w hw
  rwa [hnorm, mul_one] at h

/-- The hypotheses of `fibre_passive` are satisfiable (one pixel, unit weight, unit mode). -/
example : ∑ i ∈ ({0} : Finset ℕ), Complex.normSq ((fun _ => (1 : ℂ)) i) * (fun _ => (1 : ℝ)) i = 1 := by simp

end HcipyVerif.C07
