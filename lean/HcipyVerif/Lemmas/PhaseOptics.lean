import HcipyVerif.Lemmas.Jones
import Mathlib.Tactic.NormNum
import Mathlib.Algebra.BigOperators.Ring.Finset
import Mathlib.Algebra.Order.BigOperators.Ring.Finset
import Mathlib.Tactic.Ring
import Mathlib.Tactic.Linarith

/-!
# Generic facts behind C07 (no model of hcipy involved)

The unimodular character `UChar` (abstract `t ↦ exp(i t)`) and the textbook identities and inequalities that the theorems of
`Properties/C07.lean` instantiate on the executable model.  They are free-standing mathematics, not evidence about the code by
themselves.
-/

namespace HcipyVerif.C07
open HcipyVerif.Jones

/-- A unimodular character `ℝ → ℂ` (abstract `t ↦ exp(i t)`). -/
structure UChar where
  χ : ℝ → ℂ
  add : ∀ a b, χ (a + b) = χ a * χ b
  zero : χ 0 = 1
  conj : ∀ a, (starRingEnd ℂ) (χ a) = χ (-a)

theorem UChar.mul_neg (c : UChar) (a : ℝ) : c.χ a * c.χ (-a) = 1 := by
  rw [← c.add, add_neg_cancel, c.zero]

theorem UChar.normSq_eq_one (c : UChar) (a : ℝ) : Complex.normSq (c.χ a) = 1 :=
  Complex.ofReal_injective (by rw [Complex.normSq_eq_conj_mul_self, c.conj, mul_comm, c.mul_neg, Complex.ofReal_one])

theorem UChar.normSq_of_eq (c : UChar) {t : Cx ℝ} {a : ℝ} (h : t.toComplex = c.χ a) : t.normSq = 1 := by
  rw [Cx.toComplex_normSq, h, c.normSq_eq_one]

/-- Multipliers that are values of the character at opposite coefficients are conjugate pairs. -/
theorem UChar.conj_of_eq (c : UChar) {tf tb : ℕ → Cx ℝ} {κf κb : ℚ} {u : ℝ} {p : ℕ → ℝ}
    (hf : ∀ i, (tf i).toComplex = c.χ (κf * u * p i)) (hb : ∀ i, (tb i).toComplex = c.χ (κb * u * p i)) (hκ : κb = -κf) :
    tb = fun i => (tf i).conj :=
  funext fun i => Cx.toComplex_injective (by rw [Cx.toComplex_conj, hf, hb, c.conj, hκ, Rat.cast_neg, neg_mul, neg_mul])

/-- Per-pixel power (intensity × cell area `w`) is unchanged by any unimodular multiplier. -/
theorem phase_only_pixel_power (c : UChar) (E : ℂ) (φ w : ℝ) :
    Complex.normSq (E * c.χ φ) * w = Complex.normSq E * w := by
  rw [Complex.normSq_mul, c.normSq_eq_one, mul_one]

theorem phase_only_total_power {ι : Type} (s : Finset ι) (c : UChar) (E : ι → ℂ) (φ w : ι → ℝ) :
    ∑ i ∈ s, Complex.normSq (E i * c.χ (φ i)) * w i = ∑ i ∈ s, Complex.normSq (E i) * w i :=
  Finset.sum_congr rfl fun i _ => phase_only_pixel_power c (E i) (φ i) (w i)

/-- `backward` (conjugate multiplier) undoes `forward`, and vice versa. -/
theorem phase_only_inverse (c : UChar) (E : ℂ) (φ : ℝ) :
    E * c.χ φ * c.χ (-φ) = E ∧ E * c.χ (-φ) * c.χ φ = E := by
  constructor
  · rw [mul_assoc, c.mul_neg, mul_one]
  · rw [mul_assoc, mul_comm (c.χ (-φ)), c.mul_neg, mul_one]

/-- Field divided by `s = sqrt |M₁ M₂|`, weights multiplied by `|M₁ M₂|`: per-pixel power is conserved
for either sign of each magnification (`m = |M₁ M₂| > 0`, `s² = m`). -/
theorem magnifier_pixel_power (E : ℂ) (w m s : ℝ) (hm : 0 < m) (hs : s * s = m) :
    Complex.normSq (E / (s : ℂ)) * (w * m) = Complex.normSq E * w := by
  rw [Complex.normSq_div, Complex.normSq_ofReal, hs, mul_comm w, ← mul_assoc, div_mul_cancel₀ _ hm.ne']

/-- `backward` (multiply by `s`, scale the grid by `1/M`) undoes `forward`. -/
theorem magnifier_backward_inverse (E : ℂ) (s x m : ℝ) (hs : s ≠ 0) (hm : m ≠ 0) :
    E / (s : ℂ) * (s : ℂ) = E ∧ x * m * (1 / m) = x :=
  ⟨div_mul_cancel₀ E (Complex.ofReal_ne_zero.mpr hs), by rw [mul_assoc, mul_one_div_cancel hm, mul_one]⟩

theorem mask_passive (E t : ℂ) (w : ℝ) (ht : Complex.normSq t ≤ 1) (hw : 0 ≤ w) :
    Complex.normSq (E * t) * w ≤ Complex.normSq E * w := by
  rw [Complex.normSq_mul]
  exact mul_le_mul_of_nonneg_right (mul_le_of_le_one_right (Complex.normSq_nonneg E) ht) hw

theorem mask_passive_total {ι : Type} (s : Finset ι) (E t : ι → ℂ) (w : ι → ℝ)
    (ht : ∀ i ∈ s, Complex.normSq (t i) ≤ 1) (hw : ∀ i ∈ s, 0 ≤ w i) :
    ∑ i ∈ s, Complex.normSq (E i * t i) * w i ≤ ∑ i ∈ s, Complex.normSq (E i) * w i :=
  Finset.sum_le_sum fun i hi => mask_passive (E i) (t i) (w i) (ht i hi) (hw i hi)

theorem diagonal_filter_contracts {ι : Type} (s : Finset ι) (D a : ι → ℂ) (hD : ∀ k ∈ s, Complex.normSq (D k) ≤ 1) :
    ∑ k ∈ s, Complex.normSq (D k * a k) ≤ ∑ k ∈ s, Complex.normSq (a k) := by
  apply Finset.sum_le_sum
  intro k hk
  rw [Complex.normSq_mul]
  exact mul_le_of_le_one_left (Complex.normSq_nonneg (a k)) (hD k hk)

theorem crop_contracts {ι : Type} (s t : Finset ι) (hst : s ⊆ t) (a : ι → ℂ) :
    ∑ k ∈ s, Complex.normSq (a k) ≤ ∑ k ∈ t, Complex.normSq (a k) :=
  Finset.sum_le_sum_of_subset_of_nonneg hst fun k _ _ => Complex.normSq_nonneg (a k)

/-- **Knife-edge coronagraph** `crop ∘ F⁻¹ ∘ D ∘ F ∘ pad` (optionally between two masks) with
`0 ≤ D ≤ 1`: given that `F` and `F⁻¹` preserve the energy `en` up to the usual constant scale
(unitary transform — this is C02's Parseval), that zero-padding preserves it and that the diagonal filter
and the crop contract it (the two lemmas above), the output energy is at most the input energy. -/
theorem knife_edge_passive {V W : Type} (enV : V → ℝ) (enW : W → ℝ)
    (pad : V → W) (crop : W → V) (F Fi D : W → W) (κ : ℝ) (hκ : 0 < κ)
    (hpad : ∀ x, enW (pad x) = enV x) (hcrop : ∀ y, enV (crop y) ≤ enW y)
    (hF : ∀ y, enW (F y) = κ * enW y) (hFi : ∀ y, enW (Fi y) = κ⁻¹ * enW y)
    (hD : ∀ y, enW (D y) ≤ enW y) (x : V) :
    enV (crop (Fi (D (F (pad x))))) ≤ enV x := by
  calc enV (crop (Fi (D (F (pad x))))) ≤ enW (Fi (D (F (pad x)))) := hcrop _
    _ = κ⁻¹ * enW (D (F (pad x))) := hFi _
    _ ≤ κ⁻¹ * enW (F (pad x)) := mul_le_mul_of_nonneg_left (hD _) (inv_nonneg.mpr hκ.le)
    _ = κ⁻¹ * (κ * enW (pad x)) := by rw [hF]
    _ = enW (pad x) := inv_mul_cancel_left₀ hκ.ne' _
    _ = enV x := hpad x

/-- The five hypotheses of `knife_edge_passive` are jointly satisfiable by non-trivial maps (`F = 2·`, `F⁻¹ = ·/2`,
`D = ·/2`, energy `y²`, `κ = 4`); the real pipeline is `knife_model_passive` of `Properties/C07.lean`. -/
example (x : ℝ) : (fun v : ℝ => v ^ 2) (id ((fun y : ℝ => y / 2) ((fun y : ℝ => y / 2) ((fun y : ℝ => 2 * y) (id x))))) ≤ (fun v : ℝ => v ^ 2) x :=
  knife_edge_passive (fun v : ℝ => v ^ 2) (fun v : ℝ => v ^ 2) id id (fun y => 2 * y) (fun y => y / 2) (fun y => y / 2) 4
    (by norm_num) (fun _ => rfl) (fun _ => le_refl _) (fun y => by ring) (fun y => by ring)
    (fun y => by nlinarith [sq_nonneg y]) x

theorem cx_ext {a b : Cx ℝ} (h1 : a.re = b.re) (h2 : a.im = b.im) : a = b := Cx.ext h1 h2

end HcipyVerif.C07
