import Mathlib.Algebra.BigOperators.Intervals
import Mathlib.Algebra.Field.Basic
import Mathlib.Tactic.Ring
import HcipyVerif.Model.Nft
import HcipyVerif.Lemmas.FftIndex

/-!
# NaiveFourierTransform: both code paths evaluate the defining sum
-/

namespace HcipyVerif.Fft
open Finset

section
variable {K C : Type} [Field K] [Field C]

theorem nft_forward_fly_eq_sum (E : K → C) (n : ℕ) (us xs : List (ℕ → K)) (w f : ℕ → C) (k : ℕ) :
    nftForwardFly E n us xs w f k = ∑ j ∈ range n, f j * w j * E (-(dotCoords us xs k j)) := by
  simp only [nftForwardFly, sumRange_eq]

theorem nft_forward_mat_eq_sum (E : K → C) (n : ℕ) (us xs : List (ℕ → K)) (w f : ℕ → C) (k : ℕ) :
    nftForwardMat E n us xs w f k = ∑ j ∈ range n, f j * w j * E (-(dotCoords us xs k j)) := by
  simp only [nftForwardMat, nftMatrixForward, sumRange_eq]
  exact Finset.sum_congr rfl fun j _ => by ring

theorem nft_backward_fly_eq_sum (E : K → C) (m : ℕ) (us xs : List (ℕ → K)) (wOut F : ℕ → C) (j : ℕ) :
    nftBackwardFly E m us xs wOut F j = ∑ k ∈ range m, F k * wOut k * E (dotCoords us xs k j) := by
  simp only [nftBackwardFly, sumRange_eq]

theorem nft_backward_mat_eq_sum (E : K → C) (m : ℕ) (us xs : List (ℕ → K)) (wOut F : ℕ → C) (j : ℕ) :
    nftBackwardMat E m us xs wOut F j = ∑ k ∈ range m, F k * wOut k * E (dotCoords us xs k j) := by
  simp only [nftBackwardMat, nftMatrixBackward, sumRange_eq]
  exact Finset.sum_congr rfl fun k _ => by ring

theorem dotCoords_one (u x : ℕ → K) (k j : ℕ) : dotCoords [u] [x] k j = u k * x j := by
  simp [dotCoords]

theorem dotCoords_two (u v x y : ℕ → K) (k j : ℕ) :
    dotCoords [u, v] [x, y] k j = u k * x j + v k * y j := by
  simp [dotCoords]

end
end HcipyVerif.Fft
