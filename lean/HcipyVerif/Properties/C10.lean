import HcipyVerif.Lemmas.GridMut
import HcipyVerif.Lemmas.GridHeap
import HcipyVerif.Lemmas.GridOld
import HcipyVerif.Lemmas.GridLayout
import HcipyVerif.Lemmas.GridShare

/-!
# C10 — Grid identity: equality is an equivalence consistent with hashing

All theorems are about `HcipyVerif.Grid.Grid.eq` / `Coords.eq` (the model of `Grid.__eq__` /
`Coords.__eq__`: coordinate-system test, type test, then the `np.array_equal` comparisons, per
axis for separated coordinates) and `Grid.hashInput` (the byte string `Grid.__hash__` feeds to
xxhash: system name, then the float64 / int64 values), for grids of **every** dimension, size and
value.  The model is tied to the code by the C10 correspondence (harness/props/c10.py): `==`
matrices are compared exactly and `hash(grid)` must equal xxh64 of the model's hash input.

Hypothesis used: `Coords.WF` — at least one dimension, and the columns of unstructured coordinates
all have one length (otherwise the object is not a grid; `np.array_equal` on a ragged list is
`False`).  The definitions model the code after the repairs D2, D24, D25, D26; the old behaviour
is `sepEqOld` / `regHashInputOld`, with proved counterexamples at the end (section `Old`, documentation only).

Floating point: the exact-rational statements (`shift_changes`, …) describe the code whenever the float
arithmetic is exact; `shiftF_keeps_iff` / `shiftF_absorbed` state what happens in general (`Coords.shiftR`
with a rounding function; binary64 = `roundF64`, tied bit for bit through the driver ops `shiftf`/`shiftedf`).
NaN / ±inf remain outside the model (with NaN the real `==` is not reflexive).
-/

namespace HcipyVerif.Grid

/-! ## Equivalence -/

/-- `==` decides exactly "same coordinate system and same coordinate data" (weights are ignored). -/
theorem eq_iff_same (a b : Grid) (h : a.coords.WF) :
    a.eq b = true ↔ a.system = b.system ∧ a.coords = b.coords := by
  constructor
  · exact Grid.eq_true_imp
  · rintro ⟨h1, h2⟩
    simp only [Grid.eq, Bool.and_eq_true, decide_eq_true_eq]
    exact ⟨h1, h2 ▸ Coords.eq_self h⟩

/-- **Reflexivity**: every grid equals itself — in particular separated grids whose axes have
different lengths. -/
theorem eq_refl (g : Grid) (h : g.coords.WF) : g.eq g = true :=
  (eq_iff_same _ _ h).mpr ⟨rfl, rfl⟩

/-- **Symmetry** (no hypothesis). -/
theorem eq_symm (a b : Grid) : a.eq b = b.eq a := by
  have key : ∀ a b : Grid, a.eq b = true → b.eq a = true := fun a b h => by
    obtain ⟨h1, h2⟩ := Grid.eq_true_imp h
    simp only [Grid.eq, h1, h2] at h ⊢
    exact h
  exact Bool.eq_iff_iff.mpr ⟨key a b, key b a⟩

/-- **Reflexivity holds exactly for the grids without NaN**: with IEEE comparison (`np.array_equal`
without `equal_nan`) a grid one of whose coordinates is NaN is *not* equal to itself (nor to its copy),
although it can be hashed and its copy has the same hash.  This is the behaviour of the code (tied:
driver op `eqnan` against `==` on real grids with NaN coordinates); `eq_refl` and all statements below
are about grids with finite coordinates. -/
theorem eq_refl_iff_no_nan (g : Grid) (h : g.coords.WF) (nan : Bool) : g.eqNaN g nan nan = true ↔ nan = false := by
  simp only [Grid.eqNaN, eq_refl g h, Bool.true_and, Bool.and_self, Bool.not_eq_eq_eq_not, Bool.not_true]

/-- … NaN on either side makes `==` false; without NaN it is `Grid.eq`; symmetric in any case. -/
theorem eqNaN_spec (a b : Grid) (na nb : Bool) :
    (na = true ∨ nb = true → a.eqNaN b na nb = false) ∧ a.eqNaN b false false = a.eq b ∧
      a.eqNaN b na nb = b.eqNaN a nb na := by
  refine ⟨?_, by simp only [Grid.eqNaN, Bool.not_false, Bool.and_true], ?_⟩
  · rintro (h | h) <;> simp [Grid.eqNaN, h]
  · have hs : a.eq b = b.eq a := eq_symm a b
    simp only [Grid.eqNaN, hs]
    cases na <;> cases nb <;> simp

/-- **Transitivity** (no hypothesis). -/
theorem eq_trans (a b c : Grid) (hab : a.eq b = true) (hbc : b.eq c = true) : a.eq c = true := by
  obtain ⟨h1, h2⟩ := Grid.eq_true_imp hab
  simpa only [Grid.eq, h1, h2, Bool.and_eq_true, decide_eq_true_eq] using hbc

/-! ## Consistency with hashing -/

/-- **Equal grids feed the same bytes to the hash**, hence have the same hash. -/
theorem eq_imp_hashInput_eq (a b : Grid) (h : a.eq b = true) : a.hashInput = b.hashInput := by
  obtain ⟨h1, h2⟩ := Grid.eq_true_imp h
  simp only [Grid.hashInput, h1, h2]

/-- The converse is not claimed (and is false): the hash input carries no axis lengths. -/
theorem hashInput_collision :
    ∃ a b : Grid, a.coords.WF ∧ b.coords.WF ∧ a.hashInput = b.hashInput ∧ a.eq b = false :=
  ⟨⟨.cartesian, .separated [[1, 2], [3]], .none⟩, ⟨.cartesian, .separated [[1], [2, 3]], .none⟩,
    by decide, by decide, by decide, by decide⟩

/-! ## Copies and round trips -/

/-- **Identity does not depend on the weights**: replacing the stored weights by anything (in
particular caching the automatic weights, which reading `grid.weights` does behind the user's back)
changes neither `==` against any grid nor the bytes fed to the hash.  (That a `copy()`, a pickle or a
dictionary round trip *is* the same value is not a theorem about the model's store, where it holds by
construction: it is carried by the correspondence — the `rt copy|dict|pickle` operations are compared
through `show`, the full `==` matrix and the exact hash — and by `dict_roundtrip` below.) -/
theorem eq_weights_irrelevant (g h : Grid) (w : Weights) :
    ({ g with weights := w } : Grid).eq h = g.eq h ∧ h.eq { g with weights := w } = h.eq g ∧
    ({ g with weights := w } : Grid).hashInput = g.hashInput := ⟨rfl, rfl, rfl⟩

/-- **Materialising the weights** (`grid.weights` read for the first time, model `Grid.materialize`,
driver op `mat`) yields a grid equal to the one before, with the same hash input. -/
theorem materialize_eq (g g' : Grid) (hw : g.coords.WF) (h : g.materialize = some g') :
    g'.eq g = true ∧ g.eq g' = true ∧ g'.hashInput = g.hashInput := by
  simp only [Grid.materialize, Option.map_eq_some_iff] at h
  obtain ⟨w, _, rfl⟩ := h
  exact ⟨eq_refl g hw, eq_refl g hw, rfl⟩

/-- … and so does scaling by one / shifting by zero, whatever happened to the weights on the way:
`scale` materialises the weights, the identity stays. -/
theorem scale_one_eq (g g' : Grid) (hw : g.coords.WF) (hc : g.system = .cartesian)
    (h : g.scale (.scalar 1) = some g') : g'.eq g = true ∧ g'.hashInput = g.hashInput := by
  suffices he : g'.eq g = true from ⟨he, eq_imp_hashInput_eq _ _ he⟩
  obtain ⟨w, _, rfl⟩ := Grid.scale_cartesian hc h
  have hc1 : g.coords.scale (List.replicate g.coords.ndim 1) = g.coords := Coords.scale_one g.coords
  exact (eq_iff_same _ _ (hc1.symm ▸ hw)).mpr ⟨rfl, hc1⟩

example : ∃ g g' : Grid, g.coords.WF ∧ g.materialize = some g' ∧ g'.weights ≠ g.weights :=
  ⟨⟨.cartesian, .regular [⟨1 / 2, 3, 0⟩], .none⟩, _, by decide, rfl, by decide⟩

/-- **`Grid.from_dict(g.to_dict())` is `g`** (coordinates, system and stored weights). -/
theorem dict_roundtrip (g : Grid) : Grid.fromDict g.toDict = some g := by
  obtain ⟨s, c, w⟩ := g
  cases s <;> cases c <;> simp [Grid.toDict, Grid.fromDict, sysName, zip3_maps]

theorem dict_roundtrip_eq (g : Grid) (h : g.coords.WF) :
    ∃ g', Grid.fromDict g.toDict = some g' ∧ g'.eq g = true ∧ g.eq g' = true ∧ g'.hashInput = g.hashInput :=
  ⟨g, dict_roundtrip g, eq_refl g h, eq_refl g h, rfl⟩

/-- An independently constructed grid with identical coordinates and system is equal, whatever
its weights. -/
theorem rebuilt_eq (s : System) (c : Coords) (w w' : Weights) (h : c.WF) :
    (Grid.mk s c w).eq (Grid.mk s c w') = true := (eq_iff_same _ _ h).mpr ⟨rfl, rfl⟩

/-! ## Grids that differ are unequal -/

theorem ne_of_system_ne (a b : Grid) (h : a.system ≠ b.system) : a.eq b = false := by
  rw [Bool.eq_false_iff]; intro e; exact h (Grid.eq_true_imp e).1

theorem ne_of_coords_ne (a b : Grid) (h : a.coords ≠ b.coords) : a.eq b = false :=
  (Grid.eq_false_of_coords_ne h).1

/-- different coordinate kind (regular / separated / unstructured), even with the same points -/
theorem ne_of_kind_ne (a b : Grid) (h : a.coords.kind ≠ b.coords.kind) : a.eq b = false :=
  ne_of_coords_ne a b (fun e => h (by rw [e]))

theorem ne_of_ndim_ne (a b : Grid) (h : a.coords.ndim ≠ b.coords.ndim) : a.eq b = false :=
  ne_of_coords_ne a b (fun e => h (by rw [e]))

theorem ne_of_size_ne (a b : Grid) (h : a.coords.size ≠ b.coords.size) : a.eq b = false :=
  ne_of_coords_ne a b (fun e => h (by rw [e]))

/-- any differing coordinate value of any point -/
theorem ne_of_points_ne (a b : Grid) (h : a.coords.points ≠ b.coords.points) : a.eq b = false :=
  ne_of_coords_ne a b (fun e => h (by rw [e]))

/-- a differing spacing, count or origin of a regular axis (even where the points coincide) -/
theorem ne_of_regular_axis_ne (s : System) (a b : List RegAxis) (w w' : Weights) (h : a ≠ b) :
    (Grid.mk s (.regular a) w).eq (Grid.mk s (.regular b) w') = false :=
  ne_of_coords_ne _ _ (by simpa only [ne_eq, Coords.regular.injEq] using h)

/-! ## In-place mutation changes the identity accordingly -/

/-- **Shifting** by a vector with a non-zero component along an axis that carries at least one
coordinate makes the grid unequal to its former self (and to every earlier copy, by `eq_trans`). -/
theorem shift_changes (g : Grid) (b : List Rat) (i : Nat) (v : Rat) (hv : g.coords.axisHas i v)
    (hb : ∃ bi, b[i]? = some bi ∧ bi ≠ 0) : (g.shift b).eq g = false ∧ g.eq (g.shift b) = false :=
  Grid.eq_false_of_coords_ne (Coords.shift_ne g.coords b i v hv hb)

/-- **Scaling** a Cartesian grid by factors with `f_i ≠ 1` along an axis that carries a non-zero
coordinate value changes its identity; the scalar form is the case `factors = replicate ndim s`. -/
theorem scale_changes (g g' : Grid) (s : ScaleArg) (hc : g.system = .cartesian) (h : g.scale s = some g')
    (i : Nat) (v : Rat) (hv : g.coords.axisHas i v) (hv0 : v ≠ 0)
    (hf : ∃ fi, (s.factors g.coords.ndim)[i]? = some fi ∧ fi ≠ 1) : g'.eq g = false ∧ g.eq g' = false := by
  obtain ⟨w, _, rfl⟩ := Grid.scale_cartesian hc h
  exact Grid.eq_false_of_coords_ne (Coords.scale_ne g.coords _ i v hv hv0 hf)

/-- **Scaling a polar grid** by `k ≠ 1` changes its identity as soon as some radius is non-zero
(`PolarGrid.scale` multiplies the radial axis by `k` and the angular axis by one). -/
theorem polar_scale_changes (g g' : Grid) (k : Rat) (hp : g.system = .polar) (h : g.scale (.scalar k) = some g')
    (v : Rat) (hv : g.coords.axisHas 0 v) (hv0 : v ≠ 0) (hk : k ≠ 1) : g'.eq g = false ∧ g.eq g' = false := by
  obtain ⟨w, _, rfl⟩ := Grid.scale_polar hp h
  exact Grid.eq_false_of_coords_ne (Coords.scale_ne g.coords [k, 1] 0 v hv hv0 ⟨k, rfl, hk⟩)

example : ∃ g g' : Grid, g.system = .polar ∧ g.scale (.scalar 2) = some g' ∧ g.coords.axisHas 0 (1 / 2) :=
  ⟨⟨.polar, .unstructured [[1 / 2, 3], [0, 1]], .none⟩, _, rfl, rfl, ⟨[1 / 2, 3], rfl, List.mem_cons_self⟩⟩

/-- **Reversing** changes the identity as soon as one axis is not symmetric under reversal … -/
theorem reverse_changes (g : Grid) (i : Nat) (h : g.coords.axisAsym i) :
    g.reverse.eq g = false ∧ g.eq g.reverse = false :=
  Grid.eq_false_of_coords_ne (Coords.reverse_ne g.coords i h)

/-- … and reversing twice restores it (so the hash returns to its old value as well). -/
theorem reverse_reverse_eq (g : Grid) (h : g.coords.WF) :
    g.reverse.reverse.eq g = true ∧ g.reverse.reverse.hashInput = g.hashInput := by
  have hc : g.reverse.reverse.coords = g.coords := Coords.reverse_reverse g.coords
  exact ⟨(eq_iff_same _ _ (hc.symm ▸ h)).mpr ⟨rfl, hc⟩, congrArg (Tok.name g.system :: Coords.hashInput ·) hc⟩

/-! ### Floating point: a shift changes the identity exactly when some stored sum changes

`shift_changes` above is about exact arithmetic (the rationals the correspondence feeds are dyadic,
so that float addition is exact).  On floats `x += b` stores `fl(x + b)`; the statement that holds for
**every** rounding function `rnd` (round-to-nearest-even binary64 is `roundF64`, executed by the driver
ops `shiftf` / `shiftedf` and compared bit for bit with the real code) is: -/

/-- **In-place float shift**: the grid stays equal to its former self iff every value the shift rewrites
(the origin of a regular axis, every coordinate of a separated / unstructured axis) absorbs its shift,
`fl(x + b_i) = x` — i.e. the identity changes *accordingly*: exactly when the data changes. -/
theorem shiftF_keeps_iff (rnd : Rat → Rat) (g : Grid) (b : List Rat) (hl : b.length = g.coords.ndim) (hw : g.coords.WF) :
    (g.shiftR rnd b).eq g = true ↔
      ∀ i (h1 : i < g.coords.shiftVals.length) (h2 : i < b.length), ∀ x ∈ g.coords.shiftVals[i], rnd (x + b[i]) = x := by
  rw [eq_iff_same _ _ ((Coords.sameShape_shiftR rnd g.coords b hl).WF hw)]
  simp only [Grid.shiftR, true_and]
  exact Coords.shiftR_eq_self_iff rnd g.coords b hl

/-- … in the decidable form the driver evaluates (`absorbs i b` with `rnd = roundF64`, compared with
`g.shifted(b) == g` / "the in-place shift left every stored value as it was" on the real code): the
shifted grid equals the original iff the model predicts that every sum is absorbed. -/
theorem shiftF_keeps_iff_absorbs (rnd : Rat → Rat) (g : Grid) (b : List Rat) (hl : b.length = g.coords.ndim) (hw : g.coords.WF) :
    (g.shiftR rnd b).eq g = true ↔ g.coords.absorbs rnd b = true := by
  rw [shiftF_keeps_iff rnd g b hl hw, Coords.absorbs_iff]

/-- with exact arithmetic (`rnd = id`) the float shift is the exact shift of `shift_changes` -/
theorem shiftF_exact (g : Grid) (b : List Rat) : g.shiftR id b = g.shift b := by
  obtain ⟨s, c, w⟩ := g
  cases c <;> rfl

/-- **The caveat, concretely (binary64)**: a non-zero shift below half an ulp of every coordinate is
absorbed — the grid still equals its former self and hashes the same — whereas in exact arithmetic
(`shift_changes`) the same shift changes the identity.  The harness replays exactly this on the real
code (`g.shifted(2**-54) == g`, same hash). -/
theorem shiftF_absorbed :
    ∃ (g : Grid) (b : List Rat), g.coords.WF ∧ b = [1 / 2 ^ 54] ∧
      (g.shiftR roundF64 b).eq g = true ∧ (g.shiftR roundF64 b).hashInput = g.hashInput ∧
      (g.shift b).eq g = false :=
  ⟨⟨.cartesian, .separated [[1, 2, -3 / 2]], .none⟩, _, by decide, rfl, by decide +kernel, by decide +kernel,
    by decide +kernel⟩

/-- … and a shift of a whole ulp is not: the float model agrees with the exact one there -/
theorem shiftF_not_absorbed :
    (Grid.shiftR roundF64 [1 / 2 ^ 52] ⟨.cartesian, .regular [⟨1 / 2, 3, 1⟩], .none⟩).eq
      ⟨.cartesian, .regular [⟨1 / 2, 3, 1⟩], .none⟩ = false := by decide +kernel

example : (Coords.separated [[0, 1], [5]]).axisHas 0 1 := ⟨[0, 1], rfl, List.mem_cons_of_mem _ List.mem_cons_self⟩
example : (Coords.regular [⟨1 / 2, 3, 0⟩]).axisAsym 0 := ⟨⟨1 / 2, 3, 0⟩, rfl, by norm_num⟩

/-- **Equal grids have the same number of axes** (and the same number of points and the same coordinate
kind): `==` is never a comparison of a common prefix of the axes. -/
theorem eq_imp_same_ndim (a b : Grid) (h : a.eq b = true) :
    a.coords.ndim = b.coords.ndim ∧ a.coords.size = b.coords.size ∧ a.coords.kind = b.coords.kind := by
  rw [(Grid.eq_true_imp h).2]
  exact ⟨rfl, rfl, rfl⟩

/-- The projection of a point cloud is not the cloud: an unstructured grid and the grid with one more
column (same point count, same leading columns) are unequal, in both orders. -/
theorem prefix_axes_ne (s : System) (cols : List (List Rat)) (z : List Rat) (w w' : Weights) :
    (Grid.mk s (.unstructured cols) w).eq (Grid.mk s (.unstructured (cols ++ [z])) w') = false ∧
    (Grid.mk s (.unstructured (cols ++ [z])) w').eq (Grid.mk s (.unstructured cols) w) = false := by
  constructor <;> apply ne_of_ndim_ne <;> simp [Coords.ndim]

/-! ## Sharing at the level of the `Coords` object (Model/GridShare.lean, executed by the driver) -/

/-- **Every holder of the `Coords` object follows a write through it** — whichever holder (or the caller)
made it: afterwards it reads the new coordinates, with its own coordinate system and weights. -/
theorem shared_holders_follow (grids : Store) (cell : List Nat) (c : Nat) (co : Coords) (j : Nat) (g : Grid)
    (hc : cell[j]? = some c) (hg : grids[j]? = some g) :
    (shareCoords grids cell c co)[j]? = some { g with coords := co } := by
  simp only [shareCoords_getElem?, hc, ↓reduceIte, hg, Option.map_some]

/-- Grids on other `Coords` objects (copies, pickles, round trips, `scaled` …) are untouched. -/
theorem other_cells_untouched (grids : Store) (cell : List Nat) (c : Nat) (co : Coords) (j : Nat)
    (hc : cell[j]? ≠ some c) : (shareCoords grids cell c co)[j]? = grids[j]? := by
  rw [shareCoords_getElem?]; cases grids[j]? <;> simp [hc]

/-- **After a write through a shared `Coords` object, equality and hashing agree on all its holders**:
two holders with the same coordinate system are equal and have the same hash input; holders with different
systems are unequal (`PolarGrid(g.coords)` against `g`). -/
theorem shared_holders_eq_hash (grids : Store) (cell : List Nat) (c : Nat) (co : Coords) (j k : Nat) (g h : Grid)
    (hw : co.WF) (hj : cell[j]? = some c) (hk : cell[k]? = some c) (hg : grids[j]? = some g) (hh : grids[k]? = some h) :
    ∃ g' h', (shareCoords grids cell c co)[j]? = some g' ∧ (shareCoords grids cell c co)[k]? = some h' ∧
      g'.coords = co ∧ h'.coords = co ∧
      (g.system = h.system → g'.eq h' = true ∧ g'.hashInput = h'.hashInput) ∧
      (g.system ≠ h.system → g'.eq h' = false) := by
  refine ⟨_, _, shared_holders_follow grids cell c co j g hj hg, shared_holders_follow grids cell c co k h hk hh, rfl, rfl, ?_, ?_⟩
  · intro hs
    have he : ({ g with coords := co } : Grid).eq { h with coords := co } = true := (eq_iff_same _ _ hw).mpr ⟨hs, rfl⟩
    exact ⟨he, eq_imp_hashInput_eq _ _ he⟩
  · intro hs; exact ne_of_system_ne _ _ hs

example : (Coords.separated [[0, 1], [5]]).WF := by decide

set_option linter.unusedVariables false in
/-- **Coherence is re-established by the propagation**: if all grids other than the writer `i` that share a
`Coords` object agree, then after slot `i`'s coordinates are propagated to the holders of its object, *all*
grids that share an object read the same coordinates. -/
theorem shareCoords_coherent (grids : Store) (cell : List Nat) (i c : Nat) (gi : Grid)
    (hi : cell[i]? = some c) (hgi : grids[i]? = some gi)
    (hco : ∀ j k g h, j ≠ i → k ≠ i → cell[j]? = cell[k]? → cell[j]? ≠ none → grids[j]? = some g → grids[k]? = some h →
      g.coords = h.coords) :
    Coherent (shareCoords grids cell c gi.coords) cell := by
  refine shareCoords_coherent_of grids cell c gi.coords fun j k g h hc hjk hn hg hh => ?_
  exact hco j k g h (fun e => hc (e ▸ hi)) (fun e => hc (hjk ▸ e ▸ hi)) hjk hn hg hh

example : Coherent (shareCoords [⟨.cartesian, .separated [[0, 2]], .none⟩] [0] 0 (.separated [[0, 2]])) [0] :=
  shareCoords_coherent _ _ 0 0 ⟨.cartesian, .separated [[0, 2]], .none⟩ rfl rfl (by
    intro j k g h hj _ _ _ hg _
    match j, hj, hg with
    | j + 1, _, hg => cases hg)

/-- **A memoised hash that is dropped by the grid's own API only goes stale** (the defect class, proved
counterexample): `b` is hashed, then another holder of the same `Coords` object scales it; `b` follows, is
equal to a freshly built grid with the same coordinates, and answers the old hash. -/
theorem Bad.memo_hash_stale :
    ∃ (b : Bad.MGrid) (co : Coords), co.WF ∧
      let b1 := (b.hash).2.follow co
      let fresh : Bad.MGrid := { grid := { b.grid with coords := co } }
      b1.grid.eq fresh.grid = true ∧ (b1.hash).1 ≠ (fresh.hash).1 :=
  ⟨{ grid := ⟨.cartesian, .separated [[0, 1]], .none⟩ }, .separated [[0, 2]], by decide, by decide⟩

/-! ## Value semantics of the store: earlier copies are untouched -/

/-- An in-place operation on slot `i` leaves every other live grid as it was. -/
theorem copies_untouched_inplace (st : Store) (i j : Nat) (g : Grid) (h : i ≠ j) :
    (st.update i g)[j]? = st[j]? := by
  simp only [Store.update, List.getElem?_set_ne h]

/-- A non-mutating operation only adds a slot. -/
theorem copies_untouched_push (st : Store) (j : Nat) (g : Grid) (h : j < st.length) :
    (st.push g)[j]? = st[j]? := by
  simp only [Store.push, List.getElem?_append_left h]

/-- **Frame property of the whole protocol** (what the correspondence re-reads after every request):
apart from `reset`, a request changes at most one already existing slot. -/
theorem stepStore_frame (st st' : Store) (toks : List String) (out : String)
    (h : stepStore st toks = some (st', out)) (hr : toks ≠ ["reset"]) :
    ∃ i, ∀ j, j < st.length → j ≠ i → st'[j]? = st[j]? := by
  unfold stepStore at h
  rw [if_neg hr] at h
  split at h
  · cases h; exact ⟨0, fun _ _ _ => rfl⟩
  simp only [Option.map_eq_some_iff, Prod.mk.injEq] at h
  obtain ⟨⟨e, o⟩, _, rfl, _⟩ := h
  cases e with
  | keep => exact ⟨0, fun _ _ _ => rfl⟩
  | push g => exact ⟨0, fun j hj _ => copies_untouched_push st j g hj⟩
  | update i g => exact ⟨i, fun j _ hji => copies_untouched_inplace st i j g (Ne.symm hji)⟩

/-! ## Caller-owned arrays: construction copies, so nothing leaks -/

/-- **No request ever changes an array the caller owns** — whether it was used for one axis or
several, for `delta` and `zero`, for coordinates and weights, or for several grids. -/
theorem caller_arrays_untouched (w w' : World) (toks : List String) (out : String)
    (h : stepWorld w toks = some (w', out)) (hr : toks ≠ ["reset"]) :
    ∀ k, k < w.arrays.length → w'.arrays[k]? = w.arrays[k]? := by
  intro k hk
  rcases stepWorld_returns w toks hr _ h with ⟨l, rfl⟩ | rfl | ⟨g, rfl⟩ | ⟨st', _, rfl⟩
  · exact List.getElem?_append_left hk
  · rfl
  · rfl
  · rfl

/-- **Frame property with caller arrays**: apart from `reset`, a request changes at most one
existing grid — in particular a grid built from the same caller arrays as another one is not
affected by operations on that other grid. -/
theorem world_frame (w w' : World) (toks : List String) (out : String)
    (h : stepWorld w toks = some (w', out)) (hr : toks ≠ ["reset"]) :
    ∃ i, ∀ j, j < w.grids.length → j ≠ i → w'.grids[j]? = w.grids[j]? := by
  rcases stepWorld_returns w toks hr _ h with ⟨l, rfl⟩ | rfl | ⟨g, rfl⟩ | ⟨st', hs, rfl⟩
  · exact ⟨0, fun _ _ _ => rfl⟩
  · exact ⟨0, fun _ _ _ => rfl⟩
  · exact ⟨0, fun j hj _ => copies_untouched_push _ j _ hj⟩
  · exact stepStore_frame w.grids st' _ out hs hr

/-! ## The invariant of the `Coords`-sharing world the driver executes (`stepShare`) -/

/-- `Grid(g.coords)` keeps the invariant: the new holder reads the coordinates of the object it was built on -/
theorem share_on_inv (s s' : SWorld) (i : Nat) (sys : System) (hi : s.Inv) (h : s.on i sys = some s') : s'.Inv := by
  unfold SWorld.on at h
  split at h
  · rename_i g c hg hc
    simp only [Option.some.injEq] at h
    subst h
    have hcm : c < s.next := hi.lt c (List.mem_of_getElem? hc)
    refine ⟨by simp only [Store.push, List.length_append, hi.len, List.length_singleton], ?_, ?_⟩
    · intro d hd
      simp only [List.mem_append, List.mem_singleton] at hd
      rcases hd with hd | hd
      · exact hi.lt d hd
      · rw [hd]; exact hcm
    · -- no fresh id; a slot of the old state stands for itself, the new slot for slot `i`
      refine (cohEx_none _ _).mp (cohEx_transfer (fun _ => False) id (fun j => if j < s.cell.length then j else i)
        (fun j d g' _ hd hg' => .inl ⟨id, ?_⟩) ((cohEx_none _ _).mpr hi.coh))
      rcases getElem?_concat_eq_some hg' with h | ⟨rfl, rfl⟩
      · have hj : j < s.cell.length := hi.len ▸ (List.getElem?_eq_some_iff.mp h).1
        rw [if_pos hj]
        exact ⟨(List.getElem?_append_left hj).symm.trans hd, Option.some_ne_none j, g', h, rfl⟩
      · rw [← hi.len, List.getElem?_concat_length] at hd
        rw [hi.len, if_neg (Nat.lt_irrefl _)]
        exact ⟨hc.trans hd, Option.some_ne_none i, g, hg, rfl⟩
  · cases h

/-- a write to the `Coords` object itself keeps the invariant -/
theorem share_cedit_inv (s s' : SWorld) (i : Nat) (f : Coords → Coords) (hi : s.Inv) (h : s.cedit i f = some s') : s'.Inv := by
  unfold SWorld.cedit at h
  split at h
  · simp only [Option.some.injEq] at h
    subst h
    exact ⟨by simp only [hi.len, shareCoords_length], hi.lt, shareCoords_keeps_coherent _ _ _ _ hi.coh⟩
  · cases h

/-- the changed slot wrote through its `Coords` object: after the propagation the invariant holds again -/
theorem share_propagate_inv (s : SWorld) (i : Nat) (hl : s.cell.length = s.world.grids.length) (hlt : ∀ c ∈ s.cell, c < s.next)
    (hco : CohEx (some i) s.world.grids s.cell) : (s.propagate i).Inv := by
  unfold SWorld.propagate
  split
  · rename_i g c hg hc
    refine ⟨by simp only [hl, shareCoords_length], hlt, ?_⟩
    exact shareCoords_coherent _ _ i c g hc hg
      (fun j k a b hj hk => hco j k a b (mt Option.some.inj hj) (mt Option.some.inj hk))
  · rename_i hno
    -- nothing moves; slot `i` lacks a grid or a cell, so it is no holder
    exact ⟨hl, hlt, (cohEx_none _ _).mp (cohEx_transfer (fun _ => False) id id
      (fun j c g _ hc hg => .inl ⟨id, hc, fun e => by cases e; exact hno g c hg hc, g, hg, rfl⟩) hco)⟩

/-- the changed slot got a `Coords` object of its own: the invariant holds again -/
theorem share_rebind_inv (s : SWorld) (i : Nat) (hl : s.cell.length = s.world.grids.length) (hlt : ∀ c ∈ s.cell, c < s.next)
    (hco : CohEx (some i) s.world.grids s.cell) : (s.rebind i).Inv := by
  refine ⟨by simp only [SWorld.rebind, List.length_set, hl], ?_,
    (cohEx_none _ _).mp (cohEx_transfer (s.next ≤ ·) (fun _ => i) id (fun j c g _ hc hg => ?_) hco)⟩
  · intro c hc
    rcases List.mem_or_eq_of_mem_set hc with hc | rfl
    · exact Nat.lt_succ_of_lt (hlt c hc)
    · exact Nat.lt_succ_self _
  · -- slot `i` reads the fresh id, every other slot the id it had
    simp only [SWorld.rebind, List.getElem?_set] at hc
    split at hc
    · subst j
      split at hc
      · cases hc; exact .inr ⟨Nat.le_refl _, rfl⟩
      · cases hc
    · rename_i hj
      exact .inl ⟨Nat.not_le_of_lt (hlt c (List.mem_of_getElem? hc)), hc, mt Option.some.inj (Ne.symm hj), g, hg, rfl⟩

/-- **Every request the driver executes keeps the invariant** (`stepShare`, all requests: the whole value-store protocol,
`on`, `cedit`, `reset`). -/
theorem share_step_inv (s s' : SWorld) (toks : List String) (out : String) (hi : s.Inv)
    (h : stepShare s toks = some (s', out)) : s'.Inv := by
  suffices hR : Returns (stepShare s toks) (·.1.Inv) from hR _ h
  unfold stepShare
  split
  · exact .pure inv_empty
  · exact .pure hi
  · refine .bind fun i _ => .bind fun sys _ => ?_
    split
    · exact .pure (share_on_inv s _ i sys hi ‹_›)
    · exact .pure hi
  · refine .bind fun i _ => .bind fun f _ => ?_
    split
    · exact .pure (share_cedit_inv s _ i f hi ‹_›)
    · exact .pure hi
  · rename_i hnr _ _ _
    refine .map fun r hr => ?_
    have hf := world_frame s.world r.1 toks r.2 hr fun e => hnr e
    obtain ⟨h1, h2, h3⟩ := sync_inv r.1.grids s.cell s.next _ hi.lt
      (cohEx_of_frame s.world.grids r.1.grids s.cell hi.len hi.coh hf)
    split
    · rename_i i hci
      rw [hci] at h3
      split
      · exact share_rebind_inv _ i h1 h2 h3
      · exact share_propagate_inv _ i h1 h2 h3
    · rename_i hci
      rw [hci, cohEx_none] at h3
      exact ⟨h1, h2, h3⟩

/-- **In every world the driver can reach, grids on one `Coords` object have one identity**: whatever sequence of requests
(constructors, copies and round trips, `on`, in-place operations through any holder, writes to the `Coords` object or to an
accessor's array, rejected requests) is run from the empty world, two live grids that hold the same `Coords` object read the
same coordinates; if they also have the same coordinate system they have the same hash input and (well-formed coordinates)
are equal. -/
theorem share_reachable_coherent (reqs : List (List String)) :
    let s := reqs.foldl (fun s toks => match stepShare s toks with | some (s', _) => s' | none => s) ({} : SWorld)
    ∀ (j k : Nat) (g h : Grid), s.cell[j]? = s.cell[k]? → s.cell[j]? ≠ none →
      s.world.grids[j]? = some g → s.world.grids[k]? = some h →
      g.coords = h.coords ∧ (g.system = h.system → g.hashInput = h.hashInput ∧ (g.coords.WF → g.eq h = true)) := by
  have key : (reqs.foldl (fun s toks => match stepShare s toks with | some (s', _) => s' | none => s) {}).Inv :=
    List.foldlRecOn (motive := SWorld.Inv) reqs _ inv_empty fun s hs t _ => by
      split
      · exact share_step_inv s _ t _ hs ‹_›
      · exact hs
  intro s j k g h hjk hn hg hh
  have hc := key.coh j k g h hjk hn hg hh
  refine ⟨hc, fun hs => ?_⟩
  have hgh : g.hashInput = h.hashInput := by simp only [Grid.hashInput, hs, hc]
  exact ⟨hgh, fun hw => (eq_iff_same _ _ hw).mpr ⟨hs, hc⟩⟩

/-- **One array passed for two axes is scaled / shifted once per axis**: the grid holds two
independent copies, so the result is the same as for two separate equal arrays. -/
theorem shared_axis_acts_once (ax : List Rat) (f1 f2 b1 b2 : Rat) :
    (Coords.separated [ax, ax]).scale [f1, f2] = .separated [ax.map (· * f1), ax.map (· * f2)] ∧
    (Coords.separated [ax, ax]).shift [b1, b2] = .separated [ax.map (· + b1), ax.map (· + b2)] ∧
    (Coords.unstructured [ax, ax]).scale [f1, f2] = .unstructured [ax.map (· * f1), ax.map (· * f2)] ∧
    (Coords.unstructured [ax, ax]).shift [b1, b2] = .unstructured [ax.map (· + b1), ax.map (· + b2)] :=
  ⟨rfl, rfl, rfl, rfl⟩

/-- the same for one array used as `delta` and as `zero` of a regular grid -/
theorem shared_delta_zero_acts_once (v : Rat) (n : Nat) (f b : Rat) :
    (Coords.regular [⟨v, n, v⟩]).scale [f] = .regular [⟨v * f, n, v * f⟩] ∧
    (Coords.regular [⟨v, n, v⟩]).shift [b] = .regular [⟨v, n, v + b⟩] := ⟨rfl, rfl⟩

/-! ## Reference semantics: why "copies are untouched" holds, and when it would not

The store of `Model/GridOps.lean` has value semantics, so the frame statements above (`stepStore_frame`,
`copies_untouched_*`) restate a modelling decision.  The statements below are about the **reference
model** of `Model/GridHeap.lean` (arrays in a heap, objects holding references, in-place operations
writing through them), in which aliasing *can* happen: they say that it does not, as long as construction
and `copy()` allocate (`Sep`, kept by every operation), and that it does as soon as one of them keeps a
reference (`Bad.*`).  Tie: the driver runs this model (`ref …` requests) on the same histories; the
harness compares the values every object sees and the number of shared arrays (`np.shares_memory`
over all arrays of all live grids and the caller's arrays). -/

/-- the invariant holds initially and is kept by every operation of the reference model -/
theorem ref_sep_invariant (w : RWorld) (hs : w.Sep) (a : List (List Rat)) (refs : List Nat) (i : Nat) (ops : List ArrOp) :
    RWorld.Sep {} ∧ (w.new a).Sep ∧ (w.construct refs).Sep ∧ (w.copy i).Sep ∧ (w.inplace i ops).Sep ∧ (w.copied i ops).Sep :=
  ⟨RWorld.Sep_empty, w.Sep_new hs a, w.Sep_construct hs refs, w.Sep_construct hs _, w.Sep_inplace hs i ops,
    w.Sep_copied hs i ops⟩

/-- **every world the driver can reach satisfies the invariant**: whatever sequence of `ref …` requests
(`stepRef`, the function the driver executes; rejected requests leave the world as it is) is run from a
world satisfying `Sep` — in particular from the empty one after `ref reset`. -/
theorem ref_reachable_sep (reqs : List (List String)) (w : RWorld) (hs : w.Sep) :
    (reqs.foldl (fun w toks => match stepRef w toks with | some (w', _) => w' | none => w) w).Sep :=
  List.foldlRecOn (motive := RWorld.Sep) reqs _ hs fun w hs t _ => by
    split
    · exact stepRef_returns_sep w hs t _ ‹_›
    · exact hs

/-- **an in-place operation (`scale`, `shift`) changes the value of its target only — every other live
grid, earlier copies and the caller's arrays included, reads the same values as before — and on the
target every array is acted on exactly once** -/
theorem ref_inplace_only_target (w : RWorld) (hs : w.Sep) (i : Nat) (hi : i < w.objs.length) (ops : List ArrOp)
    (hl : ops.length = (w.objs[i]).refs.length) :
    (w.inplace i ops).abs = w.abs.set i (List.zipWith (fun op a => op.apply a) ops (w.objs[i].val w.heap)) :=
  w.abs_inplace hs i hi ops hl

/-- **`copy()` / construction from arrays held elsewhere**: one more object with the same values; nothing else
changes; and a later in-place operation on the source does not reach the copy. -/
theorem ref_copy_independent (w : RWorld) (hs : w.Sep) (i : Nat) (hi : i < w.objs.length) (ops : List ArrOp)
    (hl : ops.length = (w.objs[i]).refs.length) :
    (w.copy i).abs = w.abs ++ [w.objs[i].val w.heap] ∧
    ((w.copy i).inplace i ops).abs =
      w.abs.set i (List.zipWith (fun op a => op.apply a) ops (w.objs[i].val w.heap)) ++ [w.objs[i].val w.heap] := by
  have hc := w.abs_copy hs i hi
  exact ⟨hc, (w.copy i).abs_inplace_init (w.Sep_construct hs _) w _ hc i hi ops hl⟩

/-- **the non-mutating forms (`scaled`, `shifted`)**: a new object holding the transformed values; every
existing object, the source included, untouched. -/
theorem ref_copied_independent (w : RWorld) (hs : w.Sep) (i : Nat) (hi : i < w.objs.length) (ops : List ArrOp)
    (hl : ops.length = (w.objs[i]).refs.length) :
    (w.copied i ops).abs = w.abs ++ [List.zipWith (fun op a => op.apply a) ops (w.objs[i].val w.heap)] :=
  w.abs_copied hs i hi ops hl

/-- **a copy that keeps the references aliases**: after `Bad.copy` an in-place operation on the source
changes what the "copy" reads (and `Sep` fails) -/
theorem Bad.copy_aliases :
    ∃ w : RWorld, w.Sep ∧ ¬ (Bad.copy w 0).Sep ∧
      ((Bad.copy w 0).inplace 0 [.mulS 2]).abs = [[[2, 4]], [[2, 4]]] ∧ ((w.copy 0).inplace 0 [.mulS 2]).abs = [[[2, 4]], [[1, 2]]] :=
  ⟨RWorld.new {} [[1, 2]], by decide, by decide, by decide +kernel, by decide +kernel⟩

/-- **a constructor that keeps the caller's array** (the defect repaired by D3/D4/D83): scaling the
grid in place changes the caller's array; with one array passed for two axes the grid's own axes move
twice. -/
theorem Bad.construct_aliases :
    ((Bad.construct (RWorld.new {} [[1, 2]]) [0, 0]).inplace 1 [.mulS 2, .mulS 2]).abs = [[[4, 8]], [[4, 8], [4, 8]]] ∧
    (((RWorld.new {} [[1, 2]]).construct [0, 0]).inplace 1 [.mulS 2, .mulS 2]).abs = [[[1, 2]], [[2, 4], [2, 4]]] :=
  ⟨by decide +kernel, by decide +kernel⟩

/-- the array operations of the reference model are the coordinate arithmetic of the value model:
separated / unstructured coordinates multiply (add to) array `k` by `f_k`; regular coordinates
multiply `delta` and `zero` elementwise (add to `zero`) -/
theorem ref_ops_are_coords_ops (a : List (List Rat)) (f b : List Rat) (r : List RegAxis) :
    (Coords.separated a).scale f = .separated (List.zipWith (fun (op : ArrOp) x => op.apply x) (f.map ArrOp.mulS) a) ∧
    (Coords.unstructured a).shift b = .unstructured (List.zipWith (fun (op : ArrOp) x => op.apply x) (b.map ArrOp.addS) a) ∧
    (match (Coords.regular r).scale f with
      | .regular r' => r'.map (·.delta) = ArrOp.apply (.mulV f) (r.map (·.delta)) ∧ r'.map (·.zero) = ArrOp.apply (.mulV f) (r.map (·.zero))
      | _ => False) := by
  refine ⟨?_, ?_, ?_⟩
  · simp only [Coords.scale, Coords.separated.injEq, List.zipWith_map_left, ArrOp.apply]
    rw [List.zipWith_comm]
  · simp only [Coords.shift, Coords.unstructured.injEq, List.zipWith_map_left, ArrOp.apply]
    rw [List.zipWith_comm]
  · simp only [Coords.scale, ArrOp.apply, List.map_zipWith, List.zipWith_map_left]
    exact ⟨trivial, trivial⟩

/-! ## Memory layout: `==` and the hash read values, not bytes (`Model/GridLayout.lean`; driver op `hashl`) -/

/-- **The hash input is independent of the memory layout**: coordinate arrays that denote the same values —
contiguous, negative stride (what `reverse()` leaves behind), strided or offset views of other buffers — give the
same hash input. -/
theorem hash_layout_independent (sys : System) (sep : Bool) (a b : List LArr)
    (h : a.map LArr.values = b.map LArr.values) : hashInputL sys sep a = hashInputL sys sep b := by
  simp only [hashInputL, coordsOfLayout, h]

/-- the four layouts the driver builds (`LArr.make`: contiguous / negative stride / stride 2 / offset) all denote
the values they were made from, so the hash input through any mixture of them is the hash input of the grid. -/
theorem hash_of_any_layout (sys : System) (sep : Bool) (modes : List Nat) (arrays : List (List Rat))
    (h : modes.length = arrays.length) :
    hashInputL sys sep (List.zipWith LArr.make modes arrays) =
      (Grid.mk sys (if sep then .separated arrays else .unstructured arrays) .none).hashInput := by
  simp only [hashInputL, coordsOfLayout, map_values_zipWith_make modes arrays h]

example : ([1, 2] : List Nat).length = ([[0, 1], [2]] : List (List Rat)).length := rfl

/-- **`reverse()` in place leaves negative-stride views behind; their hash is the hash of an independently
constructed grid with the reversed values** (and `==` holds between the two: both read values). -/
theorem hash_reversed_view (sys : System) (axes : List (List Rat)) :
    hashInputL sys true (axes.map fun v => (LArr.ofList v).rev) =
      (Grid.mk sys (.separated axes) .none).reverse.hashInput ∧
    coordsOfLayout true (axes.map fun v => (LArr.ofList v).rev) = (Coords.separated axes).reverse := by
  have : (axes.map fun v => (LArr.ofList v).rev).map LArr.values = axes.map List.reverse := by
    simp only [List.map_map, Function.comp_def, LArr.values_rev _ (LArr.valid_ofList _), LArr.values_ofList]
  simp only [hashInputL, Grid.hashInput, coordsOfLayout, ↓reduceIte, this, Grid.reverse, Coords.reverse,
    and_self]

/-- the layout flag itself: a reversed view of two or more elements is not C-contiguous, a fresh array is -/
theorem rev_not_contiguous (v : List Rat) (h : 2 ≤ v.length) :
    (LArr.ofList v).contiguous = true ∧ (LArr.ofList v).rev.contiguous = false := by
  simp only [LArr.contiguous, LArr.ofList, BEq.rfl, Bool.true_or, LArr.rev, Nat.cast_zero, mul_one, zero_add,
    Int.toNat_natCast, Int.reduceNeg, Int.reduceBEq, Bool.false_or, decide_eq_false_iff_not, not_le, true_and]; omega

example : (2 : Nat) ≤ ([0, 1] : List Rat).length := by decide

/-! ## Old — the code before the repairs (documentation of D2 / D24; code that no longer exists in /repo:
not evidence for the property) -/

/-- D2: with the old `SeparatedCoords.__eq__` a separated grid with unequal axis lengths is not equal
to itself. -/
theorem Old.eq_not_refl : ∃ g : Grid, g.coords.WF ∧ g.eqOld g = false :=
  ⟨⟨.cartesian, .separated [[0, 1, 2], [0, 1]], .none⟩, by decide, by decide⟩

/-- … while on rectangular separated grids old and new comparison agree. -/
theorem Old.sepEq_eq_of_rect (a b : List (List Rat)) (ha : rect a = true) (hb : rect b = true) :
    sepEqOld a b = allZip arrEq a b := by simp only [sepEqOld, ha, hb, Bool.and_self, Bool.true_and]

/-- D24: the old hash fed dtype-dependent bytes: an integer-typed and a float-typed regular grid
compare equal but hash differently. -/
theorem Old.hash_int_float :
    ∃ a b : List Old.RegAxisOld, Old.regEqOld a b = true ∧ Old.regHashInputOld a ≠ Old.regHashInputOld b :=
  ⟨[⟨⟨1, true⟩, 4, ⟨0, true⟩⟩], [⟨⟨1, false⟩, 4, ⟨0, false⟩⟩], by decide, by decide⟩

/-- D26: the old hash read the raw buffer: after an in-place `reverse()` (negative stride) it raised, while the
repaired hash input is defined for every layout. -/
theorem Old.raw_hash_raises_on_reversed_view :
    Old.rawHashInput? [(LArr.ofList [0, 1, 3]).rev] = none ∧ Old.rawHashInput? [LArr.ofList [3, 1, 0]] = some [3, 1, 0] ∧
    (LArr.ofList [0, 1, 3]).rev.values = [3, 1, 0] := by decide +kernel

example : ∃ g : Grid, g.coords.WF := ⟨⟨.cartesian, .separated [[0, 1, 2], [0, 1]], .none⟩, by decide⟩

end HcipyVerif.Grid
