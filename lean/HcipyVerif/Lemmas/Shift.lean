import HcipyVerif.Model.Shift
import HcipyVerif.Lemmas.Binning
import Mathlib.Tactic.Ring

/-! Lemmas about `Model/Shift.lean` (C15): the grid's two coordinate lists zipped are its points in storage order (`zip_grid`);
`shift` and `synth` as a `zipWith` of the coefficients with that one list (`shift_eq_zipWith`, `synth_eq_sum`), so that facts about
them are pointwise; row-major indexing of the stacking operations (`.shaped` is the `chunks` of binning), `top` / `right`
extrusions as `bottom` / `left` on the reversed flat array. -/
namespace HcipyVerif.Shift

variable {K F : Type}

/-- the points of the Fourier grid in storage order, `x` fastest -/
def gridPts (kx ky : List K) : List (K × K) := ky.flatMap fun b => kx.map fun a => (a, b)

/-- `grid.x = np.tile(kx, ny)` and `grid.y = np.repeat(ky, nx)` are the two coordinate lists of `gridPts` -/
theorem zip_grid (kx : List K) : ∀ ky : List K, (gridX kx ky).zip (gridY kx ky) = gridPts kx ky
  | [] => rfl
  | b :: ky => by
    rw [gridX, gridY, List.flatMap_cons, List.flatMap_cons, List.zip_append (by rw [List.length_map]), ← gridX, ← gridY,
      zip_grid kx ky, List.zip_eq_zipWith, List.zipWith_map_right, List.zipWith_self]
    rfl

theorem mem_gridPts {kx ky : List K} {p : K × K} (h : p ∈ gridPts kx ky) : p.1 ∈ kx ∧ p.2 ∈ ky := by
  simp only [gridPts, List.mem_flatMap, List.mem_map] at h
  obtain ⟨b, hb, a, ha, rfl⟩ := h
  exact ⟨ha, hb⟩

theorem zipSum3_eq_sum [Add F] [Zero F] (f : F → K → K → F) : ∀ (C : List F) (A B : List K),
    zipSum3 f C A B = (List.zipWith (fun c (p : K × K) => f c p.1 p.2) C (A.zip B)).sum
  | [], _, _ => rfl
  | _ :: _, [], _ => rfl
  | _ :: _, _ :: _, [] => rfl
  | c :: C, a :: A, b :: B => congrArg (f c a b + ·) (zipSum3_eq_sum f C A B)

theorem zipWith_zipWith_same {α β : Type} (f g : α → β → α) : ∀ (C : List α) (P : List β),
    List.zipWith f (List.zipWith g C P) P = List.zipWith (fun c p => f (g c p) p) C P
  | [], _ => rfl
  | _ :: _, [] => rfl
  | c :: C, p :: P => congrArg (f (g c p) p :: ·) (zipWith_zipWith_same f g C P)

theorem zipWith_congr_mem {α β γ : Type} (f g : α → β → γ) : ∀ (C : List α) (P : List β),
    (∀ c, ∀ p ∈ P, f c p = g c p) → List.zipWith f C P = List.zipWith g C P
  | [], _, _ => rfl
  | _ :: _, [], _ => rfl
  | c :: C, p :: P, h => by
    rw [List.zipWith_cons_cons, List.zipWith_cons_cons, h c p List.mem_cons_self,
      zipWith_congr_mem f g C P fun c p hp => h c p (List.mem_cons_of_mem _ hp)]

theorem synth_eq_sum [Add K] [Mul K] [Add F] [Mul F] [Zero F] (χ : K → F) (kx ky : List K) (C : List F) (x y : K) :
    synth χ kx ky C x y = (List.zipWith (fun c p => c * χ (p.1 * x + p.2 * y)) C (gridPts kx ky)).sum :=
  zip_grid kx ky ▸ zipSum3_eq_sum _ C _ _

theorem phases_eq_pts [Add K] [Mul K] (sx sy : K) (kx ky : List K) :
    phases sx sy kx ky = (gridPts kx ky).map fun p => sy * p.2 + sx * p.1 := by
  simp only [phases, ixSumRavel, gridPts, List.flatMap_map, List.map_flatMap, List.map_map, Function.comp_def]

theorem shift_eq_zipWith [Add K] [Mul K] [Neg K] [Mul F] (χ : K → F) (sx sy : K) (kx ky : List K) (C : List F) :
    shift χ sx sy kx ky C = List.zipWith (fun c p => c * χ (-(sy * p.2 + sx * p.1))) C (gridPts kx ky) := by
  rw [shift, phases_eq_pts, applyShift, List.zipWith_map_right]

variable {α : Type}

/-- element `(iy, ix)` of a list of rows -/
def at2 (rows : List (List α)) (iy ix : Nat) : Option α := rows[iy]?.bind (·[ix]?)

theorem shaped_eq_chunks (W : Nat) : ∀ (H : Nat) (s : List α), shaped W H s = Binning.chunks W H s
  | 0, _ => rfl
  | H + 1, s => congrArg (s.take W :: ·) (shaped_eq_chunks W H _)

theorem shaped_length (W H : Nat) (s : List α) : (shaped W H s).length = H :=
  shaped_eq_chunks W H s ▸ Binning.chunks_length W H s

theorem shaped_row_length (W H : Nat) (s : List α) (hs : s.length = H * W) :
    ∀ r ∈ shaped W H s, r.length = W :=
  shaped_eq_chunks W H s ▸ Binning.chunks_mem_length W H s hs

theorem at2_shaped (W H : Nat) (s : List α) (iy ix : Nat) (hy : iy < H) (hx : ix < W) :
    at2 (shaped W H s) iy ix = s[iy * W + ix]? := by
  rw [at2, shaped_eq_chunks, Binning.chunks_getElem? W H s iy hy]
  exact Binning.take_drop_getElem? s _ W ix hx

theorem ravel_at2 (W : Nat) (rows : List (List α)) (hr : ∀ r ∈ rows, r.length = W) (iy ix : Nat)
    (hx : ix < W) : (ravel rows)[iy * W + ix]? = at2 rows iy ix := by
  rw [ravel, List.flatten_eq_flatMap]
  exact ListFacts.flatMap_getElem? rows id W hr iy ix hx

theorem hstackNew_length (new : List α) (rows : List (List α)) (h : new.length = rows.length) :
    (hstackNew new rows).length = rows.length := by simp [hstackNew, h]

theorem hstackNew_row_length (W : Nat) (hW : 0 < W) (new : List α) (rows : List (List α))
    (hr : ∀ r ∈ rows, r.length = W) : ∀ r ∈ hstackNew new rows, r.length = W := by
  intro r hmem
  simp only [hstackNew] at hmem
  obtain ⟨i, hi, rfl⟩ := List.getElem_of_mem hmem
  have hi2 : i < rows.length := by simp at hi; omega
  simp only [List.getElem_zipWith, List.length_cons, List.length_dropLast]
  have : rows[i].length = W := hr _ (List.getElem_mem hi2)
  omega

theorem at2_hstackNew_zero (new : List α) (rows : List (List α)) (h : new.length = rows.length) (iy : Nat) :
    at2 (hstackNew new rows) iy 0 = new[iy]? := by
  simp only [at2, hstackNew, List.getElem?_zipWith]
  by_cases hi : iy < new.length
  · rw [List.getElem?_eq_getElem hi, List.getElem?_eq_getElem (h ▸ hi)]; rfl
  · rw [List.getElem?_eq_none (Nat.le_of_not_lt hi)]; rfl

theorem at2_hstackNew_succ (W : Nat) (new : List α) (rows : List (List α)) (h : new.length = rows.length)
    (hr : ∀ r ∈ rows, r.length = W) (iy ix : Nat) (hx : ix + 1 < W) :
    at2 (hstackNew new rows) iy (ix + 1) = at2 rows iy ix := by
  simp only [at2, hstackNew, List.getElem?_zipWith]
  by_cases hi : iy < rows.length
  · have hrl : ix < rows[iy].length - 1 := by rw [hr _ (List.getElem_mem hi)]; omega
    rw [List.getElem?_eq_getElem hi, List.getElem?_eq_getElem (h ▸ hi)]
    simp only [Option.bind_some, List.getElem?_cons_succ, List.getElem?_dropLast, if_pos hrl]
  · rw [List.getElem?_eq_none (Nat.le_of_not_lt hi)]
    cases new[iy]? <;> rfl

theorem vstackNew_length (new : List α) (rows : List (List α)) (h : 0 < rows.length) :
    (vstackNew new rows).length = rows.length := by
  rw [vstackNew, List.length_cons, List.length_dropLast]; omega

theorem vstackNew_row_length (W : Nat) (new : List α) (hn : new.length = W) (rows : List (List α))
    (hr : ∀ r ∈ rows, r.length = W) : ∀ r ∈ vstackNew new rows, r.length = W := by
  intro r hmem
  simp only [vstackNew, List.mem_cons] at hmem
  rcases hmem with rfl | hmem
  · exact hn
  · exact hr r (List.dropLast_subset _ hmem)

theorem at2_vstackNew_zero (new : List α) (rows : List (List α)) (ix : Nat) :
    at2 (vstackNew new rows) 0 ix = new[ix]? := rfl

theorem at2_vstackNew_succ (new : List α) (rows : List (List α)) (iy ix : Nat) (hy : iy + 1 < rows.length) :
    at2 (vstackNew new rows) (iy + 1) ix = at2 rows iy ix := by
  simp only [at2, vstackNew, List.getElem?_cons_succ, List.getElem?_dropLast,
    if_pos (show iy < rows.length - 1 by omega)]

theorem flip2_length (rows : List (List α)) : (flip2 rows).length = rows.length := by
  rw [flip2, List.length_reverse, List.length_map]

theorem flip2_row_length (W : Nat) (rows : List (List α)) (hr : ∀ r ∈ rows, r.length = W) :
    ∀ r ∈ flip2 rows, r.length = W := by
  intro r hmem
  obtain ⟨r', hr', rfl⟩ := List.mem_map.1 (List.mem_reverse.1 hmem)
  rw [List.length_reverse, hr r' hr']

/-- `screen[::-1, ::-1].ravel()` is the flat array reversed -/
theorem ravel_flip2 (rows : List (List α)) : ravel (flip2 rows) = (ravel rows).reverse := by
  simp only [ravel, flip2, List.reverse_flatten]

theorem extrude_right_eq (W H : Nat) (new s : List α) :
    extrude .right W H new s = (extrude .left W H new s.reverse).reverse := ravel_flip2 _

theorem extrude_top_eq (W H : Nat) (new s : List α) :
    extrude .top W H new s = (extrude .bottom W H new s.reverse).reverse := ravel_flip2 _

theorem getElem?_reverse_grid (W H : Nat) (s : List α) (hs : s.length = H * W) (iy ix iy' ix' : Nat)
    (hy : iy + iy' + 1 = H) (hx : ix + ix' + 1 = W) : s.reverse[iy * W + ix]? = s[iy' * W + ix']? := by
  subst hy hx
  have e : iy * (ix + ix' + 1) + ix + (iy' * (ix + ix' + 1) + ix') + 1 = (iy + iy' + 1) * (ix + ix' + 1) := by ring
  rw [List.getElem?_reverse (by omega)]
  congr 1
  omega

theorem length_ravel (W : Nat) (rows : List (List α)) (hr : ∀ r ∈ rows, r.length = W) :
    (ravel rows).length = rows.length * W := by
  induction rows with
  | nil => simp [ravel]
  | cons r rows ih =>
    rw [ravel, List.flatten_cons, List.length_append, ← ravel, ih fun r' h => hr r' (List.mem_cons_of_mem _ h),
      hr r List.mem_cons_self, List.length_cons, Nat.succ_mul, Nat.add_comm]

/-- a retained sample at `(ix', iy')` is found at `(ix' + ox, iy' + oy)` after `_extrude(w)` -/
def Where.off : Where → Int × Int
  | .left => (1, 0) | .right => (-1, 0) | .bottom => (0, 1) | .top => (0, -1)

def Where.slice (w : Where) (W H : Nat) : Nat := if w.horizontal then H else W

theorem Where.off_range (w : Where) :
    (w.off.1 = 1 ∨ w.off.1 = -1 ∨ w.off.1 = 0) ∧ (w.off.2 = 1 ∨ w.off.2 = -1 ∨ w.off.2 = 0) := by
  cases w <;> decide

/-- one coordinate of a sample that `k + 1` steps of `o` carry from `a` to `b`, both on the screen: after the first
step it is still on the screen -/
theorem first_step_inside {n a b k : Nat} {o : Int} (ho : o = 1 ∨ o = -1 ∨ o = 0) (ha : a < n) (hb : b < n)
    (e : (b : Int) = a + ((k + 1 : Nat) : Int) * o) :
    ∃ m : Nat, m < n ∧ (m : Int) = a + o ∧ (b : Int) = m + k * o := by
  rcases ho with rfl | rfl | rfl
  · exact ⟨a + 1, by omega⟩
  · exact ⟨a - 1, by omega⟩
  · exact ⟨a, by omega⟩

theorem extrude_length (w : Where) (W H : Nat) (new s : List α) (hs : s.length = H * W)
    (hn : new.length = w.slice W H) (hW : 0 < W) (hH : 0 < H) :
    (extrude w W H new s).length = H * W := by
  have hl : ∀ s : List α, s.length = H * W → new.length = H → (extrude .left W H new s).length = H * W :=
    fun s hs hn =>
      (length_ravel W _ (hstackNew_row_length W hW new _ (shaped_row_length W H s hs))).trans
        (by rw [hstackNew_length new _ (by rw [shaped_length, hn]), shaped_length])
  have hb : ∀ s : List α, s.length = H * W → new.length = W → (extrude .bottom W H new s).length = H * W :=
    fun s hs hn =>
      (length_ravel W _ (vstackNew_row_length W new hn _ (shaped_row_length W H s hs))).trans
        (by rw [vstackNew_length new _ (by rw [shaped_length]; exact hH), shaped_length])
  have hsr : s.reverse.length = H * W := by rw [List.length_reverse, hs]
  cases w
  · exact hl s hs hn
  · rw [extrude_right_eq, List.length_reverse]; exact hl _ hsr hn
  · rw [extrude_top_eq, List.length_reverse]; exact hb _ hsr hn
  · exact hb s hs hn

/-- the character `n ↦ (−1)^n` of the integers -/
def parity (n : Int) : Int := if n % 2 = 0 then 1 else -1

theorem parity_add (a b : Int) : parity (a + b) = parity a * parity b := by
  unfold parity
  rcases Int.emod_two_eq_zero_or_one a with ha | ha <;> rcases Int.emod_two_eq_zero_or_one b with hb | hb <;>
    simp [Int.add_emod, ha, hb]

end HcipyVerif.Shift
