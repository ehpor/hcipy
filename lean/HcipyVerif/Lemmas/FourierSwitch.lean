import HcipyVerif.Model.FourierSwitch

/-! `Model/FourierSwitch.lean`: what backend selection returns (`selectIn`), and the invariants under which the
MFT / NFT caches return what a call without cache returns. -/

namespace HcipyVerif.FourierSwitch

namespace Spec
/-- specification form of the executed check `keyedB` (`keyedB_iff`): matrices recorded at `q` are the matrices for `q` -/
def Keyed {X M B R : Type} (K : MftKern X M B R) (c : MftCache M B) : Prop :=
  ∀ q m, c.mats = some (q, m) → m = K.mats q

/-- invariant of the NFT cache, in the form `nftCall` reads it: what it takes for a direction is the matrix of that direction -/
def NftKeyed {X A R : Type} (K : NftKern X A R) (c : NftCache A) : Prop :=
  ∀ d, (c.get d).getD (K.matrix d) = K.matrix d
end Spec
open Spec

section selection
variable {avail : Method → Bool} {works : Method → Nat → Bool} {methods : List Method} {ts : List Nat}

theorem firstWorking_eq_find (t : Nat) (ms : List Method) :
    firstWorking avail works t ms = ms.find? fun m => callable avail works m t := by
  induction ms with
  | nil => rfl
  | cons m ms ih =>
    simp only [firstWorking, List.find?_cons]
    cases h : callable avail works m t <;> simp [ih]

/-- the order in which `(method, threads)` pairs are tried: threads-major -/
def tryOrder (methods : List Method) (attempts : List Nat) : List (Method × Nat) :=
  attempts.flatMap fun t => methods.map fun m => (m, t)

theorem mem_tryOrder {p : Method × Nat} : p ∈ tryOrder methods ts ↔ p.1 ∈ methods ∧ p.2 ∈ ts := by
  simp only [tryOrder, List.mem_flatMap, List.mem_map]
  constructor
  · rintro ⟨t, ht, m, hm, rfl⟩
    exact ⟨hm, ht⟩
  · rintro ⟨hm, ht⟩
    exact ⟨p.2, ht, p.1, hm, rfl⟩

theorem selectIn_eq_find :
    selectIn avail works methods ts =
      match (tryOrder methods ts).find? (fun p => callable avail works p.1 p.2) with
      | some p => .ok p
      | none => .error .value := by
  induction ts with
  | nil => rfl
  | cons t ts ih =>
    simp only [selectIn, tryOrder, List.flatMap_cons, List.find?_append, firstWorking_eq_find, List.find?_map,
      Function.comp_def]
    cases h : methods.find? (fun m => callable avail works m t) with
    | some m => simp
    | none =>
      simp only [Option.map_none, Option.none_or]
      exact ih

theorem selectIn_ok {p : Method × Nat} (h : selectIn avail works methods ts = .ok p) :
    p.1 ∈ methods ∧ p.2 ∈ ts ∧ callable avail works p.1 p.2 = true := by
  rw [selectIn_eq_find] at h
  split at h
  · rename_i q hf
    cases h
    have hm := mem_tryOrder.mp (List.mem_of_find?_eq_some hf)
    have hp := List.find?_some hf
    exact ⟨hm.1, hm.2, hp⟩
  · cases h

theorem selectIn_error_iff {e : SelErr} :
    selectIn avail works methods ts = .error e ↔
      e = .value ∧ ∀ t ∈ ts, ∀ m ∈ methods, callable avail works m t = false := by
  rw [selectIn_eq_find]
  split
  · rename_i p hf
    have hm := mem_tryOrder.mp (List.mem_of_find?_eq_some hf)
    have hp := List.find?_some hf
    refine ⟨nofun, fun ⟨_, hall⟩ => ?_⟩
    rw [hall p.2 hm.2 p.1 hm.1] at hp
    cases hp
  · rename_i hf
    constructor
    · intro he
      exact ⟨(Except.error.inj he).symm, fun t ht m hm =>
        Bool.eq_false_iff.mpr (List.find?_eq_none.mp hf (m, t) (mem_tryOrder.mpr ⟨hm, ht⟩))⟩
    · rintro ⟨rfl, _⟩
      rfl

theorem selectIn_ok_of_callable {m : Method} {t : Nat} (hm : m ∈ methods) (ht : t ∈ ts)
    (hc : callable avail works m t = true) : ∃ r, selectIn avail works methods ts = .ok r := by
  cases hs : selectIn avail works methods ts with
  | ok r => exact ⟨r, rfl⟩
  | error e =>
    rw [(selectIn_error_iff.mp hs).2 t ht m hm] at hc
    cases hc

end selection

theorem outPrec_of_standard (m : Method) {d : DtIn} (hd : d.standard = true) : outPrec m d = nativePrec d := by
  cases d with
  | half | longdouble => cases hd
  | single | double | integer => cases m <;> rfl

section mft
variable {X M B R : Type} (K : MftKern X M B R)

/-- from a keyed cache `_compute_matrices` hands over the matrices for `p` and a buffer of dtype `p` (whatever it holds) -/
theorem compute_spec (p : CPrec) (c : MftCache M B) (hk : Keyed K c) :
    compute K p c = ((p, K.mats p), (p, (compute K p c).2.2)) := by
  refine Prod.ext ?_ (Prod.ext ?_ rfl)
  · unfold compute
    cases hm : c.mats with
    | none => rfl
    | some qm =>
      obtain ⟨q, m⟩ := qm
      by_cases hq : q = p
      · subst hq; simp [hk q m hm]
      · simp [hq]
  · unfold compute
    cases hb : c.interm with
    | none => rfl
    | some qb =>
      obtain ⟨q, b⟩ := qb
      by_cases hq : q = p
      · subst hq; simp
      · simp [hq]

theorem keyedB_iff [BEq M] [LawfulBEq M] (c : MftCache M B) :
    keyedB K c = true ↔ Keyed K c := by
  unfold keyedB Keyed
  cases hm : c.mats with
  | none => simp
  | some qm =>
    obtain ⟨q, m⟩ := qm
    constructor
    · intro h q' m' he
      simp only [Option.some.injEq, Prod.mk.injEq] at he
      obtain ⟨rfl, rfl⟩ := he
      simpa using h
    · intro h
      simpa using h q m rfl

theorem keyed_empty : Keyed K ({} : MftCache M B) := by
  intro q m h; simp at h

theorem keyed_remove (pre alloc : Bool) (p : CPrec) (b : CPrec × B) :
    Keyed K (remove pre alloc (p, K.mats p) b) := by
  intro q m h
  cases pre <;> simp [remove] at h
  obtain ⟨rfl, rfl⟩ := h
  rfl

theorem mftFresh_eq (d : Dir) (p : CPrec) (x : X) :
    mftFresh K d p x = K.stage2 (K.mats p) d (K.stage1 (K.mats p) d (K.cast p x)) := by
  simp only [mftFresh, mftCall, mftCallWith, compute, gemmInto, if_true]

theorem mftCall_spec (pre alloc : Bool) (c : MftCache M B) (hk : Keyed K c)
    (d : Dir) (p : CPrec) (x : X) :
    (mftCall K pre alloc c d p x).1 = mftFresh K d p x ∧ Keyed K (mftCall K pre alloc c d p x).2 := by
  unfold mftCall mftCallWith
  rw [compute_spec K p c hk]
  simp only [gemmInto, if_true]
  exact ⟨(mftFresh_eq K d p x).symm, keyed_remove K pre alloc p _⟩

theorem mftRunFrom_spec (pre alloc : Bool) (script : List (Dir × CPrec × X)) :
    ∀ c, Keyed K c → (mftRunFrom (mftCall K pre alloc) c script).1 = script.map fun s => mftFresh K s.1 s.2.1 s.2.2 := by
  induction script with
  | nil => intro c _; rfl
  | cons s rest ih =>
    intro c hk
    obtain ⟨d, p, x⟩ := s
    obtain ⟨h1, h2⟩ := mftCall_spec K pre alloc c hk d p x
    simp only [mftRunFrom, List.map_cons]
    rw [ih _ h2, h1]

end mft

section nft
variable {X A R : Type} (K : NftKern X A R)

theorem NftCache.get_put (c : NftCache A) (d d' : Dir) (a : A) :
    (c.put d a).get d' = if d' = d then some a else c.get d' := by
  cases d <;> cases d' <;> rfl

theorem nftKeyed_empty : NftKeyed K ({} : NftCache A) := by
  intro d; cases d <;> rfl

theorem nftCall_spec (hd : ∀ d x, K.apply (K.matrix d) x = K.direct d x)
    (pre : Bool) (c : NftCache A) (hk : NftKeyed K c) (d : Dir) (p : CPrec) (x : X) :
    (nftCall K pre c d p x).1 = K.castTo p (K.direct d x) ∧ NftKeyed K (nftCall K pre c d p x).2 := by
  cases pre with
  | false => exact ⟨rfl, hk⟩
  | true =>
    -- the matrix that is used, and put back, is the matrix of the direction
    simp only [nftCall, if_true, hk d, hd]
    refine ⟨trivial, fun d' => ?_⟩
    rw [NftCache.get_put]
    split
    · subst d'
      rfl
    · exact hk d'

theorem nftRunFrom_spec (hd : ∀ d x, K.apply (K.matrix d) x = K.direct d x)
    (pre : Bool) (script : List (Dir × CPrec × X)) :
    ∀ c, NftKeyed K c → (nftRunFrom K pre c script).1 = script.map fun s => K.castTo s.2.1 (K.direct s.1 s.2.2) := by
  induction script with
  | nil => intro c _; rfl
  | cons s rest ih =>
    intro c hk
    obtain ⟨d, p, x⟩ := s
    obtain ⟨h1, h2⟩ := nftCall_spec K hd pre c hk d p x
    simp only [nftRunFrom, List.map_cons]
    rw [ih _ h2, h1]

end nft

end HcipyVerif.FourierSwitch
