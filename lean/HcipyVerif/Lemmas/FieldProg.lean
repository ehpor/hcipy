import HcipyVerif.Model.FieldProg

/-! The two routes of `Model/FieldProg.lean` compute the same values: expressions under any two wrapping
policies, statements (a simulation between the two stores), programs.  Then what a successful statement did
to each store, and the executed form of the side condition on `shaped`. -/

deriving instance DecidableEq for Except

namespace HcipyVerif.FieldProg

/-- Two results with the same image are the same exception, or values with the same image.  Stated as an
eliminator: `refine map_eq_elim h ?_ ?_` puts the two cases in place of `r` and `s` wherever the goal mentions
them, so that a `match` on them reduces (no equation `r = .ok a` to rewrite with). -/
@[elab_as_elim]
theorem map_eq_elim {ε α β γ : Type} {f : α → γ} {g : β → γ} {motive : Except ε α → Except ε β → Prop}
    {r : Except ε α} {s : Except ε β} (h : r.map f = s.map g) (error : ∀ e, motive (.error e) (.error e))
    (ok : ∀ a b, f a = g b → motive (.ok a) (.ok b)) : motive r s := by
  cases r with
  | error e =>
    cases s with
    | error e' => exact Except.error.inj h ▸ error e
    | ok b => cases h
  | ok a =>
    cases s with
    | error e' => cases h
    | ok b => exact ok a b (Except.ok.inj h)

theorem map_eq_ok {ε α β : Type} {f : α → β} {r : Except ε α} {b : β} (h : r.map f = .ok b) :
    ∃ a, r = .ok a ∧ f a = b := by
  cases r with
  | error e => cases h
  | ok a => exact ⟨a, rfl, Except.ok.inj h⟩

/-- the value part of an evaluation result -/
def dataOf (r : Except Err Val) : Except Err Arr := r.map Prod.fst

@[simp] theorem dataOf_ok (v : Val) : dataOf (.ok v) = .ok v.1 := rfl
@[simp] theorem dataOf_error (e : Err) : dataOf (.error e : Except Err Val) = .error e := rfl

theorem dataOf_tagged {σ : Type} (k : Except Err σ) (A : σ → Arr) (T : σ → Tag) :
    dataOf (k.map fun s => (A s, T s)) = k.map A := by
  cases k <;> rfl

@[elab_as_elim]
theorem dataOf_elim {motive : Except Err Val → Except Err Val → Prop} {r s : Except Err Val}
    (h : dataOf r = dataOf s) (error : ∀ e, motive (.error e) (.error e))
    (ok : ∀ a t u, motive (.ok (a, t)) (.ok (a, u))) : motive r s :=
  map_eq_elim h error fun (a, t) (b, u) hab => by cases hab; exact ok a t u

/-- the tag part of an evaluation result -/
def tagOf (r : Except Err Val) : Except Err Tag := r.map Prod.snd

theorem eq_of_dataOf_tagOf {r s : Except Err Val} (hd : dataOf r = dataOf s) (ht : tagOf r = tagOf s) :
    r = s := by
  revert ht
  refine dataOf_elim hd (fun _ _ => rfl) fun a t u ht => ?_
  cases Except.ok.inj ht
  rfl

/-- Side condition for `shaped`, the one operation whose *values* depend on what kind of object
its operand is (`.shaped` exists only on Fields and uses the shape of the attached grid): at every
`shaped` node the operand must be the same kind of object, on the same grid, under both policies.
It fails for instance for `f.sum().shaped` (a 0-d Field under the subclass, a scalar under the
wrapper) — see `shaped_needs_agreeing_tags` in Properties/C19. -/
def ShapedAgree (P Q : Policy) (gs : Grids) (lo ln : Nat → Except Err Val) : Expr → Prop
  | .var _ | .lit _ | .scal _ _ | .field _ _ => True
  | .bin _ l r => ShapedAgree P Q gs lo ln l ∧ ShapedAgree P Q gs lo ln r
  | .un _ e | .red _ _ e | .idx _ e | .reshape _ e | .ravel e | .copy e | .pickle e => ShapedAgree P Q gs lo ln e
  | .mask e m => ShapedAgree P Q gs lo ln e ∧ ShapedAgree P Q gs lo ln m
  | .shaped e => ShapedAgree P Q gs lo ln e ∧ tagOf (eval P gs lo e) = tagOf (eval Q gs ln e)
  | .app1 _ e => ShapedAgree P Q gs lo ln e
  | .app2 _ a b => ShapedAgree P Q gs lo ln a ∧ ShapedAgree P Q gs lo ln b
  | .app3 _ a b c => ShapedAgree P Q gs lo ln a ∧ ShapedAgree P Q gs lo ln b ∧ ShapedAgree P Q gs lo ln c

/-- The kernels are shared, only the tags differ: at every node the operands are the same exception or the
same arrays, and the value part of the node's result is the kernel's (`dataOf_tagged`). -/
theorem eval_same_values (P Q : Policy) (gs : Grids) (lo ln : Nat → Except Err Val)
    (hl : ∀ x, dataOf (lo x) = dataOf (ln x)) (e : Expr) (hs : ShapedAgree P Q gs lo ln e) :
    dataOf (eval P gs lo e) = dataOf (eval Q gs ln e) := by
  induction e with
  | var x => exact hl x
  | lit _ | scal _ _ | field _ _ => rfl
  | un _ _ ih | red _ _ _ ih | idx _ _ ih | reshape _ _ ih | app1 _ _ ih | ravel _ ih | copy _ ih | pickle _ ih =>
    unfold eval
    refine dataOf_elim (ih hs) (fun _ => rfl) fun a t u => ?_
    simp only [dataOf_tagged, dataOf_ok]
  | shaped _ ih => rw [eval, eval, eq_of_dataOf_tagOf (ih hs.1) hs.2]
  | bin _ _ _ ihl ihr | mask _ _ ihl ihr | app2 _ _ _ ihl ihr =>
    unfold eval
    refine dataOf_elim (ihl hs.1) (fun _ => rfl) fun a t u => ?_
    refine dataOf_elim (ihr hs.2) (fun _ => rfl) fun a' t' u' => ?_
    simp only [dataOf_tagged]
  | app3 _ _ _ _ ihx ihy ihz =>
    unfold eval
    refine dataOf_elim (ihx hs.1) (fun _ => rfl) fun a t u => ?_
    refine dataOf_elim (ihy hs.2.1) (fun _ => rfl) fun a' t' u' => ?_
    refine dataOf_elim (ihz hs.2.2) (fun _ => rfl) fun a'' t'' u'' => ?_
    simp only [dataOf_tagged]

theorem evalArgs_same_values (P Q : Policy) (gs : Grids) (lo ln : Nat → Except Err Val)
    (hl : ∀ x, dataOf (lo x) = dataOf (ln x)) (es : List Expr)
    (hs : ∀ e ∈ es, ShapedAgree P Q gs lo ln e) :
    (evalArgs P gs lo es).map (·.map Prod.fst) = (evalArgs Q gs ln es).map (·.map Prod.fst) := by
  induction es with
  | nil => rfl
  | cons e es ih =>
    unfold evalArgs
    refine dataOf_elim (eval_same_values P Q gs lo ln hl e (hs e List.mem_cons_self)) (fun _ => rfl) fun a t u => ?_
    refine map_eq_elim (ih fun e' h' => hs e' (List.mem_cons_of_mem _ h')) (fun _ => rfl) fun vs ws h => ?_
    exact congrArg (fun l => Except.ok (a :: l)) h

/-- forget the tag of a wrapper reference -/
def refBuf (p : Nat × (Nat × Tag)) : Nat × Nat := (p.1, p.2.1)

/-- what a store says about memory once the tags are forgotten: which cell (buffer) each variable names,
and the arrays in the cells (buffers) -/
def OState.mem (s : OState) : List (Nat × Nat) × List Arr := (s.vars, s.cells.map Prod.fst)

def NState.mem (s : NState) : List (Nat × Nat) × List Arr := (s.vars.map refBuf, s.bufs)

def Rel (so : OState) (sn : NState) : Prop := so.mem = sn.mem

theorem lookup_refBuf (l : List (Nat × (Nat × Tag))) (x : Nat) :
    (l.map refBuf).lookup x = (l.lookup x).map (·.1) := by
  induction l with
  | nil => rfl
  | cons p l ih =>
    obtain ⟨y, r⟩ := p
    rw [List.map_cons, refBuf, List.lookup_cons, List.lookup_cons, ih]
    cases x == y <;> rfl

theorem bind_refBuf (l : List (Nat × (Nat × Tag))) (x : Nat) (r : Nat × Tag) :
    bind (l.map refBuf) x r.1 = (bind l x r).map refBuf := by
  rw [bind, bind, List.map_cons, List.filter_map]
  rfl

/-- Related stores are `⟨vn.map refBuf, co⟩` and `⟨vn, co.map Prod.fst⟩` for the wrapper route's variables `vn` and the
subclass route's cells `co`. -/
theorem Rel.nf {so : OState} {sn : NState} (h : Rel so sn) :
    ∃ vn co, so = ⟨List.map refBuf vn, co⟩ ∧ sn = ⟨vn, co.map Prod.fst⟩ := by
  obtain ⟨vo, co⟩ := so
  obtain ⟨vn, bn⟩ := sn
  obtain ⟨rfl, rfl⟩ : vo = vn.map refBuf ∧ co.map Prod.fst = bn := Prod.mk.inj h
  exact ⟨vn, co, rfl, rfl⟩

theorem look_rel {so : OState} {sn : NState} (h : Rel so sn) (x : Nat) :
    dataOf (so.look x) = dataOf (sn.look x) := by
  obtain ⟨vn, co, rfl, rfl⟩ := h.nf
  unfold OState.look NState.look
  dsimp only
  rw [lookup_refBuf]
  cases vn.lookup x with
  | none => rfl
  | some r =>
    simp only [Option.map_some, List.getElem?_map]
    cases co[r.1]? <;> rfl

/-- what a statement needs for `shaped` (see `ShapedAgree`) -/
def StmtAgree (gs : Grids) (so : OState) (sn : NState) : Stmt → Prop
  | .assign _ e => ShapedAgree oldPolicy newPolicy gs so.look sn.look e
  | .alias _ _ => True
  | .update _ _ args => ∀ e ∈ args, ShapedAgree oldPolicy newPolicy gs so.look sn.look e

theorem step_rel (gs : Grids) {so : OState} {sn : NState} (h : Rel so sn) (st : Stmt)
    (hs : StmtAgree gs so sn st) : (stepO gs so st).map OState.mem = (stepN gs sn st).map NState.mem := by
  obtain ⟨vn, co, rfl, rfl⟩ := h.nf
  cases st with
  | assign x e =>
    rw [stepO, stepN, evalO, evalN]
    cases e.isVar with
    | true => rfl
    | false =>
      refine dataOf_elim (eval_same_values _ _ gs _ _ (look_rel h) e hs) (fun _ => rfl) fun a t u =>
        congrArg Except.ok (Prod.ext ?_ ?_)
      · rw [List.length_map]
        exact bind_refBuf vn x (_, u)
      · exact List.map_append ..
  | alias y x =>
    rw [stepO, stepN]
    dsimp only
    rw [lookup_refBuf]
    cases vn.lookup x with
    | none => rfl
    | some r => exact congrArg Except.ok (Prod.ext (bind_refBuf vn y r) rfl)
  | update x u args =>
    rw [stepO, stepN]
    dsimp only
    rw [lookup_refBuf]
    cases vn.lookup x with
    | none => rfl
    | some r =>
      simp only [Option.map_some, List.getElem?_map]
      cases co[r.1]? with
      | none => rfl
      | some xv =>
        refine map_eq_elim (evalArgs_same_values _ _ gs _ _ (look_rel h) args hs) (fun _ => rfl) fun vs ws hvw => ?_
        simp only [Option.map_some, hvw]
        cases Prim.update u xv.1 (ws.map Prod.fst) with
        | error err => rfl
        | ok b =>
          refine congrArg Except.ok (Prod.ext ?_ List.map_set)
          cases Upd.rebinds u with
          | false => rfl
          | true => exact bind_refBuf vn x (r.1, _)

/-- `StmtAgree` along the run (in the stores actually reached) -/
def ProgAgree (gs : Grids) : OState → NState → List Stmt → Prop
  | _, _, [] => True
  | so, sn, st :: rest => StmtAgree gs so sn st ∧
      ∀ so' sn', stepO gs so st = .ok so' → stepN gs sn st = .ok sn' → ProgAgree gs so' sn' rest

theorem dump_rel {so : OState} {sn : NState} (h : Rel so sn) :
    dumpData so.dump = dumpData sn.dump := by
  obtain ⟨vn, co, rfl, rfl⟩ := h.nf
  unfold dumpData OState.dump NState.dump
  rw [List.map_map, List.map_map, List.map_map]
  exact List.map_congr_left fun p _ => congrArg (Prod.mk p.1) (look_rel h p.1)

/-- the observable of a whole run: values after every statement, and the final read-out -/
def traceData (r : List Obs × Option (List (Nat × Except Err Val))) :
    List (Except Err (Nat × Arr)) × Option (List (Nat × Except Err Arr)) :=
  (r.1.map obsData, r.2.map dumpData)

theorem run_same_values (gs : Grids) (p : List Stmt) :
    ∀ so sn, Rel so sn → ProgAgree gs so sn p →
      traceData ((runO gs so p).1, (runO gs so p).2.map OState.dump) =
      traceData ((runN gs sn p).1, (runN gs sn p).2.map NState.dump) := by
  induction p with
  | nil =>
    intro so sn h _
    exact congrArg (fun d => ([], some d)) (dump_rel h)
  | cons st rest ih =>
    intro so sn h ⟨hst, hrest⟩
    -- `hrest` speaks of the results of the two steps: it goes through the case split as part of the goal
    revert hrest
    rw [runO, runN]
    refine map_eq_elim (step_rel gs h st hst) (fun _ _ => rfl) fun so' sn' h' hrest => ?_
    dsimp only
    refine dataOf_elim (look_rel h' st.target) (fun _ => rfl) fun a t u => ?_
    exact congrArg (fun r => (Except.ok (st.target, a) :: r.1, r.2)) (ih so' sn' h' (hrest so' sn' rfl rfl))

theorem lookup_filter_ne {α} (l : List (Nat × α)) (x h : Nat) (hne : h ≠ x) :
    (l.filter (·.1 != x)).lookup h = l.lookup h := by
  induction l with
  | nil => rfl
  | cons p l ih =>
    obtain ⟨y, r⟩ := p
    by_cases hy : y = x
    · have hhy : (h == y) = false := beq_false_of_ne (hy ▸ hne)
      rw [List.filter_cons_of_neg (by simpa using hy), List.lookup_cons, hhy, ih]
    · rw [List.filter_cons_of_pos (by simpa using hy), List.lookup_cons, List.lookup_cons, ih]

theorem lookup_bind {α} (l : List (Nat × α)) (x h : Nat) (r : α) :
    (bind l x r).lookup h = if h = x then some r else l.lookup h := by
  rw [bind, List.lookup_cons]
  by_cases hx : h = x
  · rw [if_pos hx, beq_iff_eq.mpr hx]
  · rw [if_neg hx, beq_false_of_ne hx, lookup_filter_ne l x h hx]

theorem lookup_bind_same {α} {l : List (Nat × α)} {x : Nat} {r : α} (hx : l.lookup x = some r) (h : Nat) :
    (bind l x r).lookup h = l.lookup h := by
  rw [lookup_bind]
  by_cases hh : h = x
  · rw [if_pos hh, hh, hx]
  · rw [if_neg hh]

theorem stepO_assign_ok {gs : Grids} {so so' : OState} {y : Nat} {e : Expr}
    (h : stepO gs so (.assign y e) = .ok so') :
    ∃ v, so' = { vars := bind so.vars y so.cells.length, cells := so.cells ++ [v] } := by
  rw [stepO] at h
  split at h
  · cases h
  · obtain ⟨v, _, rfl⟩ := map_eq_ok h
    exact ⟨v, rfl⟩

theorem stepN_assign_ok {gs : Grids} {sn sn' : NState} {y : Nat} {e : Expr}
    (h : stepN gs sn (.assign y e) = .ok sn') :
    ∃ v : Val, sn' = { vars := bind sn.vars y (sn.bufs.length, v.2), bufs := sn.bufs ++ [v.1] } := by
  rw [stepN] at h
  split at h
  · cases h
  · obtain ⟨v, _, rfl⟩ := map_eq_ok h
    exact ⟨v, rfl⟩

theorem stepO_update_ok {gs : Grids} {so so' : OState} {x : Nat} {u : Prim.Upd} {args : List Expr} {c : Nat}
    (hx : so.vars.lookup x = some c) (h : stepO gs so (.update x u args) = .ok so') :
    ∃ xv vs a, so.cells[c]? = some xv ∧ evalArgs oldPolicy gs so.look args = .ok vs ∧
      Prim.update u xv.1 (vs.map Prod.fst) = .ok a ∧
      (∀ h, so'.vars.lookup h = so.vars.lookup h) ∧ so'.cells = so.cells.set c (a, xv.2) := by
  simp only [stepO, hx] at h
  split at h
  · cases h
  · rename_i xv hc
    split at h
    · cases h
    · rename_i vs he
      obtain ⟨a, hp, rfl⟩ := map_eq_ok h
      refine ⟨xv, vs, a, hc, he, hp, fun h => ?_, rfl⟩
      -- `x op= e` re-binds `x` to the cell it names already
      cases Upd.rebinds u with
      | false => rfl
      | true => exact lookup_bind_same hx h

theorem stepN_update_ok {gs : Grids} {sn sn' : NState} {x : Nat} {u : Prim.Upd} {args : List Expr}
    {r : Nat × Tag} (hx : sn.vars.lookup x = some r) (h : stepN gs sn (.update x u args) = .ok sn') :
    ∃ xa vs a, sn.bufs[r.1]? = some xa ∧ evalArgs newPolicy gs sn.look args = .ok vs ∧
      Prim.update u xa (vs.map Prod.fst) = .ok a ∧
      (∀ h, sn'.vars.lookup h = if h = x then
          some (r.1, if Upd.rebinds u then iopTagN r.2 ((vs.map Prod.snd).headD .plain) else r.2)
        else sn.vars.lookup h) ∧
      sn'.bufs = sn.bufs.set r.1 a := by
  simp only [stepN, hx] at h
  split at h
  · cases h
  · rename_i xa hc
    split at h
    · cases h
    · rename_i vs he
      obtain ⟨a, hp, rfl⟩ := map_eq_ok h
      refine ⟨xa, vs, a, hc, he, hp, fun h => ?_, rfl⟩
      cases Upd.rebinds u with
      | false =>
        by_cases hh : h = x
        · rw [if_pos hh, hh]
          exact hx
        · rw [if_neg hh]
          rfl
      | true => exact lookup_bind _ _ _ _

theorem sameTagB_sound {r s : Except Err Val} (h : sameTagB r s = true) : tagOf r = tagOf s := by
  cases r with
  | error e =>
    cases s with
    | error f => exact congrArg Except.error (beq_iff_eq.mp h)
    | ok w => cases h
  | ok v =>
    cases s with
    | error f => cases h
    | ok w => exact congrArg Except.ok (beq_iff_eq.mp h)

theorem shapedAgreeB_sound (P Q : Policy) (gs : Grids) (lo ln : Nat → Except Err Val) (e : Expr)
    (h : shapedAgreeB P Q gs lo ln e = true) : ShapedAgree P Q gs lo ln e := by
  induction e with
  | var _ | lit _ | scal _ _ | field _ _ => trivial
  | un _ _ ih | red _ _ _ ih | idx _ _ ih | reshape _ _ ih | ravel _ ih | copy _ ih | pickle _ ih | app1 _ _ ih =>
    exact ih h
  | shaped _ ih =>
    have h := Bool.and_eq_true_iff.mp h
    exact ⟨ih h.1, sameTagB_sound h.2⟩
  | bin _ _ _ ihl ihr | mask _ _ ihl ihr | app2 _ _ _ ihl ihr =>
    have h := Bool.and_eq_true_iff.mp h
    exact ⟨ihl h.1, ihr h.2⟩
  | app3 _ _ _ _ iha ihb ihc =>
    have h := Bool.and_eq_true_iff.mp h
    have h1 := Bool.and_eq_true_iff.mp h.1
    exact ⟨iha h1.1, ihb h1.2, ihc h.2⟩

theorem stmtAgreeB_sound (gs : Grids) (so : OState) (sn : NState) (st : Stmt)
    (h : stmtAgreeB gs so sn st = true) : StmtAgree gs so sn st := by
  cases st with
  | assign x e => exact shapedAgreeB_sound _ _ _ _ _ e h
  | alias y x => trivial
  | update x u args => exact fun e he => shapedAgreeB_sound _ _ _ _ _ e (List.all_eq_true.mp h e he)

theorem progAgreeB_sound (gs : Grids) (p : List Stmt) :
    ∀ so sn, progAgreeB gs so sn p = true → ProgAgree gs so sn p := by
  induction p with
  | nil => intro so sn _; trivial
  | cons st rest ih =>
    intro so sn h
    have h := Bool.and_eq_true_iff.mp h
    refine ⟨stmtAgreeB_sound gs so sn st h.1, fun so' sn' ho hn => ih so' sn' ?_⟩
    have h2 := h.2
    rw [ho, hn] at h2
    exact h2

def NoShaped : Expr → Prop
  | .var _ | .lit _ | .scal _ _ | .field _ _ => True
  | .bin _ l r => NoShaped l ∧ NoShaped r
  | .un _ e | .red _ _ e | .idx _ e | .reshape _ e | .ravel e | .copy e | .pickle e => NoShaped e
  | .mask e m => NoShaped e ∧ NoShaped m
  | .shaped _ => False
  | .app1 _ e => NoShaped e
  | .app2 _ a b => NoShaped a ∧ NoShaped b
  | .app3 _ a b c => NoShaped a ∧ NoShaped b ∧ NoShaped c

def StmtNoShaped : Stmt → Prop
  | .assign _ e => NoShaped e
  | .alias _ _ => True
  | .update _ _ args => ∀ e ∈ args, NoShaped e

theorem shapedAgreeB_of_noShaped (P Q : Policy) (gs : Grids) (lo ln : Nat → Except Err Val) (e : Expr)
    (h : NoShaped e) : shapedAgreeB P Q gs lo ln e = true := by
  induction e with
  | var _ | lit _ | scal _ _ | field _ _ => rfl
  | un _ _ ih | red _ _ _ ih | idx _ _ ih | reshape _ _ ih | ravel _ ih | copy _ ih | pickle _ ih | app1 _ _ ih =>
    exact ih h
  | shaped _ _ => exact h.elim
  | bin _ _ _ ihl ihr | mask _ _ ihl ihr | app2 _ _ _ ihl ihr =>
    exact Bool.and_eq_true_iff.mpr ⟨ihl h.1, ihr h.2⟩
  | app3 _ _ _ _ iha ihb ihc =>
    exact Bool.and_eq_true_iff.mpr ⟨Bool.and_eq_true_iff.mpr ⟨iha h.1, ihb h.2.1⟩, ihc h.2.2⟩

theorem progAgreeB_of_noShaped (gs : Grids) (p : List Stmt) (h : ∀ st ∈ p, StmtNoShaped st) :
    ∀ so sn, progAgreeB gs so sn p = true := by
  induction p with
  | nil => intro so sn; rfl
  | cons st rest ih =>
    intro so sn
    have hst : stmtAgreeB gs so sn st = true := by
      have h0 := h st List.mem_cons_self
      cases st with
      | assign x e => exact shapedAgreeB_of_noShaped _ _ _ _ _ e h0
      | alias y x => rfl
      | update x u args =>
        exact List.all_eq_true.mpr fun e he => shapedAgreeB_of_noShaped _ _ _ _ _ e (h0 e he)
    rw [progAgreeB, hst, Bool.true_and]
    cases stepO gs so st with
    | error e => rfl
    | ok so' =>
      cases stepN gs sn st with
      | error e => rfl
      | ok sn' => exact ih (fun s hs => h s (List.mem_cons_of_mem _ hs)) so' sn'

theorem progAgree_of_noShaped (gs : Grids) (p : List Stmt) (h : ∀ st ∈ p, StmtNoShaped st) :
    ∀ so sn, ProgAgree gs so sn p :=
  fun so sn => progAgreeB_sound gs p so sn (progAgreeB_of_noShaped gs p h so sn)

theorem progDisagreeAt_none_iff (gs : Grids) (p : List Stmt) :
    ∀ so sn i, progDisagreeAt gs so sn p i = none ↔ progAgreeB gs so sn p = true := by
  induction p with
  | nil => intro so sn i; exact ⟨fun _ => rfl, fun _ => rfl⟩
  | cons st rest ih =>
    intro so sn i
    rw [progDisagreeAt, progAgreeB]
    cases stmtAgreeB gs so sn st with
    | false => exact ⟨nofun, nofun⟩
    | true =>
      rw [if_pos rfl, Bool.true_and]
      cases stepO gs so st with
      | error e => exact ⟨fun _ => rfl, fun _ => rfl⟩
      | ok so' =>
        cases stepN gs sn st with
        | error e => exact ⟨fun _ => rfl, fun _ => rfl⟩
        | ok sn' => exact ih so' sn' (i + 1)

end HcipyVerif.FieldProg
