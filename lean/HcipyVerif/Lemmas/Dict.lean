/-!
Association lists used as Python dicts: lookup is `find?` on the key, assignment replaces in place or
appends.  `Cache.lookup`/`assign`, `Cache.Deco.dlookup`/`dassign` and `Cache.Old.lookup`/`assign` are
these definitions at their own key and value types, so the lemmas apply to them as they stand.
-/

namespace HcipyVerif.Dict

variable {α β : Type} [DecidableEq α] {c : List (α × β)} {k : α} {v : β}

def lookup (c : List (α × β)) (k : α) : Option β := (c.find? (fun p => p.1 = k)).map (·.2)

def assign (c : List (α × β)) (k : α) (v : β) : List (α × β) :=
  if c.any (fun p => p.1 = k) then c.map (fun p => if p.1 = k then (k, v) else p) else c ++ [(k, v)]

theorem lookup_mem (h : lookup c k = some v) : (k, v) ∈ c := by
  obtain ⟨⟨k', v'⟩, hf, rfl⟩ := Option.map_eq_some_iff.1 h
  have hk : k' = k := of_decide_eq_true (List.find?_some (p := fun p : α × β => decide (p.1 = k)) hf)
  exact hk ▸ List.mem_of_find?_eq_some hf

theorem lookup_eq_none_iff : lookup c k = none ↔ ∀ p ∈ c, p.1 ≠ k := by
  simp only [lookup, Option.map_eq_none_iff, List.find?_eq_none, decide_eq_true_eq]

theorem assign_of_lookup_none (v : β) (h : lookup c k = none) : assign c k v = c ++ [(k, v)] :=
  if_neg fun hany =>
    let ⟨p, hp, hk⟩ := List.any_eq_true.1 hany
    lookup_eq_none_iff.1 h p hp (of_decide_eq_true hk)

theorem lookup_append_none {k' : α} (v : β) (h : lookup c k = none) (hk : k' ≠ k) :
    lookup (c ++ [(k', v)]) k = none :=
  lookup_eq_none_iff.2 fun p hp =>
    (List.mem_append.1 hp).elim (lookup_eq_none_iff.1 h p) fun hp => List.eq_of_mem_singleton hp ▸ hk

theorem assign_append_self (v : β) (h : lookup c k = none) :
    assign (c ++ [(k, v)]) k v = c ++ [(k, v)] := by
  have hany : (c ++ [(k, v)]).any (fun p => decide (p.1 = k)) = true := by simp
  rw [assign, if_pos hany, List.map_append]
  congr 1
  · exact (List.map_congr_left fun p hp => if_neg (lookup_eq_none_iff.1 h p hp)).trans (List.map_id c)
  · simp

theorem mem_assign {p : α × β} (h : p ∈ assign c k v) : p ∈ c ∨ p = (k, v) := by
  unfold assign at h
  split at h
  · obtain ⟨q, hq, rfl⟩ := List.mem_map.1 h
    split
    · exact .inr rfl
    · exact .inl hq
  · exact (List.mem_append.1 h).imp_right List.eq_of_mem_singleton

end HcipyVerif.Dict
