import HcipyVerif.Model.ZernikeArr
import HcipyVerif.Lemmas.Zernike
import HcipyVerif.Lemmas.ListFacts

/-! The array-level cache model (`Model/ZernikeArr.lean`): the repaired code only ever appends to the heap (`<+:`) or
overwrites the array it has just allocated, so every request keeps the invariant `AValid`. -/

namespace HcipyVerif.Zernike

theorem zip3With_map {α : Type} (f : Rat → Rat → Rat → Rat) (g1 g2 g3 : α → Rat) (l : List α) :
    zip3With f (l.map g1) (l.map g2) (l.map g3) = l.map fun x => f (g1 x) (g2 x) (g3 x) := by
  induction l with
  | nil => rfl
  | cons a l ih => simp only [List.map_cons, zip3With, ih]

theorem outerA_map {α β : Type} (g : α → Rat) (f : β → Rat) (l : List α) (l' : List β) :
    outerA (l.map g) (l'.map f) = l.flatMap fun d => l'.map fun r => g d * f r := by
  unfold outerA
  rw [List.flatMap_map]
  simp only [List.map_map, Function.comp_def]

def WfVal (h : Heap) : Val → Prop
  | .scalar _ => True
  | .ref i => i < h.length

theorem WfVal.ext {h h' : Heap} {v : Val} (w : WfVal h v) (e : h <+: h') : WfVal h' v := by
  cases v with
  | scalar _ => trivial
  | ref i => exact Nat.lt_of_lt_of_le w e.length_le

theorem read_ext {h h' : Heap} {v : Val} (len : Nat) (w : WfVal h v) (e : h <+: h') : h'.read len v = h.read len v := by
  obtain ⟨l, rfl⟩ := e
  cases v with
  | scalar _ => rfl
  | ref i => simp only [Heap.read, List.getD_eq_getElem?_getD, List.getElem?_append_left w]

theorem read_snoc (h : Heap) (a : Arr) (len : Nat) : Heap.read (h ++ [a]) len (.ref h.length) = a := by
  simp [Heap.read, List.getD_eq_getElem?_getD]

theorem AState.getC_putC (st : AState) (k k' : Key) (v : Val) :
    (st.putC k v).getC k' = if k' = k then some v else st.getC k' := find?_put st.cache k k' v

/-- length of the axis a key's array lives on -/
def klen (ρ : Arr) (dirs : List (Rat × Rat)) : Key → Nat
  | .azim _ => dirs.length
  | _ => ρ.length

/-- the array a fresh evaluation stores under a key -/
def plainArr (ρ : Arr) (dirs : List (Rat × Rat)) : Key → Arr
  | .rad n m => ρ.map fun x => radialEval n m x
  | .red n k => ρ.map fun x => reducedEval n (x * x) k
  | .azim m => dirs.map fun d => azimQ m d.1 d.2

/-- every cache slot holds a live reference (or a float) that *currently reads* as the fresh value -/
def AValid (ρ : Arr) (dirs : List (Rat × Rat)) (st : AState) : Prop :=
  ∀ k v, st.getC k = some v → WfVal st.heap v ∧ st.heap.read (klen ρ dirs k) v = plainArr ρ dirs k

section
variable {ρ : Arr} {dirs : List (Rat × Rat)} {st st0 : AState}

theorem AValid.empty (ρ : Arr) (dirs : List (Rat × Rat)) : AValid ρ dirs {} := by
  intro k v h; simp [AState.getC] at h

theorem AValid.grow (h : AValid ρ dirs st) (h' : Heap) (e : st.heap <+: h') :
    AValid ρ dirs { st with heap := h' } := by
  intro k v hg
  obtain ⟨w, r⟩ := h k v hg
  exact ⟨w.ext e, by rw [← r]; exact read_ext _ w e⟩

theorem AValid.putC (h : AValid ρ dirs st) (k : Key) (v : Val) (w : WfVal st.heap v)
    (r : st.heap.read (klen ρ dirs k) v = plainArr ρ dirs k) : AValid ρ dirs (st.putC k v) := by
  intro k' v' hg
  rw [AState.getC_putC] at hg
  split at hg
  · rename_i e; subst e; injection hg with hg; subst hg; exact ⟨w, r⟩
  · exact h k' v' hg

/-- what a memoised evaluation guarantees: heap only grew, cache still valid, the returned value is live and
reads as `a` -/
structure Post (ρ : Arr) (dirs : List (Rat × Rat)) (st : AState) (len : Nat) (a : Arr) (r : Val × AState) : Prop where
  ext : st.heap <+: r.2.heap
  valid : AValid ρ dirs r.2
  wf : WfVal r.2.heap r.1
  val : r.2.heap.read len r.1 = a

theorem Post.hit {k : Key} {v : Val} (h : AValid ρ dirs st) (hv : st.getC k = some v) :
    Post ρ dirs st (klen ρ dirs k) (plainArr ρ dirs k) (v, st) :=
  ⟨List.prefix_refl _, h, (h k v hv).1, (h k v hv).2⟩

theorem Post.scalar (h : AValid ρ dirs st) (len : Nat) (v : Rat) {a : Arr} (ha : List.replicate len v = a) :
    Post ρ dirs st len a (.scalar v, st) :=
  ⟨List.prefix_refl _, h, trivial, ha⟩

theorem Post.alloc (e : st0.heap <+: st.heap) (h : AValid ρ dirs st) (len : Nat) {a a' : Arr} (ha : a = a') :
    Post ρ dirs st0 len a' (st.alloc a) :=
  ⟨e.trans (List.prefix_append _ _), h.grow _ (List.prefix_append _ _), by simp [AState.alloc, WfVal],
    by rw [← ha]; exact read_snoc _ _ _⟩

theorem Post.putC {v : Val} {k : Key}
    (p : Post ρ dirs st0 (klen ρ dirs k) (plainArr ρ dirs k) (v, st)) :
    Post ρ dirs st0 (klen ρ dirs k) (plainArr ρ dirs k) (v, st.putC k v) :=
  ⟨p.ext, p.valid.putC k v p.wf p.val, p.wf, p.val⟩

end

theorem memoReducedA_spec (n : Nat) (ρ : Arr) (dirs : List (Rat × Rat)) :
    ∀ k st, AValid ρ dirs st →
      Post ρ dirs st ρ.length (ρ.map fun x => reducedEval n (x * x) k) (memoReducedA n (ρ.map fun x => x * x) k st)
  | 0, st, h => by
    unfold memoReducedA
    split
    next v hv => exact Post.hit h hv
    · exact (Post.scalar h _ 1 List.map_const'.symm).putC (k := .red n 0)
  | 1, st, h => by
    unfold memoReducedA
    split
    next v hv => exact Post.hit h hv
    · refine (Post.alloc (List.prefix_refl _) h _ ?_).putC (k := .red n 1)
      simp only [plainArr, List.map_map, Function.comp_def, reducedEval]
  | k + 2, st, h => by
    unfold memoReducedA
    split
    next v hv => exact Post.hit h hv
    · have a := memoReducedA_spec n ρ dirs k st h
      have b := memoReducedA_spec n ρ dirs (k + 1) _ a.valid
      refine (Post.alloc (a.ext.trans b.ext) b.valid _ ?_).putC (k := .red n (k + 2))
      rw [List.length_map, read_ext _ a.wf b.ext, a.val, b.val, zip3With_map]
      simp only [plainArr, reducedEval]

theorem memoRadialA_spec (n m : Nat) (ρ : Arr) (dirs : List (Rat × Rat)) (st : AState) (h : AValid ρ dirs st) :
    Post ρ dirs st ρ.length (ρ.map fun x => radialEval n m x) (memoRadialA n m ρ st) := by
  unfold memoRadialA
  split
  next v hv => exact Post.hit h hv
  · have a := memoReducedA_spec n ρ dirs ((n - m) / 2) st h
    refine (Post.alloc a.ext a.valid _ ?_).putC (k := .rad n m)
    rw [a.val, List.zipWith_map_right, List.zipWith_self]
    rfl

theorem memoAzimA_spec (m : Int) (ρ : Arr) (dirs : List (Rat × Rat)) (st : AState) (h : AValid ρ dirs st) :
    Post ρ dirs st dirs.length (dirs.map fun d => azimQ m d.1 d.2) (memoAzimA m dirs st) := by
  unfold memoAzimA
  split
  next h0 => exact Post.scalar h _ 1 (by rw [← List.map_const', h0]; rfl)
  · split
    next v hv => exact Post.hit h hv
    · exact (Post.alloc (List.prefix_refl _) h _ rfl).putC (k := .azim m)

theorem cut_pointwise (n : Nat) (m : Int) (D r c s : Rat) (cut : Bool) :
    azimQ m c s * (if cut then radialEval n m.natAbs (2 * r / D) * (if inside D r then 1 else 0)
                    else radialEval n m.natAbs (2 * r / D)) = modeQCut n m D r c s cut := by
  unfold modeQCut modeQ
  cases cut <;> cases hin : inside D r <;> simp [mul_comm]

theorem modeSepA_spec (D : Rat) (R : Arr) (dirs : List (Rat × Rat)) (q : Req) (st : AState)
    (h : AValid (R.map fun r => 2 * r / D) dirs st) :
    (modeSepA false D R dirs q st).1 = plainA D (.sep R dirs) q ∧
      AValid (R.map fun r => 2 * r / D) dirs (modeSepA false D R dirs q st).2 := by
  have a := memoRadialA_spec q.n q.m.natAbs (R.map fun r => 2 * r / D) dirs st h
  unfold modeSepA
  simp only [Bool.false_eq_true, if_false]
  generalize memoRadialA q.n q.m.natAbs (R.map fun r => 2 * r / D) st = r1 at a ⊢
  obtain ⟨zr, st1⟩ := r1
  rw [List.length_map, List.map_map] at a
  -- `z_r = z_r * mask` is a fresh array; without cut-off `z_r` stays the (possibly cached) radial array
  have c : Post (R.map fun r => 2 * r / D) dirs st1 R.length
      (R.map fun r => if q.cutoff then radialEval q.n q.m.natAbs (2 * r / D) * (if inside D r then 1 else 0)
        else radialEval q.n q.m.natAbs (2 * r / D))
      (if q.cutoff = true then st1.alloc (mulA (st1.heap.read R.length zr) (maskA D R)) else (zr, st1)) := by
    split
    · refine Post.alloc (List.prefix_refl _) a.valid _ ?_
      rw [a.val, mulA, maskA, ListFacts.zipWith_map_same]
      rfl
    · exact ⟨List.prefix_refl _, a.valid, a.wf, a.val⟩
  generalize (if q.cutoff = true then _ else _) = r2 at c ⊢
  obtain ⟨zr', st2⟩ := r2
  have b := memoAzimA_spec q.m _ dirs st2 c.valid
  generalize memoAzimA q.m dirs st2 = r3 at b ⊢
  obtain ⟨za, st3⟩ := r3
  refine ⟨?_, b.valid⟩
  show outerA (st3.heap.read dirs.length za) (st3.heap.read R.length zr') = _
  rw [b.val, read_ext _ c.wf b.ext, c.val, outerA_map]
  simp only [plainA, cut_pointwise]

/-- the generic branch: one direction per radius -/
theorem modePtsA_spec (D : Rat) (rs : Arr) (dirs : List (Rat × Rat)) (hl : rs.length = dirs.length) (q : Req) (st : AState)
    (h : AValid (rs.map fun r => 2 * r / D) dirs st) :
    (modePtsA D rs dirs q st).1 = plainA D (.pts rs dirs) q ∧
      AValid (rs.map fun r => 2 * r / D) dirs (modePtsA D rs dirs q st).2 := by
  have a := memoAzimA_spec q.m _ dirs st h
  unfold modePtsA
  generalize memoAzimA q.m dirs st = r1 at a ⊢
  obtain ⟨za, st1⟩ := r1
  have b := memoRadialA_spec q.n q.m.natAbs _ dirs st1 a.valid
  dsimp only
  generalize memoRadialA q.n q.m.natAbs (rs.map fun r => 2 * r / D) st1 = r2 at b ⊢
  obtain ⟨zr, st2⟩ := r2
  rw [List.length_map, List.map_map] at b
  rw [← hl] at a
  have hprod : mulA (st2.heap.read rs.length za) (st2.heap.read rs.length zr) =
      List.zipWith (fun r d => azimQ q.m d.1 d.2 * radialEval q.n q.m.natAbs (2 * r / D)) rs dirs := by
    rw [read_ext _ a.wf b.ext, a.val, b.val, mulA, List.zipWith_map, List.zipWith_comm]
    rfl
  -- the product is a fresh array at the end of the heap; `z *= mask` overwrites that array and no other
  simp only [AState.alloc, AState.write, ListFacts.set_append_singleton, read_snoc, hprod, plainA]
  split
  next hc =>
    refine ⟨?_, b.valid.grow _ (List.prefix_append _ _)⟩
    rw [read_snoc, mulA, maskA, List.zipWith_map_right, List.zipWith_zipWith_left, List.zipWith3_same_mid]
    simp only [hc, ← cut_pointwise, if_true, mul_assoc]
  next hc =>
    refine ⟨?_, b.valid.grow _ (List.prefix_append _ _)⟩
    simp only [read_snoc, ← cut_pointwise, if_neg hc]

/-- the axes of a grid in the form the invariant uses -/
def AGrid.rho (D : Rat) : AGrid → Arr
  | .sep R _ => R.map fun r => 2 * r / D
  | .pts rs _ => rs.map fun r => 2 * r / D

def AGrid.dirs : AGrid → List (Rat × Rat)
  | .sep _ d => d
  | .pts _ d => d

/-- an unstructured grid has one direction per radius -/
def AGrid.WF : AGrid → Prop
  | .sep _ _ => True
  | .pts rs d => rs.length = d.length

theorem modeA_spec (D : Rat) (g : AGrid) (hg : g.WF) (q : Req) (st : AState) (h : AValid (g.rho D) g.dirs st) :
    (modeA false D g q st).1 = plainA D g q ∧ AValid (g.rho D) g.dirs (modeA false D g q st).2 := by
  cases g with
  | sep R d => exact modeSepA_spec D R d q st h
  | pts rs d => exact modePtsA_spec D rs d hg q st h

theorem runA_spec (D : Rat) (g : AGrid) (hg : g.WF) : ∀ (reqs : List Req) (st : AState), AValid (g.rho D) g.dirs st →
    (runA false D g reqs st).map (·.1) = reqs.map (plainA D g) ∧
      ∀ r ∈ runA false D g reqs st, AValid (g.rho D) g.dirs r.2
  | [], _, _ => ⟨rfl, by intro r hr; cases hr⟩
  | q :: qs, st, h => by
    obtain ⟨a, b⟩ := modeA_spec D g hg q st h
    obtain ⟨c, d⟩ := runA_spec D g hg qs _ b
    simp only [runA, List.map_cons]
    refine ⟨by rw [a, c], ?_⟩
    intro r hr
    rcases List.mem_cons.mp hr with rfl | hr
    · exact b
    · exact d r hr

end HcipyVerif.Zernike
