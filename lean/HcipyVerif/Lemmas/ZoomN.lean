import Mathlib.Algebra.BigOperators.Intervals
import Mathlib.Algebra.BigOperators.Ring.Finset
import Mathlib.Algebra.Field.Basic
import Mathlib.Data.Complex.Basic
import Mathlib.Tactic.Ring
import Mathlib.Tactic.LinearCombination
import HcipyVerif.Model.ZoomN
import HcipyVerif.Lemmas.Czt
import HcipyVerif.Lemmas.FftPipelineN
import HcipyVerif.Lemmas.Mft

/-!
# ZoomFastFourierTransform: `n` axes with weights, agreement of the implementations

* `zoomN_eq_sumN`, `zoomN_backward_eq_sumN`: the axis loops with the per-point weights.
* `fft_eq_mft`, `fft_eq_zoom`, `fftN_eq_zoomN`: FastFourierTransform, MatrixFourierTransform and
  ZoomFastFourierTransform agree on consistent FFT axes (`implementations_agree` in
  `Lemmas/ZoomNExp.lean`: the same with the naive sum, for `Complex.exp`).
-/
set_option linter.unusedSectionVars false

namespace HcipyVerif.Fft
open Finset

section chirp
variable {K C : Type} [Field K] [Field C]

/-- `zoomAxis` runs the Bluestein pipeline with exactly the parameters `zoomChirp` of its axis
(what the driver op `C01 zoomchirp` prints) -/
theorem zoomAxis_chirp (n m nfft : ℕ) (E : K → C) (x0 δ u0 Δ : K) (f : ℕ → C) (k : ℕ) :
    zoomAxis n m nfft E x0 δ u0 Δ f k
      = cztBluestein n m nfft E (zoomChirp δ u0 Δ).1 (zoomChirp δ u0 Δ).2 f k
          * E (-((u0 + (k : K) * Δ) * x0)) := rfl

/-- `zoomAxisInv` runs it with `zoomChirpInv` and the conjugate character -/
theorem zoomAxisInv_chirp (n m nfftInv : ℕ) (E : K → C) (x0 δ u0 Δ : K) (F : ℕ → C) (j : ℕ) :
    zoomAxisInv E n m nfftInv x0 δ u0 Δ F j
      = cztBluestein m n nfftInv (fun r => E (-r)) (zoomChirpInv x0 δ Δ).1 (zoomChirpInv x0 δ Δ).2 F j
          * E (-(-((x0 + (j : K) * δ) * u0))) := rfl

end chirp

section loopN
variable {K C : Type} [Field K] [Field C] {E : K → C}

/-- `zoomAxis … f k` only reads `f i` for `i < n` (the zero padding `fft(x * Awk2, nfft)`). -/
theorem zoomAxis_congr (n m nfft : ℕ) (x0 δ u0 Δ : K) (f f' : ℕ → C)
    (hff : ∀ i, i < n → f i = f' i) (k : ℕ) :
    zoomAxis n m nfft E x0 δ u0 Δ f k = zoomAxis n m nfft E x0 δ u0 Δ f' k := by
  unfold zoomAxis cztBluestein circConv
  congr 3
  funext r
  congr 1
  unfold padEnd
  by_cases hr : r < n
  · rw [if_pos hr, if_pos hr]
    show f r * _ = f' r * _
    rw [hff r hr]
  · rw [if_neg hr, if_neg hr]

theorem zoomLoopN_axiswise :
    Axiswise (fun a : ZAx K => zoomAxis a.n a.m a.nfft E a.x0 a.δ a.u0 a.Δ) (zoomLoopN E) :=
  ⟨fun _ => rfl, fun _ _ _ _ _ => rfl⟩

theorem zoomLoopInvN_axiswise :
    Axiswise (fun a : ZAx K => zoomAxisInv E a.n a.m a.nfftInv a.x0 a.δ a.u0 a.Δ)
      (zoomLoopInvN E) :=
  ⟨fun _ => rfl, fun _ _ _ _ _ => rfl⟩

/-- the `n`-D sum with the kernel `E(-(u·x))` is the 1-D `zoomSum` along every axis -/
theorem zoomSumN_axiswise (hE : IsChar E) :
    Axiswise (fun a : ZAx K => zoomSum a.n E a.x0 a.δ a.u0 a.Δ)
      (fun axs g ks => sumOverN (axs.map fun a => a.n) fun js => g js * E (-(dotUX axs ks js))) where
  nil g := by simp [sumOverN, dotUX, hE.zero]
  cons a as g k ks := by
    simp only [zoomSum, List.map_cons, sumOverN]
    congr 1
    funext i
    rw [← sumOverN_mul_right]
    congr 1
    funext idx
    simp only [dotUX]
    rw [mul_assoc, ← hE.add]
    congr 2
    ring

/-- the same for the kernel `E(+(u·x))`, summed over the output grid -/
theorem zoomSumInvN_axiswise (hE : IsChar E) :
    Axiswise (fun (a : ZAx K) F j =>
        ∑ k ∈ range a.m, F k * E ((a.u0 + (k : K) * a.Δ) * (a.x0 + (j : K) * a.δ)))
      (fun axs G js => sumOverN (axs.map fun a => a.m) fun ks => G ks * E (dotUX axs ks js)) where
  nil G := by simp [sumOverN, dotUX, hE.zero]
  cons a as G j js := by
    simp only [List.map_cons, sumOverN, sumRange_eq]
    refine Finset.sum_congr rfl fun k _ => ?_
    rw [← sumOverN_mul_right]
    congr 1
    funext idx
    simp only [dotUX]
    rw [mul_assoc, ← hE.add]
    congr 2
    ring

/-- **`ZoomFastFourierTransform.forward` on `n` axes, including the input weights**:
`(field * input_weights)` through the axis loop (`czt(f) * shift` on every axis) evaluates
`Σ_js f(js)·w(js)·exp(-i·u_ks·x_js)`, `u_ks·x_js = Σ_i (u0_i + k_i·Δ_i)(x0_i + j_i·δ_i)`, for every
list of axes, every `nfft_i ≥ n_i + m_i - 1` and every in-range output index list. -/
theorem zoomN_eq_sumN (hE : IsChar E) (h2 : (2 : K) ≠ 0) (axs : List (ZAx K))
    (haxs : ∀ a ∈ axs, 0 < a.n ∧ a.n + a.m - 1 ≤ a.nfft)
    (w f : List ℕ → C) (ks : List ℕ) (hks : List.Forall₂ (fun k a => k < a.m) ks axs) :
    zoomForwardN E axs w f ks = zoomSumForwardN E axs w f ks :=
  zoomLoopN_axiswise.congr (zoomSumN_axiswise hE) (·.m)
    (fun a ha f k hk => zoom_axis_eq_sum hE h2 a.n a.m a.nfft (haxs a ha).1 (haxs a ha).2 a.x0 a.δ
      a.u0 a.Δ f k hk) _ hks

/-- **`ZoomFastFourierTransform.backward` on `n` axes, including the output weights**:
`(field * output_weights)` through the inverse loop evaluates
`Σ_ks F(ks)·wOut(ks)·exp(+i·u_ks·x_js)` (`wOut = output_grid.weights/(2π)^n`). -/
theorem zoomN_backward_eq_sumN (hE : IsChar E) (h2 : (2 : K) ≠ 0) (axs : List (ZAx K))
    (haxs : ∀ a ∈ axs, 0 < a.m ∧ a.m + a.n - 1 ≤ a.nfftInv)
    (wOut F : List ℕ → C) (js : List ℕ) (hjs : List.Forall₂ (fun j a => j < a.n) js axs) :
    zoomBackwardN E axs wOut F js = zoomSumBackwardN E axs wOut F js :=
  zoomLoopInvN_axiswise.congr (zoomSumInvN_axiswise hE) (·.n)
    (fun a ha F j hj => zoom_axis_backward_eq_sum hE h2 a.m a.n a.nfftInv (haxs a ha).1
      (haxs a ha).2 a.x0 a.δ a.u0 a.Δ F j hj) _ hjs

/-- The axis loop of `forward` **as the code runs it**: on axis `i` the Bluestein pipeline is run
with the representatives `(ω'_i, α'_i)` that numpy's powers `w**(k²/2)`, `a**(-k)` actually use
(second and third component of the list entries), not with the model's `-(Δδ)`, `u0·δ`. -/
def zoomLoopBranchN (E : K → C) : List (ZAx K × K × K) → (List ℕ → C) → List ℕ → C
  | [], f, _ => f []
  | (a, ω', α') :: as, f, k :: ks =>
      cztBluestein a.n a.m a.nfft E ω' α'
          (fun i => zoomLoopBranchN E as (fun idx => f (i :: idx)) ks) k
        * E (-((a.u0 + (k : K) * a.Δ) * a.x0))
  | _ :: _, _, [] => 0

theorem zoomLoopBranchN_axiswise :
    Axiswise (fun (p : ZAx K × K × K) f k => cztBluestein p.1.n p.1.m p.1.nfft E p.2.1 p.2.2 f k
      * E (-((p.1.u0 + (k : K) * p.1.Δ) * p.1.x0))) (zoomLoopBranchN E) :=
  ⟨fun _ => rfl, fun _ _ _ _ _ => rfl⟩

end loopN

/-- satisfiability of the hypothesis bundles of `zoomN_eq_sumN` / `zoomN_backward_eq_sumN`:
two axes `(n, m, nfft, nfftInv) = (2, 3, 4, 4)` and `(3, 2, 5, 4)` -/
example : ∃ (axs : List (ZAx ℝ)) (ks js : List ℕ),
    (∀ a ∈ axs, 0 < a.n ∧ a.n + a.m - 1 ≤ a.nfft) ∧
    (∀ a ∈ axs, 0 < a.m ∧ a.m + a.n - 1 ≤ a.nfftInv) ∧
    List.Forall₂ (fun k a => k < a.m) ks axs ∧ List.Forall₂ (fun j a => j < a.n) js axs :=
  ⟨[⟨2, 3, 4, 4, 0, 1, 0, 1⟩, ⟨3, 2, 5, 4, -1, 1 / 2, 0, 1⟩], [2, 1], [1, 2],
    List.forall_mem_cons.mpr ⟨by decide, List.forall_mem_cons.mpr ⟨by decide, nofun⟩⟩,
    List.forall_mem_cons.mpr ⟨by decide, List.forall_mem_cons.mpr ⟨by decide, nofun⟩⟩,
    List.Forall₂.cons (by norm_num) (List.Forall₂.cons (by norm_num) List.Forall₂.nil),
    List.Forall₂.cons (by norm_num) (List.Forall₂.cons (by norm_num) List.Forall₂.nil)⟩

section agree
variable {K C : Type} [Field K] [Field C] {T E : K → C}

/-- **MatrixFourierTransform (1-D) = ZoomFastFourierTransform (one axis)** on arbitrary regular
grids `x_i = x0 + i·δ` (`n` samples), `u_k = u0 + k·Δ` (`m` samples), for both weight branches
(`w.get` is the broadcast weights array) and every `nfft ≥ n + m - 1`. -/
theorem mft_eq_zoom (hE : IsChar E) (h2 : (2 : K) ≠ 0) (n m nfft : ℕ) (hn : 0 < n)
    (hnfft : n + m - 1 ≤ nfft) (x0 δ u0 Δ : K) (w : Weights C) (f : ℕ → C) (k : ℕ) (hk : k < m) :
    mftForward1 E n (fun i => x0 + (i : K) * δ) (fun k => u0 + (k : K) * Δ) w f k
      = zoomAxis n m nfft E x0 δ u0 Δ (fun j => f j * w.get j) k := by
  rw [mft_forward_eq_sum_1d, zoom_axis_eq_sum hE h2 n m nfft hn hnfft x0 δ u0 Δ _ k hk]
  simp only [zoomSum, sumRange_eq]

/-- **FastFourierTransform = MatrixFourierTransform (1-D)** on a consistent FFT axis.  `τ` is the
number with `T t = E (τ·t)` (`τ = 2π`); the output coordinates are `u_k = τ·a_k + s`. -/
theorem fft_eq_mft (hT : IsChar T) (hE : IsChar E) (hper : ∀ n : ℤ, T (n : K) = 1) (τ : K)
    (hTE : ∀ t, T t = E (τ * t)) (g : Cfg K C) (hN : g.N ≤ g.M) (hMo : g.Mo ≤ g.M)
    (hcons : g.dT * (g.M : K) * g.δ = 1) (f : ℕ → C) (k : ℕ) (hk : k < g.Mo) :
    fastForward T E g f k
      = mftForward1 E g.N g.x (fun k => τ * g.a k + g.s) (.scalar g.w) f k := by
  rw [fastForward_eq_sumForward hT hE hper g hN hMo hcons f k hk, mft_forward_eq_sum_1d]
  simp only [sumForward, sumRange_eq, Weights.get]
  apply Finset.sum_congr rfl
  intro j _
  rw [hTE, ← hE.add]
  congr 2
  ring

theorem Cfg.u_regular (g : Cfg K C) (τ : K) (k : ℕ) :
    τ * g.a k + g.s = (τ * g.a 0 + g.s) + (k : K) * (τ * g.dT) := by
  unfold Cfg.a
  rw [Nat.cast_zero]
  ring

/-- **FastFourierTransform = ZoomFastFourierTransform (one axis)** on a consistent FFT axis: the
zoom axis on the input grid `(z, δ)` and the FFT's own output grid (zero `u_0 = τ·a_0 + s`, spacing
`τ·dT`), applied to `field * weights`, for every `nfft ≥ N + Mo - 1`. -/
theorem fft_eq_zoom (hT : IsChar T) (hE : IsChar E) (hper : ∀ n : ℤ, T (n : K) = 1) (τ : K)
    (hTE : ∀ t, T t = E (τ * t)) (h2 : (2 : K) ≠ 0) (g : Cfg K C) (hN0 : 0 < g.N) (hN : g.N ≤ g.M)
    (hMo : g.Mo ≤ g.M) (hcons : g.dT * (g.M : K) * g.δ = 1) (nfft : ℕ)
    (hnfft : g.N + g.Mo - 1 ≤ nfft) (f : ℕ → C) (k : ℕ) (hk : k < g.Mo) :
    fastForward T E g f k
      = zoomAxis g.N g.Mo nfft E g.z g.δ (τ * g.a 0 + g.s) (τ * g.dT) (fun j => f j * g.w) k := by
  have hu : (fun k => τ * g.a k + g.s) = fun k : ℕ => (τ * g.a 0 + g.s) + (k : K) * (τ * g.dT) :=
    funext fun k => g.u_regular τ k
  rw [fft_eq_mft hT hE hper τ hTE g hN hMo hcons f k hk, hu]
  exact mft_eq_zoom hE h2 g.N g.Mo nfft hN0 hnfft g.z g.δ (τ * g.a 0 + g.s) (τ * g.dT) (.scalar g.w)
    f k hk

end agree

section agreeN
variable {K C : Type} [Field K] [Field C] {T E : K → C}

/-- a flat C-ordered `(·, Nx)` array as a function of the index list `[iy, ix]` -/
def flat2 (Nx : ℕ) (f : ℕ → C) (l : List ℕ) : C := f (l.getD 0 0 * Nx + l.getD 1 0)

theorem flat2_pair (Nx : ℕ) (f : ℕ → C) (iy ix : ℕ) : flat2 Nx f [iy, ix] = f (iy * Nx + ix) := rfl

/-- the zoom axis that belongs to an FFT axis: same input grid `(z, δ)`, the FFT's own output grid
(zero `τ·a_0 + s`, spacing `τ·dT`, `τ = 2π`), CZT lengths `nf g` (forward and inverse) -/
def Cfg.toZAx (τ : K) (nf : Cfg K C → ℕ) (g : Cfg K C) : ZAx K :=
  ⟨g.N, g.Mo, nf g, nf g, g.z, g.δ, τ * g.a 0 + g.s, τ * g.dT⟩

theorem phaseN_eq (hE : IsChar E) (τ : K) (hTE : ∀ t, T t = E (τ * t)) (nf : Cfg K C → ℕ)
    (gs : List (Cfg K C)) (ks : List ℕ) (hks : List.Forall₂ (fun k g => k < g.Mo) ks gs)
    (js : List ℕ) :
    T (-(dotA gs ks js)) * E (-(dotS gs js)) = E (-(dotUX (gs.map (Cfg.toZAx τ nf)) ks js)) := by
  rw [hTE, ← hE.add]
  congr 1
  induction gs generalizing ks js with
  | nil => cases ks <;> cases js <;> simp [dotA, dotS, dotUX]
  | cons g gs ih =>
    cases hks with
    | cons hk hks' =>
      rename_i k ks'
      cases js with
      | nil => simp [dotA, dotS, dotUX]
      | cons j js' =>
        have := ih ks' hks' js'
        simp only [dotA, dotS, dotUX, List.map_cons, Cfg.toZAx] at this ⊢
        unfold Cfg.a Cfg.x
        rw [Nat.cast_zero]
        linear_combination this

/-- **FastFourierTransform = ZoomFastFourierTransform on `n` axes** (both iterated over the axes):
on consistent FFT axes the FFT pipeline and the zoom loop on the same grids, fed with
`field * weights` (`weights = Π w_i`), give the same output samples. -/
theorem fftN_eq_zoomN (hT : IsChar T) (hE : IsChar E) (hper : ∀ n : ℤ, T (n : K) = 1) (τ : K)
    (hTE : ∀ t, T t = E (τ * t)) (h2 : (2 : K) ≠ 0) (nf : Cfg K C → ℕ) (gs : List (Cfg K C))
    (hgs : ∀ g ∈ gs, 0 < g.N ∧ g.N ≤ g.M ∧ g.Mo ≤ g.M ∧ g.dT * (g.M : K) * g.δ = 1 ∧
      g.N + g.Mo - 1 ≤ nf g)
    (f : List ℕ → C) (ks : List ℕ) (hks : List.Forall₂ (fun k g => k < g.Mo) ks gs) :
    fastForwardN T E gs f ks
      = zoomForwardN E (gs.map (Cfg.toZAx τ nf)) (fun _ => weightN gs) f ks := by
  rw [fastForwardN_eq_sumForwardN hT hE hper gs
      (fun g hg => ⟨(hgs g hg).2.1, (hgs g hg).2.2.1, (hgs g hg).2.2.2.1⟩) f ks hks,
    zoomN_eq_sumN hE h2 (gs.map (Cfg.toZAx τ nf))
      (List.forall_mem_map.2 fun g hg => ⟨(hgs g hg).1, (hgs g hg).2.2.2.2⟩) _ f ks
      (List.forall₂_map_right_iff.mpr hks)]
  unfold sumForwardN zoomSumForwardN
  rw [List.map_map]
  congr 1
  funext js
  rw [phaseN_eq hE τ hTE nf gs ks hks js]

end agreeN

/-- satisfiability of the hypothesis bundle of `fftN_eq_zoomN`:
two copies of the axis `N = 2, M = 4, Mo = 3, δ = dT = 1/2`, `nfft = 4` -/
example : ∃ (nf : Cfg ℝ ℂ → ℕ) (gs : List (Cfg ℝ ℂ)) (ks : List ℕ),
    (∀ g ∈ gs, 0 < g.N ∧ g.N ≤ g.M ∧ g.Mo ≤ g.M ∧ g.dT * (g.M : ℝ) * g.δ = 1 ∧
      g.N + g.Mo - 1 ≤ nf g) ∧ List.Forall₂ (fun k g => k < g.Mo) ks gs :=
  ⟨fun _ => 4,
    [{ N := 2, M := 4, Mo := 3, δ := 1 / 2, z := 0, dT := 1 / 2, s := 0, w := 1, emu := false },
     { N := 2, M := 4, Mo := 3, δ := 1 / 2, z := 0, dT := 1 / 2, s := 0, w := 1, emu := false }],
    [2, 0], by
      intro g hg
      simp only [List.mem_cons, List.not_mem_nil, or_false, or_self] at hg
      subst hg
      norm_num,
    List.Forall₂.cons (by norm_num) (List.Forall₂.cons (by norm_num) List.Forall₂.nil)⟩

end HcipyVerif.Fft
