import HcipyVerif.Model.Zernike
import Mathlib.Algebra.Order.Field.Rat
import Mathlib.Algebra.BigOperators.Intervals
import Mathlib.Data.Nat.Factorial.Basic
import Mathlib.Tactic.Ring
import Mathlib.Tactic.LinearCombination

/-! Lemmas about `Model/Zernike.lean` over `ℚ`: `peval` is a homomorphism, the symbolic and the pointwise radial
recursion agree, the unrepaired recurrence, `cisPow`, scaling and rotation of the coordinates,
the cache invariant of the per-point model. -/

namespace HcipyVerif.Zernike
open Finset

@[simp] theorem peval_nil (x : Rat) : peval [] x = 0 := rfl
@[simp] theorem peval_cons (a : Rat) (p : Poly) (x : Rat) : peval (a :: p) x = a + x * peval p x := rfl

theorem peval_padd (p q : Poly) (x : Rat) : peval (padd p q) x = peval p x + peval q x := by
  fun_induction padd p q with
  | case1 q => simp
  | case2 p _ => simp
  | case3 a p b q ih => simp only [peval_cons, ih]; ring

theorem peval_pscale (c : Rat) (p : Poly) (x : Rat) : peval (pscale c p) x = c * peval p x := by
  induction p with
  | nil => simp [pscale]
  | cons a p ih =>
    have : pscale c (a :: p) = (c * a) :: pscale c p := rfl
    rw [this, peval_cons, peval_cons, ih]; ring

theorem peval_pshift (k : Nat) (p : Poly) (x : Rat) : peval (pshift k p) x = x ^ k * peval p x := by
  induction k with
  | zero => simp [pshift]
  | succ k ih =>
    have : pshift (k + 1) p = 0 :: pshift k p := by simp [pshift, List.replicate_succ]
    rw [this, peval_cons, ih]; ring

theorem peval_pspread (p : Poly) (x : Rat) : peval (pspread p) x = peval p (x * x) := by
  fun_induction pspread p with
  | case1 => rfl
  | case2 a => simp
  | case3 a p _ ih => simp only [peval_cons, ih]; ring

theorem peval_pmul (p q : Poly) (x : Rat) : peval (pmul p q) x = peval p x * peval q x := by
  induction p with
  | nil => simp [pmul]
  | cons a p ih => simp only [pmul, peval_padd, peval_pscale, peval_pshift, ih, peval_cons]; ring

theorem peval_monomial (n : Nat) (x : Rat) : peval (monomial n) x = x ^ n := by
  unfold monomial; rw [peval_pshift]; simp

theorem peval_reducedPoly (n : Nat) (t : Rat) (k : Nat) : peval (reducedPoly n k) t = reducedEval n t k := by
  fun_induction reducedPoly n k with
  | case1 => simp [reducedEval]
  | case2 => simp [reducedEval]; ring
  | case3 k q p a b => simp only [reducedEval, peval_padd, peval_pscale, peval_pshift, a, b, q, p]; ring

theorem peval_radialPoly (n m : Nat) (r : Rat) : peval (radialPoly n m) r = radialEval n m r := by
  unfold radialPoly radialEval
  rw [peval_pshift, peval_pspread, peval_reducedPoly]

theorem eval_foldr_padd {A : Type} [AddCommMonoid A] (E : Poly → A) (h0 : E [] = 0)
    (hadd : ∀ p q, E (padd p q) = E p + E q) (f : Nat → Poly) (K : Nat) :
    E ((List.range K).foldr (fun k acc => padd (f k) acc) []) = ∑ k ∈ range K, E (f k) := by
  show _ = ((List.range K).map fun k => E (f k)).sum
  induction List.range K with
  | nil => exact h0
  | cons a l ih => rw [List.foldr_cons, hadd, ih, List.map_cons, List.sum_cons]

theorem peval_radialDef (n m : Nat) (r : Rat) :
    peval (radialDef n m) r = ∑ k ∈ range ((n - m) / 2 + 1), defCoeff n m k * r ^ (n - 2 * k) := by
  unfold radialDef
  rw [eval_foldr_padd (peval · r) rfl fun p q => peval_padd p q r]
  simp only [peval_pscale, peval_monomial]

theorem radialEvalOld_eq (n : Nat) (r : Rat) (hr : r ≠ 0) :
    ∀ k, 2 * k ≤ n → radialEvalOld n r k = some (r ^ (n - 2 * k) * reducedEval n (r * r) k)
  | 0, _ => by simp [radialEvalOld, reducedEval]
  | 1, h => by
    simp only [radialEvalOld, reducedEval, Option.some.injEq]
    have : r ^ n = r ^ (n - 2) * (r * r) := by
      rw [← pow_two, ← pow_add]; congr 1; omega
    rw [this]; ring
  | k + 2, h => by
    have a := radialEvalOld_eq n r hr k (by omega)
    have b := radialEvalOld_eq n r hr (k + 1) (by omega)
    have hr2 : r ^ 2 ≠ 0 := pow_ne_zero 2 hr
    simp only [radialEvalOld, a, b, reducedEval, if_neg hr2, Option.some.injEq]
    have e1 : r ^ (n - 2 * k) = r ^ (n - 2 * (k + 2)) * r ^ 4 := by
      rw [← pow_add]; congr 1; omega
    have e2 : r ^ (n - 2 * (k + 1)) = r ^ (n - 2 * (k + 2)) * r ^ 2 := by
      rw [← pow_add]; congr 1; omega
    rw [e1, e2]
    -- the one division of the unrepaired recurrence
    linear_combination r ^ (n - 2 * (k + 2)) * reducedEval n (r * r) (k + 1) * div_mul_cancel₀ (h3 n ((n - 2 * k : Nat) : Rat)) hr2

theorem cisPow_scale {K : Type} [CommRing K] (ρ c s : K) :
    ∀ k, cisPow (ρ * c) (ρ * s) k = (ρ ^ k * (cisPow c s k).1, ρ ^ k * (cisPow c s k).2)
  | 0 => by simp [cisPow]
  | k + 1 => by
    have ih := cisPow_scale ρ c s k
    simp only [cisPow, ih, Prod.mk.injEq]
    constructor <;> ring

theorem azimQ_scale {K : Type} [CommRing K] (m : Int) (ρ c s : K) :
    azimQ m (ρ * c) (ρ * s) = ρ ^ m.natAbs * azimQ m c s := by
  unfold azimQ
  rw [cisPow_scale]
  split
  next h => rw [h, Int.natAbs_zero, pow_zero, mul_one]
  next => split <;> rfl

theorem modeQXY_eq (n : Nat) (m : Int) (D x y : Rat) :
    modeQXY n m D x y = reducedEval n (2 * x / D * (2 * x / D) + 2 * y / D * (2 * y / D)) ((n - m.natAbs) / 2) *
      azimQ m (2 * x / D) (2 * y / D) := rfl

theorem cisPow_normSq (c s : Rat) : ∀ k, (cisPow c s k).1 ^ 2 + (cisPow c s k).2 ^ 2 = (c ^ 2 + s ^ 2) ^ k
  | 0 => by simp [cisPow]
  | k + 1 => by
    have ih := cisPow_normSq c s k
    simp only [cisPow]
    have e : (c ^ 2 + s ^ 2) ^ (k + 1) = (c ^ 2 + s ^ 2) ^ k * (c ^ 2 + s ^ 2) := pow_succ _ _
    rw [e, ← ih]; ring

theorem norm_coord_scale (x D k : Rat) (hk : k ≠ 0) : 2 * (k * x) / (k * D) = 2 * x / D := by
  rw [show 2 * (k * x) = k * (2 * x) by ring]
  exact mul_div_mul_left _ _ hk

theorem rot_norm (c s x y : Rat) (hcs : c * c + s * s = 1) :
    (c * x - s * y) * (c * x - s * y) + (s * x + c * y) * (s * x + c * y) = x * x + y * y := by
  linear_combination (x * x + y * y) * hcs

theorem rot_norm_scaled (c s x y D : Rat) (hcs : c * c + s * s = 1) :
    2 * (c * x - s * y) / D * (2 * (c * x - s * y) / D) + 2 * (s * x + c * y) / D * (2 * (s * x + c * y) / D)
      = 2 * x / D * (2 * x / D) + 2 * y / D * (2 * y / D) := by
  linear_combination (4 / (D * D)) * rot_norm c s x y hcs

/-- what a correct cache entry holds at the point `(ρ, cs, sn)`, `ρ = 2r/D` -/
def plainVal (ρ cs sn : Rat) : Key → Rat
  | .rad n m => radialEval n m ρ
  | .red n k => reducedEval n (ρ * ρ) k
  | .azim m => azimQ m cs sn

/-- every entry of the cache is the value a fresh evaluation would give -/
def CacheValid (ρ cs sn : Rat) (c : Cache) : Prop := ∀ k v, c.get k = some v → v = plainVal ρ cs sn k

theorem cacheValid_nil (ρ cs sn : Rat) : CacheValid ρ cs sn [] := by
  intro k v h; simp [Cache.get] at h

theorem find?_put {V : Type} (c : List (Key × V)) (k k' : Key) (v : V) :
    (((k, v) :: c.filter fun p => !(p.1 == k)).find? fun p => p.1 == k').map (·.2) =
      if k' = k then some v else (c.find? fun p => p.1 == k').map (·.2) := by
  by_cases h : k' = k
  · subst h; simp
  · have hne : (k == k') = false := by simp [Ne.symm h]
    simp only [List.find?_cons, hne, if_neg h, List.find?_filter]
    congr 2
    funext a
    by_cases ha : a.1 = k' <;> simp [ha, h]

theorem Cache.get_put (c : Cache) (k k' : Key) (v : Rat) :
    (c.put k v).get k' = if k' = k then some v else c.get k' := find?_put c k k' v

theorem CacheValid.put {ρ cs sn : Rat} {c : Cache} (h : CacheValid ρ cs sn c) (k : Key) (v : Rat)
    (hv : v = plainVal ρ cs sn k) : CacheValid ρ cs sn (c.put k v) := by
  intro k' v' hg
  rw [Cache.get_put] at hg
  split at hg
  · rename_i e; subst e; injection hg with hg; rw [← hg, hv]
  · exact h k' v' hg

theorem memoReduced_spec (n : Nat) (ρ cs sn : Rat) :
    ∀ k c, CacheValid ρ cs sn c →
      (memoReduced n (ρ * ρ) k c).1 = reducedEval n (ρ * ρ) k ∧ CacheValid ρ cs sn (memoReduced n (ρ * ρ) k c).2
  | 0, c, h | 1, c, h => by
    unfold memoReduced
    split
    next v hv => exact ⟨h _ _ hv, h⟩
    · exact ⟨rfl, h.put _ _ rfl⟩
  | k + 2, c, h => by
    unfold memoReduced
    split
    next v hv => exact ⟨h _ _ hv, h⟩
    · obtain ⟨a1, a2⟩ := memoReduced_spec n ρ cs sn k c h
      obtain ⟨b1, b2⟩ := memoReduced_spec n ρ cs sn (k + 1) _ a2
      simp only
      rw [a1, b1]
      exact ⟨rfl, b2.put _ _ rfl⟩

theorem memoRadial_spec (n m : Nat) (ρ cs sn : Rat) (c : Cache) (h : CacheValid ρ cs sn c) :
    (memoRadial n m ρ c).1 = radialEval n m ρ ∧ CacheValid ρ cs sn (memoRadial n m ρ c).2 := by
  unfold memoRadial
  split
  next v hv => exact ⟨h _ _ hv, h⟩
  · obtain ⟨a1, a2⟩ := memoReduced_spec n ρ cs sn ((n - m) / 2) c h
    simp only
    rw [a1]
    exact ⟨rfl, a2.put _ _ rfl⟩

theorem memoAzim_spec (m : Int) (ρ cs sn : Rat) (c : Cache) (h : CacheValid ρ cs sn c) :
    (memoAzim m cs sn c).1 = azimQ m cs sn ∧ CacheValid ρ cs sn (memoAzim m cs sn c).2 := by
  unfold memoAzim
  split
  next h0 => exact ⟨by rw [h0]; rfl, h⟩
  · split
    next v hv => exact ⟨h _ _ hv, h⟩
    · exact ⟨rfl, h.put _ _ rfl⟩

theorem memoMode_spec (D r cs sn : Rat) (q : Req) (c : Cache) (h : CacheValid (2 * r / D) cs sn c) :
    (memoMode D r cs sn q c).1 = modeQCut q.n q.m D r cs sn q.cutoff ∧
      CacheValid (2 * r / D) cs sn (memoMode D r cs sn q c).2 := by
  obtain ⟨a1, a2⟩ := memoRadial_spec q.n q.m.natAbs (2 * r / D) cs sn c h
  obtain ⟨b1, b2⟩ := memoAzim_spec q.m (2 * r / D) cs sn _ a2
  unfold memoMode modeQCut modeQ
  simp only
  exact ⟨by rw [a1, b1], b2⟩

theorem runMemo_spec (D r cs sn : Rat) : ∀ (reqs : List Req) (c : Cache), CacheValid (2 * r / D) cs sn c →
    runMemo D r cs sn reqs c = reqs.map fun q => modeQCut q.n q.m D r cs sn q.cutoff
  | [], _, _ => rfl
  | q :: qs, c, h => by
    obtain ⟨a, b⟩ := memoMode_spec D r cs sn q c h
    simp only [runMemo, List.map_cons]
    rw [a, runMemo_spec D r cs sn qs _ b]

theorem mem_pairs (N n m : Nat) : (n, m) ∈ pairs N ↔ n ≤ N ∧ m ≤ n ∧ (n - m) % 2 = 0 := by
  unfold pairs
  simp only [List.mem_flatMap, List.mem_range, List.mem_map, List.mem_filter, Prod.mk.injEq, beq_iff_eq]
  constructor
  · rintro ⟨a, ha, b, ⟨hb, hpar⟩, rfl, rfl⟩; exact ⟨by omega, by omega, hpar⟩
  · rintro ⟨h1, h2, h3⟩; exact ⟨n, by omega, m, ⟨by omega, h3⟩, rfl, rfl⟩

theorem fact_eq_factorial : ∀ n, fact n = n.factorial
  | 0 => rfl
  | n + 1 => by rw [fact, fact_eq_factorial n, Nat.factorial_succ]

end HcipyVerif.Zernike
