import HcipyVerif.Model.FieldRef

/-! The reference model `Model/FieldRef.lean` (core Lean only): cells and windows when a buffer is appended or
written; what variables read after a fresh binding, a cell write, `+=`; what a successful `step` did (`*_spec`). -/
namespace HcipyVerif.FieldRef

theorem lookup_cons_self (k : Nat) (o : Obj) (t : List (Nat × Obj)) :
    lookup ((k, o) :: t) k = some o := by simp [lookup]

theorem lookup_cons_ne (k : Nat) (o : Obj) (t : List (Nat × Obj)) (x : Nat) (h : k ≠ x) :
    lookup ((k, o) :: t) x = lookup t x := by simp [lookup, h]

theorem allSome_eq_some {α : Type} (l : List (Option α)) (v : List α) (h : allSome l = some v) : l = v.map some := by
  fun_induction allSome l generalizing v with
  | case1 => cases h; rfl
  | case2 => cases h
  | case3 a t r hr ih => cases h; exact congrArg (some a :: ·) (ih r hr)
  | case4 a t hn ih => cases h

theorem allSome_map_some {α : Type} (v : List α) : allSome (v.map some) = some v := by
  induction v with
  | nil => rfl
  | cons a t ih => simp [allSome, ih]

theorem cell_some_lt {bufs : List (List Int)} {b p : Nat} {w : Int}
    (h : cell bufs b p = some w) : b < bufs.length := by
  unfold cell at h
  split at h
  · rename_i l hl
    obtain ⟨hb, _⟩ := List.getElem?_eq_some_iff.mp hl
    exact hb
  · cases h

theorem cell_append_lt (bufs : List (List Int)) (l : List Int) (b p : Nat) (hb : b < bufs.length) :
    cell (bufs ++ [l]) b p = cell bufs b p := by
  simp [cell, List.getElem?_append_left hb]

theorem cell_append_new (bufs : List (List Int)) (l : List Int) (p : Nat) :
    cell (bufs ++ [l]) bufs.length p = l[p]? := by
  simp [cell]

theorem values_eq_some {bufs : List (List Int)} {o : Obj} {w : List Int} :
    values bufs o = some w ↔ o.idx.map (cell bufs o.buf) = w.map some :=
  ⟨allSome_eq_some _ w, fun h => (congrArg allSome h).trans (allSome_map_some w)⟩

theorem values_buf_lt {bufs : List (List Int)} {o : Obj} {w : List Int} (h : values bufs o = some w)
    {p : Nat} (hp : p ∈ o.idx) : o.buf < bufs.length := by
  obtain ⟨a, _, ha⟩ := List.mem_map.mp (values_eq_some.mp h ▸ List.mem_map_of_mem hp)
  exact cell_some_lt ha.symm

theorem values_append_of_some {bufs : List (List Int)} {o : Obj} {w : List Int} (l : List Int)
    (h : values bufs o = some w) : values (bufs ++ [l]) o = some w :=
  .trans (congrArg allSome (List.map_congr_left fun q hq => cell_append_lt bufs l o.buf q (values_buf_lt h hq))) h

theorem values_fresh (bufs : List (List Int)) (vals : List Int) (g : Option Nat) :
    values (bufs ++ [vals]) ⟨bufs.length, List.range vals.length, g⟩ = some vals := by
  refine values_eq_some.mpr (List.ext_getElem? fun i => ?_)
  by_cases hi : i < vals.length
  · simp [hi, cell_append_new]
  · simp [hi]

theorem cell_setCell (bufs : List (List Int)) (b p : Nat) (v : Int) (b' p' : Nat) {w : Int}
    (h : cell bufs b p = some w) :
    cell (setCell bufs b p v) b' p' = if b' = b ∧ p' = p then some v else cell bufs b' p' := by
  unfold cell at h
  split at h
  · rename_i l hl
    obtain ⟨hb, hbl⟩ := List.getElem?_eq_some_iff.mp hl
    obtain ⟨hp, _⟩ := List.getElem?_eq_some_iff.mp h
    simp only [setCell, hl]
    by_cases hb' : b' = b
    · subst hb'
      by_cases hp' : p' = p
      · subst hp'
        simp [cell, hb, hp]
      · have : ¬ p = p' := fun e => hp' e.symm
        simp [cell, hb, hp', hbl, this]
    · have : ¬ b = b' := fun e => hb' e.symm
      simp [cell, hb', this]
  · cases h

theorem length_setCell (bufs : List (List Int)) (b p : Nat) (v : Int) :
    (setCell bufs b p v).length = bufs.length := by
  unfold setCell; split <;> simp

theorem cell_addCells (bufs : List (List Int)) (b : Nat) (idx : List Nat) (v : Int) (b' p' : Nat) :
    cell (addCells bufs b idx v) b' p'
      = if b' = b ∧ p' ∈ idx then (cell bufs b' p').map (· + v) else cell bufs b' p' := by
  unfold addCells
  split
  · rename_i l hl
    obtain ⟨hb, hbl⟩ := List.getElem?_eq_some_iff.mp hl
    by_cases hb' : b' = b
    · subst hb'
      by_cases hm : p' ∈ idx
      · simp [cell, hb, hbl, hm, List.getElem?_mapIdx]
      · simp only [cell, List.getElem?_set_self hb, hl, hm, and_false, if_false,
          List.getElem?_mapIdx]
        cases l[p']? <;> simp
    · have : ¬ b = b' := fun e => hb' e.symm
      simp [cell, hb', this]
  · rename_i hn
    by_cases hb' : b' = b
    · subst hb'; simp [cell, hn]
    · simp [hb']

theorem readVar_of_lookup {s : State} {x : Nat} {o : Obj} (h : lookup s.vars x = some o) :
    readVar s x = values s.bufs o := by
  rw [readVar, h]

theorem readVar_fresh_self (s : State) (y : Nat) (vals : List Int) (g : Option Nat) :
    readVar (fresh s y vals g) y = some vals := by
  simp only [readVar, fresh, lookup_cons_self]
  exact values_fresh _ _ _

theorem lookup_fresh_self (s : State) (y : Nat) (vals : List Int) (g : Option Nat) :
    lookup (fresh s y vals g).vars y = some ⟨s.bufs.length, List.range vals.length, g⟩ :=
  lookup_cons_self _ _ _

theorem lookup_fresh_ne (s : State) (y : Nat) (vals : List Int) (g : Option Nat) (z : Nat)
    (h : y ≠ z) : lookup (fresh s y vals g).vars z = lookup s.vars z :=
  lookup_cons_ne _ _ _ _ h

theorem fresh_frame (s : State) (y : Nat) (vals : List Int) (g : Option Nat) (z : Nat) (hz : y ≠ z) :
    lookup (fresh s y vals g).vars z = lookup s.vars z ∧
      ∀ w, readVar s z = some w → readVar (fresh s y vals g) z = some w := by
  refine ⟨lookup_fresh_ne s y vals g z hz, fun w hr => ?_⟩
  unfold readVar at hr ⊢
  rw [lookup_fresh_ne s y vals g z hz]
  split at hr
  · exact values_append_of_some vals hr
  · cases hr

theorem readVar_fresh_of_reads (s : State) (y : Nat) (g : Option Nat) {x : Nat} {vals : List Int}
    (hr : readVar s x = some vals) : readVar (fresh s y vals g) x = some vals := by
  by_cases hyx : y = x
  · rw [← hyx]; exact readVar_fresh_self s y vals g
  · exact (fresh_frame s y vals g x hyx).2 vals hr

section writes
variable {s : State} {b p : Nat} {idx : List Nat} {v w : Int} {y : Nat} {oy : Obj}

theorem readVarAt_setCell (h : cell s.bufs b p = some w) (hy : lookup s.vars y = some oy) (j : Nat) :
    readVarAt (withBufs s (setCell s.bufs b p v)) y j
      = if oy.buf = b ∧ oy.idx[j]? = some p then some v else readVarAt s y j := by
  simp only [readVarAt, withBufs, hy, readAt]
  cases hq : oy.idx[j]? with
  | none => simp
  | some q => simp only [cell_setCell s.bufs b p v oy.buf q h, Option.some.injEq]

theorem readVarAt_addCells (hy : lookup s.vars y = some oy) (j : Nat) :
    readVarAt (withBufs s (addCells s.bufs b idx v)) y j
      = if oy.buf = b ∧ (∀ q, oy.idx[j]? = some q → q ∈ idx) then (readVarAt s y j).map (· + v)
        else readVarAt s y j := by
  simp only [readVarAt, withBufs, hy, readAt]
  cases hq : oy.idx[j]? with
  | none => simp
  | some q => simp [cell_addCells]

/-- a variable reads its own buffer only: under buffers that agree with the old ones there, it reads what it read -/
theorem reads_congr {bufs' : List (List Int)} (hy : lookup s.vars y = some oy)
    (hc : ∀ q, cell bufs' oy.buf q = cell s.bufs oy.buf q) :
    readVar (withBufs s bufs') y = readVar s y ∧ ∀ j, readVarAt (withBufs s bufs') y j = readVarAt s y j := by
  have hf : cell bufs' oy.buf = cell s.bufs oy.buf := funext hc
  exact ⟨by simp only [readVar, withBufs, hy, values, read, hf], fun j => by simp only [readVarAt, withBufs, hy, readAt, hc]⟩

end writes

theorem sliceIdx_getElem? {idx idx' : List Nat} {start stp len : Nat}
    (h : sliceIdx idx start stp len = some idx') {k : Nat} (hk : k < len) :
    idx'[k]? = idx[start + k * stp]? := by
  have hi := congrArg (·[k]?) (allSome_eq_some _ _ h)
  simp only [List.getElem?_map, List.getElem?_range hk, Option.map_some] at hi
  obtain ⟨a, ha, hc⟩ := Option.map_eq_some_iff.mp hi.symm
  rw [ha, hc]

theorem write_spec {sty : Sty} {s s' : State} {x i : Nat} {v : Int}
    (h : step sty (.write x i v) s = some s') :
    ∃ ox p w, lookup s.vars x = some ox ∧ ox.idx[i]? = some p ∧ cell s.bufs ox.buf p = some w ∧
      s' = withBufs s (setCell s.bufs ox.buf p v) := by
  simp only [step] at h
  split at h
  · rename_i ox hx
    split at h
    · rename_i p hp
      split at h
      · rename_i w hw
        cases h
        exact ⟨ox, p, w, hx, hp, hw, rfl⟩
      · cases h
    · cases h
  · cases h

section specs
variable {sty : Sty} {s s' : State} {x y : Nat}

theorem copyOf_spec {o : Obj} {g : Option Nat} (h : copyOf s y o g = some s') (hx : lookup s.vars x = some o) :
    ∃ vals, readVar s x = some vals ∧ s' = fresh s y vals g := by
  unfold copyOf at h
  split at h
  · rename_i vals hv
    exact ⟨vals, (readVar_of_lookup hx).trans hv, by cases h; rfl⟩
  · cases h

theorem iadd_spec {v : Int} (h : step sty (.iadd x v) s = some s') :
    ∃ ox, lookup s.vars x = some ox ∧ s' = withBufs s (addCells s.bufs ox.buf ox.idx v) := by
  rw [step] at h
  split at h
  · rename_i ox hx
    split at h
    · cases h
      exact ⟨ox, hx, rfl⟩
    · cases h
  · cases h

theorem copy_spec (h : step sty (.copy y x) s = some s') :
    ∃ ox vals, lookup s.vars x = some ox ∧ readVar s x = some vals ∧ s' = fresh s y vals ox.grid := by
  rw [step] at h
  split at h
  · rename_i ox hx
    obtain ⟨vals, hv⟩ := copyOf_spec h hx
    exact ⟨ox, vals, hx, hv⟩
  · cases h

theorem pickle_spec (h : step sty (.pickle y x) s = some s') :
    ∃ ox vals, lookup s.vars x = some ox ∧ readVar s x = some vals ∧
      match ox.grid with
      | some g => ∃ c, s.grids[g]? = some c ∧ s' = fresh (addGrid s c) y vals (some s.grids.length)
      | none => s' = fresh s y vals none := by
  rw [step] at h
  split at h
  · rename_i ox hx
    refine ⟨ox, ?_⟩
    split at h
    · rename_i g hg
      rw [hg]
      split at h
      · rename_i c hc
        obtain ⟨vals, hv, rfl⟩ := copyOf_spec h hx
        exact ⟨vals, hx, hv, c, hc, rfl⟩
      · cases h
    · rename_i hg
      rw [hg]
      obtain ⟨vals, hv⟩ := copyOf_spec h hx
      exact ⟨vals, hx, hv⟩
  · cases h

theorem slice_spec {start stp len : Nat} (h : step good (.slice y x start stp len) s = some s') :
    ∃ ox idx', lookup s.vars x = some ox ∧ sliceIdx ox.idx start stp len = some idx' ∧
      s' = bind s y ⟨ox.buf, idx', ox.grid⟩ := by
  rw [step] at h
  split at h
  · rename_i ox hx
    split at h
    · cases h
    · split at h
      · rename_i idx' hi
        cases h
        exact ⟨ox, idx', hx, hi, rfl⟩
      · cases h
  · cases h

theorem array_spec (h : step good (.array y x) s = some s') :
    ∃ ox vals, lookup s.vars x = some ox ∧ readVar s x = some vals ∧ s' = fresh s y vals none := by
  rw [step] at h
  split at h
  · rename_i ox hx
    obtain ⟨vals, hv⟩ := copyOf_spec h hx
    exact ⟨ox, vals, hx, hv⟩
  · cases h

theorem run_two {a b : Op} {s2 : State} (h : run sty [a, b] s = .ok s2) :
    ∃ s1, step sty a s = some s1 ∧ step sty b s1 = some s2 := by
  simp only [run, runFrom] at h
  split at h
  · rename_i s1 h1
    split at h
    · rename_i s2' h2
      cases h
      exact ⟨s1, h1, h2⟩
    · cases h
  · cases h

end specs

end HcipyVerif.FieldRef
