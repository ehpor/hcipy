import HcipyVerif.Model.CacheDecorator
import HcipyVerif.Lemmas.Dict
import HcipyVerif.Lemmas.OptionRules

/-!
Helper lemmas for the model of `make_agnostic_optical_element`'s cache (`Model/CacheDecorator.lean`).

`Good e k v`: the element `v` stored under key `k` was constructed for what `k` says — for an
`('input', a)` key from input grid `a`, for an `('output', b)` key from *some* input grid whose
element has output grid `b`, always for the wavelength of the key.  `DSound`: every entry is `Good`.
-/

namespace HcipyVerif.Cache.Deco

def Good (e : DElem) (k : DKey) (v : DInst) : Prop :=
  v.w = k.w ∧
  match k.grid with
  | none => v.i = none
  | some (Side.input, a) => v.i = some a
  | some (Side.output, b) => ∃ a, v.i = some a ∧ e.outOf a k.w = b

def DSound (e : DElem) (s : DSt) : Prop := ∀ p ∈ s.cache, Good e p.1 p.2

theorem dsound_init (e : DElem) : DSound e DSt.init := by
  intro p hp; cases hp

theorem good_dassign {e : DElem} {c : List (DKey × DInst)} {k : DKey} {v : DInst}
    (hc : ∀ p ∈ c, Good e p.1 p.2) (hkv : Good e k v) : ∀ p ∈ dassign c k v, Good e p.1 p.2 :=
  fun p hp => (Dict.mem_assign hp).elim (hc p) (· ▸ hkv)

/-- Both outcomes of the eviction: what is left was there before; it fails only if the dict holds fewer
than the two entries to pop when its length is `2 * num_in_cache`. -/
theorem devict_spec (e : DElem) (c : List (DKey × DInst)) :
    Yields (devict e c) (fun c' => ∀ p ∈ c', p ∈ c) (fun _ => c.length = 2 * e.num ∧ c.length < 2) := by
  unfold devict
  split
  · rename_i hlen
    match c, hlen with
    | _ :: _ :: rest, _ => exact .ok fun p hp => List.mem_cons_of_mem _ (List.mem_cons_of_mem _ hp)
    | [_], hlen => exact .error ⟨hlen, Nat.lt_succ_self 1⟩
    | [], hlen => exact .error ⟨hlen, Nat.zero_lt_two⟩
  · exact .ok fun _ hp => hp

/-- With `num_in_cache ≥ 1` the two `popitem` calls never meet an empty dict. -/
theorem devict_ok {e : DElem} (hnum : 1 ≤ e.num) (c : List (DKey × DInst)) :
    ∃ c', devict e c = .ok c' := by
  cases h : devict e c with
  | ok c' => exact ⟨c', rfl⟩
  | error err =>
    obtain ⟨h1, h2⟩ := (devict_spec e c).2 err h
    omega

theorem devict_init {e : DElem} (hnum : 1 ≤ e.num) : devict e [] = .ok [] := by
  unfold devict
  rw [if_neg]
  simp; omega

theorem dreqKey_eq_some {e : DElem} {i o : Option GridId} {w : Option WlKey} {k : DKey} :
    dreqKey e i o w = some k →
    k = { grid := if e.gridDep then
                    (match i, o with
                     | some a, _ => some (Side.input, a)
                     | none, some b => some (Side.output, b)
                     | none, none => none)
                  else none,
          w := if e.wlDep then w else none } := by
  intro h
  unfold dreqKey at h
  by_cases h1 : (e.gridDep && (i.isNone == o.isNone)) = true
  · rw [if_pos h1] at h; cases h
  · by_cases h2 : (e.wlDep && w.isNone) = true
    · rw [if_neg h1, if_pos h2] at h; cases h
    · rw [if_neg h1, if_neg h2] at h
      exact (Option.some.inj h).symm

theorem good_forward_iff {e : DElem} {i : Option GridId} {w : Option WlKey} {k : DKey} {v : DInst}
    (hk : dreqKey e i none w = some k) :
    Good e k v ↔ v.w = (if e.wlDep then w else none) ∧ v.i = (if e.gridDep then i else none) := by
  -- the key is `('input', a)` for a grid dependent class and has no grid part otherwise
  cases dreqKey_eq_some hk
  unfold Good
  cases hg : e.gridDep with
  | false => exact Iff.rfl
  | true =>
    cases i with
    | none => simp [dreqKey, hg] at hk
    | some a => exact Iff.rfl

theorem getInstance_cases {e : DElem} {s s' : DSt} {i o : Option GridId} {w : Option WlKey}
    {v : DInst} (h : getInstance e s i o w = .ok (s', v)) :
    ∃ k, dreqKey e i o w = some k ∧
      ((s' = s ∧ dlookup s.cache k = some v) ∨
       (o = none ∧ v = newInst e i w s.next ∧ ∃ c, devict e s.cache = .ok c ∧
          (s'.cache = dassign c k v ∨
           ∃ a, e.gridDep = true ∧ i = some a ∧
             s'.cache = dassign (dassign c k v) ⟨some (.output, e.outOf a v.w), v.w⟩ v))) := by
  unfold getInstance at h
  split at h
  · cases h
  · rename_i k hk
    refine ⟨k, hk, ?_⟩
    split at h
    · rename_i v' hl
      cases h
      exact .inl ⟨rfl, hl⟩
    · split at h
      · cases h
      · rename_i ho
        split at h
        · cases h
        · rename_i c hev
          cases h
          refine .inr ⟨Option.not_isSome_iff_eq_none.1 ho, rfl, c, hev, ?_⟩
          split
          · rename_i a hg
            exact .inr ⟨a, hg, rfl, rfl⟩
          · exact .inl rfl

theorem getInstance_sound {e : DElem} {s s' : DSt} {i o : Option GridId} {w : Option WlKey}
    {v : DInst} (hs : DSound e s) (h : getInstance e s i o w = .ok (s', v)) :
    DSound e s' ∧ ∃ k, dreqKey e i o w = some k ∧ Good e k v := by
  obtain ⟨k, hk, ⟨rfl, hl⟩ | ⟨rfl, rfl, c, hev, hs'⟩⟩ := getInstance_cases h
  · exact ⟨hs, k, hk, hs _ (Dict.lookup_mem hl)⟩
  · have hgood : Good e k (newInst e i w s.next) := (good_forward_iff hk).2 ⟨rfl, rfl⟩
    have h1 := good_dassign (fun p hp => hs p ((devict_spec e _).1 c hev p hp)) hgood
    refine ⟨fun p hp => ?_, k, hk, hgood⟩
    rcases hs' with hs' | ⟨a, hg, rfl, hs'⟩
    · exact h1 p (hs' ▸ hp)
    · -- the element built on grid `a` has output grid `outOf a`
      exact good_dassign h1 (And.intro rfl (Exists.intro a ⟨if_pos hg, rfl⟩)) p (hs' ▸ hp)

/-- A request that names no output grid fails only as incomplete (`num_in_cache ≥ 1`). -/
theorem getInstance_forward_error {e : DElem} (hnum : 1 ≤ e.num) {s : DSt} {i : Option GridId}
    {w : Option WlKey} {err : DErr} (h : getInstance e s i none w = .error err) :
    err = .value ∧ dreqKey e i none w = none := by
  unfold getInstance at h
  split at h
  · cases h
    exact ⟨rfl, ‹_›⟩
  · split at h
    · cases h
    · obtain ⟨c, hc⟩ := devict_ok hnum s.cache
      simp only [hc] at h
      cases h

/-- One call at the level of `dstep`: `getInstance` fails and the state stays, or it returns and what the element
was built from is the answer. -/
@[elab_as_elim]
theorem dstep_elim {e : DElem} {s : DSt} {op : DOp} {motive : DSt × DResp → Prop}
    (error : ∀ err, getInstance e s op.i op.o op.w = .error err → motive (s, .error err))
    (ok : ∀ s' v, getInstance e s op.i op.o op.w = .ok (s', v) → motive (s', .inst v.i v.w)) :
    motive (dstep e s op) := by
  unfold dstep
  cases h : getInstance e s op.i op.o op.w with
  | error err => exact error err h
  | ok r => exact ok r.1 r.2 h

theorem dstep_sound {e : DElem} {s : DSt} (hs : DSound e s) (op : DOp) : DSound e (dstep e s op).1 :=
  dstep_elim (fun _ _ => hs) fun _ _ h => (getInstance_sound hs h).1

theorem forward_answer {e : DElem} (hnum : 1 ≤ e.num) {s : DSt} (hs : DSound e s)
    (i : Option GridId) (w : Option WlKey) :
    (dstep e s ⟨i, none, w⟩).2 =
      (match dreqKey e i none w with
       | none => DResp.error .value
       | some _ => DResp.inst (if e.gridDep then i else none) (if e.wlDep then w else none)) := by
  refine dstep_elim (op := ⟨i, none, w⟩) (fun err h => ?_) fun s' v h => ?_
  · obtain ⟨rfl, hk⟩ := getInstance_forward_error hnum h
    rw [hk]
  · obtain ⟨_, k, hk, hg⟩ := getInstance_sound hs h
    obtain ⟨hw, hi⟩ := (good_forward_iff hk).1 hg
    rw [hk, hi, hw]

end HcipyVerif.Cache.Deco
