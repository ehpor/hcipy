import Mathlib.Analysis.InnerProductSpace.Orthonormal

/-!
`projectOut` is the operator of the perfect coronagraph for an orthonormal family in an inner-product space.
-/
namespace HcipyVerif.Coronagraph

variable {𝕜 E ι : Type*} [RCLike 𝕜] [NormedAddCommGroup E] [InnerProductSpace 𝕜 E] [Fintype ι]

/-- `E ↦ E − T T⁺ E` when the columns `v i` of `T` are orthonormal (`T⁺ = Tᴴ`). -/
noncomputable def projectOut (v : ι → E) (x : E) : E := x - ∑ i, inner 𝕜 (v i) x • v i

theorem inner_projectOut {v : ι → E} (hv : Orthonormal 𝕜 v) (x : E) (j : ι) :
    inner 𝕜 (v j) (projectOut (𝕜 := 𝕜) v x) = 0 := by
  unfold projectOut
  rw [inner_sub_right, hv.inner_right_fintype, sub_self]

/-! Pure mathematics, a specification no driver runs; the executed counterparts are `perfect_*`, `gs_orthogonal`,
`perfect_eq_orthogonal_projector` and `perfectMat_*`. -/

theorem orthonormal_nulls_span {v : ι → E} (hv : Orthonormal 𝕜 v) (x : E)
    (hx : x ∈ Submodule.span 𝕜 (Set.range v)) : projectOut (𝕜 := 𝕜) v x = 0 := by
  obtain ⟨c, rfl⟩ := (Submodule.mem_span_range_iff_exists_fun 𝕜).1 hx
  unfold projectOut
  simp only [hv.inner_right_fintype, sub_self]

theorem orthonormal_idempotent {v : ι → E} (hv : Orthonormal 𝕜 v) (x : E) :
    projectOut (𝕜 := 𝕜) v (projectOut (𝕜 := 𝕜) v x) = projectOut (𝕜 := 𝕜) v x := by
  have h : ∀ i, inner 𝕜 (v i) (projectOut (𝕜 := 𝕜) v x) = 0 := inner_projectOut hv x
  generalize projectOut (𝕜 := 𝕜) v x = r at h ⊢
  unfold projectOut
  simp only [h, zero_smul, Finset.sum_const_zero, sub_zero]

theorem orthonormal_power_le {v : ι → E} (hv : Orthonormal 𝕜 v) (x : E) :
    ‖projectOut (𝕜 := 𝕜) v x‖ ≤ ‖x‖ := by
  -- Pythagoras: `x = y + r` with `y = Σ ⟪v i, x⟫ v i` orthogonal to the residual `r`
  have horth : inner 𝕜 (∑ i, inner 𝕜 (v i) x • v i) (projectOut (𝕜 := 𝕜) v x) = 0 := by
    rw [sum_inner]
    exact Finset.sum_eq_zero fun i _ => by rw [inner_smul_left, inner_projectOut hv, mul_zero]
  have hp := norm_add_sq_eq_norm_sq_add_norm_sq_of_inner_eq_zero _ _ horth
  rw [show (∑ i, inner 𝕜 (v i) x • v i) + projectOut (𝕜 := 𝕜) v x = x from add_sub_cancel _ _] at hp
  exact (mul_self_le_mul_self_iff (norm_nonneg _) (norm_nonneg _)).2
    (hp ▸ le_add_of_nonneg_left (mul_self_nonneg _))

end HcipyVerif.Coronagraph
