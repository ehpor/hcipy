import HcipyVerif.Model.DetectorOld
import HcipyVerif.Lemmas.Detector

/-! Counterexamples on the models of the unrepaired tree (D15, D29, D170) and of a detector that aliases.
Documentation, **not evidence**: these are not property theorems, nothing here is executed by the driver. -/

namespace HcipyVerif.Detector.Old

/-- D15: on the unrepaired tree a read-out with nothing integrated fails. -/
theorem Old_readOut_fails_when_empty (g : Geom) :
    ∃ o, (runOld g ({} : St Rat) [.readOut]).2 = [o] ∧ (match o with | .failed => True | _ => False) :=
  ⟨.failed, rfl, trivial⟩

/-- D29: on the unrepaired tree a detector of 1 pixel with subsampling 2 (one axis) returns a
2-pixel image. -/
theorem Old_integrate_ignores_subsampling :
    images (runOld (Geom.uniform [1] 2) ({} : St Rat) [.integrate [1, 2] 1 1, .readOut]).2
      = [[1, 2]] ∧
    images (run (Geom.uniform [1] 2) ({} : St Rat) [.integrate [1, 2] 1 1, .readOut]).2
      = [[3]] := by
  decide +kernel

/-- Old (D170, documentation): on the unrepaired subsampling-1 path a Field on a foreign grid makes the image live
on that foreign grid — the label model can express the defect -/
theorem Old_image_on_foreign_grid :
    tRunWith relabelOld {} [.integrate .onForeign, .integrate .onInput, .readOut, .readOut] = [.foreign, .detector] ∧
    tRunWith relabel {} [.integrate .onForeign, .integrate .onInput, .readOut, .readOut] = [.detector, .detector] := by
  decide

/-- **Bad** (in-place accumulation into the caller's buffer, read-out without copy): the array the caller passed
in changes without the caller writing to it, and the image handed out *is* that array — on the same history the
model of the real code leaves the buffer alone and hands out a new array.  (`caller_arrays_untouched` is
therefore not true of every step function.) -/
theorem Bad_detector_aliases :
    let g : Geom := Geom.uniform [2] 1
    let ops : List (ROp Rat) := [.alloc [1, 2], .integrate 0 2 1, .readOut]
    (rRunBad g {} ops).1.at 0 = [2, 4] ∧ (rRunBad g {} ops).2 = [.ref 0, .done, .ref 0] ∧
    (rRun g {} ops).1.at 0 = [1, 2] ∧ (rRun g {} ops).2 = [.ref 0, .done, .ref 2] := by
  decide +kernel

end HcipyVerif.Detector.Old
