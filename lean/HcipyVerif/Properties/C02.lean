import HcipyVerif.Lemmas.FftPipeline
import HcipyVerif.Lemmas.FourierC02
import HcipyVerif.Lemmas.FourierC02N
import HcipyVerif.Lemmas.FourierC02Exp
import HcipyVerif.Lemmas.FilterM
import HcipyVerif.Lemmas.ZoomN
import HcipyVerif.Lemmas.Nft

/-!
# C02 — Fourier forward/backward are inverse, adjoint and energy-consistent

Inverse, Parseval and the energy bound are about `fastForward` / `fastBackward`
(`Model/FftIndex.lean`: the FastFourierTransform pipeline, both `emulate_fftshifts` settings; on
one, two and `n` axes) and about the defining sums every other implementation evaluates (C01).
They are obtained from the C01 theorem "pipeline = defining sum" and the sum-level results of
`Lemmas/FourierC02.lean` (root-of-unity orthogonality by a geometric sum).  Adjointness is proved
for every code model: FFT, MFT, NFT and ZoomFFT are each `adjoint_of_kernel_sums` at the kernel
sums C01 gives for the forward and the backward call; the matrix-valued FourierFilter
(`Lemmas/FilterM.lean`) is a product of operators and has its own argument.
`expT t = exp(2πi·t)`, `expE r = exp(i·r)`.

Hypotheses: `N ≤ M`, `Mo ≤ M`; grid consistency `dT·M·δ = 1` (`Δ·M·δ = 2π`); the weights
`w` (input, real) and `wo = Δ/(2π)` (output, real) with `wo·M·w = 1`, which for hcipy's regular
grids is the same equation as the consistency.  "Full grid" means `Mo = M` (fov = 1).
-/
set_option linter.unusedVariables false

namespace HcipyVerif.C02
open HcipyVerif.Fft Finset
open scoped ComplexConjugate

theorem sumBackward_congr {K : Type} [Field K] {T E : K → ℂ} (g : Cfg K ℂ) (wOut : ℂ)
    (F G : ℕ → ℂ) (h : ∀ k < g.Mo, F k = G k) (j : ℕ) :
    sumBackward T E g wOut F j = sumBackward T E g wOut G j :=
  Fft.sumBackward_congr g wOut F G h j

/-- Inverse, Parseval and the energy bound for the defining sums themselves, i.e. for *every*
implementation that evaluates them on an FFT grid pair (MFT, NFT, Zoom — C01), abstract characters. -/
theorem sums_full_grid_inverse {K : Type} [Field K] {T E : K → ℂ} (g : Cfg K ℂ) (wOut : ℂ)
    (hT : IsChar T) (hE : IsChar E) (hper : ∀ n : ℤ, T (n : K) = 1)
    (hprim : ∀ d : ℤ, T ((d : K) / (g.M : K)) = 1 → (g.M : ℤ) ∣ d)
    (hMo : g.Mo = g.M) (hN : g.N ≤ g.M) (hcons : g.dT * (g.M : K) * g.δ = 1)
    (hw : wOut * (g.M : ℂ) * g.w = 1) (f : ℕ → ℂ) (j : ℕ) (hj : j < g.N) :
    sumBackward T E g wOut (sumForward T E g f) j = f j :=
  full_grid_inverse_sum g wOut hT hE hper hprim hMo hN hcons hw f j hj

theorem sums_parseval_full {K : Type} [Field K] {T E : K → ℂ} (g : Cfg K ℂ) (wr wo : ℝ)
    (hT : IsChar T) (hE : IsChar E) (hper : ∀ n : ℤ, T (n : K) = 1)
    (hprim : ∀ d : ℤ, T ((d : K) / (g.M : K)) = 1 → (g.M : ℤ) ∣ d)
    (hMo : g.Mo = g.M) (hN : g.N ≤ g.M) (hcons : g.dT * (g.M : K) * g.δ = 1)
    (hgw : g.w = (wr : ℂ)) (hw : (wo : ℂ) * (g.M : ℂ) * g.w = 1)
    (hTc : ∀ a, conj (T a) = T (-a)) (hEc : ∀ a, conj (E a) = E (-a)) (f : ℕ → ℂ) :
    ∑ k ∈ range g.M, Complex.normSq (sumForward T E g f k) * wo
      = ∑ j ∈ range g.N, Complex.normSq (f j) * wr := by
  -- adjointness at `y = F f`, whose backward transform is `f` itself
  have h := adjoint_of_kernel_sums (range g.N) (range g.M)
    (fun k j => T (-(g.a k * g.x j)) * E (-(g.s * g.x j))) (fun _ => (wr : ℂ)) (fun _ => (wo : ℂ))
    (fun _ => Complex.conj_ofReal wo) f (sumForward T E g f) (sumForward T E g f) f
    (fun k _ => by rw [sumForward, sumRange_eq, hgw]) (fun j hj => by
      rw [← full_grid_inverse_sum g (wo : ℂ) hT hE hper hprim hMo hN hcons hw f j (mem_range.mp hj),
        sumBackward, sumRange_eq, hMo]
      simp only [map_mul, hTc, hEc, neg_neg])
  apply Complex.ofReal_injective
  simpa only [Complex.ofReal_sum, Complex.ofReal_mul, Complex.normSq_eq_conj_mul_self] using h

theorem sums_cropped_energy_le {K : Type} [Field K] {T E : K → ℂ} (g : Cfg K ℂ) (wr wo : ℝ)
    (hT : IsChar T) (hE : IsChar E) (hper : ∀ n : ℤ, T (n : K) = 1)
    (hprim : ∀ d : ℤ, T ((d : K) / (g.M : K)) = 1 → (g.M : ℤ) ∣ d)
    (hMo : g.Mo ≤ g.M) (hN : g.N ≤ g.M) (hcons : g.dT * (g.M : K) * g.δ = 1)
    (hgw : g.w = (wr : ℂ)) (hw : (wo : ℂ) * (g.M : ℂ) * g.w = 1) (hwo : 0 ≤ wo)
    (hTc : ∀ a, conj (T a) = T (-a)) (hEc : ∀ a, conj (E a) = E (-a)) (f : ℕ → ℂ) :
    ∑ k ∈ range g.Mo, Complex.normSq (sumForward T E g f k) * wo
      ≤ ∑ j ∈ range g.N, Complex.normSq (f j) * wr := by
  have hP : ∑ k ∈ range g.M, Complex.normSq (sumForward T E g.full f k) * wo
      = ∑ j ∈ range g.N, Complex.normSq (f j) * wr :=
    sums_parseval_full g.full wr wo hT hE hper hprim rfl hN hcons hgw hw hTc hEc f
  -- the cropped grid is a window of the full grid
  rw [← hP, range_eq_Ico]
  simp only [sumForward_crop_shift g hMo f]
  rw [Finset.sum_Ico_add' (fun i => Complex.normSq (sumForward T E g.full f i) * wo)]
  refine Finset.sum_le_sum_of_subset_of_nonneg (fun i hi => ?_)
    fun i _ _ => mul_nonneg (Complex.normSq_nonneg _) hwo
  have := Finset.mem_Ico.mp hi
  exact Finset.mem_range.mpr (by omega)

/-- **FastFourierTransform: backward is the adjoint of forward** in the weighted inner products
of the two grids, for every `N ≤ M`, `Mo ≤ M` (cropped or not), both shift settings. -/
theorem fast_adjoint (g : Cfg ℝ ℂ) (wr wo : ℝ) (hN : g.N ≤ g.M) (hMo : g.Mo ≤ g.M)
    (hcons : g.dT * (g.M : ℝ) * g.δ = 1) (hgw : g.w = (wr : ℂ))
    (hw : (wo : ℂ) * (g.M : ℂ) * g.w = 1) (x y : ℕ → ℂ) :
    ∑ k ∈ range g.Mo, conj (y k) * fastForward expT expE g x k * (wo : ℂ)
      = ∑ j ∈ range g.N, conj (fastBackward expT expE g y j) * x j * g.w := by
  refine adjoint_of_kernel_sums (range g.N) (range g.Mo)
    (fun k j => expT (-(g.a k * g.x j)) * expE (-(g.s * g.x j))) (fun _ => g.w) (fun _ => (wo : ℂ))
    (fun _ => Complex.conj_ofReal wo) x y _ _ (fun k hk => ?_) (fun j hj => ?_)
  · rw [fastForward_eq_sumForward expT_isChar expE_isChar expT_period g hN hMo hcons x k
      (mem_range.mp hk), sumForward, sumRange_eq]
  · rw [fastBackward_eq_sumBackward expT_isChar expE_isChar expT_period g hN hMo hcons (wo : ℂ) hw
      y j (mem_range.mp hj), sumBackward, sumRange_eq]
    simp only [map_mul, expT_conj, expE_conj, neg_neg]

/-- **Full FFT grid pair: backward(forward(f)) = f.** -/
theorem full_grid_inverse (g : Cfg ℝ ℂ) (wOut : ℂ) (hMo : g.Mo = g.M) (hN : g.N ≤ g.M)
    (hcons : g.dT * (g.M : ℝ) * g.δ = 1) (hw : wOut * (g.M : ℂ) * g.w = 1)
    (f : ℕ → ℂ) (j : ℕ) (hj : j < g.N) :
    fastBackward expT expE g (fastForward expT expE g f) j = f j :=
  fastBackward_fastForward g wOut hMo hN hcons hw f j hj

/-- **Full FFT grid pair: Parseval**, `Σ_k |F_k|²·Δ/(2π) = Σ_j |f_j|²·δ`. -/
theorem parseval_full (g : Cfg ℝ ℂ) (wr wo : ℝ) (hMo : g.Mo = g.M) (hN : g.N ≤ g.M)
    (hcons : g.dT * (g.M : ℝ) * g.δ = 1) (hgw : g.w = (wr : ℂ))
    (hw : (wo : ℂ) * (g.M : ℂ) * g.w = 1) (f : ℕ → ℂ) :
    ∑ k ∈ range g.M, Complex.normSq (fastForward expT expE g f k) * wo
      = ∑ j ∈ range g.N, Complex.normSq (f j) * wr := by
  rw [← sums_parseval_full g wr wo expT_isChar expE_isChar expT_period
    (expT_prim g.M (natCast_M_ne_zero g hcons)) hMo hN hcons hgw hw expT_conj expE_conj f]
  exact Finset.sum_congr rfl fun k hk => by
    rw [fastForward_eq_sumForward expT_isChar expE_isChar expT_period g hN hMo.le hcons f k
      (hMo ▸ mem_range.mp hk)]

/-- **Cropped FFT grid: the output energy never exceeds the input energy.** -/
theorem cropped_energy_le (g : Cfg ℝ ℂ) (wr wo : ℝ) (hMo : g.Mo ≤ g.M) (hN : g.N ≤ g.M)
    (hcons : g.dT * (g.M : ℝ) * g.δ = 1) (hgw : g.w = (wr : ℂ))
    (hw : (wo : ℂ) * (g.M : ℂ) * g.w = 1) (hwo : 0 ≤ wo) (f : ℕ → ℂ) :
    ∑ k ∈ range g.Mo, Complex.normSq (fastForward expT expE g f k) * wo
      ≤ ∑ j ∈ range g.N, Complex.normSq (f j) * wr := by
  rw [Finset.sum_congr rfl fun k hk => by
    rw [fastForward_eq_sumForward expT_isChar expE_isChar expT_period g hN hMo hcons f k
      (mem_range.mp hk)]]
  exact sums_cropped_energy_le g wr wo expT_isChar expE_isChar expT_period
    (expT_prim g.M (natCast_M_ne_zero g hcons)) hMo hN hcons hgw hw hwo expT_conj expE_conj f

/-- Non-vacuity: a consistent full pair with matching weights exists
(N = 2, M = Mo = 4, δ = w = 1/2, dT = wo = 1/2). -/
example : ∃ (g : Cfg ℝ ℂ) (wr wo : ℝ), g.Mo = g.M ∧ g.N ≤ g.M ∧ g.dT * (g.M : ℝ) * g.δ = 1 ∧
    g.w = (wr : ℂ) ∧ (wo : ℂ) * (g.M : ℂ) * g.w = 1 ∧ 0 ≤ wo :=
  ⟨{ N := 2, M := 4, Mo := 4, δ := 1 / 2, z := 0, dT := 1 / 2, s := 0, w := ((1 / 2 : ℝ) : ℂ), emu := true },
    1 / 2, 1 / 2, rfl, by norm_num, by norm_num, rfl, by push_cast; norm_num, by norm_num⟩

/-! ## Two axes: the literal 2-D pipelines `fastForward2` / `fastBackward2`

Inverse and the energy bound come from the 1-D theorems above by separability
(`fastForward2_eq_iter`, `fastBackward2_eq_iter`): 1-D pipelines on different axes commute
(`FinLin.comm`) and energy bounds compose (`energy_le_comp`, Lemmas/FourierC02N.lean).  Adjointness
comes from the 2-D defining sums of C01, Parseval from adjointness and the inverse. -/

theorem fastForward2_iter (gy gx : Cfg ℝ ℂ) (hemu : gy.emu = gx.emu) (f : ℕ → ℕ → ℂ) (ky kx : ℕ) :
    fastForward2 expT expE gy gx f ky kx
      = fastForward expT expE gy (fun iy => fastForward expT expE gx (f iy) kx) ky :=
  fastForward2_eq_iter expT_isChar expE_isChar gy gx hemu f ky kx

theorem fastBackward2_iter (gy gx : Cfg ℝ ℂ) (hemu : gy.emu = gx.emu) (F : ℕ → ℕ → ℂ) (jy jx : ℕ) :
    fastBackward2 expT expE gy gx F jy jx
      = fastBackward expT expE gy (fun ky => fastBackward expT expE gx (F ky) jx) jy :=
  fastBackward2_eq_iter expT_isChar expE_isChar gy gx hemu F jy jx

theorem fastBackward_fastForward_comm (gx gy : Cfg ℝ ℂ) (X : ℕ → ℕ → ℂ) (jx ky : ℕ) :
    fastBackward expT expE gx (fun kx => fastForward expT expE gy (fun iy => X kx iy) ky) jx
      = fastForward expT expE gy (fun iy => fastBackward expT expE gx (fun kx => X kx iy) jx) ky :=
  FinLin.comm (fastBackward_finLin gx jx) (fastForward_finLin gy ky) X

theorem fastBackward_fastBackward_comm (gx gy : Cfg ℝ ℂ) (X : ℕ → ℕ → ℂ) (jx jy : ℕ) :
    fastBackward expT expE gx (fun kx => fastBackward expT expE gy (fun ky => X kx ky) jy) jx
      = fastBackward expT expE gy (fun ky => fastBackward expT expE gx (fun kx => X kx ky) jx) jy :=
  FinLin.comm (fastBackward_finLin gx jx) (fastBackward_finLin gy jy) X

/-- **2-D FastFourierTransform: backward is the adjoint of forward** in the weighted inner
products of the two 2-D grids (weights `woy·wox` and `gy.w·gx.w`), cropped or not, both shift
settings. -/
theorem fast_adjoint_2d (gy gx : Cfg ℝ ℂ) (wry woy wrx wox : ℝ) (hemu : gy.emu = gx.emu)
    (hNy : gy.N ≤ gy.M) (hMoy : gy.Mo ≤ gy.M) (hcy : gy.dT * (gy.M : ℝ) * gy.δ = 1)
    (hgwy : gy.w = (wry : ℂ)) (hwy : (woy : ℂ) * (gy.M : ℂ) * gy.w = 1)
    (hNx : gx.N ≤ gx.M) (hMox : gx.Mo ≤ gx.M) (hcx : gx.dT * (gx.M : ℝ) * gx.δ = 1)
    (hgwx : gx.w = (wrx : ℂ)) (hwx : (wox : ℂ) * (gx.M : ℂ) * gx.w = 1) (x y : ℕ → ℕ → ℂ) :
    ∑ ky ∈ range gy.Mo, ∑ kx ∈ range gx.Mo,
        conj (y ky kx) * fastForward2 expT expE gy gx x ky kx * ((woy : ℂ) * (wox : ℂ))
      = ∑ jy ∈ range gy.N, ∑ jx ∈ range gx.N,
        conj (fastBackward2 expT expE gy gx y jy jx) * x jy jx * (gy.w * gx.w) := by
  rw [← Finset.sum_product', ← Finset.sum_product']
  refine adjoint_of_kernel_sums (range gy.N ×ˢ range gx.N) (range gy.Mo ×ˢ range gx.Mo)
    (fun k j => expT (-(gx.a k.2 * gx.x j.2 + gy.a k.1 * gy.x j.1))
      * expE (-(gx.s * gx.x j.2 + gy.s * gy.x j.1)))
    (fun _ => gy.w * gx.w) (fun _ => (woy : ℂ) * (wox : ℂ))
    (fun _ => by rw [map_mul, Complex.conj_ofReal, Complex.conj_ofReal])
    (fun j => x j.1 j.2) (fun k => y k.1 k.2) _ _ (fun k hk => ?_) (fun j hj => ?_)
  · rw [fastForward2_eq_sum expT_isChar expE_isChar expT_period gy gx hemu hNy hMoy hcy hNx hMox hcx
      x k.1 k.2 (mem_range.mp (Finset.mem_product.mp hk).1)
      (mem_range.mp (Finset.mem_product.mp hk).2), Finset.sum_product]
  · rw [fastBackward2_eq_sum expT_isChar expE_isChar expT_period gy gx hemu hNy hMoy hcy hNx hMox
      hcx (woy : ℂ) (wox : ℂ) hwy hwx y j.1 j.2 (mem_range.mp (Finset.mem_product.mp hj).1)
      (mem_range.mp (Finset.mem_product.mp hj).2), Finset.sum_product]
    simp only [map_mul, expT_conj, expE_conj, neg_neg]

/-- **Full 2-D FFT grid pair: backward(forward(f)) = f** on every input sample. -/
theorem full_grid_inverse_2d (gy gx : Cfg ℝ ℂ) (woy wox : ℂ) (hemu : gy.emu = gx.emu)
    (hMoy : gy.Mo = gy.M) (hNy : gy.N ≤ gy.M) (hcy : gy.dT * (gy.M : ℝ) * gy.δ = 1)
    (hwy : woy * (gy.M : ℂ) * gy.w = 1)
    (hMox : gx.Mo = gx.M) (hNx : gx.N ≤ gx.M) (hcx : gx.dT * (gx.M : ℝ) * gx.δ = 1)
    (hwx : wox * (gx.M : ℂ) * gx.w = 1)
    (f : ℕ → ℕ → ℂ) (jy jx : ℕ) (hjy : jy < gy.N) (hjx : jx < gx.N) :
    fastBackward2 expT expE gy gx (fastForward2 expT expE gy gx f) jy jx = f jy jx :=
  fastBackward2_fastForward2 gy gx woy wox hemu hMoy hNy hcy hwy hMox hNx hcx hwx f jy jx hjy hjx

/-- **Cropped 2-D FFT grid: the output energy never exceeds the input energy** (the 1-D
inequality along `y` for every output column, then along `x` for every input row). -/
theorem cropped_energy_le_2d (gy gx : Cfg ℝ ℂ) (wry woy wrx wox : ℝ) (hemu : gy.emu = gx.emu)
    (hMoy : gy.Mo ≤ gy.M) (hNy : gy.N ≤ gy.M) (hcy : gy.dT * (gy.M : ℝ) * gy.δ = 1)
    (hgwy : gy.w = (wry : ℂ)) (hwy : (woy : ℂ) * (gy.M : ℂ) * gy.w = 1) (hwoy : 0 ≤ woy)
    (hMox : gx.Mo ≤ gx.M) (hNx : gx.N ≤ gx.M) (hcx : gx.dT * (gx.M : ℝ) * gx.δ = 1)
    (hgwx : gx.w = (wrx : ℂ)) (hwx : (wox : ℂ) * (gx.M : ℂ) * gx.w = 1) (hwox : 0 ≤ wox)
    (f : ℕ → ℕ → ℂ) :
    ∑ ky ∈ range gy.Mo, ∑ kx ∈ range gx.Mo,
        Complex.normSq (fastForward2 expT expE gy gx f ky kx) * (woy * wox)
      ≤ ∑ jy ∈ range gy.N, ∑ jx ∈ range gx.N, Complex.normSq (f jy jx) * (wry * wrx) := by
  simp only [fastForward2_iter gy gx hemu]
  exact energy_le_comp _ _ _ _ (fastForward expT expE gy) (fastForward expT expE gx) wry woy wrx wox
    (wr_nonneg gy wry woy hgwy hwy hwoy) hwox
    (cropped_energy_le gy wry woy hMoy hNy hcy hgwy hwy hwoy)
    (cropped_energy_le gx wrx wox hMox hNx hcx hgwx hwx hwox) f

/-- **Full 2-D FFT grid pair: Parseval**,
`Σ_{ky,kx} |F|²·(Δy/2π)(Δx/2π) = Σ_{jy,jx} |f|²·δy·δx`. -/
theorem parseval_full_2d (gy gx : Cfg ℝ ℂ) (wry woy wrx wox : ℝ) (hemu : gy.emu = gx.emu)
    (hMoy : gy.Mo = gy.M) (hNy : gy.N ≤ gy.M) (hcy : gy.dT * (gy.M : ℝ) * gy.δ = 1)
    (hgwy : gy.w = (wry : ℂ)) (hwy : (woy : ℂ) * (gy.M : ℂ) * gy.w = 1)
    (hMox : gx.Mo = gx.M) (hNx : gx.N ≤ gx.M) (hcx : gx.dT * (gx.M : ℝ) * gx.δ = 1)
    (hgwx : gx.w = (wrx : ℂ)) (hwx : (wox : ℂ) * (gx.M : ℂ) * gx.w = 1)
    (f : ℕ → ℕ → ℂ) :
    ∑ ky ∈ range gy.M, ∑ kx ∈ range gx.M,
        Complex.normSq (fastForward2 expT expE gy gx f ky kx) * (woy * wox)
      = ∑ jy ∈ range gy.N, ∑ jx ∈ range gx.N, Complex.normSq (f jy jx) * (wry * wrx) := by
  have h := fast_adjoint_2d gy gx wry woy wrx wox hemu hNy (le_of_eq hMoy) hcy hgwy hwy hNx
    (le_of_eq hMox) hcx hgwx hwx f (fastForward2 expT expE gy gx f)
  rw [hMoy, hMox] at h
  apply Complex.ofReal_injective
  simp only [Complex.ofReal_sum, Complex.ofReal_mul, Complex.normSq_eq_conj_mul_self]
  rw [h, hgwy, hgwx]
  refine Finset.sum_congr rfl fun jy hjy => Finset.sum_congr rfl fun jx hjx => ?_
  rw [full_grid_inverse_2d gy gx woy wox hemu hMoy hNy hcy hwy hMox hNx hcx hwx f jy jx
    (mem_range.mp hjy) (mem_range.mp hjx)]

/-- Non-vacuity of the 2-D hypothesis bundle: two consistent full axes with matching real weights
and equal shift setting (the 1-D witness on both axes). -/
example : ∃ (gy gx : Cfg ℝ ℂ) (wry woy wrx wox : ℝ), gy.emu = gx.emu ∧
    gy.Mo = gy.M ∧ gy.N ≤ gy.M ∧ gy.dT * (gy.M : ℝ) * gy.δ = 1 ∧ gy.w = (wry : ℂ) ∧
    (woy : ℂ) * (gy.M : ℂ) * gy.w = 1 ∧ 0 ≤ woy ∧
    gx.Mo = gx.M ∧ gx.N ≤ gx.M ∧ gx.dT * (gx.M : ℝ) * gx.δ = 1 ∧ gx.w = (wrx : ℂ) ∧
    (wox : ℂ) * (gx.M : ℂ) * gx.w = 1 ∧ 0 ≤ wox :=
  ⟨{ N := 2, M := 4, Mo := 4, δ := 1 / 2, z := 0, dT := 1 / 2, s := 0, w := ((1 / 2 : ℝ) : ℂ), emu := true },
   { N := 2, M := 4, Mo := 4, δ := 1 / 2, z := 0, dT := 1 / 2, s := 0, w := ((1 / 2 : ℝ) : ℂ), emu := true },
    1 / 2, 1 / 2, 1 / 2, 1 / 2, rfl, rfl, by norm_num, by norm_num, rfl, by push_cast; norm_num,
    by norm_num, rfl, by norm_num, by norm_num, rfl, by push_cast; norm_num, by norm_num⟩

/-- hypothesis bundle for one axis of a **full** FFT grid pair: `Mo = M`, `N ≤ M`, consistency
`dT·M·δ = 1`, and an output weight `wOut g` with `wOut g·M·w = 1` -/
def FullAxis (wOut : Cfg ℝ ℂ → ℂ) (g : Cfg ℝ ℂ) : Prop :=
  g.Mo = g.M ∧ g.N ≤ g.M ∧ g.dT * (g.M : ℝ) * g.δ = 1 ∧ wOut g * (g.M : ℂ) * g.w = 1

/-- satisfiability of `FullAxis` (N = 2, M = Mo = 4, δ = w = 1/2, dT = wOut = 1/2) -/
example : ∃ (wOut : Cfg ℝ ℂ → ℂ) (g : Cfg ℝ ℂ), FullAxis wOut g :=
  ⟨fun _ => ((1 / 2 : ℝ) : ℂ),
    { N := 2, M := 4, Mo := 4, δ := 1 / 2, z := 0, dT := 1 / 2, s := 0, w := ((1 / 2 : ℝ) : ℂ), emu := true },
    rfl, by norm_num, by norm_num, by push_cast; norm_num⟩

/-- **Full `n`-D FFT grid pair: backward(forward(f)) = f** for the iterated pipelines on any
number of axes (each axis full and consistent, padding allowed, any shift setting per axis), at
every in-range index list. -/
theorem full_grid_inverse_nd (wOut : Cfg ℝ ℂ → ℂ) (gs : List (Cfg ℝ ℂ))
    (hgs : ∀ g ∈ gs, FullAxis wOut g) (f : List ℕ → ℂ) (js : List ℕ)
    (hjs : List.Forall₂ (fun j g => j < g.N) js gs) :
    fastBackwardN expT expE gs (fastForwardN expT expE gs f) js = f js := by
  induction hjs generalizing f with
  | nil => rfl
  | cons hj _ ih =>
    obtain ⟨hMo, hN, hc, hw⟩ := hgs _ (List.mem_cons_self ..)
    -- the backward loop over the other axes commutes with the forward pipeline of this axis
    rw [fastBackwardN_axiswise.cons]
    simp only [fastForwardN_axiswise.cons, fastBackwardN_comm (fastForward_finLin _ _),
      ih fun g hg => hgs g (List.mem_cons_of_mem _ hg)]
    exact full_grid_inverse _ (wOut _) hMo hN hc hw _ _ hj

/-- hypothesis: a weights object (`Weights.scalar` or `Weights.array`) has real entries -/
def RealWeights (w : Weights ℂ) : Prop := ∀ i, conj (w.get i) = w.get i

/-- satisfiability of `RealWeights`, both branches -/
example : RealWeights (.scalar ((1 / 2 : ℝ) : ℂ)) ∧ RealWeights (.array fun i => ((i : ℝ) : ℂ)) :=
  ⟨fun _ => Complex.conj_ofReal _, fun _ => Complex.conj_ofReal _⟩

/-- **MatrixFourierTransform (ndim = 2): `backward` is the adjoint of `forward`** — for the
two-`gemm` code models `mftForward` / `mftBackward` (Model/Mft.lean), arbitrary separated
coordinates (no grid relation at all), both weight branches (`.scalar` / `.array`) on either side,
real output weights; flat indices, weighted inner products `Σ conj(a)·b·w`. -/
theorem mft_adjoint (Nx Ny Nu Nv : ℕ) (x y u v : ℕ → ℝ) (win wout : Weights ℂ)
    (hwout : RealWeights wout) (X Y : ℕ → ℂ) :
    ∑ k ∈ range (Nv * Nu),
        conj (Y k) * mftForward expE Nx Ny Nu Nv x y u v win X k * wout.get k
      = ∑ j ∈ range (Ny * Nx),
        conj (mftBackward expE (starRingEnd ℂ) Nx Ny Nu Nv x y u v wout Y j) * X j * win.get j := by
  rw [sum_flat, sum_flat, ← Finset.sum_product', ← Finset.sum_product']
  refine adjoint_of_kernel_sums (range Ny ×ˢ range Nx) (range Nv ×ˢ range Nu)
    (fun k j => expE (-(u k.2 * x j.2 + v k.1 * y j.1))) (fun j => win.get (j.1 * Nx + j.2))
    (fun k => wout.get (k.1 * Nu + k.2)) (fun _ => hwout _) (fun j => X (j.1 * Nx + j.2))
    (fun k => Y (k.1 * Nu + k.2)) _ _ (fun k hk => ?_) (fun j hj => ?_)
  · rw [mft_forward_eq_sum_2d_get expE_isChar Nx Ny Nu Nv x y u v win X
      (mem_range.mp (Finset.mem_product.mp hk).2), Finset.sum_product]
  · rw [mft_backward_eq_sum_2d_get expE_isChar _ expE_conj Nx Ny Nu Nv x y u v wout Y
      (mem_range.mp (Finset.mem_product.mp hj).2), Finset.sum_product]
    simp only [expE_conj, neg_neg]

/-- **MatrixFourierTransform (ndim = 1): `backward` is the adjoint of `forward`** for the code
models `mftForward1` / `mftBackward1`, arbitrary coordinates, real output weights. -/
theorem mft_adjoint_1d (Nx Nu : ℕ) (x u : ℕ → ℝ) (win wout : Weights ℂ)
    (hwout : RealWeights wout) (X Y : ℕ → ℂ) :
    ∑ k ∈ range Nu, conj (Y k) * mftForward1 expE Nx x u win X k * wout.get k
      = ∑ j ∈ range Nx,
        conj (mftBackward1 expE (starRingEnd ℂ) Nu x u wout Y j) * X j * win.get j := by
  refine adjoint_of_kernel_sums (range Nx) (range Nu) (fun k j => expE (-(u k * x j))) win.get
    wout.get hwout X Y _ _ (fun k _ => ?_) (fun j _ => ?_)
  · rw [mft_forward_eq_sum_1d]
  · simp only [mft_backward_eq_sum_1d _ expE_conj, expE_conj, neg_neg]

/-- **NaiveFourierTransform: `backward` is the adjoint of `forward`** for the code models of both
paths (precomputed matrices: `nftForwardMat`/`nftBackwardMat`; on the fly: `nftForwardFly`/
`nftBackwardFly`), arbitrary point sets in any dimension, per-point weights (output weights
real). -/
theorem naive_adjoint (n m : ℕ) (us xs : List (ℕ → ℝ)) (win wout : ℕ → ℂ)
    (hwout : ∀ k, conj (wout k) = wout k) (X Y : ℕ → ℂ) :
    (∑ k ∈ range m, conj (Y k) * nftForwardMat expE n us xs win X k * wout k
      = ∑ j ∈ range n, conj (nftBackwardMat expE m us xs wout Y j) * X j * win j) ∧
    (∑ k ∈ range m, conj (Y k) * nftForwardFly expE n us xs win X k * wout k
      = ∑ j ∈ range n, conj (nftBackwardFly expE m us xs wout Y j) * X j * win j) := by
  have h := adjoint_of_kernel_sums (range n) (range m)
    (fun k j => expE (-(dotCoords us xs k j))) win wout hwout X Y
  simp only [expE_conj, neg_neg] at h
  exact ⟨h _ _ (fun k _ => nft_forward_mat_eq_sum ..) fun j _ => nft_backward_mat_eq_sum ..,
    h _ _ (fun k _ => nft_forward_fly_eq_sum ..) fun j _ => nft_backward_fly_eq_sum ..⟩

/-- **`get_transformation_matrix_forward` / `_backward` are adjoint matrices** in the weighted inner
products of the two grids, entry by entry: `W_out·A_f = (W_in·A_b)ᴴ` for the executed definitions
`nftMatrixForward` / `nftMatrixBackward` (op `C01 nft … mat`), arbitrary point sets in any dimension,
real per-point weights on both sides (`wout = output weights/(2π)^ndim`).  (The abstract statement for
an arbitrary kernel is `Lemmas/FourierC02.adjoint_sum`; this is its instance on what the driver runs.) -/
theorem transformation_matrices_adjoint (us xs : List (ℕ → ℝ)) (win wout : ℕ → ℂ)
    (hwin : ∀ j, conj (win j) = win j) (hwout : ∀ k, conj (wout k) = wout k) (k j : ℕ) :
    wout k * nftMatrixForward expE us xs win k j
      = conj (win j * nftMatrixBackward expE us xs wout j k) := by
  simp only [nftMatrixForward, nftMatrixBackward, map_mul, expE_conj, hwin, hwout]
  ring

/-- satisfiability: real weights -/
example : ∃ win wout : ℕ → ℂ, (∀ j, conj (win j) = win j) ∧ (∀ k, conj (wout k) = wout k) :=
  ⟨fun j => ((j : ℝ) : ℂ), fun _ => ((1 / 2 : ℝ) : ℂ), fun _ => Complex.conj_ofReal _, fun _ => Complex.conj_ofReal _⟩

/-- hypothesis bundle for one ZoomFFT axis: non-empty grids and FFT lengths without wrap-around
(`next_fast_len(n + m - 1) ≥ n + m - 1` for both CZTs) -/
def ZoomAxisOK (n m nfft nfftInv : ℕ) : Prop :=
  0 < n ∧ 0 < m ∧ n + m - 1 ≤ nfft ∧ m + n - 1 ≤ nfftInv

/-- satisfiability of `ZoomAxisOK` -/
example : ZoomAxisOK 3 4 6 6 := by unfold ZoomAxisOK; omega

/-- **One ZoomFFT axis: the `backward` axis step is the adjoint of the `forward` axis step** —
for the Bluestein code models `zoomAxis` (applied to `field·input_weights`) and `zoomAxisInv`
(applied to `field·output_weights`), any two regular grids, real output weights. -/
theorem zoom_axis_adjoint (n m nfft nfftInv : ℕ) (hok : ZoomAxisOK n m nfft nfftInv)
    (x0 δ u0 Δ : ℝ) (win wout : ℕ → ℂ) (hwout : ∀ k, conj (wout k) = wout k) (X Y : ℕ → ℂ) :
    ∑ k ∈ range m, conj (Y k) * zoomAxis n m nfft expE x0 δ u0 Δ (fun i => X i * win i) k * wout k
      = ∑ j ∈ range n,
        conj (zoomAxisInv expE n m nfftInv x0 δ u0 Δ (fun k => Y k * wout k) j) * X j * win j := by
  obtain ⟨hn, hm, h1, h2⟩ := hok
  refine adjoint_of_kernel_sums (range n) (range m)
    (fun k j => expE (-((u0 + (k : ℝ) * Δ) * (x0 + (j : ℝ) * δ)))) win wout hwout X Y _ _
    (fun k hk => ?_) (fun j hj => ?_)
  · rw [zoom_axis_eq_sum expE_isChar two_ne_zero n m nfft hn h1 x0 δ u0 Δ _ k (mem_range.mp hk)]
    simp only [zoomSum, sumRange_eq]
  · unfold zoomAxisInv
    rw [zoom_axis_backward_eq_sum expE_isChar two_ne_zero m n nfftInv hm h2 x0 δ u0 Δ _ j
      (mem_range.mp hj)]
    simp only [expE_conj, neg_neg]

/-! ## Adjointness on `n` axes: the iterated FFT pipelines and the ZoomFFT axis loop with weights

Inner products are sums over index lists (`sumOverN dims`, Model/FftIndexN.lean — the same
iterated sum the `n`-D defining sums of C01 are written with). -/

/-- **`n`-axis FastFourierTransform: `backward` is the adjoint of `forward`** for the iterated
pipelines `fastForwardN` / `fastBackwardN`, any number of axes, padding and cropping allowed on
every axis (`N ≤ M`, `Mo ≤ M`), both shift settings, in the weighted inner products of the two
grids (input weight `Π w_i`, output weight `Π wo_i` with `wo_i` real, `wo_i·M_i·w_i = 1`). -/
theorem fast_adjoint_nd (wo : Cfg ℝ ℂ → ℝ) (gs : List (Cfg ℝ ℂ))
    (hgs : ∀ g ∈ gs, g.N ≤ g.M ∧ g.Mo ≤ g.M ∧ g.dT * (g.M : ℝ) * g.δ = 1 ∧
      ((wo g : ℝ) : ℂ) * (g.M : ℂ) * g.w = 1)
    (X Y : List ℕ → ℂ) :
    sumOverN (gs.map fun g => g.Mo) (fun ks =>
        conj (Y ks) * fastForwardN expT expE gs X ks * weightOutN (fun g => ((wo g : ℝ) : ℂ)) gs)
      = sumOverN (gs.map fun g => g.N) (fun js =>
        conj (fastBackwardN expT expE gs Y js) * X js * weightN gs) := by
  simp only [sumOverN_eq_sum]
  refine adjoint_of_kernel_sums _ _ (fun ks js => expT (-(dotA gs ks js)) * expE (-(dotS gs js)))
    (fun _ => weightN gs) (fun _ => weightOutN (fun g => ((wo g : ℝ) : ℂ)) gs)
    (fun _ => conj_weightOutN_real wo gs) X Y _ _ (fun ks hks => ?_) (fun js hjs => ?_)
  · rw [fastForwardN_eq_sumForwardN expT_isChar expE_isChar expT_period gs
      (fun g hg => ⟨(hgs g hg).1, (hgs g hg).2.1, (hgs g hg).2.2.1⟩) X ks
      (mem_boxN.mp hks)]
    exact sumOverN_eq_sum _ _
  · rw [fastBackwardN_eq_sumBackwardN expT_isChar expE_isChar expT_period
      (fun g => ((wo g : ℝ) : ℂ)) gs hgs Y js (mem_boxN.mp hjs)]
    simp only [sumBackwardN, sumOverN_eq_sum, map_mul, expT_conj, expE_conj, neg_neg]

/-- satisfiability of the hypothesis bundle of `fast_adjoint_nd`: two axes, one padded and cropped
(`N = 2, M = 4, Mo = 3`), one full (`N = M = Mo = 2`), `δ = w = 1/2`, `wo = dT = 1/(M·δ)` -/
example : ∃ (wo : Cfg ℝ ℂ → ℝ) (gs : List (Cfg ℝ ℂ)), gs.length = 2 ∧
    ∀ g ∈ gs, g.N ≤ g.M ∧ g.Mo ≤ g.M ∧ g.dT * (g.M : ℝ) * g.δ = 1 ∧
      ((wo g : ℝ) : ℂ) * (g.M : ℂ) * g.w = 1 :=
  ⟨fun g => g.dT,
    [{ N := 2, M := 4, Mo := 3, δ := 1 / 2, z := 0, dT := 1 / 2, s := 0, w := ((1 / 2 : ℝ) : ℂ), emu := true },
     { N := 2, M := 2, Mo := 2, δ := 1 / 2, z := 1, dT := 1, s := 1 / 3, w := ((1 / 2 : ℝ) : ℂ), emu := true }],
    rfl, by
      intro g hg
      simp only [List.mem_cons, List.not_mem_nil, or_false] at hg
      rcases hg with rfl | rfl
      · refine ⟨by norm_num, by norm_num, by norm_num, ?_⟩
        push_cast; norm_num
      · refine ⟨by norm_num, by norm_num, by norm_num, ?_⟩
        push_cast; norm_num⟩

/-- **Full `n`-D FFT grid pair: Parseval** — `Σ_ks |F f|²·Π wo_i = Σ_js |f|²·Π w_i` (written with
`conj a * a`) for the iterated pipeline on any number of full, consistent axes; from
`fast_adjoint_nd` with `Y = F f` and `full_grid_inverse_nd`. -/
theorem parseval_full_nd (wo : Cfg ℝ ℂ → ℝ) (gs : List (Cfg ℝ ℂ))
    (hgs : ∀ g ∈ gs, FullAxis (fun g => ((wo g : ℝ) : ℂ)) g) (f : List ℕ → ℂ) :
    sumOverN (gs.map fun g => g.Mo) (fun ks =>
        conj (fastForwardN expT expE gs f ks) * fastForwardN expT expE gs f ks
          * weightOutN (fun g => ((wo g : ℝ) : ℂ)) gs)
      = sumOverN (gs.map fun g => g.N) (fun js => conj (f js) * f js * weightN gs) := by
  rw [fast_adjoint_nd wo gs (fun g hg => by
    obtain ⟨hMo, hN, hc, hw⟩ := hgs g hg
    exact ⟨hN, le_of_eq hMo, hc, hw⟩) f (fastForwardN expT expE gs f)]
  simp only [sumOverN_eq_sum]
  refine Finset.sum_congr rfl fun js hjs => ?_
  rw [full_grid_inverse_nd _ gs hgs f js (mem_boxN.mp hjs)]

/-- **Cropped `n`-D FFT grid: the output energy never exceeds the input energy** — iterated
pipeline on any number of axes, each padded and/or cropped (`N ≤ M`, `Mo ≤ M`), consistent, real
input weight `wr g`, non-negative output weight `wo g` with `wo·M·w = 1`; energies are sums over
index lists of `|·|²` times the product of the per-axis weights.  Induction over the axes with
the 1-D inequality `cropped_energy_le` on the first axis. -/
theorem cropped_energy_le_nd (wr wo : Cfg ℝ ℂ → ℝ) (gs : List (Cfg ℝ ℂ))
    (hgs : ∀ g ∈ gs, g.Mo ≤ g.M ∧ g.N ≤ g.M ∧ g.dT * (g.M : ℝ) * g.δ = 1 ∧
      g.w = ((wr g : ℝ) : ℂ) ∧ ((wo g : ℝ) : ℂ) * (g.M : ℂ) * g.w = 1 ∧ 0 ≤ wo g)
    (f : List ℕ → ℂ) :
    sumOverN (gs.map fun g => g.Mo) (fun ks => Complex.normSq (fastForwardN expT expE gs f ks))
        * (gs.map wo).prod
      ≤ sumOverN (gs.map fun g => g.N) (fun js => Complex.normSq (f js)) * (gs.map wr).prod := by
  induction gs generalizing f with
  | nil => simp [sumOverN, fastForwardN_axiswise.nil]
  | cons g gs ih =>
    obtain ⟨hMo, hN, hc, hgw, hw, hwo⟩ := hgs g (List.mem_cons_self ..)
    have ih' := ih (fun g' hg' => hgs g' (List.mem_cons_of_mem _ hg'))
    have hWo : 0 ≤ (gs.map wo).prod := List.prod_nonneg <| List.forall_mem_map.2 fun g' hg' =>
      (hgs g' (List.mem_cons_of_mem _ hg')).2.2.2.2.2
    have h := energy_le_comp (range g.N) (range g.Mo) (boxN (gs.map fun g => g.N))
      (boxN (gs.map fun g => g.Mo)) (fastForward expT expE g) (fastForwardN expT expE gs)
      (wr g) (wo g) (gs.map wr).prod (gs.map wo).prod (wr_nonneg g (wr g) (wo g) hgw hw hwo) hWo
      (cropped_energy_le g (wr g) (wo g) hMo hN hc hgw hw hwo)
      (fun F => by simpa only [sumOverN_eq_sum, Finset.sum_mul] using ih' F)
      (fun i idx => f (i :: idx))
    simp only [List.map_cons, List.prod_cons, sumOverN, sumRange_eq]
    simpa only [sumOverN_eq_sum, fastForwardN_axiswise.cons, Finset.sum_mul] using h

/-- satisfiability of the hypothesis bundle of `cropped_energy_le_nd`: a cropped axis
(`N = 2, M = 4, Mo = 3`) and a full one, `δ = w = 1/2`, `wo = dT` -/
example : ∃ (wr wo : Cfg ℝ ℂ → ℝ) (gs : List (Cfg ℝ ℂ)), gs.length = 2 ∧
    ∀ g ∈ gs, g.Mo ≤ g.M ∧ g.N ≤ g.M ∧ g.dT * (g.M : ℝ) * g.δ = 1 ∧
      g.w = ((wr g : ℝ) : ℂ) ∧ ((wo g : ℝ) : ℂ) * (g.M : ℂ) * g.w = 1 ∧ 0 ≤ wo g :=
  ⟨fun _ => 1 / 2, fun g => g.dT,
    [{ N := 2, M := 4, Mo := 3, δ := 1 / 2, z := 0, dT := 1 / 2, s := 0, w := ((1 / 2 : ℝ) : ℂ), emu := true },
     { N := 2, M := 2, Mo := 2, δ := 1 / 2, z := 1, dT := 1, s := 1 / 3, w := ((1 / 2 : ℝ) : ℂ), emu := false }],
    rfl, by
      intro g hg
      simp only [List.mem_cons, List.not_mem_nil, or_false] at hg
      rcases hg with rfl | rfl
      · refine ⟨by norm_num, by norm_num, by norm_num, rfl, ?_, by norm_num⟩
        push_cast; norm_num
      · refine ⟨by norm_num, by norm_num, by norm_num, rfl, ?_, by norm_num⟩
        push_cast; norm_num⟩

/-- **`n`-axis ZoomFastFourierTransform: `backward` is the adjoint of `forward`** — the axis loops
`zoomForwardN` (on `field·input_weights`) and `zoomBackwardN` (on `field·output_weights`) of
Model/ZoomN.lean, any list of axes, any two regular grids, per-point weights (output weights
real), every `nfft ≥ n + m − 1` on every axis. -/
theorem zoom_adjoint_nd (axs : List (ZAx ℝ))
    (hok : ∀ a ∈ axs, ZoomAxisOK a.n a.m a.nfft a.nfftInv)
    (win wout : List ℕ → ℂ) (hwout : ∀ ks, conj (wout ks) = wout ks) (X Y : List ℕ → ℂ) :
    sumOverN (axs.map fun a => a.m) (fun ks =>
        conj (Y ks) * zoomForwardN expE axs win X ks * wout ks)
      = sumOverN (axs.map fun a => a.n) (fun js =>
        conj (zoomBackwardN expE axs wout Y js) * X js * win js) := by
  simp only [sumOverN_eq_sum]
  refine adjoint_of_kernel_sums _ _ (fun ks js => expE (-(dotUX axs ks js))) win wout hwout X Y _ _
    (fun ks hks => ?_) (fun js hjs => ?_)
  · rw [zoomN_eq_sumN expE_isChar two_ne_zero axs (fun a ha => ⟨(hok a ha).1, (hok a ha).2.2.1⟩)
      win X ks (mem_boxN.mp hks)]
    exact sumOverN_eq_sum _ _
  · rw [zoomN_backward_eq_sumN expE_isChar two_ne_zero axs
      (fun a ha => ⟨(hok a ha).2.1, (hok a ha).2.2.2⟩) wout Y js
      (mem_boxN.mp hjs)]
    simp only [zoomSumBackwardN, sumOverN_eq_sum, expE_conj, neg_neg]

/-- satisfiability of the hypothesis of `zoom_adjoint_nd`: two axes -/
example : ∃ axs : List (ZAx ℝ), axs.length = 2 ∧ ∀ a ∈ axs, ZoomAxisOK a.n a.m a.nfft a.nfftInv :=
  ⟨[⟨2, 3, 4, 4, 0, 1, 0, 1⟩, ⟨3, 2, 5, 4, -1, 1 / 2, 0, 1⟩], rfl, by
    intro a ha
    simp only [List.mem_cons, List.not_mem_nil, or_false] at ha
    rcases ha with rfl | rfl <;> exact ⟨by norm_num, by norm_num, by norm_num, by norm_num⟩⟩

/-! ## Matrix-valued FourierFilter (`fourier_operations.py`, `_operation`, matrix-field branch) -/

/-- **FourierFilter with a matrix transfer function: `backward` is the adjoint of `forward`.**
Code model `filterMX` (Model/FilterM.lean, run by the driver op `C02 filterm` and compared with
`FourierFilter.forward/backward` on 2-component fields): `forward x = Pᴴ·F⁻¹·(D·(F·P·x))` with `P`
the zero padding into the internal array, `Pᴴ` the cut-out, `F` the transform matrix of `fftn`,
`F⁻¹ = c⁻¹·Fᴴ` that of `ifftn` (unnormalised DFT: `c = M`, real), and `D r` a 2×2 matrix applied
to the two tensor components at every frequency sample `r` (`field_dot`); the adjoint call uses
`field_conjugate_transpose(D)` (`fmCtrX`).  Unweighted inner product over samples and components.
The identity needs only `c` real (no unitarity of `F`, any `P`, any `D`). -/
theorem filterM_adjoint (n M : ℕ) (P F : ℕ → ℕ → ℂ) (c : ℂ) (hc : conj c = c)
    (D : ℕ → Bool → Bool → ℂ) (x y : Bool → ℕ → ℂ) :
    ∑ a, ∑ i ∈ range n, conj (y a i) * filterMX n M P F (starRingEnd ℂ) c⁻¹ D x a i
      = ∑ a, ∑ i ∈ range n,
          conj (filterMX n M P F (starRingEnd ℂ) c⁻¹ (fmCtrX (starRingEnd ℂ) D) y a i) * x a i :=
  filterMX_adjoint n M P F c hc D x y

/-- Without the transposition in `field_conjugate_transpose` (entry-wise conjugate only) the
backward call is **not** the adjoint: `n = M = 1`, `P = F = c = 1`, `D = [[0,1],[0,0]]`,
`x = e₁`, `y = e₀`. -/
theorem Bad.filterM_conj_only_not_adjoint :
    ∃ (D : ℕ → Bool → Bool → ℂ) (x y : Bool → ℕ → ℂ),
      ∑ a, ∑ i ∈ range 1, conj (y a i) * filterMX 1 1 (fun _ _ => 1) (fun _ _ => 1) (starRingEnd ℂ) 1⁻¹ D x a i
        ≠ ∑ a, ∑ i ∈ range 1,
            conj (filterMX 1 1 (fun _ _ => 1) (fun _ _ => 1) (starRingEnd ℂ) 1⁻¹ (fun r a b => conj (D r a b)) y a i) * x a i := by
  refine ⟨fun _ a b => if a = false ∧ b = true then 1 else 0, fun b _ => if b = true then 1 else 0,
    fun a _ => if a = false then 1 else 0, ?_⟩
  simp [filterMX_point]

/-- **A matrix-valued field is filtered column by column**: `filterMXM` (run by the driver op
`C02 filtermm`, compared with `FourierFilter.forward/backward` on fields of tensor shape `(2, ncol)`)
applied to `X` gives, in column `c`, the vector-field filter `filterMX` of column `c` of `X` — for
the forward and for the adjoint transfer function alike (any `D`). -/
theorem filterM_matrix_field_columns (n M : ℕ) (P F : ℕ → ℕ → ℂ) (cinv : ℂ)
    (D : ℕ → Bool → Bool → ℂ) (X : Bool → ℕ → ℕ → ℂ) (a : Bool) (c i : ℕ) :
    filterMXM n M P F (starRingEnd ℂ) cinv D X a c i
      = filterMX n M P F (starRingEnd ℂ) cinv D (fun b => X b c) a i :=
  rfl

/-- **FourierFilter with a matrix transfer function on a matrix-valued field: `backward` is the
adjoint of `forward`** in the Frobenius inner product over rows, columns and samples, for any number
of columns `ncol`: the adjoint applies `field_conjugate_transpose(D)` *from the left* (`fmCtrX`). -/
theorem filterM_adjoint_matrix_field (n M ncol : ℕ) (P F : ℕ → ℕ → ℂ) (c : ℂ) (hc : conj c = c)
    (D : ℕ → Bool → Bool → ℂ) (X Y : Bool → ℕ → ℕ → ℂ) :
    ∑ a, ∑ k ∈ range ncol, ∑ i ∈ range n, conj (Y a k i) * filterMXM n M P F (starRingEnd ℂ) c⁻¹ D X a k i
      = ∑ a, ∑ k ∈ range ncol, ∑ i ∈ range n,
          conj (filterMXM n M P F (starRingEnd ℂ) c⁻¹ (fmCtrX (starRingEnd ℂ) D) Y a k i) * X a k i := by
  -- column by column: `filterMXM` is `filterMX` on each column
  rw [Finset.sum_comm, Finset.sum_comm (s := (Finset.univ : Finset Bool))]
  exact Finset.sum_congr rfl fun k _ =>
    filterMX_adjoint n M P F c hc D (fun b => X b k) (fun b => Y b k)

/-- what `field_dot(f.conj(), tf).conj()` computes on a 2×2 matrix field at one sample:
`Y · conj(D)` — the entry-wise conjugate applied **from the right** -/
def Bad.rightConj (D : Bool → Bool → ℂ) (Y : Bool → Bool → ℂ) (a k : Bool) : ℂ :=
  Y a false * conj (D false k) + Y a true * conj (D true k)

/-- Evaluating the adjoint of the matrix branch as `(fᴴ·T)ᴴ` with a plain entry-wise conjugate
(`Bad.rightConj`, correct for vector fields) is **not** the adjoint on a matrix-valued field:
`n = M = 1`, `P = F = c = 1`, `D = [[0,1],[0,0]]`, `X = e₁₀`, `Y = e₀₀` gives `⟨Y, D·X⟩ = 1` but
`⟨Y·conj D, X⟩ = 0`. -/
theorem Bad.filterM_right_conj_not_adjoint :
    ∃ (D : ℕ → Bool → Bool → ℂ) (X Y : Bool → ℕ → ℕ → ℂ),
      ∑ a, ∑ k ∈ range 2, ∑ i ∈ range 1,
          conj (Y a k i) * filterMXM 1 1 (fun _ _ => 1) (fun _ _ => 1) (starRingEnd ℂ) 1⁻¹ D X a k i
        ≠ ∑ a, ∑ k ∈ range 2, ∑ i ∈ range 1,
            conj (Bad.rightConj (D 0) (fun a' k' => Y a' k'.toNat 0) a (k == 1)) * X a k i := by
  refine ⟨fun _ a b => if a = false ∧ b = true then 1 else 0,
    fun b k _ => if b = true ∧ k = 0 then 1 else 0,
    fun a k _ => if a = false ∧ k = 0 then 1 else 0, ?_⟩
  simp [filterM_matrix_field_columns, filterMX_point, Bad.rightConj, Finset.sum_range_succ]

/-- satisfiability of the hypothesis of `filterM_adjoint`: the DFT normalisation `c = M` is real -/
example (M : ℕ) : conj (M : ℂ) = (M : ℂ) := Complex.conj_natCast M

end HcipyVerif.C02
