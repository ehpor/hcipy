import Mathlib.Data.Complex.Basic
import Mathlib.Algebra.Order.BigOperators.Group.Finset
import HcipyVerif.Lemmas.FftPipelineN

/-!
# C02 on two and on `n` axes: what lifts the 1-D theorems axis by axis

The 1-D pipelines `fastForward g · k`, `fastBackward g · j` are *finite linear functionals* of
their array argument (`FinLin`, `Pipe.run_finLin`: no hypotheses on the configuration).  Two such functionals acting
on different axes commute (`FinLin.comm`), and so does a functional with the iterated pipeline on
the other axes (`axiswise_comm`); energy bounds compose along independent axes (`energy_le_comp`).
This is all `Properties/C02.lean` needs to lift inverse, adjoint, Parseval and the energy bound
from one axis to two and to `n`.
-/

namespace HcipyVerif.Fft
open Finset
open scoped ComplexConjugate

/-- `Φ` is a finite linear functional: `Φ f = Σ_{p<n} f (idx p) · c p`. -/
def FinLin {ι : Type} (Φ : (ι → ℂ) → ℂ) : Prop :=
  ∃ (n : ℕ) (idx : ℕ → ι) (c : ℕ → ℂ), ∀ f, Φ f = ∑ p ∈ range n, f (idx p) * c p

theorem FinLin.comm {ι κ : Type} {Φ : (ι → ℂ) → ℂ} {Ψ : (κ → ℂ) → ℂ} (hΦ : FinLin Φ)
    (hΨ : FinLin Ψ) (X : ι → κ → ℂ) :
    Φ (fun i => Ψ (fun k => X i k)) = Ψ (fun k => Φ (fun i => X i k)) := by
  obtain ⟨n, idx, c, h1⟩ := hΦ
  obtain ⟨m, idx', c', h2⟩ := hΨ
  simp only [h1, h2, Finset.sum_mul]
  rw [Finset.sum_comm]
  exact Finset.sum_congr rfl fun _ _ => Finset.sum_congr rfl fun _ _ => by ring

theorem FinLin.zero {ι : Type} {Φ : (ι → ℂ) → ℂ} (hΦ : FinLin Φ) : Φ (fun _ => 0) = 0 := by
  obtain ⟨n, idx, c, h1⟩ := hΦ
  simp [h1]

theorem FinLin.sum {ι α : Type} {Φ : (ι → ℂ) → ℂ} (hΦ : FinLin Φ) (s : Finset α)
    (X : α → ι → ℂ) : Φ (fun i => ∑ a ∈ s, X a i) = ∑ a ∈ s, Φ (X a) := by
  obtain ⟨n, idx, c, h1⟩ := hΦ
  simp only [h1, Finset.sum_mul]
  rw [Finset.sum_comm]

theorem FinLin.mul_right {ι : Type} {Φ : (ι → ℂ) → ℂ} (hΦ : FinLin Φ) (X : ι → ℂ) (a : ℂ) :
    Φ (fun i => X i * a) = Φ X * a := by
  obtain ⟨n, idx, c, h1⟩ := hΦ
  simp only [h1, Finset.sum_mul]
  exact Finset.sum_congr rfl fun p _ => by ring

theorem Pipe.run_finLin (b : Bool) (p : Pipe ℂ) (k : ℕ) : FinLin (fun f => p.run b f k) := by
  refine ⟨p.M, fun q => shiftIn b p.M q - padStart p.N p.M, fun q =>
    (if padStart p.N p.M ≤ shiftIn b p.M q ∧ shiftIn b p.M q < padStart p.N p.M + p.N
      then p.mIn (shiftIn b p.M q - padStart p.N p.M) else 0)
      * p.ker ((q : ℤ) * (shiftOut b p.M p.Mo k : ℕ)) * p.c * p.mOut k, fun f => ?_⟩
  simp only [Pipe.run, core_eq_dft, pad, Finset.mul_sum, Finset.sum_mul]
  refine Finset.sum_congr rfl fun q _ => ?_
  split <;> ring

theorem fastForward_finLin {T E : ℝ → ℂ} (g : Cfg ℝ ℂ) (k : ℕ) :
    FinLin (fun f => fastForward T E g f k) :=
  fastForward_eq_run g ▸ (g.fwd T E).run_finLin _ k

theorem fastBackward_finLin {T E : ℝ → ℂ} (g : Cfg ℝ ℂ) (j : ℕ) :
    FinLin (fun F => fastBackward T E g F j) :=
  (g.bwd T E).run_finLin _ j

theorem sumBackward_congr {K : Type} [Field K] {T E : K → ℂ} (g : Cfg K ℂ) (wOut : ℂ)
    (F G : ℕ → ℂ) (h : ∀ k < g.Mo, F k = G k) (j : ℕ) :
    sumBackward T E g wOut F j = sumBackward T E g wOut G j := by
  simp only [sumBackward, sumRange_eq]
  exact Finset.sum_congr rfl fun k hk => by rw [h k (mem_range.mp hk)]

/-- An axis-wise operator with finite linear 1-D steps commutes with every finite linear
functional acting on an independent index (`hnil`, `hempty`: what `LN` does on index lists of
the wrong length). -/
theorem axiswise_comm {α ι : Type} {Φ : (ι → ℂ) → ℂ} (hΦ : FinLin Φ)
    {L : α → (ℕ → ℂ) → ℕ → ℂ} {LN : List α → (List ℕ → ℂ) → List ℕ → ℂ} (h : Axiswise L LN)
    (hL : ∀ a k, FinLin fun f => L a f k) (hnil : ∀ f k ks, LN [] f (k :: ks) = f [])
    (hempty : ∀ a as f, LN (a :: as) f [] = 0)
    (as : List α) (X : ι → List ℕ → ℂ) (ks : List ℕ) :
    LN as (fun idx => Φ (fun i => X i idx)) ks = Φ (fun i => LN as (fun idx => X i idx) ks) := by
  induction as generalizing X ks with
  | nil => cases ks <;> simp only [h.nil, hnil]
  | cons a as ih =>
    cases ks with
    | nil => simp only [hempty, hΦ.zero]
    | cons k ks =>
      simp only [h.cons]
      rw [funext fun j => ih (fun i idx => X i (j :: idx)) ks]
      exact FinLin.comm (hL a k) hΦ fun j i => LN as (fun idx => X i (j :: idx)) ks

theorem fastBackwardN_comm {T E : ℝ → ℂ} {ι : Type} {Φ : (ι → ℂ) → ℂ} (hΦ : FinLin Φ)
    (gs : List (Cfg ℝ ℂ)) (X : ι → List ℕ → ℂ) (js : List ℕ) :
    fastBackwardN T E gs (fun idx => Φ (fun i => X i idx)) js
      = Φ (fun i => fastBackwardN T E gs (fun idx => X i idx) js) :=
  axiswise_comm hΦ fastBackwardN_axiswise fastBackward_finLin (fun _ _ _ => rfl) (fun _ _ _ => rfl)
    gs X js

theorem fastForwardN_comm {T E : ℝ → ℂ} {ι : Type} {Φ : (ι → ℂ) → ℂ} (hΦ : FinLin Φ)
    (gs : List (Cfg ℝ ℂ)) (X : ι → List ℕ → ℂ) (ks : List ℕ) :
    fastForwardN T E gs (fun idx => Φ (fun i => X i idx)) ks
      = Φ (fun i => fastForwardN T E gs (fun idx => X i idx) ks) :=
  axiswise_comm hΦ fastForwardN_axiswise fastForward_finLin (fun _ _ _ => rfl) (fun _ _ _ => rfl)
    gs X ks

/-- Energy bounds compose along independent axes: if `A` (outer axis) and `B` (inner axis) each
lose energy in the weighted norms, so does `A` applied to the array of `B`-transforms. -/
theorem energy_le_comp {ι κ ι' κ' : Type} (s : Finset ι) (t : Finset κ) (s' : Finset ι')
    (t' : Finset κ') (A : (ι → ℂ) → κ → ℂ) (B : (ι' → ℂ) → κ' → ℂ) (wr wo wr' wo' : ℝ)
    (hwr : 0 ≤ wr) (hwo' : 0 ≤ wo')
    (hA : ∀ f, ∑ k ∈ t, Complex.normSq (A f k) * wo ≤ ∑ j ∈ s, Complex.normSq (f j) * wr)
    (hB : ∀ g, ∑ k ∈ t', Complex.normSq (B g k) * wo' ≤ ∑ j ∈ s', Complex.normSq (g j) * wr')
    (f : ι → ι' → ℂ) :
    ∑ k ∈ t, ∑ k' ∈ t', Complex.normSq (A (fun j => B (f j) k') k) * (wo * wo')
      ≤ ∑ j ∈ s, ∑ j' ∈ s', Complex.normSq (f j j') * (wr * wr') :=
  calc ∑ k ∈ t, ∑ k' ∈ t', Complex.normSq (A (fun j => B (f j) k') k) * (wo * wo')
      = ∑ k' ∈ t', (∑ k ∈ t, Complex.normSq (A (fun j => B (f j) k') k) * wo) * wo' := by
        rw [Finset.sum_comm]; simp only [Finset.sum_mul, mul_assoc]
    _ ≤ ∑ k' ∈ t', (∑ j ∈ s, Complex.normSq (B (f j) k') * wr) * wo' :=
        Finset.sum_le_sum fun k' _ => mul_le_mul_of_nonneg_right (hA _) hwo'
    _ = ∑ j ∈ s, (∑ k' ∈ t', Complex.normSq (B (f j) k') * wo') * wr := by
        simp only [Finset.sum_mul]; rw [Finset.sum_comm]
        exact Finset.sum_congr rfl fun _ _ => Finset.sum_congr rfl fun _ _ => by ring
    _ ≤ ∑ j ∈ s, (∑ j' ∈ s', Complex.normSq (f j j') * wr') * wr :=
        Finset.sum_le_sum fun j _ => mul_le_mul_of_nonneg_right (hB _) hwr
    _ = _ := by
        simp only [Finset.sum_mul]
        exact Finset.sum_congr rfl fun _ _ => Finset.sum_congr rfl fun _ _ => by ring

theorem wr_nonneg (g : Cfg ℝ ℂ) (wr wo : ℝ) (hgw : g.w = (wr : ℂ))
    (hw : (wo : ℂ) * (g.M : ℂ) * g.w = 1) (hwo : 0 ≤ wo) : 0 ≤ wr := by
  rw [hgw] at hw
  have h : wo * (g.M : ℝ) * wr = 1 := by exact_mod_cast hw
  by_contra hneg
  have h1 : wo * (g.M : ℝ) * wr ≤ 0 :=
    mul_nonpos_of_nonneg_of_nonpos (mul_nonneg hwo (Nat.cast_nonneg _)) (le_of_lt (not_le.mp hneg))
  linarith

theorem conj_weightOutN_real (wo : Cfg ℝ ℂ → ℝ) (gs : List (Cfg ℝ ℂ)) :
    conj (weightOutN (fun g => ((wo g : ℝ) : ℂ)) gs) = weightOutN (fun g => ((wo g : ℝ) : ℂ)) gs := by
  induction gs with
  | nil => simp [weightOutN]
  | cons g gs ih => simp only [weightOutN, map_mul, Complex.conj_ofReal, ih]

end HcipyVerif.Fft
