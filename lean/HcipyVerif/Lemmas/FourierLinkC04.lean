import Mathlib.Data.Fintype.BigOperators
import Mathlib.Algebra.BigOperators.Fin
import HcipyVerif.Lemmas.NearField
import HcipyVerif.Lemmas.FourierC02
import HcipyVerif.Lemmas.FourierExp
import HcipyVerif.Model.FftIndex2

/-!
# C04 ← C01/C02: the `FourierPair` hypotheses hold for the DFT of the model

The structure `FourierPair` of `Lemmas/NearFieldFilter.lean` (`F`, `Finv` linear, mutually inverse,
`⟨y, F x⟩ = c ⟨F⁻¹ y, x⟩`) is constructed from the specification of the FFT kernel used by C01/C02:

* `dftPair M hM : FourierPair (Fin M)` — `F = fft` (`Fft.dft M (kF M)`), `Finv = ifft`
  (`(1/M)·Fft.dft M (kB M)`), `c = M`;
* `FourierPair.prod` — the tensor product of two pairs (first axis, then second axis), `c = c₁·c₂`;
* `dftPair2 My Mx : FourierPair (Fin My × Fin Mx)` — `F = fftn` (`Fft.dft2`), `Finv = ifftn`, `c = My·Mx`
  (`dftPair2_F_eq_dft2`, `dftPair2_Finv_eq_dft2`).
-/

set_option linter.unusedSectionVars false

open Complex ComplexConjugate

namespace HcipyVerif.NearField

open HcipyVerif.Fft (expT expT_isChar expT_conj expT_period expT_prim char_sum_range sumRange_eq)

/-- forward FFT kernel `exp(-2πi·n/M)` (`Cfg.kerF` at `T = expT`). -/
noncomputable def kF (M : ℕ) (n : ℤ) : ℂ := expT (-((n : ℝ) / (M : ℝ)))

/-- inverse FFT kernel `exp(+2πi·n/M)` (`Cfg.kerB` at `T = expT`). -/
noncomputable def kB (M : ℕ) (n : ℤ) : ℂ := expT ((n : ℝ) / (M : ℝ))

theorem kF_eq_kerF (g : Fft.Cfg ℝ ℂ) (n : ℤ) : g.kerF expT n = kF g.M n := rfl
theorem kB_eq_kerB (g : Fft.Cfg ℝ ℂ) (n : ℤ) : g.kerB expT n = kB g.M n := rfl

/-- An array of length `M` as a function on `ℕ` (value `0` outside; never read by `dft`). -/
noncomputable def ext {M : ℕ} (x : Fin M → ℂ) (n : ℕ) : ℂ := if h : n < M then x ⟨n, h⟩ else 0

theorem ext_fin {M : ℕ} (x : Fin M → ℂ) (p : Fin M) : ext x (p : ℕ) = x p := by
  unfold ext
  rw [dif_pos p.2]

theorem dft_ext {M : ℕ} (ker : ℤ → ℂ) (x : Fin M → ℂ) (q : ℕ) :
    Fft.dft M ker (ext x) q = ∑ p : Fin M, x p * ker ((p : ℕ) * (q : ℤ)) := by
  unfold Fft.dft
  rw [sumRange_eq, Finset.sum_range]
  simp only [ext_fin]

theorem conj_kF (M : ℕ) (n : ℤ) : conj (kF M n) = kB M n := by
  unfold kF kB
  rw [expT_conj, neg_neg]

theorem conj_kB (M : ℕ) (n : ℤ) : conj (kB M n) = kF M n := by
  unfold kF kB
  rw [expT_conj]

theorem sum_expT_fin (M : ℕ) (hM : 0 < M) (d : ℤ) :
    ∑ q : Fin M, expT (((q : ℕ) : ℝ) * (d : ℝ) / (M : ℝ)) = if (M : ℤ) ∣ d then (M : ℂ) else 0 := by
  have hM0 : (M : ℝ) ≠ 0 := by exact_mod_cast hM.ne'
  have h := char_sum_range (T := expT) expT_isChar expT_period M (expT_prim M hM0) hM0 d
  rw [← h]
  exact Fin.sum_univ_eq_sum_range (fun k => expT ((k : ℝ) * (d : ℝ) / (M : ℝ))) M

theorem fin_dvd_sub_iff {M : ℕ} (a b : Fin M) : (M : ℤ) ∣ ((a : ℕ) : ℤ) - ((b : ℕ) : ℤ) ↔ a = b := by
  constructor
  · intro h
    have ha := a.2
    have hb := b.2
    have hz := Int.eq_zero_of_abs_lt_dvd h (by rw [abs_lt]; constructor <;> omega)
    apply Fin.ext
    omega
  · rintro rfl
    simp

theorem sum_kF_kB {M : ℕ} (hM : 0 < M) (a b : Fin M) :
    ∑ q : Fin M, kF M ((a : ℕ) * ((q : ℕ) : ℤ)) * kB M ((q : ℕ) * ((b : ℕ) : ℤ))
      = if a = b then (M : ℂ) else 0 := by
  have h := sum_expT_fin M hM (((b : ℕ) : ℤ) - ((a : ℕ) : ℤ))
  simp only [fin_dvd_sub_iff, eq_comm (a := b)] at h
  rw [← h]
  apply Finset.sum_congr rfl
  intro q _
  unfold kF kB
  rw [← expT_isChar.add]
  congr 1
  push_cast
  ring

theorem sum_kB_kF {M : ℕ} (hM : 0 < M) (a b : Fin M) :
    ∑ q : Fin M, kB M ((a : ℕ) * ((q : ℕ) : ℤ)) * kF M ((q : ℕ) * ((b : ℕ) : ℤ))
      = if a = b then (M : ℂ) else 0 := by
  have h := congrArg conj (sum_kF_kB hM a b)
  rw [map_sum, apply_ite conj, Complex.conj_natCast, map_zero] at h
  simpa only [map_mul, conj_kF, conj_kB] using h

/-- `fft` on arrays of length `M`, as a linear map. -/
noncomputable def dftF (M : ℕ) : (Fin M → ℂ) →ₗ[ℂ] (Fin M → ℂ) where
  toFun x := fun q => Fft.dft M (kF M) (ext x) (q : ℕ)
  map_add' x y := by
    funext q
    simp only [dft_ext, Pi.add_apply]
    rw [← Finset.sum_add_distrib]
    exact Finset.sum_congr rfl fun p _ => by ring
  map_smul' a x := by
    funext q
    simp only [dft_ext, Pi.smul_apply, smul_eq_mul, RingHom.id_apply]
    rw [Finset.mul_sum]
    exact Finset.sum_congr rfl fun p _ => by ring

/-- `ifft` on arrays of length `M` (`1/M` times the DFT with the inverse kernel), as a linear map. -/
noncomputable def dftFinv (M : ℕ) : (Fin M → ℂ) →ₗ[ℂ] (Fin M → ℂ) where
  toFun y := fun p => (M : ℂ)⁻¹ * Fft.dft M (kB M) (ext y) (p : ℕ)
  map_add' x y := by
    funext q
    simp only [dft_ext, Pi.add_apply]
    rw [← mul_add, ← Finset.sum_add_distrib]
    congr 1
    exact Finset.sum_congr rfl fun p _ => by ring
  map_smul' a x := by
    funext q
    simp only [dft_ext, Pi.smul_apply, smul_eq_mul, RingHom.id_apply]
    rw [Finset.mul_sum, Finset.mul_sum, Finset.mul_sum]
    exact Finset.sum_congr rfl fun p _ => by ring

theorem dftF_apply (M : ℕ) (x : Fin M → ℂ) (q : Fin M) :
    dftF M x q = ∑ p : Fin M, x p * kF M ((p : ℕ) * ((q : ℕ) : ℤ)) := dft_ext _ x q

theorem dftFinv_apply (M : ℕ) (y : Fin M → ℂ) (p : Fin M) :
    dftFinv M y p = (M : ℂ)⁻¹ * ∑ q : Fin M, y q * kB M ((q : ℕ) * ((p : ℕ) : ℤ)) := by
  show (M : ℂ)⁻¹ * Fft.dft M (kB M) (ext y) (p : ℕ) = _
  rw [dft_ext]

theorem sum_sum_mul_of_orth {M : ℕ} {A B : Fin M → Fin M → ℂ} {c : ℂ}
    (h : ∀ a b, ∑ q, A a q * B q b = if a = b then c else 0) (x : Fin M → ℂ) (r : Fin M) :
    ∑ q, (∑ p, x p * A p q) * B q r = c * x r := by
  simp only [Finset.sum_mul, mul_assoc]
  rw [Finset.sum_comm]
  simp only [← Finset.mul_sum, h, mul_ite, mul_zero]
  rw [Finset.sum_ite_eq' Finset.univ r, if_pos (Finset.mem_univ _), mul_comm]

theorem dftFinv_dftF {M : ℕ} (hM : 0 < M) (x : Fin M → ℂ) : dftFinv M (dftF M x) = x := by
  have hMc : (M : ℂ) ≠ 0 := by exact_mod_cast hM.ne'
  funext p
  rw [dftFinv_apply]
  simp only [dftF_apply]
  rw [sum_sum_mul_of_orth (sum_kF_kB hM), inv_mul_cancel_left₀ hMc]

theorem dftF_dftFinv {M : ℕ} (hM : 0 < M) (y : Fin M → ℂ) : dftF M (dftFinv M y) = y := by
  have hMc : (M : ℂ) ≠ 0 := by exact_mod_cast hM.ne'
  funext q
  rw [dftF_apply]
  simp only [dftFinv_apply, mul_assoc, ← Finset.mul_sum]
  rw [sum_sum_mul_of_orth (sum_kB_kF hM), inv_mul_cancel_left₀ hMc]

theorem dft_adj (M : ℕ) (hM : 0 < M) (x y : Fin M → ℂ) :
    ip y (dftF M x) = ((M : ℝ) : ℂ) * ip (dftFinv M y) x := by
  have hMc : (M : ℂ) ≠ 0 := by exact_mod_cast hM.ne'
  unfold ip
  simp only [dftF_apply, dftFinv_apply, map_mul, map_sum, map_inv₀, Complex.conj_natCast, conj_kB,
    Finset.mul_sum, Finset.sum_mul, Complex.ofReal_natCast]
  rw [Finset.sum_comm]
  apply Finset.sum_congr rfl
  intro p _
  apply Finset.sum_congr rfl
  intro q _
  rw [mul_comm (((q : ℕ) : ℤ)) (((p : ℕ) : ℤ))]
  field_simp

/-- The 1-D DFT is a `FourierPair` with `c = M`. -/
noncomputable def dftPair (M : ℕ) (hM : 0 < M) : FourierPair (Fin M) where
  F := dftF M
  Finv := dftFinv M
  c := (M : ℝ)
  c_pos := by exact_mod_cast hM
  Finv_F := dftFinv_dftF hM
  F_Finv := dftF_dftFinv hM
  adj := dft_adj M hM

theorem dftPair_F_apply (M : ℕ) (hM : 0 < M) (x : Fin M → ℂ) (q : Fin M) :
    (dftPair M hM).F x q = Fft.dft M (kF M) (ext x) (q : ℕ) := rfl

theorem dftPair_Finv_apply (M : ℕ) (hM : 0 < M) (y : Fin M → ℂ) (p : Fin M) :
    (dftPair M hM).Finv y p = (M : ℂ)⁻¹ * Fft.dft M (kB M) (ext y) (p : ℕ) := rfl

theorem dftPair_c (M : ℕ) (hM : 0 < M) : (dftPair M hM).c = (M : ℝ) := rfl

section prod
variable {α β : Type*} [Fintype α] [Fintype β]

/-- Apply `L` along the first index, for every fixed second index. -/
def liftL (L : (α → ℂ) →ₗ[ℂ] (α → ℂ)) : (α × β → ℂ) →ₗ[ℂ] (α × β → ℂ) where
  toFun x := fun ab => L (fun a' => x (a', ab.2)) ab.1
  map_add' x y := by
    funext ab
    show L ((fun a' => x (a', ab.2)) + (fun a' => y (a', ab.2))) ab.1 = _
    rw [map_add]
    rfl
  map_smul' a x := by
    funext ab
    show L (a • (fun a' => x (a', ab.2))) ab.1 = _
    rw [map_smul]
    rfl

/-- Apply `L` along the second index, for every fixed first index. -/
def liftR (L : (β → ℂ) →ₗ[ℂ] (β → ℂ)) : (α × β → ℂ) →ₗ[ℂ] (α × β → ℂ) where
  toFun x := fun ab => L (fun b' => x (ab.1, b')) ab.2
  map_add' x y := by
    funext ab
    show L ((fun b' => x (ab.1, b')) + (fun b' => y (ab.1, b'))) ab.2 = _
    rw [map_add]
    rfl
  map_smul' a x := by
    funext ab
    show L (a • (fun b' => x (ab.1, b'))) ab.2 = _
    rw [map_smul]
    rfl

theorem liftL_apply (L : (α → ℂ) →ₗ[ℂ] (α → ℂ)) (x : α × β → ℂ) (a : α) (b : β) :
    liftL L x (a, b) = L (fun a' => x (a', b)) a := rfl

theorem liftR_apply (L : (β → ℂ) →ₗ[ℂ] (β → ℂ)) (x : α × β → ℂ) (a : α) (b : β) :
    liftR L x (a, b) = L (fun b' => x (a, b')) b := rfl

theorem liftL_comp_id {L L' : (α → ℂ) →ₗ[ℂ] (α → ℂ)} (h : ∀ x, L' (L x) = x) (x : α × β → ℂ) :
    liftL (β := β) L' (liftL L x) = x := by
  funext ⟨a, b⟩
  rw [liftL_apply]
  have : (fun a' => liftL (β := β) L x (a', b)) = L (fun a' => x (a', b)) := rfl
  rw [this, h]

theorem liftR_comp_id {L L' : (β → ℂ) →ₗ[ℂ] (β → ℂ)} (h : ∀ x, L' (L x) = x) (x : α × β → ℂ) :
    liftR (α := α) L' (liftR L x) = x := by
  funext ⟨a, b⟩
  rw [liftR_apply]
  have : (fun b' => liftR (α := α) L x (a, b')) = L (fun b' => x (a, b')) := rfl
  rw [this, h]

theorem ip_prod (x y : α × β → ℂ) :
    ip x y = ∑ b, ip (fun a => x (a, b)) (fun a => y (a, b)) := by
  unfold ip
  rw [Fintype.sum_prod_type, Finset.sum_comm]

theorem ip_prod' (x y : α × β → ℂ) :
    ip x y = ∑ a, ip (fun b => x (a, b)) (fun b => y (a, b)) := by
  unfold ip
  rw [Fintype.sum_prod_type]

theorem liftL_adj {L L' : (α → ℂ) →ₗ[ℂ] (α → ℂ)} {c : ℂ}
    (h : ∀ x y, ip y (L x) = c * ip (L' y) x) (x y : α × β → ℂ) :
    ip y (liftL (β := β) L x) = c * ip (liftL (β := β) L' y) x := by
  rw [ip_prod, ip_prod, Finset.mul_sum]
  apply Finset.sum_congr rfl
  intro b _
  exact h (fun a => x (a, b)) (fun a => y (a, b))

theorem liftR_adj {L L' : (β → ℂ) →ₗ[ℂ] (β → ℂ)} {c : ℂ}
    (h : ∀ x y, ip y (L x) = c * ip (L' y) x) (x y : α × β → ℂ) :
    ip y (liftR (α := α) L x) = c * ip (liftR (α := α) L' y) x := by
  rw [ip_prod', ip_prod', Finset.mul_sum]
  apply Finset.sum_congr rfl
  intro a _
  exact h (fun b => x (a, b)) (fun b => y (a, b))

/-- `P` along the first index, then `Q` along the second; the inverse undoes
them in the opposite order; `c = c_P · c_Q`. -/
noncomputable def FourierPair.prod (P : FourierPair α) (Q : FourierPair β) : FourierPair (α × β) where
  F := (liftR Q.F).comp (liftL P.F)
  Finv := (liftL P.Finv).comp (liftR Q.Finv)
  c := P.c * Q.c
  c_pos := mul_pos P.c_pos Q.c_pos
  Finv_F x := by
    simp only [LinearMap.comp_apply]
    rw [liftR_comp_id Q.Finv_F, liftL_comp_id P.Finv_F]
  F_Finv y := by
    simp only [LinearMap.comp_apply]
    rw [liftL_comp_id P.F_Finv, liftR_comp_id Q.F_Finv]
  adj x y := by
    simp only [LinearMap.comp_apply]
    rw [liftR_adj Q.adj, liftL_adj P.adj]
    push_cast
    ring

theorem FourierPair.prod_F_apply (P : FourierPair α) (Q : FourierPair β) (x : α × β → ℂ) (a : α) (b : β) :
    (P.prod Q).F x (a, b) = Q.F (fun b' => P.F (fun a' => x (a', b')) a) b := rfl

theorem FourierPair.prod_Finv_apply (P : FourierPair α) (Q : FourierPair β) (y : α × β → ℂ) (a : α) (b : β) :
    (P.prod Q).Finv y (a, b) = P.Finv (fun a' => Q.Finv (fun b' => y (a', b')) b) a := rfl

theorem FourierPair.prod_c (P : FourierPair α) (Q : FourierPair β) : (P.prod Q).c = P.c * Q.c := rfl

end prod

/-- A `My × Mx` array (indices `(iy, ix)`) as a function on `ℕ × ℕ` (value `0` outside). -/
noncomputable def ext2 {My Mx : ℕ} (x : Fin My × Fin Mx → ℂ) (py px : ℕ) : ℂ :=
  if h : py < My ∧ px < Mx then x (⟨py, h.1⟩, ⟨px, h.2⟩) else 0

theorem ext2_of_lt {My Mx : ℕ} (x : Fin My × Fin Mx → ℂ) {py px : ℕ} (hy : py < My) (hx : px < Mx) :
    ext2 x py px = x (⟨py, hy⟩, ⟨px, hx⟩) := dif_pos ⟨hy, hx⟩

theorem ext2_fin {My Mx : ℕ} (x : Fin My × Fin Mx → ℂ) (py : Fin My) (px : Fin Mx) :
    ext2 x (py : ℕ) (px : ℕ) = x (py, px) := ext2_of_lt x py.2 px.2

theorem ext2_restrict {My Mx : ℕ} (x : Fin My × Fin Mx → ℂ) : (fun m : Fin My × Fin Mx => ext2 x (m.1 : ℕ) (m.2 : ℕ)) = x :=
  funext fun m => ext2_fin x m.1 m.2

theorem dft2_fin (My Mx : ℕ) (kerY kerX : ℤ → ℂ) (a : ℕ → ℕ → ℂ) (qy qx : ℕ) :
    Fft.dft2 My Mx kerY kerX a qy qx
      = ∑ py : Fin My, ∑ px : Fin Mx,
          a (py : ℕ) (px : ℕ) * (kerY ((py : ℕ) * (qy : ℤ)) * kerX ((px : ℕ) * (qx : ℤ))) := by
  unfold Fft.dft2
  simp only [sumRange_eq, Finset.sum_range]

/-- The 2-D DFT is a `FourierPair` with `c = My·Mx`: the product of the two 1-D pairs. -/
noncomputable def dftPair2 (My Mx : ℕ) (hMy : 0 < My) (hMx : 0 < Mx) : FourierPair (Fin My × Fin Mx) :=
  (dftPair My hMy).prod (dftPair Mx hMx)

/-- `fftn` of the pair is `Fft.dft2` of any array that agrees with `x` on the grid (`dft2` reads nothing else). -/
theorem dftPair2_F_eq_dft2 (My Mx : ℕ) (hMy : 0 < My) (hMx : 0 < Mx) (x : Fin My × Fin Mx → ℂ) {a : ℕ → ℕ → ℂ}
    (ha : ∀ py (hy : py < My) px (hx : px < Mx), a py px = x (⟨py, hy⟩, ⟨px, hx⟩)) (qy : Fin My) (qx : Fin Mx) :
    (dftPair2 My Mx hMy hMx).F x (qy, qx) = Fft.dft2 My Mx (kF My) (kF Mx) a (qy : ℕ) (qx : ℕ) := by
  rw [dft2_fin]
  show dftF Mx (fun b' => dftF My (fun a' => x (a', b')) qy) qx = _
  rw [dftF_apply]
  simp only [dftF_apply, Finset.sum_mul, ha _ (Fin.is_lt _) _ (Fin.is_lt _)]
  rw [Finset.sum_comm]
  apply Finset.sum_congr rfl
  intro py _
  apply Finset.sum_congr rfl
  intro px _
  ring

theorem dftPair2_Finv_eq_dft2 (My Mx : ℕ) (hMy : 0 < My) (hMx : 0 < Mx) (y : Fin My × Fin Mx → ℂ) {a : ℕ → ℕ → ℂ}
    (ha : ∀ py (hy : py < My) px (hx : px < Mx), a py px = y (⟨py, hy⟩, ⟨px, hx⟩)) (py : Fin My) (px : Fin Mx) :
    (dftPair2 My Mx hMy hMx).Finv y (py, px)
      = ((My * Mx : ℕ) : ℂ)⁻¹ * Fft.dft2 My Mx (kB My) (kB Mx) a (py : ℕ) (px : ℕ) := by
  rw [dft2_fin]
  show dftFinv My (fun a' => dftFinv Mx (fun b' => y (a', b')) px) py = _
  rw [dftFinv_apply]
  simp only [dftFinv_apply, Finset.mul_sum, Finset.sum_mul, ha _ (Fin.is_lt _) _ (Fin.is_lt _)]
  apply Finset.sum_congr rfl
  intro qy _
  apply Finset.sum_congr rfl
  intro qx _
  push_cast
  rw [mul_inv]
  ring

theorem dftPair2_c (My Mx : ℕ) (hMy : 0 < My) (hMx : 0 < Mx) :
    (dftPair2 My Mx hMy hMx).c = ((My * Mx : ℕ) : ℝ) := by
  show (My : ℝ) * (Mx : ℝ) = _
  push_cast
  rfl

end HcipyVerif.NearField
