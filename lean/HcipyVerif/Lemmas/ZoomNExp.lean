import HcipyVerif.Lemmas.ZoomN
import HcipyVerif.Lemmas.FourierExp

/-! `Lemmas/ZoomN.lean` for `Complex.exp`: a branch representative other than `-(Δδ)` exists
(`expE` has period `2π`), and the three implementations agree with the naive sum. -/

namespace HcipyVerif.Fft
open Finset

theorem expE_add_two_pi_int (r : ℝ) (n : ℤ) : expE (r + 2 * Real.pi * (n : ℝ)) = expE r := by
  rw [expE_isChar.add, ← expT_eq_expE, expT_period, mul_one]

/-- satisfiability of the branch hypotheses with a representative different from `-(Δδ)`:
`Δδ = 4 > π`, principal value `-4 + 2π` -/
example : ∃ ω' : ℝ, ω' ≠ -(4 * 1) ∧ expE ω' = expE (-(4 * 1)) :=
  ⟨-(4 * 1) + 2 * Real.pi * ((1 : ℤ) : ℝ), by intro h; simp at h, expE_add_two_pi_int _ 1⟩

/-- satisfiability of the hypothesis bundle of `C01.zoom_forward_nd_any_branch_eq_sum` with a
non-trivial branch: one axis with `Δδ = 4 > π`, representative `ω' = -4 + 2π` -/
example : ∃ (axs : List (ZAx ℝ × ℝ × ℝ)) (ks : List ℕ),
    (∀ p ∈ axs, 0 < p.1.n ∧ p.1.n + p.1.m - 1 ≤ p.1.nfft ∧
      expE p.2.1 = expE (-(p.1.Δ * p.1.δ)) ∧ expE p.2.2 = expE (p.1.u0 * p.1.δ)) ∧
    List.Forall₂ (fun k p => k < p.1.m) ks axs :=
  ⟨[(⟨2, 3, 4, 4, 0, 1, 0, 4⟩, -(4 * 1) + 2 * Real.pi * ((1 : ℤ) : ℝ), 0 * 1)], [2], by
    intro p hp
    simp only [List.mem_cons, List.not_mem_nil, or_false] at hp
    subst hp
    exact ⟨by norm_num, by norm_num, expE_add_two_pi_int _ 1, rfl⟩,
    List.Forall₂.cons (by norm_num) List.Forall₂.nil⟩

/-- **The implementations agree** (`Complex.exp`, one axis).  On a consistent FFT axis
(`N ≤ M`, `Mo ≤ M`, `dT·M·δ = 1`, `0 < N`), with output coordinates `u_k = 2π·a_k + s`, for every
in-range output sample `k` and every `nfft ≥ N + Mo - 1`:
`FastFourierTransform.forward` = `MatrixFourierTransform.forward` (1-D, scalar weights, same grids)
= `ZoomFastFourierTransform.forward` (one axis, on `field * weights`)
= the naive transform `Σ_j f_j·w·exp(-i·u_k·x_j)`. -/
theorem implementations_agree (g : Cfg ℝ ℂ) (hN0 : 0 < g.N) (hN : g.N ≤ g.M) (hMo : g.Mo ≤ g.M)
    (hcons : g.dT * (g.M : ℝ) * g.δ = 1) (nfft : ℕ) (hnfft : g.N + g.Mo - 1 ≤ nfft)
    (f : ℕ → ℂ) (k : ℕ) (hk : k < g.Mo) :
    fastForward expT expE g f k
        = mftForward1 expE g.N g.x (fun k => 2 * Real.pi * g.a k + g.s) (.scalar g.w) f k
    ∧ fastForward expT expE g f k
        = zoomAxis g.N g.Mo nfft expE g.z g.δ (2 * Real.pi * g.a 0 + g.s) (2 * Real.pi * g.dT)
            (fun j => f j * g.w) k
    ∧ fastForward expT expE g f k
        = ∑ j ∈ range g.N, f j * g.w *
            Complex.exp (-(Complex.I * (((2 * Real.pi * g.a k + g.s : ℝ) : ℂ) * ((g.x j : ℝ) : ℂ)))) := by
  refine ⟨fft_eq_mft expT_isChar expE_isChar expT_period _ expT_eq_expE g hN hMo hcons f k hk,
    fft_eq_zoom expT_isChar expE_isChar expT_period _ expT_eq_expE two_ne_zero g hN0 hN hMo hcons
      nfft hnfft f k hk, ?_⟩
  rw [fft_eq_mft expT_isChar expE_isChar expT_period _ expT_eq_expE g hN hMo hcons f k hk,
    mft_forward_eq_sum_1d]
  apply Finset.sum_congr rfl
  intro j _
  simp only [Weights.get]
  congr 1
  unfold expE
  congr 1
  push_cast
  ring

/-- satisfiability of the hypothesis bundle of `implementations_agree`
(`N = 2, M = 4, Mo = 3, δ = dT = 1/2, nfft = 4`) -/
example : ∃ (g : Cfg ℝ ℂ) (nfft k : ℕ), 0 < g.N ∧ g.N ≤ g.M ∧ g.Mo ≤ g.M ∧
    g.dT * (g.M : ℝ) * g.δ = 1 ∧ g.N + g.Mo - 1 ≤ nfft ∧ k < g.Mo :=
  ⟨{ N := 2, M := 4, Mo := 3, δ := 1 / 2, z := 0, dT := 1 / 2, s := 0, w := 1, emu := false },
    4, 2, by norm_num, by norm_num, by norm_num, by norm_num, by norm_num, by norm_num⟩

end HcipyVerif.Fft
