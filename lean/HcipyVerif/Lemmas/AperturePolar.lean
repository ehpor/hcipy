import Mathlib.Tactic.Linarith
import Mathlib.Tactic.Ring
import HcipyVerif.Lemmas.Aperture
import HcipyVerif.Model.ApertureHistory

/-!
# C12 — the code path on polar grids

`evalPolar_eq_val_of_agree`: the polar code path (radius shortcut of the centre-less circle,
`PolarGrid.rotate`, `as_('cartesian')` for everything else) computes the point semantics at
`(r cos θ, r sin θ)` wherever the radius shortcuts give what the Cartesian test gives (`diskAgree`, Model),
with no assumption on the direction `(cos θ, sin θ)` or the radii.  They do (`diskAgree_of_polarWF`) at every point
with `r ≥ 0` and unit direction provided every centre-less circle has a non-negative radius (`PolarWF`); for a
negative radius the statement is false (`polar_circle_negative_diameter_counterexample`, Properties/C12.lean),
and so is the real code.  The floats the driver is sent do not satisfy `cos² + sin² = 1`: `le_iff_mul_le_of_far`, `polar_float_rim` (Properties/C12.lean).
-/

namespace HcipyVerif.Aperture

/-- centre-less circles evaluated on the polar grid itself have a non-negative radius, and the
rotations on the way to them are rotations (`cos² + sin² = 1`) -/
def PolarWF : Shape → Prop
  | .disk R => 0 ≤ R
  | .compl a => PolarWF a
  | .mul a b => PolarWF a ∧ PolarWF b
  | .sub a b => PolarWF a ∧ PolarWF b
  | .rot c s a => c * c + s * s = 1 ∧ PolarWF a
  | _ => True

/-- a legal polar point: non-negative radius, unit direction -/
def PolarPt (q : PPt) : Prop := 0 ≤ q.1 ∧ q.2.1 * q.2.1 + q.2.2 * q.2.2 = 1

theorem map_toCart {f : PPt → PPt} {g : Pt → Pt} (h : ∀ q, toCart (f q) = g (toCart q)) (qs : List PPt) :
    (qs.map f).map toCart = (qs.map toCart).map g := by
  rw [List.map_map, List.map_map]
  exact List.map_congr_left fun q _ => h q

theorem toCart_rotDir (c s : Rat) (q : PPt) : toCart (rotDir c s q) = rotPt c s (toCart q) := by
  simp only [toCart, rotDir, rotPt, Prod.mk.injEq]
  constructor <;> ring

theorem rotDir_norm (c s : Rat) (q : PPt) :
    (rotDir c s q).2.1 * (rotDir c s q).2.1 + (rotDir c s q).2.2 * (rotDir c s q).2.2
      = (c * c + s * s) * (q.2.1 * q.2.1 + q.2.2 * q.2.2) := by
  simp only [rotDir]; ring

theorem rotDir_polarPt {c s : Rat} (h : c * c + s * s = 1) {q : PPt} (hq : PolarPt q) :
    PolarPt (rotDir c s q) :=
  ⟨hq.1, by rw [rotDir_norm, h, hq.2, mul_one]⟩

theorem evalPolar_eq_val_of_agree (s : Shape) (qs : List PPt) (hq : ∀ q ∈ qs, diskAgree s q = true) :
    evalPolar s qs = (qs.map toCart).map (val s) := by
  fun_induction evalPolar s qs with
  | case1 R qs =>
    rw [List.map_map]
    exact List.map_congr_left fun q hqm => congrArg b2r (beq_iff_eq.mp (hq q hqm))
  | case2 a qs ih => rw [ih hq, List.map_map]; rfl
  | case3 a b qs iha ihb | case4 a b qs iha ihb =>
    rw [iha fun q h => (Bool.and_eq_true_iff.mp (hq q h)).1,
      ihb fun q h => (Bool.and_eq_true_iff.mp (hq q h)).2, ListFacts.zipWith_map_same]; rfl
  | case5 c s a qs ih =>
    rw [ih (List.forall_mem_map.mpr hq), map_toCart (toCart_rotDir c s), List.map_map]
    rfl
  | case6 s qs => exact evalPts_eq_val s _

theorem diskAgree_disk {R : Rat} {q : PPt} :
    diskAgree (.disk R) q = true ↔ (q.1 ≤ R ↔ sq q.1 * (q.2.1 * q.2.1 + q.2.2 * q.2.2) ≤ sq R) := by
  have hn : sq (q.1 * q.2.1) + sq (q.1 * q.2.2) = sq q.1 * (q.2.1 * q.2.1 + q.2.2 * q.2.2) := by
    unfold sq; ring
  simp only [diskAgree, inCircle, toCart, sub_zero, beq_iff_eq, decide_eq_decide, hn]

theorem diskAgree_of_polarPt {R : Rat} (hR : 0 ≤ R) {q : PPt} (hq : PolarPt q) :
    diskAgree (.disk R) q = true := by
  rw [diskAgree_disk, hq.2, mul_one]
  exact mul_self_le_mul_self_iff hq.1 hR

theorem diskAgree_of_polarWF (s : Shape) (q : PPt) (h : PolarWF s) (hq : PolarPt q) :
    diskAgree s q = true := by
  fun_induction diskAgree s q with
  | case1 R q => exact diskAgree_of_polarPt h hq
  | case2 a q ih => exact ih h hq
  | case3 a b q iha ihb | case4 a b q iha ihb => exact Bool.and_eq_true_iff.mpr ⟨iha h.1 hq, ihb h.2 hq⟩
  | case5 c s a q ih => exact ih h.2 (rotDir_polarPt h.1 hq)
  | case6 s q => rfl

theorem le_iff_mul_le_of_far {u v n ε : Rat} (hu : 0 ≤ u) (hn : |n - 1| ≤ ε) (hfar : ε * u < |u - v|) :
    u ≤ v ↔ u * n ≤ v := by
  obtain ⟨h1, h2⟩ := abs_le.mp hn
  have hlo := mul_le_mul_of_nonneg_left h1 hu
  have hhi := mul_le_mul_of_nonneg_left h2 hu
  constructor
  · intro h
    rw [abs_of_nonpos (sub_nonpos.mpr h)] at hfar
    linarith
  · intro h
    by_contra hc
    rw [abs_of_pos (sub_pos.mpr (not_le.mp hc))] at hfar
    linarith

theorem toCart_scaleRad (k : Rat) (q : PPt) : toCart (scaleRad k q) = scalePt k k (toCart q) :=
  Prod.ext (mul_assoc ..) (mul_assoc ..)

theorem IOp.apply_cart (o : IOp) (pts : List Pt) :
    o.apply (.cart pts) = some (.cart (o.reorder (pts.map o.onPt))) := by
  cases o <;> simp [IOp.apply, IOp.onPt, IOp.reorder]

theorem IOp.reorder_length {α : Type} (o : IOp) (l : List α) : (o.reorder l).length = l.length := by
  cases o <;> simp [IOp.reorder]

end HcipyVerif.Aperture
