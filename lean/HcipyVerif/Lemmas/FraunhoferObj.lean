import HcipyVerif.Lemmas.FraunhoferBridge
import HcipyVerif.Lemmas.FraunhoferAbstract
import HcipyVerif.Lemmas.Nft
import HcipyVerif.Model.FraunhoferObj

/-!
# C03 — the executed propagator object (`Model/FraunhoferObj.lean`) at `ℝ`/`ℂ`

`scalarsR` is the instance of `Scalars` the theorems use; the driver runs the same `LensProp.forward/backward` with
`scalarsQ`.  `lens_transform` presents the executed pipeline as a Fourier transform of the abstract theorems,
`planSound_of_model` gives its hypotheses for the executable plan; `HeapOk` is the allocation invariant of `runCalls`
(the log is the list of all ids allocated so far).
-/

namespace HcipyVerif.FourierLink
open HcipyVerif.Fft HcipyVerif.Fraunhofer HcipyVerif.ListFacts Finset

/-- the scalars of the proofs: characters `exp(2πi t)` / `exp(i r)`, `unit = 2π`, `norm_factor = 1/(i f λ)` -/
noncomputable def scalarsR : Scalars ℝ ℂ :=
  { T := expT, E := expE, cj := starRingEnd ℂ, unit := 2 * Real.pi, ofK := Complex.ofReal, absK := fun r => |r|,
    norm := normFactorC }

/-- the propagator object between two regular Cartesian grids -/
@[reducible] def regObj (py px Fy Fx : RegAxis) (f : ℝ → ℝ) (plan : ℝ → Plan) (emu : Bool) : LensProp ℝ :=
  ⟨axOf py, axOf px, .regular (axOf Fy) (axOf Fx), f, plan, emu⟩

/-- the propagator object onto an arbitrary list of `n` focal points (unstructured / polar grid) -/
@[reducible] def ptsObj (py px : RegAxis) (n : ℕ) (X Y w : ℕ → ℝ) (f : ℝ → ℝ) (plan : ℝ → Plan) (emu : Bool) :
    LensProp ℝ :=
  ⟨axOf py, axOf px, .points n X Y w, f, plan, emu⟩

/-- a wavefront record on an `(n, m)` grid: arrays zero outside their shape -/
noncomputable def wfOf {τ : Type} {n m : ℕ} (E : τ → Fin n × Fin m → ℂ) (lam : ℝ) (S : Option (ℝ × ℝ × ℝ × ℝ)) :
    Wf τ ℝ ℂ :=
  ⟨fun t => ext2 (E t), lam, S⟩

theorem clip2_eq_ext2 (n m : ℕ) (F : ℕ → ℕ → ℂ) : clip2 n m F = ext2 (fun k : Fin n × Fin m => F k.1 k.2) := by
  funext i j
  by_cases h : i < n ∧ j < m <;> simp [clip2, ext2, h]

theorem clip2_apply (n m : ℕ) (F : ℕ → ℕ → ℂ) (k : Fin n × Fin m) : clip2 n m F k.1 k.2 = F k.1 k.2 := by
  simp [clip2, k.1.2, k.2.2]

/-- **The plan is what the modelled `make_fourier_transform` can return from sound inputs** at `lf = λ f`: its method
is a result of `choose detectFix` for two regular Cartesian 2-D grids, and if the numerical part of
`get_fft_parameters` succeeded the padded sizes are those of the native grid. -/
def PlanSound (py px Fy Fx : RegAxis) (lf : ℝ) (pl : Plan) : Prop :=
  ∃ numFft cheaper : Bool,
    (Fft.choose detectFix regDesc (some ⟨regDesc, numFft⟩) cheaper).map (·.method) = some pl.m ∧
    (numFft = true → lf ≠ 0 ∧ NativeAxis py Fy lf pl.My ∧ NativeAxis px Fx lf pl.Mx)

theorem planSound_mft (py px Fy Fx : RegAxis) (lf : ℝ) (My Mx : ℕ) (mat : Bool) :
    PlanSound py px Fy Fx lf ⟨.mft, My, Mx, mat⟩ :=
  ⟨false, false, by rw [choose_regDesc]; rfl, nofun⟩

/-- **The executed pipeline is `norm · T.fwd` / `norm⁻¹ · T.bwd` of the transform pair `T` of pupil and uv grid**,
whatever method a sound plan holds (`numFft`/`My Mx` are what the executable selection gets from `classify`, `cheaper` is
the planner's outcome). -/
theorem lens_transform (py px Fy Fx : RegAxis) (lam f : ℝ) (emu : Bool) (pl : Plan)
    (hs : PlanSound py px Fy Fx (lam * f) pl) :
    ∃ T : FourierTransform (Fin py.n × Fin px.n) (Fin Fy.n × Fin Fx.n),
      IsFT T (regGrid2 py px) ((regGrid2 Fy Fx).scaled (uvScaleR lam f)) ∧
      (∀ (norm : ℂ) E, (fun k : Fin Fy.n × Fin Fx.n => lensForward expT expE (2 * Real.pi) Complex.ofReal norm pl.m emu
          (axOf py) (axOf px) (axOf Fy) (axOf Fx) (lam * f) pl.My pl.Mx (ext2 E) k.1 k.2) = norm • T.fwd E) ∧
      (0 < Fy.δ → 0 < Fx.δ → ∀ (norm : ℂ) G j, lensBackward expT expE (starRingEnd ℂ) (2 * Real.pi) Complex.ofReal
          (fun r => |r|) norm pl.m emu (axOf py) (axOf px) (axOf Fy) (axOf Fx) (lam * f) pl.My pl.Mx (ext2 G) j.1 j.2
            = norm⁻¹ * T.bwd G j) := by
  obtain ⟨numFft, cheaper, hm, hn⟩ := hs
  obtain ⟨m, My, Mx, mat⟩ := pl
  rw [uvScaleR_eq]
  rcases choose_regular_cases hm with rfl | ⟨rfl, hnum⟩
  · exact ⟨mftLens py px Fy Fx (lam * f), mftLens_isFT _ _ _ _ _,
      fun norm E => funext fun k => lensForward_mft py px Fy Fx _ My Mx emu norm E k,
      fun hy hx norm G j => lensBackward_mft py px Fy Fx _ My Mx emu norm hy hx G j⟩
  · obtain ⟨hlf, hy, hx⟩ := hn hnum
    exact ⟨fftAt hlf hy hx emu, fftAt_isFT hlf hy hx emu,
      fun norm E => funext fun k => lensForward_fft py px Fy Fx _ My Mx emu _ _ norm E k,
      fun _ _ norm G j => lensBackward_fft py px Fy Fx _ My Mx emu _ _ norm G j⟩

theorem lensMethod_eq_choose {s : Setup} {focal : RegGrid} {δx δy Δx Δy zx zy Zx Zy : ℚ} {Nx Ny Mox Moy : ℕ}
    (hp : s.pupil = ⟨[δx, δy], [Nx, Ny], [zx, zy]⟩) (hf : focal = ⟨[Δx, Δy], [Mox, Moy], [Zx, Zy]⟩) (cheaper : Bool) :
    lensMethod s focal cheaper
      = (Fft.choose detectFix regDesc (some ⟨regDesc, (classify s focal).1 != FocalClass.other⟩) cheaper).map
          (·.method) := by
  have h2 : s.pupil.ndim = 2 := by rw [hp]; rfl
  have h3 : focal.ndim = 2 := by rw [hf]; rfl
  unfold lensMethod
  rw [h2, h3]
  rfl

theorem planSound_of_model {s : Setup} {focal : RegGrid} {δx δy Δx Δy zx zy Zx Zy : ℚ} {Nx Ny Mox Moy : ℕ}
    (hp : s.pupil = ⟨[δx, δy], [Nx, Ny], [zx, zy]⟩) (hf : focal = ⟨[Δx, Δy], [Mox, Moy], [Zx, Zy]⟩)
    (hlf : lamf s ≠ 0) {cheaper : Bool} (pl : Plan) (hm : lensMethod s focal cheaper = some pl.m)
    (hM : (classify s focal).1 ≠ .other → (classify s focal).2 = [pl.Mx, pl.My]) :
    PlanSound (axisR Ny δy zy) (axisR Nx δx zx) (axisR Moy Δy Zy) (axisR Mox Δx Zx) ((s.lam : ℝ) * (s.f : ℝ)) pl := by
  refine ⟨(classify s focal).1 != FocalClass.other, cheaper, (lensMethod_eq_choose hp hf cheaper).symm.trans hm,
    fun hnum => ?_⟩
  have hne : (classify s focal).1 ≠ .other := by simpa using hnum
  obtain ⟨Mx, My, hMs, hx, hy⟩ := classify_native_2d hp hf hne
  obtain ⟨rfl, rfl⟩ : Mx = pl.Mx ∧ My = pl.My := by simpa [hMs] using hM hne
  refine ⟨lamf_cast_ne_zero hlf, ?_⟩
  rw [← lamf_cast]
  exact ⟨nativeAxis_cast hy, nativeAxis_cast hx⟩

theorem regObj_forward_field {τ : Type} (py px Fy Fx : RegAxis) (f : ℝ → ℝ) (plan : ℝ → Plan) (emu : Bool)
    (wf : Wf τ ℝ ℂ) (t : τ) :
    ((regObj py px Fy Fx f plan emu).forward scalarsR wf).field t
      = clip2 Fy.n Fx.n (lensForward expT expE (2 * Real.pi) Complex.ofReal (normFactorC wf.wavelength (f wf.wavelength))
          (plan wf.wavelength).m emu (axOf py) (axOf px) (axOf Fy) (axOf Fx) (wf.wavelength * f wf.wavelength)
          (plan wf.wavelength).My (plan wf.wavelength).Mx (wf.field t)) := by rfl

theorem regObj_backward_field {τ : Type} (py px Fy Fx : RegAxis) (f : ℝ → ℝ) (plan : ℝ → Plan) (emu : Bool)
    (wf : Wf τ ℝ ℂ) (t : τ) :
    ((regObj py px Fy Fx f plan emu).backward scalarsR wf).field t
      = clip2 py.n px.n (lensBackward expT expE (starRingEnd ℂ) (2 * Real.pi) Complex.ofReal (fun r => |r|)
          (normFactorC wf.wavelength (f wf.wavelength))
          (plan wf.wavelength).m emu (axOf py) (axOf px) (axOf Fy) (axOf Fx) (wf.wavelength * f wf.wavelength)
          (plan wf.wavelength).My (plan wf.wavelength).Mx (wf.field t)) := by rfl

theorem ptsObj_forward_field {τ : Type} (py px : RegAxis) (n : ℕ) (X Y w : ℕ → ℝ) (f : ℝ → ℝ) (plan : ℝ → Plan)
    (emu : Bool) (wf : Wf τ ℝ ℂ) (t : τ) :
    ((ptsObj py px n X Y w f plan emu).forward scalarsR wf).field t
      = clip2 1 n (fun _ k => lensNaiveForward expT (plan wf.wavelength).mat Complex.ofReal (axOf py) (axOf px) X Y
          (wf.wavelength * f wf.wavelength) (wf.field t) k * normFactorC wf.wavelength (f wf.wavelength)) := by rfl

theorem ptsObj_backward_field {τ : Type} (py px : RegAxis) (n : ℕ) (X Y w : ℕ → ℝ) (f : ℝ → ℝ) (plan : ℝ → Plan)
    (emu : Bool) (wf : Wf τ ℝ ℂ) (t : τ) :
    ((ptsObj py px n X Y w f plan emu).backward scalarsR wf).field t
      = clip2 py.n px.n (fun jy jx => lensNaiveBackward expT (plan wf.wavelength).mat Complex.ofReal (axOf py) (axOf px)
          n X Y w (wf.wavelength * f wf.wavelength) (wf.field t 0) (jy * px.n + jx)
          * (normFactorC wf.wavelength (f wf.wavelength))⁻¹) := by rfl

/-- Every `focal_length` setter of the model (`Session`, `LensProp`) is such a `step`. -/
theorem foldl_overwrite {α β : Type*} {step : α → β → α} (xs : List β) (y : β) (a : α)
    (h : ∀ a x y, step (step a x) y = step a y) : (xs ++ [y]).foldl step a = step a y := by
  induction xs generalizing a with
  | nil => rfl
  | cons x xs ih => exact (ih (step a x)).trans (h a x y)

theorem regObj_sets (py px Fy Fx : RegAxis) (emu : Bool) (sets : List ((ℝ → ℝ) × (ℝ → Plan))) (f : ℝ → ℝ)
    (plan : ℝ → Plan) (g : ℝ → ℝ) (pl : ℝ → Plan) :
    ((sets ++ [(g, pl)]).foldl (fun P s => P.setFocalLength s.1 s.2) (regObj py px Fy Fx f plan emu))
      = regObj py px Fy Fx g pl emu :=
  foldl_overwrite sets (g, pl) _ fun _ _ _ => rfl

/-- both code paths of `NaiveFourierTransform.forward` on the raveled regular pupil grid are the weighted sum over
the pupil samples (C01 `nft_forward_fly_eq_sum`, `nft_forward_mat_eq_sum`) -/
theorem lensNaiveForward_eq_sum (mat : Bool) (py px : RegAxis) (X Y : ℕ → ℝ) (lf : ℝ)
    (E : Fin py.n × Fin px.n → ℂ) (k : ℕ) :
    lensNaiveForward expT mat Complex.ofReal (axOf py) (axOf px) X Y lf (ext2 E) k
      = ∑ j : Fin py.n × Fin px.n, E j * ((py.δ * px.δ : ℝ) : ℂ)
          * expT (-(X k / lf * px.x j.2 + Y k / lf * py.x j.1)) := by
  unfold lensNaiveForward
  simp only [nft_forward_fly_eq_sum, nft_forward_mat_eq_sum, ite_self]
  rw [sum_flat, sum_range2]
  refine Finset.sum_congr rfl fun j _ => ?_
  simp only [dotCoords_two, pupilX, pupilY, flat_div j.2.2, Nat.mul_add_mod_of_lt j.2.2, ext2_apply]
  rfl

/-- both code paths of `backward`: the sum over the `n` focal points with `weights_output = w_k/lf²` -/
theorem lensNaiveBackward_eq_sum (mat : Bool) (py px : RegAxis) (n : ℕ) (X Y w : ℕ → ℝ) (lf : ℝ)
    (G : ℕ → ℂ) (j : Fin py.n × Fin px.n) :
    lensNaiveBackward expT mat Complex.ofReal (axOf py) (axOf px) n X Y w lf G (j.1 * px.n + j.2)
      = ∑ k ∈ range n, G k * ((1 / lf * (1 / lf) * w k : ℝ) : ℂ)
          * expT (X k / lf * px.x j.2 + Y k / lf * py.x j.1) := by
  unfold lensNaiveBackward
  simp only [nft_backward_fly_eq_sum, nft_backward_mat_eq_sum, ite_self]
  refine Finset.sum_congr rfl fun k _ => ?_
  simp only [dotCoords_two, pupilX, pupilY, flat_div j.2.2, Nat.mul_add_mod_of_lt j.2.2]
  rfl

/-- the log lists exactly the arrays allocated so far, in order of allocation: every new array is logged at once and
ids are consecutive -/
def HeapOk (h : Heap) (log : List WfRef) : Prop := log.flatMap WfRef.ids = List.range h.next

theorem heapOk_newWavefront {h : Heap} {log : List WfRef} (ok : HeapOk h log) (s : Bool) :
    HeapOk (h.newWavefront s).1 (log ++ [(h.newWavefront s).2]) := by
  unfold HeapOk at ok ⊢
  -- one new array (`next`) without, two (`next`, `next + 1`) with a Stokes vector
  cases s <;> simp [Heap.newWavefront, WfRef.ids, ok, List.range_succ]

theorem propagate_eq_newWavefront (h : Heap) (w : WfRef) : h.propagate w = h.newWavefront w.stokes.isSome := by
  unfold Heap.propagate Heap.newWavefront
  cases w.stokes <;> rfl

theorem heapOk_propagate {h : Heap} {log : List WfRef} (ok : HeapOk h log) (w : WfRef) :
    HeapOk (h.propagate w).1 (log ++ [(h.propagate w).2]) := by
  rw [propagate_eq_newWavefront]
  exact heapOk_newWavefront ok _

theorem heapOk_runCalls (cs : List Call) (h : Heap) (log : List WfRef) (ok : HeapOk h log) :
    HeapOk (runCalls h log cs).1 (runCalls h log cs).2 := by
  fun_induction runCalls h log cs with
  | case1 => exact ok
  | case2 h log s cs h1 w e1 h2 r e2 ih =>
    have a := heapOk_newWavefront ok s
    rw [e1] at a
    have b := heapOk_propagate a w
    rw [e2, List.append_assoc] at b
    exact ih b
  | case3 h log i cs w hi h2 r e2 ih =>
    have b := heapOk_propagate ok w
    rw [e2] at b
    exact ih b
  | case4 h log i cs hi ih => exact ih ok

end HcipyVerif.FourierLink

namespace HcipyVerif.Fraunhofer

/-- **`Bad` variant** (not the code's behaviour): a `forward` of the object that builds `Wavefront(field, wavelength)` and
forgets `input_stokes_vector`. -/
def Bad.objForwardDropStokes {σ K C : Type} [Zero K] [Add K] [Sub K] [Mul K] [Neg K] [Div K] [One K] [NatCast K]
    [IntCast K] [Zero C] [One C] [Add C] [Mul C] [Inv C] [NatCast C] (S : Scalars K C) (P : LensProp K) (wf : Wf σ K C) :
    Wf σ K C :=
  { P.forward S wf with stokes := none }

/-- `Wavefront.I` of a Jones-matrix record: `stokesI` of its Stokes vector, without one the unpolarised `(1,0,0,0)` -/
noncomputable def recordI (S : Option (ℝ × ℝ × ℝ × ℝ)) (x y z w : ℂ) : ℝ :=
  stokesI (match S with
    | some (a, b, c, d) => ![a, b, c, d]
    | none => ![1, 0, 0, 0]) x y z w

end HcipyVerif.Fraunhofer
