import Mathlib.Algebra.Order.Field.Basic

/-! The two enclosure bounds of a wavelength-key difference at the extreme wavelength ratio `1 + ε` and the
extreme base `1 + δ`, over any ordered field: they are read at ℝ in `Lemmas/WavelengthKey.lean` and at ℚ for
the bounds the driver evaluates (`Cache.wlDiffLo`, `Cache.wlDiffHi`). -/

namespace HcipyVerif.WavelengthKey

variable {K : Type*} [Field K] [LinearOrder K] [IsStrictOrderedRing K] {b l1 l2 ε δ : K}

theorem diffLo_ge (hb1 : 1 < b) (hb : b ≤ 1 + δ) (h1 : 0 < l1) (hε : 0 ≤ ε) (h : l1 * (1 + ε) ≤ l2) :
    (1 - 1 / (1 + ε)) / δ ≤ (1 - l1 / l2) / (b - 1) := by
  have hε1 : 0 < 1 + ε := add_pos_of_pos_of_nonneg one_pos hε
  have h2 : 0 < l2 := (mul_pos h1 hε1).trans_le h
  have hq : l1 / l2 ≤ 1 / (1 + ε) := (div_le_div_iff₀ h2 hε1).2 (by rwa [one_mul])
  have hq1 : 1 / (1 + ε) ≤ 1 := (div_le_one hε1).2 (le_add_of_nonneg_right hε)
  exact div_le_div₀ (sub_nonneg.2 (hq.trans hq1)) (sub_le_sub_left hq 1) (sub_pos.2 hb1)
    (sub_le_iff_le_add'.2 hb)

theorem diffHi_le (hb : 1 + δ ≤ b) (hδ : 0 < δ) (h1 : 0 < l1) (hε : 0 ≤ ε) (h : l2 ≤ l1 * (1 + ε)) :
    (l2 / l1 - 1) / (1 - 1 / b) ≤ ε / (1 - 1 / (1 + δ)) := by
  have hδ1 : 1 < 1 + δ := lt_add_of_pos_right 1 hδ
  have hδ0 : 0 < 1 + δ := one_pos.trans hδ1
  exact div_le_div₀ hε (sub_le_iff_le_add'.2 ((div_le_iff₀' h1).2 h))
    (sub_pos.2 ((div_lt_one hδ0).2 hδ1)) (sub_le_sub_left (one_div_le_one_div_of_le hδ0 hb) 1)

end HcipyVerif.WavelengthKey
