import Mathlib.Analysis.SpecialFunctions.Complex.Arg
import HcipyVerif.Lemmas.GridGeom
import Mathlib.Data.Rat.Lemmas
import Mathlib.Data.Nat.Sqrt

/-!
Real-number specification of the coordinate-system conversions of `hcipy/field/polar_grid.py`:
`_cartesian_to_polar` computes `(np.hypot(x, y), np.arctan2(y, x))`, `_polar_to_cartesian`
computes `(r cos θ, r sin θ)`.  `np.hypot` is `√(x²+y²)` and `np.arctan2(y, x)` is the principal
argument of `x + iy` in `(-π, π]` (NumPy specifications, assumed).  C11 `cartToPolar_matches_spec` ties the
exact conversion `cartToPolar?` of Model/Grid.lean to it.
-/

namespace HcipyVerif.Grid

noncomputable def toPolar (p : ℝ × ℝ) : ℝ × ℝ :=
  (Real.sqrt (p.1 * p.1 + p.2 * p.2), Complex.arg ⟨p.1, p.2⟩)

noncomputable def toCart (q : ℝ × ℝ) : ℝ × ℝ := (q.1 * Real.cos q.2, q.1 * Real.sin q.2)

theorem ratSqrt?_spec (q r : Rat) (h : ratSqrt? q = some r) : 0 ≤ r ∧ r * r = q := by
  unfold ratSqrt? at h
  split_ifs at h with hq hsq
  obtain rfl := Option.some.inj h
  refine ⟨div_nonneg (Nat.cast_nonneg _) (Nat.cast_nonneg _), ?_⟩
  -- `q = num / den` with `num = |num|` as `q ≥ 0`, and both are the squares of their integer roots
  rw [div_mul_div_comm, ← Nat.cast_mul, ← Nat.cast_mul, hsq.1, hsq.2, Nat.cast_natAbs,
    abs_of_nonneg (Rat.num_nonneg.mpr (not_lt.mp hq))]
  exact Rat.num_div_den q

theorem ratSqrt?_sq (r : Rat) (hr : 0 ≤ r) : ratSqrt? (r * r) = some r := by
  unfold ratSqrt?
  have h0 : ¬ (r * r < 0) := not_lt.mpr (mul_self_nonneg r)
  have hn : (r * r).num = r.num * r.num := Rat.mul_self_num r
  have hd : (r * r).den = r.den * r.den := Rat.mul_self_den r
  have hna : (r * r).num.natAbs = r.num.natAbs * r.num.natAbs := by rw [hn, Int.natAbs_mul]
  simp only [h0, if_false, hna, hd, Nat.sqrt_eq, and_self, if_true, Option.some.injEq]
  rw [Nat.cast_natAbs, abs_of_nonneg (Rat.num_nonneg.mpr hr)]
  exact Rat.num_div_den r

theorem cartToPolar?_spec (x y : Rat) (q : List Rat) (h : cartToPolar? [x, y] = some q) :
    ∃ r c s, q = [r, c, s] ∧ 0 ≤ r ∧ r * r = x * x + y * y ∧ c * c + s * s = 1 ∧ x = r * c ∧ y = r * s := by
  simp only [cartToPolar?, Option.map_eq_some_iff] at h
  obtain ⟨r, hr, rfl⟩ := h
  obtain ⟨h0, hsq⟩ := ratSqrt?_spec _ _ hr
  by_cases hz : r = 0
  · subst hz
    obtain ⟨rfl, rfl⟩ := mul_self_add_mul_self_eq_zero.mp (hsq.symm.trans (mul_zero 0))
    exact ⟨0, 1, 0, if_pos rfl, le_refl _, by ring, by ring, by ring, by ring⟩
  · refine ⟨r, x / r, y / r, if_neg hz, h0, hsq, ?_, (mul_div_cancel₀ x hz).symm, (mul_div_cancel₀ y hz).symm⟩
    rw [div_mul_div_comm, div_mul_div_comm, ← add_div, ← hsq, div_self (mul_ne_zero hz hz)]

theorem cartToPolar?_some {x y r c s : Rat} (h : cartToPolar? [x, y] = some [r, c, s]) :
    0 ≤ r ∧ r * r = x * x + y * y ∧ c * c + s * s = 1 ∧ x = r * c ∧ y = r * s := by
  obtain ⟨r', c', s', hq, hrest⟩ := cartToPolar?_spec x y _ h
  simp only [List.cons.injEq, and_true] at hq
  obtain ⟨rfl, rfl, rfl⟩ := hq
  exact hrest

/-- a point of the executable model as a pair of reals -/
def ptR (p : List Rat) : ℝ × ℝ := (((p.getD 0 0 : Rat) : ℝ), ((p.getD 1 0 : Rat) : ℝ))

theorem ptR_pair (x y : Rat) : ptR [x, y] = ((x : ℝ), (y : ℝ)) := rfl

theorem toCart_eq_ptR (r c s : Rat) (θ : ℝ) (hc : Real.cos θ = (c : ℝ)) (hs : Real.sin θ = (s : ℝ)) :
    toCart ((r : ℝ), θ) = ptR (polarToCart [r, c, s]) := by
  simp only [toCart, hc, hs, polarToCart, ptR_pair, Rat.cast_mul]

theorem polarToCart_scale (r c s k : Rat) : polarToCart [r * k, c, s] = scalePt [k, k] (polarToCart [r, c, s]) := by
  simp only [polarToCart, scalePt, List.zipWith_cons_cons, List.zipWith_nil_right, List.cons.injEq, and_true]
  constructor <;> ring

theorem headD_scalePt (k : Rat) (f p : List Rat) : (scalePt (k :: f) p).headD 0 = p.headD 0 * k := by
  cases p with
  | nil => exact (zero_mul k).symm
  | cons x p => rfl

theorem toCart_toPolar (p : ℝ × ℝ) : toCart (toPolar p) = p := by
  obtain ⟨x, y⟩ := p
  have h1 := Complex.norm_mul_cos_arg (⟨x, y⟩ : ℂ)
  have h2 := Complex.norm_mul_sin_arg (⟨x, y⟩ : ℂ)
  rw [Complex.norm_def, Complex.normSq_apply] at h1 h2
  simp only [toCart, toPolar, Prod.mk.injEq]
  exact ⟨h1, h2⟩

theorem toPolar_radius (p : ℝ × ℝ) : 0 ≤ (toPolar p).1 ∧ (toPolar p).1 * (toPolar p).1 = p.1 * p.1 + p.2 * p.2 :=
  ⟨Real.sqrt_nonneg _, Real.mul_self_sqrt (add_nonneg (mul_self_nonneg _) (mul_self_nonneg _))⟩

theorem toCart_rotate (r θ α : ℝ) :
    toCart (r, θ + α) =
      (Real.cos α * (toCart (r, θ)).1 - Real.sin α * (toCart (r, θ)).2,
       Real.sin α * (toCart (r, θ)).1 + Real.cos α * (toCart (r, θ)).2) := by
  simp only [toCart, Real.cos_add, Real.sin_add, Prod.mk.injEq]
  constructor <;> ring

theorem toCart_scale (r θ k : ℝ) :
    toCart (r * k, θ) = ((toCart (r, θ)).1 * k, (toCart (r, θ)).2 * k) := by
  simp only [toCart, Prod.mk.injEq]
  constructor <;> ring

end HcipyVerif.Grid
