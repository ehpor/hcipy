import HcipyVerif.Model.FftGrid
import HcipyVerif.Model.FftIndex
import Mathlib.Tactic.FieldSimp
import Mathlib.Algebra.Order.Field.Basic
import Mathlib.Algebra.Order.Field.Rat
import Mathlib.Algebra.Order.Floor.Ring
import Mathlib.Data.Rat.Floor

/-!
# The plan of `FastFourierTransform.__init__` is grid-consistent (C01 bridge)

`plan` (`Model/FftGrid.lean`, the definition the driver op `C01 plan` runs and the harness compares
with the sizes, cut-outs and output grid the real object reports) satisfies, for **every** request the
constructor accepts (`0 < N`, `δ ≠ 0`, `1 ≤ q`, `fov ≤ 1`), the hypotheses `N ≤ M`, `Mo ≤ M`,
`dT·M·δ = 1` of the pipeline theorems.  The side conditions are the constructor's own checks
(`q < 1` raises; `fov > 1` raises through `output_grid.dims > internal_grid.dims`).
`plan_of_int` is the plan written out when `q·N` is an integer `M` and `int(M·fov) = Mo` (the requests
that `get_fft_parameters` reconstructs, Lemmas/FftSelect.lean).
-/
set_option linter.unusedSectionVars false

namespace HcipyVerif.Fft

theorem outSize_eq_natFloor (M : ℕ) (fov : Rat) : outSize M fov = ⌊(M : Rat) * fov⌋₊ :=
  Int.floor_toNat ((M : Rat) * fov)

/-- `np.round` never rounds below the floor -/
theorem floor_le_roundHalfEven (x : Rat) : x.floor ≤ roundHalfEven x := by
  unfold roundHalfEven
  simp only
  split_ifs <;> omega

theorem le_paddedSize (N : ℕ) (q : Rat) (hq : 1 ≤ q) : N ≤ paddedSize N q := by
  unfold paddedSize
  have h2 : (N : ℤ) ≤ (q * (N : Rat)).floor :=
    Rat.le_floor_iff.mpr (by exact_mod_cast le_mul_of_one_le_left (Nat.cast_nonneg N) hq)
  have h3 := floor_le_roundHalfEven (q * (N : Rat))
  omega

theorem outSize_le (M : ℕ) (fov : Rat) (hf : fov ≤ 1) : outSize M fov ≤ M :=
  outSize_eq_natFloor M fov ▸ Nat.floor_le_of_le (mul_le_of_le_one_right (Nat.cast_nonneg M) hf)

theorem roundHalfEven_intCast (n : Int) : roundHalfEven (n : Rat) = n := by
  simp [roundHalfEven, Rat.floor_intCast]

theorem paddedSize_of_int (N M : Nat) (q : Rat) (h : q * (N : Rat) = (M : Rat)) :
    paddedSize N q = M := by
  unfold paddedSize
  rw [h, show ((M : Nat) : Rat) = (((M : Nat) : Int) : Rat) by simp, roundHalfEven_intCast]
  simp

theorem plan_of_int (x : AxisIn) (M Mo : ℕ) (hq : x.q * (x.N : Rat) = (M : Rat))
    (h1 : (Mo : Rat) ≤ (M : Rat) * x.fov) (h2 : (M : Rat) * x.fov < (Mo : Rat) + 1) :
    plan x = ⟨x.N, M, Mo, x.delta, x.zero, 1 / ((M : Rat) * x.delta), x.shift⟩ := by
  simp only [plan, paddedSize_of_int _ _ _ hq, outSize_eq_natFloor,
    (Nat.floor_eq_iff ((Nat.cast_nonneg _).trans h1)).mpr ⟨h1, h2⟩]

/-- **`plan` is grid-consistent** for every request `FastFourierTransform.__init__` accepts. -/
theorem plan_consistent (a : AxisIn) (hN : 0 < a.N) (hδ : a.delta ≠ 0) (hq : 1 ≤ a.q)
    (hf : a.fov ≤ 1) :
    FftConsistent a.N (plan a).M (plan a).Mo a.delta (plan a).dT := by
  have hNM : a.N ≤ paddedSize a.N a.q := le_paddedSize a.N a.q hq
  have hM : 0 < paddedSize a.N a.q := lt_of_lt_of_le hN hNM
  refine ⟨hM, hNM, outSize_le _ _ hf, ?_⟩
  show 1 / ((paddedSize a.N a.q : Rat) * a.delta) * (paddedSize a.N a.q : Rat) * a.delta = 1
  have hM' : ((paddedSize a.N a.q : ℕ) : Rat) ≠ 0 := by
    exact_mod_cast (Nat.pos_iff_ne_zero.mp hM)
  field_simp

theorem plan_N (a : AxisIn) : (plan a).N = a.N := rfl
theorem plan_delta (a : AxisIn) : (plan a).delta = a.delta := rfl
theorem plan_zero (a : AxisIn) : (plan a).zero = a.zero := rfl
theorem plan_shift (a : AxisIn) : (plan a).shift = a.shift := rfl

/-- The side conditions matter: `q = 1/2` plans an internal array smaller than the input … -/
theorem plan_inconsistent_q_lt_one :
    ¬ FftConsistent 8 (plan ⟨8, 1, 0, 1 / 2, 1, 0⟩).M (plan ⟨8, 1, 0, 1 / 2, 1, 0⟩).Mo 1
      (plan ⟨8, 1, 0, 1 / 2, 1, 0⟩).dT := by decide +kernel

/-- … and `fov = 3/2` an output array larger than the internal one (`Mo = 12 > M = 8`). -/
theorem plan_inconsistent_fov_gt_one :
    ¬ FftConsistent 8 (plan ⟨8, 1, 0, 1, 3 / 2, 0⟩).M (plan ⟨8, 1, 0, 1, 3 / 2, 0⟩).Mo 1
      (plan ⟨8, 1, 0, 1, 3 / 2, 0⟩).dT := by decide +kernel

theorem map_consistent {A B : Type} [Semiring A] [Semiring B] (φ : A →+* B) {dT δ : A} {M : ℕ}
    (h : dT * (M : A) * δ = 1) : φ dT * (M : B) * φ δ = 1 := by
  rw [← map_natCast φ, ← map_mul, ← map_mul, h, map_one]

section cfg
variable {K C : Type} [Field K] [Field C]

/-- The `Cfg` of one axis built from the plan: the sizes are the plan's, the coordinates are the
images of the plan's rationals under a ring homomorphism `ι : ℚ → K` (floats *are* rationals;
`K = ℝ` for the theorems, `K = ℚ`, `ι = id` is `RCfg.ofPlan` in the driver). -/
def Cfg.ofPlanCast (ι : ℚ →+* K) (p : AxisPlan) (w : C) (emu : Bool) : Cfg K C :=
  { N := p.N, M := p.M, Mo := p.Mo, δ := ι p.delta, z := ι p.zero, dT := ι p.dT, s := ι p.shift,
    w := w, emu := emu }

theorem Cfg.ofPlanCast_cons (ι : ℚ →+* K) (a : AxisIn) (w : C) (emu : Bool)
    (hN : 0 < a.N) (hδ : a.delta ≠ 0) (hq : 1 ≤ a.q) (hf : a.fov ≤ 1) :
    let g := Cfg.ofPlanCast (C := C) ι (plan a) w emu
    g.N ≤ g.M ∧ g.Mo ≤ g.M ∧ g.dT * (g.M : K) * g.δ = 1 := by
  obtain ⟨_, h1, h2, h3⟩ := plan_consistent a hN hδ hq hf
  exact ⟨h1, h2, map_consistent ι h3⟩

end cfg

end HcipyVerif.Fft
