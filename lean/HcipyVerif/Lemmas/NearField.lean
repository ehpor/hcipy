import Mathlib.Analysis.Complex.Trigonometric
import Mathlib.Analysis.Complex.Basic
import Mathlib.Analysis.Real.Sqrt
import Mathlib.Analysis.SpecialFunctions.Trigonometric.Basic
import Mathlib.Algebra.Order.Field.Rat
import Mathlib.Tactic.Ring
import Mathlib.Tactic.FieldSimp
import HcipyVerif.Lemmas.NearFieldFilter

/-!
# C04 — the transfer functions as the code writes them

`fresnelD`, `angularD` (real variables), the sub-pixel mean `meanOver`, and the regime predicate of the executable model.
-/

open Complex ComplexConjugate

namespace HcipyVerif.NearField

/-- Fresnel transfer function, written as the code writes it:
`exp(1j k z) · exp(alpha (kx² + ky²))`, `alpha = -0.5j z / k`; all of `k, z, kx, ky` real. -/
noncomputable def fresnelD (k z kx ky : ℝ) : ℂ :=
  cexp (((k * z : ℝ) : ℂ) * I) * cexp (((-(z / (2 * k)) * (kx * kx + ky * ky) : ℝ) : ℂ) * I)

theorem conj_exp_ofReal_mul_I (r : ℝ) : conj (cexp ((r : ℂ) * I)) = cexp (((-r : ℝ) : ℂ) * I) := by
  rw [← Complex.exp_conj, map_mul, Complex.conj_ofReal, Complex.conj_I, Complex.ofReal_neg]
  ring_nf

/-- One exponential, its phase linear in `z`: modulus, `z ↦ -z` and the product are the exponential's laws. -/
theorem fresnelD_eq_exp (k z kx ky : ℝ) :
    fresnelD k z kx ky = cexp (((z * (k - (kx * kx + ky * ky) / (2 * k)) : ℝ) : ℂ) * I) := by
  unfold fresnelD
  rw [← Complex.exp_add, ← add_mul, ← Complex.ofReal_add]
  congr 3
  ring

theorem norm_fresnelD (k z kx ky : ℝ) : ‖fresnelD k z kx ky‖ = 1 := by
  rw [fresnelD_eq_exp, Complex.norm_exp_ofReal_mul_I]

theorem fresnelD_neg (k z kx ky : ℝ) : fresnelD k (-z) kx ky = conj (fresnelD k z kx ky) := by
  rw [fresnelD_eq_exp, fresnelD_eq_exp, conj_exp_ofReal_mul_I, neg_mul]

theorem fresnelD_add (k z₁ z₂ kx ky : ℝ) :
    fresnelD k z₁ kx ky * fresnelD k z₂ kx ky = fresnelD k (z₁ + z₂) kx ky := by
  rw [fresnelD_eq_exp, fresnelD_eq_exp, fresnelD_eq_exp, ← Complex.exp_add, ← add_mul, ← Complex.ofReal_add, add_mul]

/-- `k = 2πn/λ`, `k⊥ = 2πν`: wavenumbers from frequencies in cycles, as the executable model samples them.
Also for `n = 0` or `λ = 0`: with `x / 0 = 0` both phases vanish, as they do in the rational arithmetic of the model. -/
theorem fresnelD_cycles (n l z a b : ℝ) :
    fresnelD (2 * Real.pi * n / l) z (2 * Real.pi * a) (2 * Real.pi * b)
      = cexp (((2 * Real.pi * (n * z / l - z * l * (a * a + b * b) / (2 * n)) : ℝ) : ℂ) * I) := by
  rw [fresnelD_eq_exp]
  congr 3
  rcases eq_or_ne n 0 with rfl | hn
  · simp
  rcases eq_or_ne l 0 with rfl | hl
  · simp
  have hpi := Real.pi_ne_zero
  field_simp

/-- Mean over the sub-samples of one pixel (`evaluate_supersampled`, statistic `mean`). -/
noncomputable def meanOver {σ : Type*} (S : Finset σ) (f : σ → ℂ) : ℂ := (∑ s ∈ S, f s) / (S.card : ℂ)

theorem norm_meanOver_le_one {σ : Type*} (S : Finset σ) (f : σ → ℂ) (hf : ∀ s ∈ S, ‖f s‖ ≤ 1) :
    ‖meanOver S f‖ ≤ 1 := by
  unfold meanOver
  rw [norm_div, Complex.norm_natCast]
  -- also for empty `S`: `x / 0 = 0`
  refine div_le_one_of_le₀ ((norm_sum_le_of_le S hf).trans_eq ?_) (Nat.cast_nonneg _)
  rw [Finset.sum_const, nsmul_one]

theorem conj_meanOver {σ : Type*} (S : Finset σ) (f : σ → ℂ) :
    conj (meanOver S f) = meanOver S (fun s => conj (f s)) := by
  unfold meanOver
  rw [map_div₀, map_sum, Complex.conj_natCast]

/-- `k_z = sqrt(k² - κ² + 0j)` (numpy's principal square root): real for propagating waves,
`+i·sqrt(κ² - k²)` for evanescent ones. `κ2 = |k⊥|²`. -/
noncomputable def kz (k κ2 : ℝ) : ℂ :=
  if κ2 ≤ k ^ 2 then ((Real.sqrt (k ^ 2 - κ2) : ℝ) : ℂ) else ((Real.sqrt (κ2 - k ^ 2) : ℝ) : ℂ) * I

/-- Angular-spectrum transfer function of the *unrepaired* code: `exp(1j k_z z)`. -/
noncomputable def angularDOld (k z κ2 : ℝ) : ℂ := cexp (I * kz k κ2 * (z : ℂ))

/-- Angular-spectrum transfer function (repaired, finding D30): `k_z` is conjugated for `z < 0`. -/
noncomputable def angularD (k z κ2 : ℝ) : ℂ :=
  cexp (I * (if z < 0 then conj (kz k κ2) else kz k κ2) * (z : ℂ))

theorem angularD_of_propagating {k z κ2 : ℝ} (h : κ2 ≤ k ^ 2) :
    angularD k z κ2 = cexp (((Real.sqrt (k ^ 2 - κ2) * z : ℝ) : ℂ) * I) := by
  unfold angularD kz
  rw [if_pos h, Complex.conj_ofReal, ite_self]
  congr 1; push_cast; ring

theorem angularDOld_of_propagating {k z κ2 : ℝ} (h : κ2 ≤ k ^ 2) :
    angularDOld k z κ2 = cexp (((Real.sqrt (k ^ 2 - κ2) * z : ℝ) : ℂ) * I) := by
  unfold angularDOld kz
  rw [if_pos h]
  congr 1; push_cast; ring

theorem angularDOld_of_evanescent {k z κ2 : ℝ} (h : ¬ κ2 ≤ k ^ 2) :
    angularDOld k z κ2 = cexp (((-(Real.sqrt (κ2 - k ^ 2) * z) : ℝ) : ℂ)) := by
  unfold angularDOld kz
  rw [if_neg h]
  congr 1; push_cast
  have : I * I = -1 := Complex.I_mul_I
  linear_combination (Real.sqrt (κ2 - k ^ 2) : ℂ) * (z : ℂ) * this

/-- For an evanescent wave the repaired transfer function is the unrepaired one at `|z|`: conjugating the imaginary
`k_z` flips the sign that `z < 0` brings. -/
theorem angularD_of_evanescent {k z κ2 : ℝ} (h : ¬ κ2 ≤ k ^ 2) :
    angularD k z κ2 = cexp (((-(Real.sqrt (κ2 - k ^ 2) * |z|) : ℝ) : ℂ)) := by
  rw [← angularDOld_of_evanescent h]
  unfold angularD angularDOld kz
  rw [if_neg h]
  congr 1
  split_ifs with hz
  · rw [abs_of_neg hz, map_mul, Complex.conj_ofReal, Complex.conj_I]
    push_cast
    ring
  · rw [abs_of_nonneg (not_lt.mp hz)]

theorem angularD_norm_le_one (k z κ2 : ℝ) : ‖angularD k z κ2‖ ≤ 1 := by
  by_cases h : κ2 ≤ k ^ 2
  · rw [angularD_of_propagating h, Complex.norm_exp_ofReal_mul_I]
  · rw [angularD_of_evanescent h, Complex.norm_exp_ofReal, Real.exp_le_one_iff]
    exact neg_nonpos.mpr (mul_nonneg (Real.sqrt_nonneg _) (abs_nonneg z))

theorem angular_neg_z (k z κ2 : ℝ) : angularD k (-z) κ2 = conj (angularD k z κ2) := by
  by_cases h : κ2 ≤ k ^ 2
  · rw [angularD_of_propagating h, angularD_of_propagating h, conj_exp_ofReal_mul_I, mul_neg]
  · rw [angularD_of_evanescent h, angularD_of_evanescent h, abs_neg, ← Complex.exp_conj,
      Complex.conj_ofReal]

theorem angularD_of_radicand {k z κ2 r : ℝ} (hr : k ^ 2 - κ2 = (2 * Real.pi) ^ 2 * r) :
    angularD k z κ2 = if 0 ≤ r then cexp (((2 * Real.pi * Real.sqrt r * z : ℝ) : ℂ) * I)
      else cexp (((-(2 * Real.pi * Real.sqrt (-r) * |z|) : ℝ) : ℂ)) := by
  have h2pi : (0 : ℝ) ≤ 2 * Real.pi := by positivity
  have hpos : (0 : ℝ) < (2 * Real.pi) ^ 2 := by positivity
  split_ifs with h
  · have hk : κ2 ≤ k ^ 2 := sub_nonneg.mp (hr ▸ mul_nonneg hpos.le h)
    rw [angularD_of_propagating hk, hr, Real.sqrt_mul (sq_nonneg _), Real.sqrt_sq h2pi]
  · have hk : ¬ κ2 ≤ k ^ 2 := fun hle => h (nonneg_of_mul_nonneg_right (hr ▸ sub_nonneg.mpr hle) hpos)
    rw [angularD_of_evanescent hk, show κ2 - k ^ 2 = (2 * Real.pi) ^ 2 * -r by rw [mul_neg, ← hr, neg_sub],
      Real.sqrt_mul (sq_nonneg _), Real.sqrt_sq h2pi]

theorem ratAbs_eq_abs (q : ℚ) : ratAbs q = |q| := by
  unfold ratAbs
  split
  · rename_i h; rw [abs_of_neg h]
  · rename_i h; rw [abs_of_nonneg (not_lt.mp h)]

theorem threshold_eq (p : Params) : threshold p = p.lam * |p.z| / lmax p := by
  unfold threshold
  rw [ratAbs_eq_abs]

theorem impulseBranch_eq_false_iff (p : Params) :
    impulseBranch p = false ↔ threshold p ≤ p.dx ∧ threshold p ≤ p.dy := by
  unfold impulseBranch
  simp only [Bool.or_eq_false_iff, decide_eq_false_iff_not, not_lt]

theorem impulseBranch_of_abs_le {p : Params} (hlam : 0 ≤ p.lam) (hL : 0 < lmax p) {z' : ℚ} (hz : |z'| ≤ |p.z|)
    (h : impulseBranch p = false) : impulseBranch { p with z := z' } = false := by
  rw [impulseBranch_eq_false_iff, threshold_eq] at h ⊢
  have hthr : p.lam * |z'| / lmax p ≤ p.lam * |p.z| / lmax p :=
    div_le_div_of_nonneg_right (mul_le_mul_of_nonneg_left hz hlam) hL.le
  exact ⟨hthr.trans h.1, hthr.trans h.2⟩

end HcipyVerif.NearField
