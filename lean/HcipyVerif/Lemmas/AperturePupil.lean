import HcipyVerif.Model.AperturePupil
import HcipyVerif.Lemmas.AperturePolar

/-!
# C12 — the telescope pupils as shapes of the model

Keck, the VLT (with its quadrants) and the hexagonally segmented pupils (`HexCfg`, `HicatCfg`) are
ordinary `Shape`s, so representation independence is an instance of the path theorems.  Specific to them:
the number of sites of the hexagonal lattice; `Grid.subset` keeps a lattice site by a pointwise predicate
(`selKeeps`, `applySel = filter`); the value of the composed pupil and of a returned segment is a product
(segmented part) × (obscuration factor) × (spider factor); the makers only multiply a shape with decorations,
so whatever passes through products and holds of the decorations (`Decor`: `WF`, `PolarWF`, `Binary`, values in [0,1]) holds of
the pupil as soon as it holds of its body — one lemma per maker, one instance per predicate; Keck is the
`HexCfg` without `subset` calls (`keckShape_eq_hexcfg`).
-/

namespace HcipyVerif.Aperture

theorem hexRing_length (n : Nat) : (hexRing n).length = 6 * n := by
  simp [hexRing]
  omega

theorem hexQR_length (n : Nat) : (hexQR n).length = 1 + 3 * n * (n + 1) := by
  induction n with
  | zero => simp [hexQR]
  | succ n ih =>
    have : (hexQR (n + 1)).length = (hexQR n).length + (hexRing (n + 1)).length := by
      simp [hexQR, List.range_succ, List.flatMap_append]
      omega
    rw [this, ih, hexRing_length]
    ring

/-- `P` passes through products and holds of the decorations the makers multiply a pupil with
(spiders, the half-planes of the VLT quadrants, the M3 cover, `grid.ones()`) -/
structure Decor (P : Shape → Prop) : Prop where
  mul : ∀ {a b}, P a → P b → P (.mul a b)
  spider : ∀ sx sy c s hl hw, P (.spider sx sy c s hl hw)
  spiderInf : ∀ px py c s hw, P (.spiderInf px py c s hw)
  halfplane : ∀ gt a b c, P (.halfplane gt a b c)
  cover : ∀ hx hy cx cy, P (.compl (.rect hx hy cx cy))
  one : P (.const 1)

theorem WF.decor : Decor WF :=
  ⟨fun ha hb => ⟨ha, hb⟩, fun _ _ _ _ _ _ => trivial, fun _ _ _ _ _ => trivial, fun _ _ _ _ => trivial,
    fun _ _ _ _ => trivial, trivial⟩

theorem PolarWF.decor : Decor PolarWF :=
  ⟨fun ha hb => ⟨ha, hb⟩, fun _ _ _ _ _ _ => trivial, fun _ _ _ _ _ => trivial, fun _ _ _ _ => trivial,
    fun _ _ _ _ => trivial, trivial⟩

theorem Binary.decor : Decor Binary :=
  ⟨Binary.mul, Binary.spider, Binary.spiderInf, Binary.halfplane, fun _ _ _ _ => (Binary.rect ..).compl,
    Binary.const1⟩

theorem unitVal_decor : Decor fun s => ∀ p, 0 ≤ val s p ∧ val s p ≤ 1 :=
  ⟨fun ha hb p => mul_mem_unit (ha p) (hb p), fun _ _ _ _ _ _ => values_in_unit_interval (.spider ..),
    fun _ _ _ _ _ => values_in_unit_interval (.spiderInf ..),
    fun _ _ _ _ => values_in_unit_interval (.halfplane ..),
    fun _ _ _ _ => values_in_unit_interval (Binary.rect ..).compl, values_in_unit_interval .const1⟩

namespace Decor
variable {P : Shape → Prop} (d : Decor P)
include d

theorem foldl_mul {α : Type} {f : α → Shape} (hf : ∀ x, P (f x)) (l : List α) {acc : Shape} (h : P acc) :
    P (l.foldl (fun acc x => Shape.mul acc (f x)) acc) :=
  List.foldlRecOn l _ h fun _ hb x _ => d.mul hb (hf x)

theorem withSpiders (loop : Bool) (hw : Rat) (sp : List SpiderI) {body : Shape} (h : P body) :
    P (withSpiders loop hw sp body) := by
  have hsp : ∀ q, P (spiderI hw q) := fun _ => d.spiderInf ..
  cases loop with
  | true => exact d.foldl_mul hsp sp h
  | false =>
    cases sp with
    | nil => exact h
    | cons q0 rest => exact d.mul h (d.foldl_mul hsp rest (hsp q0))

theorem vltShape {ro ri : Rat} (h : P (.sub (.disk ro) (.disk ri))) (sp : List SpiderC)
    (m3 : Option (Rat × Rat × Rat × Rat)) : P (vltShape ro ri sp m3) := by
  have hsp := d.foldl_mul (fun q : SpiderC => d.spider q.1 q.2.1 q.2.2.1 q.2.2.2.1 q.2.2.2.2.1 q.2.2.2.2.2)
    sp (d.mul h d.one)
  unfold Aperture.vltShape
  cases m3 with
  | none => exact hsp
  | some m => exact d.mul hsp (d.cover ..)

theorem vltSegment {i : Nat} {lines : List ((Rat × Rat) × Rat)} {pupil q : Shape}
    {m3 : Option (Rat × Rat × Rat × Rat)} (h : vltSegment i lines pupil m3 = some q) (hp : P pupil) :
    P q := by
  unfold Aperture.vltSegment at h
  split at h
  · rename_i n1 c1 n2 c2 _ _
    cases ht : vltThird n1 c1 n2 c2 with
    | none => simp [ht] at h
    | some ni =>
      simp only [ht, Option.map_some, Option.some.injEq] at h
      subst h
      have hf := d.mul (d.mul (d.mul (d.halfplane true n1.1 n1.2 c1) (d.halfplane false n2.1 n2.2 c2))
        (d.halfplane false ni.1 ni.2 0)) hp
      cases m3 with
      | none => exact hf
      | some m => exact d.mul hf (d.cover ..)
  · cases h

theorem hexcfg (c : HexCfg) (hseg : P (.seg c.segs c.segment))
    (hobs : ∀ R, c.obs = some R → P (.compl (.disk R))) : P c.shape := by
  refine d.withSpiders _ _ _ ?_
  unfold HexCfg.body
  cases hc : c.obs with
  | none => exact hseg
  | some R => exact d.mul hseg (hobs R hc)

theorem decorateSegment (c : HexCfg) {b : Shape} (h : P b)
    (hobs : ∀ R, c.obs = some R → P (.compl (.disk R))) : P (decorateSegment c b) := by
  have hsp : ∀ q, P (spiderI c.hw q) := fun _ => d.spiderInf ..
  have hdec : P (spiderDecor c b) := by
    unfold spiderDecor
    cases c.spiders with
    | nil => exact h
    | cons q0 rest =>
      cases c.loop with
      | true => exact d.mul h (d.foldl_mul hsp _ d.one)
      | false => exact d.foldl_mul hsp _ h
  unfold Aperture.decorateSegment
  cases hc : c.obs with
  | none => exact hdec
  | some R => exact d.mul hdec (hobs R hc)

theorem hicat (c : HicatCfg)
    (hA : P (.seg ((hexPositions 3 c.pitchA c.apA).map fun p => (p, 1)) c.segA))
    (hB : P (.sub (.seg c.contourSegs c.segB) c.central)) : P c.shape := by
  unfold HicatCfg.shape
  refine d.withSpiders _ _ _ ?_
  cases c.gaps with
  | true => exact d.mul hB hA
  | false => exact hB

end Decor

theorem vlt_wf (ro ri : Rat) (sp : List SpiderC) (m3 : Option (Rat × Rat × Rat × Rat)) :
    WF (vltShape ro ri sp m3) :=
  WF.decor.vltShape ⟨trivial, trivial⟩ sp m3

theorem hexcfg_wf (c : HexCfg) (h : WF c.segment) : WF c.shape :=
  WF.decor.hexcfg c h fun _ _ => trivial

theorem hexcfg_polarWF (c : HexCfg) (h : ∀ R, c.obs = some R → 0 ≤ R) : PolarWF c.shape :=
  PolarWF.decor.hexcfg c trivial h

theorem hexcfg_binary (c : HexCfg) (hb : Binary c.segment) (htr : ∀ t ∈ c.trs, t = 1) : Binary c.shape :=
  Binary.decor.hexcfg c (Binary.seg hb fun s hs => htr s.2 (List.of_mem_zip hs).2)
    fun R _ => (Binary.disk R).compl

theorem hicat_wf (c : HicatCfg) (hA : WF c.segA) (hB : WF c.segB) (hC : WF c.central) : WF c.shape :=
  WF.decor.hicat c hA ⟨hB, hC⟩

/-- `make_keck_aperture` is the hexagonally segmented pupil with no `subset` call, a central
obscuration and its spiders in product form -/
def keckCfg (rings : Nat) (pitch ap segR segA : Rat) (dirs : List (Rat × Rat)) (trs : List Rat)
    (obsR : Rat) (spiders : List (Rat × Rat)) (hw : Rat) : HexCfg :=
  ⟨rings, pitch, ap, [], .regpoly true segR segA dirs 0 0, trs, some obsR,
    spiders.map fun d => (0, 0, d.1, d.2), hw, false⟩

theorem keckShape_eq_hexcfg (rings : Nat) (pitch ap segR segA : Rat) (dirs : List (Rat × Rat))
    (trs : List Rat) (obsR : Rat) (spiders : List (Rat × Rat)) (hw : Rat) :
    keckShape rings pitch ap segR segA dirs trs obsR spiders hw
      = (keckCfg rings pitch ap segR segA dirs trs obsR spiders hw).shape := by
  cases spiders with
  | nil => rfl
  | cons s0 rest =>
    show Shape.mul _ (spiderProd hw s0 rest) = Shape.mul _ (spiderChain hw (rest.map _) _)
    rw [spiderProd, spiderChain, List.foldl_map]
    rfl

/-- does `subset` keep a segment centre? (a property of that centre alone) -/
def selKeeps : Sel → Pt → Bool
  | .nonzero s, p => decide (val s p ≠ 0)
  | .notPos s, p => !decide (val s p > 0)
  | .complPos s, p => decide (1 - val s p > 0)
  | .pos s, p => decide (val s p > 0)
  | .strips l, p => l.all fun t => decide (rabs (t.1 * p.1 + t.2.1 * p.2) < t.2.2)

theorem selMask_eq (s : Sel) (pos : List Pt) : selMask s pos = pos.map (selKeeps s) := by
  cases s with
  | strips l => rfl
  | _ => rw [selMask, evalPts_eq_val, List.map_map]; rfl

theorem applySel_eq_filter (s : Sel) (pos : List Pt) : applySel s pos = pos.filter (selKeeps s) := by
  rw [applySel, selMask_eq, compress_map_eq_filter]

/-- product of the spiders' values at `p` -/
def spFactor (hw : Rat) (p : Pt) : List SpiderI → Rat
  | [] => 1
  | q :: r => val (spiderI hw q) p * spFactor hw p r

/-- `1 − circular(obs)` at `p` (1 when there is no obscuration) -/
def obsFactor (obs : Option Rat) (p : Pt) : Rat :=
  match obs with
  | none => 1
  | some R => 1 - val (.disk R) p

theorem val_spiderChain (hw : Rat) (sp : List SpiderI) (acc : Shape) (p : Pt) :
    val (spiderChain hw sp acc) p = val acc p * spFactor hw p sp := by
  induction sp generalizing acc with
  | nil => simp [spiderChain, spFactor]
  | cons q r ih =>
    show val (spiderChain hw r (.mul acc (spiderI hw q))) p = _
    rw [ih]
    simp only [val, spFactor]
    ring

theorem val_withSpiders (loop : Bool) (hw : Rat) (sp : List SpiderI) (body : Shape) (p : Pt) :
    val (withSpiders loop hw sp body) p = val body p * spFactor hw p sp := by
  cases loop with
  | true => simp [withSpiders, val_spiderChain]
  | false =>
    cases sp with
    | nil => simp [withSpiders, spFactor]
    | cons q0 rest =>
      simp only [withSpiders, Bool.false_eq_true, if_false, val, val_spiderChain, spFactor]

theorem val_body (c : HexCfg) (p : Pt) :
    val c.body p = segFold (val c.segment) p c.segs 0 * obsFactor c.obs p := by
  unfold HexCfg.body obsFactor
  cases c.obs <;> simp [val]

theorem val_shape (c : HexCfg) (p : Pt) :
    val c.shape p = segFold (val c.segment) p c.segs 0 * obsFactor c.obs p * spFactor c.hw p c.spiders := by
  rw [HexCfg.shape, val_withSpiders, val_body]

theorem val_spiderDecor (c : HexCfg) (b : Shape) (p : Pt) :
    val (spiderDecor c b) p = val b p * spFactor c.hw p c.spiders := by
  unfold spiderDecor
  cases c.spiders with
  | nil => simp [spFactor]
  | cons q0 rest =>
    cases c.loop with
    | true => simp only [if_true, val, val_spiderChain]; ring
    | false => simp only [Bool.false_eq_true, if_false, val_spiderChain]

theorem val_decorateSegment (c : HexCfg) (b : Shape) (p : Pt) :
    val (decorateSegment c b) p = val b p * spFactor c.hw p c.spiders * obsFactor c.obs p := by
  unfold decorateSegment obsFactor
  cases c.obs with
  | none => simp only [val_spiderDecor]; ring
  | some R => simp only [val, val_spiderDecor]

theorem val_baseSegment (seg : Shape) (pt : Pt × Rat) (p : Pt) :
    val (baseSegment seg pt) p = val seg (shiftPt pt.1.1 pt.1.2 p) * pt.2 := by
  simp [baseSegment, val]

end HcipyVerif.Aperture
