import HcipyVerif.Model.FftDecide
import Mathlib.Algebra.Order.Field.Rat

/-! # Scaling by a non-zero constant does not change a test against zero (for `C01.shift_decision_scale_free`) -/

namespace HcipyVerif.Fft

theorem bne_scale (c : ℚ) (hc : c ≠ 0) (a : ℚ) : (c * a != 0) = (a != 0) := by
  rw [Bool.eq_iff_iff]
  simp only [bne_iff_ne, ne_eq, mul_eq_zero, hc, false_or]

end HcipyVerif.Fft
